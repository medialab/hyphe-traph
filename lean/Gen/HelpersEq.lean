import Gen.Helpers
import Proofs.Tokens
import Proofs.Chunks
/-! The translation tie for `traph/helpers.py`: every function generated from the source by `gen/gen_helpers.py`
    (`Gen/Helpers.lean`, regenerated on every run) equals the hand-written model function the property theorems are
    about (`Traph/Helpers.lean`) — for every argument (the two chunk iterators: for chunk size `0 < n`, with `chunks_iter_zero`
    for 0; `detailed_chunks_iter` against `flagLast` of the model's `chunks`, defined here), with no exception raised where the
    model answers, and with an exception exactly where the model says `none`.  So `C17_*`, the token theorems of C09/C10 and the chunk
    arithmetic of C19/C02 are theorems about what helpers.py says. -/
namespace Traph.Gen
open Traph

theorem ge_ok_bind {α β} (a : α) (f : α → Py.M β) : (Except.ok a >>= f) = f a := rfl

theorem https_variation_eq (lru : Bytes) : https_variation lru = .ok (httpsVariation lru) := by
  unfold https_variation httpsVariation
  simp only [Py.startswith, Py.replace1, sHttp, sHttps]
  by_cases h1 : startsWith lru [115, 58, 104, 116, 116, 112, 124] = true
  · simp [h1]; rfl
  · by_cases h2 : startsWith lru [115, 58, 104, 116, 116, 112, 115, 124] = true
    · simp [h1, h2]; rfl
    · simp [h1, h2]; rfl

theorem ge_replace1_snoc (b a new : Bytes) (c : Nat) :
    Py.replace1 b (a ++ [c]) new = replaceFirst (a ++ [c]) new b := by
  unfold Py.replace1
  cases a <;> simp

theorem ge_startsWith_append (p r : Bytes) : startsWith (p ++ r) p = true := startsWith_append_self p r

/-- the code tests `if https_var:`; the swap never yields the empty string -/
theorem ge_hv_nonempty (lru v : Bytes) (h : httpsVariation lru = some v) : v.isEmpty = false := by
  have hne : lru ≠ [] := by rintro rfl; cases h
  unfold httpsVariation at h
  split at h
  · next h1 => cases h; rw [replaceFirst_of_startsWith h1 hne]; rfl
  · split at h
    · next h1 => cases h; rw [replaceFirst_of_startsWith h1 hne]; rfl
    · cases h

theorem lru_variations_eq (lru : Bytes) : lru_variations lru = .ok (lruVariations lru) := by
  by_cases hl : lru = []
  · subst hl; rfl
  replace hl : lru.isEmpty = false := by simpa using hl
  unfold lru_variations lruVariations
  rw [https_variation_eq]
  have hne : ∀ v, httpsVariation lru = some v → v.isEmpty = false := ge_hv_nonempty lru
  generalize httpsVariation lru = hv at hne
  obtain ⟨hosts, hH⟩ : ∃ hosts, List.filter (fun s => startsWith s [104,58]) (splitOn 124 lru) = hosts := ⟨_, rfl⟩
  -- every decision is taken before `simp` opens the `do` block: it then follows one path instead of all of them
  by_cases h1 : hosts.length ≤ 1
  · cases hv <;>
      simp [Py.split1, Py.startswith, Layout.sep, hPrefix, hH, hl, hne, bind, Except.bind, pure, Except.pure, h1]
  obtain ⟨init, last, rfl⟩ : ∃ init last, hosts = init ++ [last] := by
    rcases List.eq_nil_or_concat hosts with rfl | ⟨init, last, rfl⟩
    · simp at h1
    · exact ⟨init, last, by simp⟩
  have hi : init ≠ [] := by rintro rfl; simp at h1
  cases hv <;>
    simp [Py.split1, Py.startswith, Layout.sep, hPrefix, hWww, hH, hl, hne, bind, Except.bind, pure, Except.pure,
      Py.last, Py.popLast, hi, Py.join, ge_replace1_snoc]
  all_goals
    by_cases hw : last = [104, 58, 119, 119, 119]
    · by_cases hn : init.length = 1 <;> simp [hw, hn]
    · simp [hw]

theorem ge_slice1 (b : Bytes) (i : Nat) : Py.slice b i (i+1) = (b.drop i).take 1 := by
  simp [Py.slice]

theorem ge_slice_succ (b : Bytes) (i j : Nat) (hij : i ≤ j) (hj : j < b.length) :
    Py.slice b i (j+1) = Py.slice b i j ++ [b[j]] := by
  unfold Py.slice
  rw [Nat.succ_sub hij, List.take_add_one, List.getElem?_drop, Nat.add_sub_cancel' hij,
    List.getElem?_eq_getElem hj]
  rfl

theorem ge_slice_self (b : Bytes) (i : Nat) : Py.slice b i i = [] := by
  simp [Py.slice]

theorem ge_forIn_yield {α σ : Type} (body : α → σ → Py.M (ForInStep σ)) (f : σ → α → σ)
    (h : ∀ a s, body a s = pure (ForInStep.yield (f s a))) :
    ∀ (l : List α) (init : σ), forIn l init body = .ok (l.foldl f init)
  | [], _ => rfl
  | a :: l, init => by
    rw [List.forIn_cons, h, pure_bind]
    exact ge_forIn_yield body f h l _

theorem ge_foldl_collect {α β σ : Type} (f : σ → α → σ) (out : σ → List β) (g : α → β)
    (h : ∀ s a, out (f s a) = out s ++ [g a]) : ∀ (l : List α) (s : σ), out (l.foldl f s) = out s ++ l.map g
  | [], _ => (List.append_nil _).symm
  | a :: l, s => by rw [List.foldl_cons, ge_foldl_collect f out g h l, h, List.append_assoc]; rfl

/-- one round of `lru_iter`: a separator at `i` closes the stem that began at `last` -/
def ge_lruStep (lru : Bytes) (s : List Bytes × Nat) (i : Nat) : List Bytes × Nat :=
  if Py.slice lru i (i + 1) == [124] then (s.1 ++ [Py.slice lru s.2 (i + 1)], i + 1) else s

theorem ge_lru_fold (lru : Bytes) : ∀ (k a : Nat) (out : List Bytes) (last : Nat),
    a + k = lru.length → last ≤ a →
    ((List.range' a k).foldl (ge_lruStep lru) (out, last)).1 =
      out ++ lruIterGo (lru.drop a) (Py.slice lru last a).reverse := by
  intro k
  induction k with
  | zero =>
    intro a out last h1 h2
    rw [List.drop_eq_nil_of_le (by omega)]
    simp [lruIterGo]
  | succ k ih =>
    intro a out last h1 h2
    have ha : a < lru.length := by omega
    have hd : lru.drop a = lru[a] :: lru.drop (a+1) := List.drop_eq_getElem_cons ha
    have hs : (Py.slice lru a (a + 1) == [124]) = (lru[a] == Layout.sep) := by
      rw [ge_slice1, hd, List.take_succ_cons, List.take_zero]; simp [Layout.sep]
    rw [List.range'_succ, List.foldl_cons, hd, lruIterGo, ge_lruStep, hs]
    by_cases hc : (lru[a] == Layout.sep) = true
    · rw [if_pos hc, if_pos hc, ih (a + 1) _ _ (by omega) (Nat.le_refl _), ge_slice_self,
        ge_slice_succ lru last a h2 ha]
      simp
    · rw [if_neg hc, if_neg hc, ih (a + 1) _ _ (by omega) (by omega), ge_slice_succ lru last a h2 ha]
      simp

theorem lru_iter_eq (lru : Bytes) : lru_iter lru = .ok (lruIter lru) := by
  unfold lru_iter
  dsimp only
  rw [ge_forIn_yield _ (ge_lruStep lru) (fun i s => by unfold ge_lruStep; split <;> rfl), List.range_eq_range']
  show Except.ok _ = _
  rw [ge_lru_fold lru lru.length 0 [] 0 (Nat.zero_add _) (Nat.le_refl _)]
  simp [ge_slice_self, lruIter]
theorem lru_dirname_eq (lru : Bytes) : lru_dirname lru = .ok (lruDirname lru) := by
  simp only [lru_dirname, lru_iter_eq]
  rfl

/-- the chunks, each flagged "is the last one" -/
def ge_flagLast (cs : List Bytes) : List (Bool × Bytes) :=
  (List.range cs.length).zip cs |>.map (fun ic => (ic.1 + 1 == cs.length, ic.2))

theorem ge_zip_map {α β} (g : α → β) : ∀ l : List α, l.zip (l.map g) = l.map (fun x => (x, g x))
  | [] => rfl
  | a :: l => by simp [ge_zip_map g l]

theorem ge_flagLast_map (nb : Nat) (g : Nat → Bytes) :
    ge_flagLast ((List.range nb).map g) = (List.range nb).map (fun c => (c == nb - 1, g c)) := by
  unfold ge_flagLast
  simp only [List.length_map, List.length_range, ge_zip_map, List.map_map]
  apply List.map_congr_left
  intro c hc
  have : c < nb := List.mem_range.mp hc
  simp only [Function.comp]
  have : (c + 1 == nb) = (c == nb - 1) := by
    rw [Bool.eq_iff_iff]; simp only [beq_iff_eq]; omega
  rw [this]

theorem detailed_chunks_iter_eq (n : Nat) (s : Bytes) (hn : 0 < n) :
    detailed_chunks_iter n s = .ok (ge_flagLast (chunks n s)) := by
  simp only [detailed_chunks_iter]
  by_cases h : s.length ≤ n
  · simp [h, chunks, ge_flagLast]; rfl
  · have hnb : 1 ≤ (s.length + n - 1) / n := by
      rw [Nat.le_div_iff_mul_le hn]; omega
    have hc : Py.ceilDiv s.length n = pure ((s.length + n - 1) / n) := by
      simp [Py.ceilDiv, Nat.ne_of_gt hn]; rfl
    have hsub : Py.sub ((s.length + n - 1) / n) 1 = pure ((s.length + n - 1) / n - 1) := by
      simp [Py.sub, hnb]; rfl
    simp only [h, decide_false, Bool.false_eq_true, if_false, hc, hsub, pure_bind]
    rw [ge_forIn_yield _ (fun st c => (st.1 ++ [(c == (s.length + n - 1) / n - 1,
      Py.slice s (c * n) (c * n + n))], c * n)) (fun _ _ => rfl)]
    show Except.ok _ = _
    rw [ge_foldl_collect _ (fun st : List (Bool × Bytes) × Nat => st.1) _ (fun _ _ => rfl), chunks_eq n hn s (fun e => h (by rw [e]; exact Nat.zero_le n)),
      ge_flagLast_map]
    simp only [Py.slice, Nat.add_sub_cancel_left, List.nil_append]
    rfl

theorem ge_flagLast_snd (cs : List Bytes) : (ge_flagLast cs).map (·.2) = cs := by
  unfold ge_flagLast
  simp only [List.map_map]
  have : ((fun x : Bool × Bytes => x.snd) ∘ fun ic : Nat × Bytes => (ic.fst + 1 == cs.length, ic.snd)) = Prod.snd := rfl
  rw [this, List.map_snd_zip]
  simp

theorem chunks_iter_eq (n : Nat) (s : Bytes) (hn : 0 < n) : chunks_iter n s = .ok (chunks n s) := by
  simp only [chunks_iter, detailed_chunks_iter_eq n s hn, ge_ok_bind]
  rw [ge_forIn_yield _ (fun out (x : Bool × Bytes) => out ++ [x.2]) (fun _ _ => rfl)]
  show Except.ok _ = _
  rw [ge_foldl_collect _ (fun out : List Bytes => out) _ (fun _ _ => rfl), ge_flagLast_snd]
  rfl

/-- with a zero chunk size the code divides by zero on any non-empty string (the library always passes 74) -/
theorem chunks_iter_zero (s : Bytes) (hs : s ≠ []) : chunks_iter 0 s = .error (.exc "ZeroDivisionError") := by
  have : ¬ s.length ≤ 0 := by
    cases s with
    | nil => exact absurd rfl hs
    | cons a t => simp
  simp only [chunks_iter, detailed_chunks_iter, this, decide_false, Bool.false_eq_true, if_false, Py.ceilDiv, if_true]
  rfl

theorem base4_append_eq (p n : Nat) : base4_append p n = .ok (base4Append p n) := by
  rfl

theorem ge_strIndex_digit (d : Nat) (h : d < 64) : Py.strIndex C_BASE64 d = pure [digitChar d] := by
  have hl : d < C_BASE64.length := h
  unfold Py.strIndex digitChar
  rw [List.getD_eq_getElem?_getD]
  show (match C_BASE64[d]? with | some c => Except.ok [c] | none => _) = pure [C_BASE64[d]?.getD 0]
  rw [List.getElem?_eq_getElem hl]
  rfl

theorem ge_base_loop (b sh : Nat) (hb : 2 ≤ b) (hb' : b ≤ 64) (hsh : ∀ x, x >>> sh = x / b) :
    ∀ (l : List Nat) (x : Nat) (ds : List Bytes) (fuel : Nat), x ≤ l.length → x < fuel →
    ∃ ds', forIn (m := Py.M) l (x, ds) (fun _ (__s : Nat × List Bytes) =>
            if (!__s.fst != 0) = true then pure (ForInStep.done (__s.fst, __s.snd))
            else do
              let __do_lift ← Py.strIndex C_BASE64 (__s.fst % b)
              pure (ForInStep.yield (__s.fst >>> sh, __s.snd ++ [__do_lift])))
      = .ok (0, ds') ∧ ds'.reverse.flatten = toBaseGo b fuel x ds.reverse.flatten := by
  intro l
  induction l with
  | nil =>
    intro x ds fuel h1 h2
    have : x = 0 := by simpa using h1
    subst this
    refine ⟨ds, rfl, ?_⟩
    cases fuel <;> simp [toBaseGo]
  | cons i l ih =>
    intro x ds fuel h1 h2
    cases fuel with
    | zero => omega
    | succ f =>
      by_cases hx : x = 0
      · subst hx
        exact ⟨ds, rfl, by simp [toBaseGo]⟩
      · have hq : x / b < x := Nat.div_lt_self (Nat.pos_of_ne_zero hx) hb
        have hm : x % b < 64 := Nat.lt_of_lt_of_le (Nat.mod_lt _ (Nat.lt_of_lt_of_le Nat.zero_lt_two hb)) hb'
        obtain ⟨ds', h, h'⟩ := ih (x / b) (ds ++ [[digitChar (x % b)]]) f
          (by simp only [List.length_cons] at h1; omega) (by omega)
        refine ⟨ds', ?_, ?_⟩
        · have hc : (!x != 0) = false := by simp [hx]
          simp only [List.forIn_cons, hc, Bool.false_eq_true, if_false, ge_strIndex_digit _ hm, pure_bind, hsh]
          simp only [hsh] at h
          exact h
        · rw [h']; simp [toBaseGo, hx]

theorem ge_to_base (b sh : Nat) (hb : 2 ≤ b) (hb' : b ≤ 64) (hsh : ∀ x, x >>> sh = x / b) (x : Nat) :
    (if (x == 0) = true then Py.strIndex C_BASE64 0
    else do
      let __s ←
        forIn (m := Py.M) (List.range (x + 1)) (x, ([] : List Bytes)) fun _ __s =>
            if (!__s.fst != 0) = true then pure (ForInStep.done (__s.fst, __s.snd))
            else do
              let __do_lift ← Py.strIndex C_BASE64 (__s.fst % b)
              pure (ForInStep.yield (__s.fst >>> sh, __s.snd ++ [__do_lift]))
      if (__s.fst != 0) = true then do
          throw (Py.Err.unsupported "while loop outlived its fuel")
          pure (Py.join [] __s.snd.reverse)
        else pure (Py.join [] __s.snd.reverse)) =
    Except.ok (toBase b x) := by
  by_cases hx : x = 0
  · subst hx
    simp only [beq_self_eq_true, if_true, toBase, ge_strIndex_digit 0 (by decide)]
    rfl
  · obtain ⟨ds', h, h'⟩ := ge_base_loop b sh hb hb' hsh (List.range (x + 1)) x [] (x + 1) (by simp) (Nat.lt_succ_self x)
    have hc : (x == 0) = false := by simp [hx]
    simp only [hc, Bool.false_eq_true, if_false]
    rw [h]
    simp only [toBase, hx, if_false]
    simp at h'
    rw [← h']
    simp [Py.join]
    rfl

theorem int_to_base4_eq (x : Nat) : int_to_base4 x = .ok (intToBase4 x) := by
  simp only [int_to_base4]
  exact ge_to_base 4 2 (by decide) (by decide) (fun x => Nat.shiftRight_eq_div_pow x 2) x

theorem int_to_base64_eq (x : Nat) : int_to_base64 x = .ok (intToBase64 x) := by
  simp only [int_to_base64]
  exact ge_to_base 64 6 (by decide) (by decide) (fun x => Nat.shiftRight_eq_div_pow x 6) x

theorem ge_find_zipIdx (c : Nat) : ∀ (l : List Nat) (k : Nat),
    ((l.zipIdx k).map (fun ai => (([ai.1] : Bytes), ai.2))).find? (fun kv => kv.1 == [c]) =
      (if l.idxOf c < l.length then some ([c], k + l.idxOf c) else none)
  | [], k => by simp
  | a :: l, k => by
    simp only [List.zipIdx_cons, List.map_cons, List.find?_cons, List.idxOf_cons, List.length_cons]
    by_cases h : a = c
    · subst h; simp
    · have h1 : (([a] : Bytes) == [c]) = false := by simp [h]
      have h2 : (a == c) = false := by simp [h]
      rw [h1, h2, ge_find_zipIdx c l (k + 1)]
      simp only [cond_false, Nat.add_lt_add_iff_right]
      split
      · congr 2; omega
      · rfl

theorem ge_index_eq : C_BASE64_INDEX = (Layout.base64.zipIdx 0).map (fun ai => (([ai.1] : Bytes), ai.2)) := by
  decide +kernel

theorem ge_dictGet (c : Nat) : Py.dictGet C_BASE64_INDEX [c] =
    match base64Index c with | some v => .ok v | none => .error (.exc "KeyError") := by
  unfold Py.dictGet base64Index
  rw [ge_index_eq, ge_find_zipIdx]
  simp only [Nat.zero_add]
  by_cases h : List.idxOf c Layout.base64 < Layout.base64.length
  · simp only [h, if_true]
  · simp only [h, if_false]

theorem ge_forIn_congr {σ : Type} (f g : Nat → σ → Py.M (ForInStep σ)) : ∀ (l : List Nat) (init : σ),
    (∀ i ∈ l, ∀ st, f i st = g i st) → forIn l init f = forIn l init g
  | [], _, _ => rfl
  | a :: l, init, h => by
    simp only [List.forIn_cons, h a (by simp)]
    congr 1
    funext r
    cases r with
    | done b => rfl
    | yield b => exact ge_forIn_congr f g l b (fun i hi => h i (by simp [hi]))

/-- the loop body of `base64_to_int` on the string `s` -/
def ge_b64body (s : Bytes) : Nat → Nat × Nat × Bytes × Nat → Py.M (ForInStep (Nat × Nat × Bytes × Nat)) :=
  fun i_ __s => do
    let __do_lift ← Py.strIndex s i_
    let __do_lift_1 ← Py.dictGet C_BASE64_INDEX __do_lift
    pure (ForInStep.yield (__s.fst * 64, __s.snd.fst + __do_lift_1 * __s.fst, __do_lift, __do_lift_1))

theorem ge_base64ToInt_snoc (s : Bytes) (c : Nat) : base64ToInt (s ++ [c]) =
    match base64ToInt s, base64Index c with
    | some x, some v => some (x * 64 + v)
    | _, _ => none := by
  unfold base64ToInt
  rw [List.foldl_append]
  rfl

theorem ge_strIndex_snoc_last (s : Bytes) (c : Nat) : Py.strIndex (s ++ [c]) s.length = .ok [c] := by
  simp [Py.strIndex]

theorem ge_strIndex_snoc_lt (s : Bytes) (c i : Nat) (h : i < s.length) :
    Py.strIndex (s ++ [c]) i = Py.strIndex s i := by
  simp [Py.strIndex, List.getElem?_append_left h]

theorem ge_b64_loop : ∀ (n : Nat) (s : Bytes), s.length = n → ∀ (p x : Nat) (c0 : Bytes) (v0 : Nat),
    (forIn (List.range s.length).reverse (p, x, c0, v0) (ge_b64body s)).toOption.map (·.2.1)
      = (base64ToInt s).map (fun y => x + y * p)
  | 0, s, h => by
    intro p x c0 v0
    have : s = [] := List.length_eq_zero_iff.mp h
    subst this
    simp only [List.length_nil, List.range_zero, List.reverse_nil, List.forIn_nil]
    show some x = some (x + 0 * p)
    simp
  | n + 1, s, h => by
    intro p x c0 v0
    rcases List.eq_nil_or_concat s with rfl | ⟨init, c, hcat⟩
    · simp at h
    · have hcat' : s = init ++ [c] := by simpa using hcat
      subst hcat'
      have hl : init.length = n := by simpa using h
      rw [List.length_append, List.length_singleton, List.range_succ, List.reverse_append, List.reverse_singleton,
        List.singleton_append, List.forIn_cons, ge_base64ToInt_snoc]
      have hcongr : ∀ st, forIn (List.range init.length).reverse st (ge_b64body (init ++ [c])) =
          forIn (List.range init.length).reverse st (ge_b64body init) := by
        intro st
        apply ge_forIn_congr
        intro i hi st'
        have : i < init.length := by simpa using hi
        simp only [ge_b64body, ge_strIndex_snoc_lt init c i this]
      have hb : ge_b64body (init ++ [c]) init.length (p, x, c0, v0) =
          match base64Index c with
          | some v => .ok (ForInStep.yield (p * 64, x + v * p, [c], v))
          | none => .error (.exc "KeyError") := by
        simp only [ge_b64body, ge_strIndex_snoc_last]
        show (Py.dictGet C_BASE64_INDEX [c] >>= _) = _
        rw [ge_dictGet]
        cases base64Index c <;> rfl
      rw [hb]
      cases hv : base64Index c with
      | none =>
        cases base64ToInt init <;> rfl
      | some v =>
        show (forIn (List.range init.length).reverse (p * 64, x + v * p, [c], v) (ge_b64body (init ++ [c]))).toOption.map (·.2.1) = _
        rw [hcongr, ge_b64_loop n init hl]
        cases base64ToInt init with
        | none => rfl
        | some y =>
          simp only [Option.map_some]
          rw [Nat.add_mul, Nat.mul_assoc, Nat.mul_comm 64 p, Nat.add_assoc, Nat.add_comm (v * p)]

/-- the code fails (KeyError) exactly where the model says `none` -/
theorem base64_to_int_eq (s : Bytes) : (base64_to_int s).toOption = base64ToInt s := by
  simp only [base64_to_int]
  have := ge_b64_loop s.length s rfl 1 0 [] 0
  simp only [Nat.mul_one, Nat.zero_add, Option.map_id'] at this
  rw [← this]
  show Except.toOption (forIn (List.range s.length).reverse (1, 0, [], 0) (ge_b64body s) >>= _) = _
  cases forIn (List.range s.length).reverse ((1 : Nat), (0 : Nat), ([] : Bytes), (0 : Nat)) (ge_b64body s) <;> rfl

theorem build_pagination_token_eq (i path : Nat) : build_pagination_token i path = .ok (buildToken i path) := by
  simp only [build_pagination_token, int_to_base64_eq]
  rfl

/-- the code fails (ValueError / KeyError) exactly where the model says `none` -/
theorem parse_pagination_token_eq (t : Bytes) : (parse_pagination_token t).toOption = parseToken t := by
  simp only [parse_pagination_token, parseToken, Py.split1]
  have hb := base64_to_int_eq
  rcases hs : splitOn 35 t with _ | ⟨a, _ | ⟨b, _ | ⟨c, r⟩⟩⟩
  · rfl
  · rfl
  · simp only [Py.unpack2, Py.int]
    rw [← hb b]
    simp only [bind, Except.bind]
    cases decToNat? a <;> cases base64_to_int b <;> rfl
  · rfl

#print axioms https_variation_eq
#print axioms lru_variations_eq
#print axioms lru_iter_eq
#print axioms lru_dirname_eq
#print axioms detailed_chunks_iter_eq
#print axioms chunks_iter_eq
#print axioms chunks_iter_zero
#print axioms base4_append_eq
#print axioms int_to_base4_eq
#print axioms int_to_base64_eq
#print axioms base64_to_int_eq
#print axioms build_pagination_token_eq
#print axioms parse_pagination_token_eq

end Traph.Gen
