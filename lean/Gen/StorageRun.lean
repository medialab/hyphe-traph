import Gen.StorageEq
/-! C15 on the GENERATED storage classes for whole call sequences: any disciplined sequence of `read` / `write` calls
    issued to a `FileStorage` object and to a `MemoryStorage` object (generated from traph/storage/*.py) that start
    from the same whole-block contents returns the same results, call by call, and leaves the same bytes. -/
namespace Traph.Gen
open Traph

def FileStorage.runOps (x : FileStorage) : List SOp → Option (FileStorage × List SRes)
  | [] => some (x, [])
  | .read off :: ops =>
    match x.read (some off) with
    | .ok (x', r) => (FileStorage.runOps x' ops).map (fun p => (p.1, SRes.bytes r :: p.2))
    | .error _ => none
  | .write data block :: ops =>
    match x.write data block with
    | .ok (x', r) => (FileStorage.runOps x' ops).map (fun p => (p.1, SRes.off r :: p.2))
    | .error _ => none

def MemoryStorage.runOps (x : MemoryStorage) : List SOp → Option (MemoryStorage × List SRes)
  | [] => some (x, [])
  | .read off :: ops =>
    match x.read off with
    | .ok (x', r) => (MemoryStorage.runOps x' ops).map (fun p => (p.1, SRes.bytes r :: p.2))
    | .error _ => none
  | .write data block :: ops =>
    match x.write data block with
    | .ok (x', r) => (MemoryStorage.runOps x' ops).map (fun p => (p.1, SRes.off r :: p.2))
    | .error _ => none

theorem sr_file_ofSt_toSt (x : FileStorage) : FileStorage.ofSt x.block_size x.toSt = x := by cases x; rfl
theorem sr_file_toSt_ofSt (bs : Nat) (f : FileSt) : (FileStorage.ofSt bs f).toSt = f := rfl
theorem sr_file_bs_ofSt (bs : Nat) (f : FileSt) : (FileStorage.ofSt bs f).block_size = bs := rfl
theorem sr_mem_ofSt_toSt (x : MemoryStorage) : MemoryStorage.ofSt x.block_size x.toSt = x := by cases x; rfl
theorem sr_mem_toSt_ofSt (bs : Nat) (m : MemSt) : (MemoryStorage.ofSt bs m).toSt = m := rfl
theorem sr_mem_bs_ofSt (bs : Nat) (m : MemSt) : (MemoryStorage.ofSt bs m).block_size = bs := rfl

/-- the generated file object follows the model's file machine on every disciplined sequence, and never raises -/
theorem FileStorage.runOps_eq (ops : List SOp) (x : FileStorage) (b : Blocks) (hbs : x.block_size = b.bs)
    (hf : x.toSt.Abs b) (hw : b.Wf) (hd : b.AllDisciplined ops) :
    x.runOps ops = some (FileStorage.ofSt x.block_size (x.toSt.runOps b.bs ops).1, (x.toSt.runOps b.bs ops).2) := by
  induction ops generalizing x b with
  | nil => simp [FileStorage.runOps, FileSt.runOps, sr_file_ofSt_toSt]
  | cons op ops ih =>
    cases op with
    | read off =>
      obtain ⟨ha, hrest⟩ := hd
      obtain ⟨_, hfa⟩ := x.toSt.read_sim b hf hw off ha
      have hr := x.read_eq (some off)
      rw [hbs] at hr
      have h := ih (FileStorage.ofSt b.bs (x.toSt.read b.bs (some off)).1) b rfl hfa hw hrest
      simp only [sr_file_toSt_ofSt, sr_file_bs_ofSt] at h
      simp only [FileStorage.runOps, hr, h, FileSt.runOps, Option.map, hbs]
    | write data block =>
      obtain ⟨hdisc, hrest⟩ := hd
      obtain ⟨hfa, _⟩ := x.toSt.write_sim b hf hw data block hdisc
      have hw' := b.write_wf hw data block hdisc
      have hr := x.write_eq data block (by rw [hbs, hdisc.1]; omega)
      rw [hbs] at hr
      have h := ih (FileStorage.ofSt b.bs (x.toSt.write b.bs data block).1) (b.write data block).1
        (b.write_bs data block).symm hfa hw' hrest
      simp only [sr_file_toSt_ofSt, sr_file_bs_ofSt, b.write_bs data block] at h
      simp only [FileStorage.runOps, hr, h, FileSt.runOps, Option.map, hbs]

/-- the generated bytearray object follows the model's memory machine on every disciplined sequence, and never raises -/
theorem MemoryStorage.runOps_eq (ops : List SOp) (x : MemoryStorage) (b : Blocks) (hbs : x.block_size = b.bs)
    (hm : x.toSt.Abs b) (hw : b.Wf) (hd : b.AllDisciplined ops) :
    x.runOps ops = some (MemoryStorage.ofSt x.block_size (x.toSt.runOps b.bs ops).1, (x.toSt.runOps b.bs ops).2) := by
  induction ops generalizing x b with
  | nil => simp [MemoryStorage.runOps, MemSt.runOps, sr_mem_ofSt_toSt]
  | cons op ops ih =>
    cases op with
    | read off =>
      obtain ⟨_, hrest⟩ := hd
      have hr := x.read_eq off
      rw [hbs] at hr
      have h := ih x b hbs hm hw hrest
      simp only [MemoryStorage.runOps, hr, h, MemSt.runOps, Option.map, hbs]
    | write data block =>
      obtain ⟨hdisc, hrest⟩ := hd
      obtain ⟨hma, _⟩ := x.toSt.write_sim b hm hw data block hdisc
      have hw' := b.write_wf hw data block hdisc
      have hr := x.write_eq data block (by intro _; rw [hbs, hdisc.1]; omega)
      rw [hbs] at hr
      have h := ih (MemoryStorage.ofSt b.bs (x.toSt.write b.bs data block).1) (b.write data block).1
        (b.write_bs data block).symm hma hw' hrest
      simp only [sr_mem_toSt_ofSt, sr_mem_bs_ofSt, b.write_bs data block] at h
      simp only [MemoryStorage.runOps, hr, h, MemSt.runOps, Option.map, hbs]

/-- C15 for the source: same results call by call and the same bytes at the end, on both back-ends -/
theorem C15_source_equiv (ops : List SOp) (f : FileStorage) (m : MemoryStorage) (b : Blocks)
    (hfb : f.block_size = b.bs) (hmb : m.block_size = b.bs) (hf : f.toSt.Abs b) (hm : m.toSt.Abs b) (hw : b.Wf)
    (hd : b.AllDisciplined ops) :
    ∃ f' m' rs, f.runOps ops = some (f', rs) ∧ m.runOps ops = some (m', rs) ∧ f'.file.data = m'.array := by
  obtain ⟨h1, h2, h3, h4, _⟩ := back_ends_agree ops f.toSt m.toSt b hf hm hw hd
  refine ⟨FileStorage.ofSt f.block_size (f.toSt.runOps b.bs ops).1,
    MemoryStorage.ofSt m.block_size (m.toSt.runOps b.bs ops).1, (f.toSt.runOps b.bs ops).2,
    f.runOps_eq ops b hfb hf hw hd, ?_, ?_⟩
  · rw [m.runOps_eq ops b hmb hm hw hd, h1, h2]
  · show (f.toSt.runOps b.bs ops).1.data = (m.toSt.runOps b.bs ops).1.data
    rw [h3, h4]

#print axioms FileStorage.runOps_eq
#print axioms MemoryStorage.runOps_eq
#print axioms C15_source_equiv

end Traph.Gen
