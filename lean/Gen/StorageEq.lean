import Gen.Storage
import Proofs.StorageSim
/-! The translation tie for the storage layer: every method generated from `traph/storage/{file,memory,memmap}.py`
    by `gen/gen_storage.py` (`Gen/Storage.lean`, regenerated on every run) equals the corresponding transition of the
    storage machines of the model (`Traph/Storage.lean`: `FileSt`, `MemSt`, `mmapRead`) — the machines `C15_equiv`,
    `C15_mmap`, `C15_file_write`, `C15_mem_write` are about. -/
namespace Traph.Gen
open Traph

def FileStorage.toSt (x : FileStorage) : FileSt := { data := x.file.data, pos := x.file.pos }
def FileStorage.ofSt (bs : Nat) (f : FileSt) : FileStorage := { block_size := bs, file := { data := f.data, pos := f.pos } }
def MemoryStorage.toSt (x : MemoryStorage) : MemSt := { data := x.array }
def MemoryStorage.ofSt (bs : Nat) (m : MemSt) : MemoryStorage := { block_size := bs, array := m.data }

theorem FileStorage.len_eq (x : FileStorage) :
    x.len = .ok (FileStorage.ofSt x.block_size x.toSt.len.1, x.toSt.len.2) := by
  cases x; rfl

/-- the open-time corruption signal: the length is not a whole number of blocks -/
theorem FileStorage.check_for_corruption_eq (x : FileStorage) (h : 0 < x.block_size) :
    x.check_for_corruption =
      .ok (FileStorage.ofSt x.block_size x.toSt.len.1, decide (x.file.data.length % x.block_size ≠ 0)) := by
  obtain ⟨bs, file⟩ := x
  have hbs : bs ≠ 0 := Nat.ne_of_gt h
  simp only [FileStorage.check_for_corruption, FileStorage.len, Py.mod, Py.File.seekEnd, Py.File.tell,
    bind, pure, Except.bind, Except.pure, if_neg hbs]
  by_cases hm : file.data.length % bs = 0 <;>
    simp [hm, FileStorage.ofSt, FileStorage.toSt, FileSt.len]

theorem FileStorage.read_eq (x : FileStorage) (block : Option Nat) :
    x.read block = .ok (FileStorage.ofSt x.block_size (x.toSt.read x.block_size block).1,
                        (x.toSt.read x.block_size block).2) := by
  obtain ⟨bs, file⟩ := x
  cases block <;>
    simp [FileStorage.read, Py.File.seek, Py.File.read, Py.orNone, FileStorage.ofSt, FileStorage.toSt,
      FileSt.read, pure, Except.pure]

/-- `tell() - block_size` is computed on integers: it equals the model's (natural-number) result whenever it is not
    negative, in particular for every block-sized write -/
theorem FileStorage.write_eq (x : FileStorage) (data : Bytes) (block : Option Nat)
    (h : x.block_size ≤ block.getD x.file.data.length + data.length) :
    x.write data block = .ok (FileStorage.ofSt x.block_size (x.toSt.write x.block_size data block).1,
                              (x.toSt.write x.block_size data block).2) := by
  obtain ⟨bs, file⟩ := x
  cases block <;>
    simp_all [FileStorage.write, Py.File.seek, Py.File.seekEnd, Py.File.write, Py.File.tell, Py.sub,
      FileStorage.ofSt, FileStorage.toSt, FileSt.write, bind, pure, Except.bind, Except.pure]

theorem MemoryStorage.len_eq (x : MemoryStorage) : x.len = .ok (x, x.array.length) := by
  rfl

theorem MemoryStorage.read_eq (x : MemoryStorage) (block : Nat) :
    x.read block = .ok (x, x.toSt.read x.block_size block) := by
  simp [MemoryStorage.read, Py.orNone, Py.slice, MemoryStorage.toSt, MemSt.read, pure, Except.pure]

theorem MemoryStorage.write_eq (x : MemoryStorage) (data : Bytes) (block : Option Nat)
    (h : block = none → x.block_size ≤ x.array.length + data.length) :
    x.write data block = .ok (MemoryStorage.ofSt x.block_size (x.toSt.write x.block_size data block).1,
                              (x.toSt.write x.block_size data block).2) := by
  obtain ⟨bs, arr⟩ := x
  cases block with
  | none =>
    have h' := h rfl
    simp_all [MemoryStorage.write, Py.sub, MemoryStorage.ofSt, MemoryStorage.toSt, MemSt.write,
      bind, pure, Except.bind, Except.pure]
  | some b =>
    simp [MemoryStorage.write, Py.sliceAssign, MemoryStorage.ofSt, MemoryStorage.toSt, MemSt.write,
      pure, Except.pure]

theorem MemMapStorage.read_eq (x : MemMapStorage) (block : Nat) :
    x.read block = .ok (x, mmapRead x.map x.block_size block) := by
  simp [MemMapStorage.read, Py.orNone, Py.slice, mmapRead, pure, Except.pure]

/-- C15 restated on the generated methods: on the same whole-block bytes the memory-mapped reader and the file
    reader return the same block at every block-aligned offset -/
theorem C15_source_mmap (f : FileStorage) (m : MemMapStorage) (b : Blocks) (hbs : f.block_size = b.bs) (hm : m.block_size = b.bs)
    (hd : m.map = f.file.data) (h : f.toSt.Abs b) (hw : b.Wf) (off : Nat) (ha : off % b.bs = 0) :
    ∃ f', f.read (some off) = .ok (f', (mmapRead m.map m.block_size off)) ∧ m.read off = .ok (m, mmapRead m.map m.block_size off) := by
  refine ⟨FileStorage.ofSt f.block_size (f.toSt.read f.block_size (some off)).1, ?_, m.read_eq off⟩
  have e : mmapRead m.map m.block_size off = (f.toSt.read f.block_size (some off)).2 := by
    rw [hm, hd, hbs]; exact mmapRead_file_sim f.toSt b h hw off ha
  rw [f.read_eq (some off), e]

/-- C15 restated on the generated methods: one disciplined write (block-sized data; append, or an aligned offset inside
    the store or at its end) leaves the file object and the bytearray with the same bytes and returns the same block -/
theorem C15_source_write (f : FileStorage) (m : MemoryStorage) (b : Blocks) (hbs : f.block_size = b.bs) (hm : m.block_size = b.bs)
    (hf : f.toSt.Abs b) (hmm : m.toSt.Abs b) (hw : b.Wf) (data : Bytes) (block : Option Nat) (hd : b.Disciplined data block) :
    ∃ f' m' r, f.write data block = .ok (f', r) ∧ m.write data block = .ok (m', r) ∧ f'.file.data = m'.array ∧
      f'.toSt.Abs (b.write data block).1 ∧ m'.toSt.Abs (b.write data block).1 := by
  have hfw := f.write_eq data block (by
    rw [hbs, hd.1]; omega)
  have hmw := m.write_eq data block (by
    intro _; rw [hm, hd.1]; omega)
  obtain ⟨hfa, hfr⟩ := FileSt.write_sim f.toSt b hf hw data block hd
  obtain ⟨hma, hmr⟩ := MemSt.write_sim m.toSt b hmm hw data block hd
  rw [hbs] at hfw; rw [hm] at hmw
  refine ⟨FileStorage.ofSt b.bs (f.toSt.write b.bs data block).1,
    MemoryStorage.ofSt b.bs (m.toSt.write b.bs data block).1, _, hfw, ?_, ?_, hfa, hma⟩
  · rw [hmw, hfr, hmr]
  · show (f.toSt.write b.bs data block).1.data = (m.toSt.write b.bs data block).1.data
    rw [hfa, hma]

#print axioms FileStorage.len_eq
#print axioms FileStorage.check_for_corruption_eq
#print axioms FileStorage.read_eq
#print axioms FileStorage.write_eq
#print axioms MemoryStorage.len_eq
#print axioms MemoryStorage.read_eq
#print axioms MemoryStorage.write_eq
#print axioms MemMapStorage.read_eq
#print axioms C15_source_mmap
#print axioms C15_source_write

end Traph.Gen
