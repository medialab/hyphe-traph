import Gen.HelpersEq
import Proofs.Variations
/-! Property theorems restated on the functions GENERATED from `traph/helpers.py` (Gen/Helpers.lean): what C17, the
    token clauses of C09/C10 and the chunk arithmetic of C02/C19 say about the source.  Each is the
    corresponding theorem about the hand-written model carried over by the equivalences of Gen/HelpersEq.lean. -/
namespace Traph.Gen
open Traph

theorem ge_ok_of_toOption {α} {x : Py.M α} {v : α} (h : x.toOption = some v) : x = .ok v := by
  cases x with
  | error e => simp [Except.toOption] at h
  | ok a => simp [Except.toOption] at h; rw [h]

/-- C17: expanding never fails — for EVERY byte string — and lists the argument first -/
theorem C17_source_total (b : Bytes) : ∃ vs, lru_variations b = .ok vs ∧ vs.head? = some b :=
  ⟨lruVariations b, lru_variations_eq b, Traph.C17_head b⟩

/-- C17: on the property's grammar the expansion has no duplicates and is closed: expanding any member succeeds and
    yields a permutation of the same list -/
theorem C17_source_closed (x : Lru17) (h : x.Wf) :
    ∃ vs, lru_variations x.bytes = .ok vs ∧ vs.Nodup ∧
      ∀ y ∈ vs, ∃ vy, lru_variations y = .ok vy ∧ vy.Perm vs :=
  ⟨lruVariations x.bytes, lru_variations_eq _, Traph.C17_nodup x h,
   fun y hy => ⟨lruVariations y, lru_variations_eq y, Traph.C17_closed x h y hy⟩⟩

/-- C17: every member differs from the argument in the scheme stem and a trailing `www` host stem only -/
theorem C17_source_local (x : Lru17) (h : x.Wf) :
    ∃ vs, lru_variations x.bytes = .ok vs ∧ ∀ y ∈ vs, ∃ x' : Lru17, x'.Wf ∧ x'.bytes = y ∧
      x'.port = x.port ∧ x'.rest = x.rest ∧
      (x'.scheme = x.scheme ∨ (x.scheme = http ∧ x'.scheme = https) ∨ (x.scheme = https ∧ x'.scheme = http)) ∧
      (x'.hosts = x.hosts ∨ x'.hosts = x.hosts ++ [www] ∨ x'.hosts ++ [www] = x.hosts) :=
  ⟨lruVariations x.bytes, lru_variations_eq _, Traph.C17_local x h⟩

/-- C09 / C10: a token built from (prefix index, path) parses back to exactly that pair, without any exception -/
theorem C09_source_token_roundtrip (i path : Nat) :
    ∃ t, build_pagination_token i path = .ok t ∧ parse_pagination_token t = .ok (i, path) :=
  ⟨buildToken i path, build_pagination_token_eq i path,
   ge_ok_of_toOption (by rw [parse_pagination_token_eq]; exact parseToken_buildToken i path)⟩

/-- C09: the base-64 rendering of a path reads back -/
theorem C09_source_base64_roundtrip (x : Nat) :
    ∃ s, int_to_base64 x = .ok s ∧ base64_to_int s = .ok x :=
  ⟨intToBase64 x, int_to_base64_eq x,
   ge_ok_of_toOption (by rw [base64_to_int_eq]; exact base64ToInt_intToBase64 x)⟩

/-- C02 / C19: cutting a stem into 74-byte chunks loses nothing, and a non-empty stem gives exactly ⌈len/74⌉ chunks -/
theorem C19_source_chunks (s : Bytes) :
    ∃ cs, chunks_iter 74 s = .ok cs ∧ cs.flatten = s ∧ (s ≠ [] → cs.length = (s.length + 74 - 1) / 74) :=
  ⟨chunks 74 s, chunks_iter_eq 74 s (by decide), chunks_flatten 74 (by decide) s,
   fun hs => chunks_length 74 (by decide) s hs⟩

/-- C02: an LRU is cut into its stems after every separator -/
theorem C02_source_lru_iter (b : Bytes) : lru_iter b = .ok (lruIter b) := lru_iter_eq b

end Traph.Gen

#print axioms Traph.Gen.C17_source_total
#print axioms Traph.Gen.C17_source_closed
#print axioms Traph.Gen.C17_source_local
#print axioms Traph.Gen.C09_source_token_roundtrip
#print axioms Traph.Gen.C09_source_base64_roundtrip
#print axioms Traph.Gen.C19_source_chunks
#print axioms Traph.Gen.C02_source_lru_iter
