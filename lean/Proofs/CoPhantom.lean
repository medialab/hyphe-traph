import Proofs.CoSchedules
import Proofs.CoReadOnly
/-! C16, finding F16 as a theorem about the model: the clause "a query's answer contains no item that
    qualified at no moment of its execution" is **false** of `get_webentity_pages_iter`.

    History: webentity 1 on `s:http|h:com|h:a|`; pages `…p:x|` and `…p:x|p:y|`; a creation rule (one path stem)
    anchored at the prefix, which creates webentity 2 on `…p:x|`; webentity 2 is deleted again. Then two
    generators: the page query for webentity 1 and a crawl batch submitting the page `…p:x|p:z|`.
    Schedule `[0, 1, 0, 0, 0]`: the query yields at `…p:x|` (a page of webentity 1 at that moment, holding a
    stale copy of the block with `we = 0`); the batch runs its only section — `__add_page` inserts
    `…p:x|p:z|` and, in the same section, the rule creates webentity 3 on `…p:x|`; the query goes on below
    `…p:x|` from its stale copy and lists `…p:x|p:z|`. At no yield point was that LRU a page of webentity 1:
    before the batch's section it is not in the index, from then on it resolves to webentity 3. -/
namespace Traph.Phantom
open Traph State

def b (s : List Char) : Bytes := s.map (·.toNat)
def pa : Bytes := b "s:http|h:com|h:a|".toList
def px : Bytes := b "s:http|h:com|h:a|p:x|".toList
def py : Bytes := b "s:http|h:com|h:a|p:x|p:y|".toList
def pz : Bytes := b "s:http|h:com|h:a|p:x|p:z|".toList

def before : State := (State.fresh {} .never [] []).1.run
  [.create [pa], .addPage px false, .addPage py false, .addRule pa (.path 1), .delete 2 [px]]

def reqs : List CoReq := [.queryPages [pa], .batch [(pz, [])]]

/-- the index after the batch's only section (the query never writes, so this is also the final index) -/
def after : State := (Sys.run (before, reqs.map CoReq.init) [0, 1]).1.1

/-- The byte strings as numerals, the form every evaluation below runs on: the kernel decodes a `String` literal from
    its first byte at every access, so evaluating on the `String` forms is quadratic in their length, and is paid again
    wherever such a value is compared or walked. (A literal is by definition `String.ofList` of its characters, which
    `String.toList_ofList` rewrites in linear time.) -/
theorem bytes :
    pa = [115, 58, 104, 116, 116, 112, 124, 104, 58, 99, 111, 109, 124, 104, 58, 97, 124] ∧
    px = pa ++ [112, 58, 120, 124] ∧ py = px ++ [112, 58, 121, 124] ∧ pz = px ++ [112, 58, 122, 124] := by
  simp only [pa, px, py, pz, b]
  iterate 4 rw [String.toList_ofList]
  decide +kernel

/-- what is evaluated, in one run of the kernel so that the five requests behind `before` and the two generators'
    sections are computed once: the three statements below, word for word -/
theorem facts :
    ((0, CoOut.done (.pages [(px, false), (py, false), (pz, true)])) ∈
      (Sys.run (before, reqs.map CoReq.init) [0, 1, 0, 0, 0]).2) ∧
    (before.ask (.lruNode pz) = .optNat none ∧
      before.ask (.pages [pa]) = .pages [(px, false), (py, false)]) ∧
    (after.ask (.retrieveWebentity pz) = .nat 3 ∧ after.ask (.retrieveWebentity pa) = .nat 1 ∧
      after.ask (.pages [pa]) = .pages []) := by
  -- the definitions by `rw`: unfolded by `simp only` or `unfold` they leave a cast, which the kernel checks by
  -- evaluating the folded form too
  rw [after, before, reqs]
  simp only [bytes]
  decide +kernel

/-- the query's answer lists `…p:x|p:z|` -/
theorem answer_lists_pz :
    (0, CoOut.done (.pages [(px, false), (py, false), (pz, true)])) ∈
      (Sys.run (before, reqs.map CoReq.init) [0, 1, 0, 0, 0]).2 := facts.1

/-- the only two index states of the schedule: `before` until the batch's section, `after` from then on -/
theorem index_states :
    (Sys.run (before, reqs.map CoReq.init) [0]).1.1 = before ∧
    (Sys.run (before, reqs.map CoReq.init) [0, 1, 0]).1.1 = after ∧
    (Sys.run (before, reqs.map CoReq.init) [0, 1, 0, 0]).1.1 = after ∧
    (Sys.run (before, reqs.map CoReq.init) [0, 1, 0, 0, 0]).1.1 = after := by
  -- generator 0 is the query: its turns leave the index alone, so each schedule may drop its last turn
  have h := reader_last (before, reqs.map CoReq.init) 0 ⟨_, rfl, trivial⟩
  have h3 := (h [0, 1, 0]).trans (h [0, 1])
  -- left folded, `_ = after` is checked by evaluating both sides
  rw [after]
  exact ⟨(h []).trans (by rw [Sys.run_nil]), h [0, 1], h3, (h [0, 1, 0, 0]).trans h3⟩

/-- before the batch's section `…p:x|p:z|` is not in the index; the pages of webentity 1 are `…p:x|`, `…p:x|p:y|` -/
theorem before_not_a_page :
    before.ask (.lruNode pz) = .optNat none ∧
    before.ask (.pages [pa]) = .pages [(px, false), (py, false)] := facts.2.1

/-- from the batch's section on `…p:x|p:z|` is a page of webentity 3, and webentity 1 has no page left -/
theorem after_foreign :
    after.ask (.retrieveWebentity pz) = .nat 3 ∧ after.ask (.retrieveWebentity pa) = .nat 1 ∧
    after.ask (.pages [pa]) = .pages [] := facts.2.2

#print axioms answer_lists_pz
#print axioms index_states
#print axioms before_not_a_page
#print axioms after_foreign

end Traph.Phantom
