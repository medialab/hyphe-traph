import Proofs.PtrOkWalks
/-! Every model function and every public write request (except `clear`) whose link arguments have a stem
    (`Op.WF`: a link between LRUs without one is stored as a stub to block 1, whether or not that block exists) is a
    `PTrace` from any `Whole` state, and ends in a `Whole` state: the pointer-safety invariant `PtrOk` holds after
    EVERY SINGLE storage write of every such request. `add_lru` is followed through `TrieAcross`, `addStubs`
    write by write, the requests above them through `Built`. The facts that make it work, all read
    off the write order of the code:
    * `writeNew` appends the head and then all its tail blocks before anything points to the head;
    * `ensureStem` / `addLruCreate` store the sibling / child pointer only after `writeNew`;
    * `addStubs` appends all the stubs before the page block is rewritten with the new list head;
    * the stubs' targets are blocks of pages inserted earlier in the same request.
    `WT s s'` is that statement; it is carried through the code by `wt_across`, the result for a history is `run_wt`. -/
namespace Traph
open State

/-- pointer safety of the passage from `s` to `s'`: if no node is half-written at `s`, the writes in between leave
    no pointer dangling at any moment, and no node is half-written at `s'` -/
def WT (s s' : State) : Prop := Whole s → PTrace s s' ∧ Whole s'

theorem WT.refl (s : State) : WT s s := fun h => ⟨PTrace.refl s, h⟩

theorem WT.trans {a b c : State} (h1 : WT a b) (h2 : WT b c) : WT a c := fun h =>
  ⟨(h1 h).1.trans (h2 (h1 h).2).1, (h2 (h1 h).2).2⟩

theorem WT.of_eq {s s' : State} (ht : s'.trie = s.trie) (hl : s'.links = s.links)
    (hh : s'.hdrId = s.hdrId) (hlog : s'.log = s.log) : WT s s' :=
  fun h => ⟨PTrace.of_eq ht hl hh hlog, h.of_eq ht hl⟩

theorem Whole.pos {s : State} (h : Whole s) : 0 < s.trie.size := h.dpos

theorem CellOk.flags {c : Cell} {d nl : Nat} (h : CellOk c d nl) (fl : Flags) :
    CellOk { c with flags := fl } d nl := ⟨h.left, h.right, h.child, h.parent, h.out, h.inn⟩

theorem CellOk.we {c : Cell} {d nl : Nat} (h : CellOk c d nl) (w : Nat) :
    CellOk { c with we := w } d nl := ⟨h.left, h.right, h.child, h.parent, h.out, h.inn⟩

theorem CellOk.setSlot {c : Cell} {d nl : Nat} (h : CellOk c d nl) (sl : Slot) (v : Nat) (hv : v < d) :
    CellOk (c.setSlot sl v) d nl := by
  cases sl
  · exact ⟨hv, h.right, h.child, h.parent, h.out, h.inn⟩
  · exact ⟨h.left, h.right, hv, h.parent, h.out, h.inn⟩
  · exact ⟨h.left, hv, h.child, h.parent, h.out, h.inn⟩

theorem wt_modCell (s : State) (i : Nat) (f : Cell → Cell)
    (hle : ∀ c, s.trie[i]? = some c → CellLe c (f c))
    (hok : ∀ c, s.trie[i]? = some c → CellOk c s.trie.size s.links.size → CellOk (f c) s.trie.size s.links.size) :
    WT s (s.modCell i f) := fun hw =>
  have w := Whole.modCell hw i f (fun c hc => ⟨hok c hc (hw.cells i c hc), (hle c hc).hasTail⟩)
  ⟨ptrace_modCell s i f hle w.ptrOk, w⟩

theorem wt_appendStub (s : State) (b : Stub) (hp : b.prev < s.links.size) (ht : b.target < s.trie.size) :
    WT s (s.appendStub b).1 := fun hw =>
  have w := Whole.appendStub hw b hp ht
  ⟨ptrace_appendStub s b hw.lpos w.ptrOk, w⟩

theorem wt_setHdr (s : State) (id : Nat) : WT s (s.setHdr id) := fun hw =>
  ⟨ptrace_setHdr s id hw.ptrOk, hw.setHdr id⟩

theorem ptrace_tailCells : ∀ (chs : List Bytes), chs ≠ [] → ∀ (s : State) (d : Nat), PtrOkAt s d →
    PTrace s (s.appendCells (tailCells chs)) ∧ Whole (s.appendCells (tailCells chs))
  | [], h, _, _, _ => absurd rfl h
  | [ck], _, s, d, hd => by
    simp only [tailCells, appendCells]
    have w := hd.appendCell_closed { chunk := ck, flags := { isTail := true } }
      ⟨hd.dpos, hd.dpos, hd.dpos, hd.dpos, hd.lpos, hd.lpos⟩ rfl
    exact ⟨ptrace_appendCell s _ hd.live.1 w.ptrOk, w⟩
  | a :: b :: r, _, s, d, hd => by
    rw [tailCells_cons_cons, appendCells]
    have o := hd.appendCell_open { chunk := a, flags := { isTail := true, hasTail := true } }
      ⟨hd.dpos, hd.dpos, hd.dpos, hd.dpos, hd.lpos, hd.lpos⟩ rfl
    obtain ⟨t, w⟩ := ptrace_tailCells (b :: r) (by simp) _ d o
    exact ⟨(ptrace_appendCell s _ hd.live.1 ⟨d, o⟩).trans t, w⟩

theorem writeNew_fst_ptr (s : State) (stem : Bytes) (p : Nat) (c : Bool) :
    (s.writeNew stem p c).1 = (s.appendCell (headCell stem p c)).1.appendCells (tailsOf stem) := by
  simp only [writeNew, headCell, tailsOf, decide_eq_true_eq]

theorem wt_writeNew (s : State) (stem : Bytes) (p : Nat) (c : Bool) (hp : p < s.trie.size) :
    WT s (s.writeNew stem p c).1 := by
  intro hw
  rw [writeNew_fst_ptr]
  have hc : CellOk (headCell stem p c) s.trie.size s.links.size :=
    ⟨hw.dpos, hw.dpos, hw.dpos, hp, hw.lpos, hw.lpos⟩
  by_cases hl : stem.length > Layout.stemCap
  · have ht : (headCell stem p c).flags.hasTail = true := by simp [headCell, hl]
    have o := PtrOkAt.appendCell_open hw _ hc ht
    obtain ⟨hto, hne⟩ := tailsOf_long hl
    rw [hto]
    obtain ⟨t, w⟩ := ptrace_tailCells _ (chunks_ne_nil _ _ hne) _ _ o
    exact ⟨(ptrace_appendCell s _ hw.pos ⟨_, o⟩).trans t, w⟩
  · have ht : (headCell stem p c).flags.hasTail = false := by simp [headCell, hl]
    have w := PtrOkAt.appendCell_closed hw _ hc ht
    rw [tailsOf_short hl]
    simp only [appendCells]
    exact ⟨ptrace_appendCell s _ hw.pos w.ptrOk, w⟩

theorem wt_markCanHave (s : State) (n : Nat) (b : Bool) : WT s (s.markCanHave n b) := by
  unfold markCanHave; split
  · exact wt_modCell _ _ _ (fun c _ => cellLe_clearNoChild c) (fun c _ h => h.flags _)
  · exact WT.refl s

/-- In a `Whole` state each of the three parents a new node can be given is a block of the file; the pointer to
    the node is stored after the node and all its tail blocks. -/
theorem wt_trieAcross : TrieAcross WT where
  refl := WT.refl
  trans := WT.trans
  writeNew s stem p c hp hw := by
    refine wt_writeNew s stem p c ?_ hw
    rcases hp with rfl | hp | ⟨q, rfl⟩
    · exact hw.pos
    · exact hp
    · exact (hw.cellOk q).parent
  link s q sl v h hv := wt_modCell s q _ (fun c hc => cellLe_setSlot c sl v (h c hc)) (fun _ _ hok => hok.setSlot sl v hv)
  mark := wt_markCanHave

theorem wt_addStubsGo : ∀ (targets : List Nat) (s : State) (tail : Nat), tail < s.links.size →
    (∀ t ∈ targets, t < s.trie.size) →
    WT s (s.addStubsGo tail targets).1 ∧
    (s.addStubsGo tail targets).2 < (s.addStubsGo tail targets).1.links.size
  | [], s, tail, ht, _ => ⟨WT.refl s, ht⟩
  | t :: ts, s, tail, ht, htg => by
    simp only [addStubsGo]
    have h1 := wt_appendStub s { target := t, prev := tail } ht (htg t (by simp))
    obtain ⟨h2, h3⟩ := wt_addStubsGo ts (s.appendStub { target := t, prev := tail }).1 s.links.size
      (by simp [State.appendStub]) (fun x hx => htg x (by simp [hx]))
    exact ⟨h1.trans h2, h3⟩

theorem wt_addStubs (s : State) (page : Nat) (targets : List Nat) (out : Bool)
    (htg : ∀ t ∈ targets, t < s.trie.size) : WT s (s.addStubs page targets out) := by
  intro hw
  unfold addStubs
  split
  · exact WT.refl s hw
  · have hhead : (if out = true then (s.cell page).out else (s.cell page).inn) < s.links.size := by
      split
      · exact (hw.cellOk page).out
      · exact (hw.cellOk page).inn
    obtain ⟨h1, h2⟩ := wt_addStubsGo targets s _ hhead htg
    refine (h1.trans (wt_modCell _ _ _ (fun c _ => cellLe_setHead c out _) ?_)) hw
    intro c _ hok
    cases out
    · exact ⟨hok.left, hok.right, hok.child, hok.parent, hok.out, h2⟩
    · exact ⟨hok.left, hok.right, hok.child, hok.parent, h2, hok.inn⟩

/-- A block answered for an LRU with a stem exists, and still does later. With `wf := True` both ends of every
    stub written are such blocks. -/
theorem wt_across (k ru : Bool) :
    Across k ru True Whole (fun x s => x.stems ≠ [] → x.node < s.trie.size) WT where
  refl := WT.refl
  trans := WT.trans
  keep hw h := (h hw).2
  stable hw q h hne := Nat.lt_of_lt_of_le (q hne) (h hw).1.le.size
  addLru s stems flag _ := ⟨wt_trieAcross.addLru s stems flag, addLru_lt s stems flag⟩
  lookup s stems n hw e _ := (hw.lruNodeS_eq (by omega) stems).2 n e
  setPage s x cr _ q := ⟨wt_modCell s x.node _ (fun c _ => cellLe_flags_page c cr) (fun c _ h => h.flags _),
    fun hne => by rw [trie_modCell_size]; exact q hne⟩
  isPage _ _ _ q _ := q
  setCrawled s x _ _ := wt_modCell s x.node _ (fun c _ => cellLe_flags_crawled c) (fun c _ h => h.flags _)
  setRule _ s x b _ _ := wt_modCell s x.node _ (fun c _ => cellLe_setRule c b) (fun c _ h => h.flags _)
  setWe s x w _ _ _ := wt_modCell s x.node _ (fun c _ => cellLe_setWe c w) (fun c _ h => h.we _)
  genId s _ := wt_setHdr s _
  addStubs _ s page targets out _ ht := wt_addStubs s page targets out fun t hm => by
    obtain ⟨x, q, e, _, hne⟩ := ht t (List.mem_cons_of_mem _ hm)
    exact e ▸ q (hne trivial)
  ram _ _ _ _ _ := WT.of_eq rfl rfl rfl rfl

theorem wt_installRules (rules : List (Bytes × Rule)) (s : State) (w : Bool) : WT s (installRules s rules w).1 :=
  fun hw => (built_installRules rules w (.refl (k := false) (wf := True) s)).across (wt_across _ _) hw hw

theorem getElem?_singleton_some {α : Type} {x c : α} {b : Nat} (h : (#[x])[b]? = some c) : b = 0 ∧ c = x := by
  obtain ⟨hb, hv⟩ := Array.getElem?_eq_some_iff.mp h
  have hb0 : b = 0 := Nat.lt_one_iff.mp hb
  subst hb0
  exact ⟨rfl, hv.symm⟩

theorem whole_base (cfg : Config) (dflt : Rule) (log : List Write) :
    Whole ({ cfg := cfg, dflt := dflt, log := log } : State) := by
  refine ⟨Nat.zero_lt_one, Nat.le_refl _, Nat.zero_lt_one, ?_, ?_, ?_, ?_⟩
  · intro b c hc
    obtain ⟨_, rfl⟩ := getElem?_singleton_some hc
    exact cellOk_default Nat.zero_lt_one Nat.zero_lt_one
  · intro j st hst
    obtain ⟨_, rfl⟩ := getElem?_singleton_some hst
    exact ⟨Nat.zero_lt_one, Nat.zero_lt_one⟩
  · intro b c hc _ hh
    obtain ⟨_, rfl⟩ := getElem?_singleton_some hc
    cases hh
  · intro b c hc hb
    obtain ⟨rfl, _⟩ := getElem?_singleton_some hc
    exact absurd hb (Nat.not_succ_le_zero 0)

theorem wt_fresh (cfg : Config) (dflt : Rule) (rules : List (Bytes × Rule)) (log : List Write) :
    WT ({ cfg := cfg, dflt := dflt, log := .linkHdr :: .hdr 0 :: log } : State)
      (State.fresh cfg dflt rules log).1 := by
  unfold fresh
  exact wt_installRules rules _ true

theorem step_wt (s : State) (op : Op) (hop : ∀ d rs, op ≠ .clear d rs) (hwf : op.WF) :
    WT s (s.step op).1 := fun hw =>
  (wt_across _ _).step s op hop (fun _ => hwf) (fun _ => rfl) (fun _ => rfl) hw hw

theorem run_wt : ∀ (ops : List Op) (s : State), (∀ op ∈ ops, ∀ d rs, op ≠ .clear d rs) →
    (∀ op ∈ ops, op.WF) → WT s (s.run ops)
  | [], s, _, _ => WT.refl s
  | op :: ops, s, hop, hwf => by
    have h1 := step_wt s op (hop op (by simp)) (hwf op (by simp))
    have h2 := run_wt ops (s.step op).1 (fun o ho => hop o (by simp [ho])) (fun o ho => hwf o (by simp [ho]))
    exact h1.trans h2

#print axioms step_wt
#print axioms run_wt

end Traph
