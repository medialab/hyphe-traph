import Proofs.Shape
import Proofs.Dict
/-! The ternary search tree as a whole: the shape invariant `Shape`, the finite map it denotes (`T.entries`) and the
    structural traversal orders. `T`, `Rep`, `OrdT`, `T.graft`, `T.find` are in Shape, which this module imports. The
    multi-level search the proofs use is `T.descend` (Descend), not `T.locate`. -/
namespace Traph
open State

/-- no tail chain is open at the end of the store (so appending never changes an existing stem) -/
def TailClosed (s : State) : Prop := (s.cell (s.trie.size - 1)).flags.hasTail = false

/-- the shape invariant: the ghost tree `t` is represented by the heap, rooted at block 1 (or empty),
    every sibling tree is a strict BST on full stems, every block is referenced at most once -/
structure Shape (s : State) (t : T) : Prop where
  live   : 0 < s.trie.size
  rep    : Rep s t
  ord    : OrdT s t none none
  nodup  : t.addrs.Nodup
  root   : t.root = if s.trie.size ≤ 1 then 0 else 1
  closed : TailClosed s

theorem Rep.unique {s : State} : ∀ (t t' : T), Rep s t → Rep s t' → t.root = t'.root → t = t'
  | .nil, .nil, _, _, _ => rfl
  | .nil, .node _ _ _ _, _, h', e => absurd e.symm h'.1
  | .node _ _ _ _, .nil, h, _, e => absurd e h.1
  | .node a l c r, .node a' l' c' r', h, h', e => by
    simp only [T.root_node] at e
    subst e
    obtain ⟨_, ⟨cell, hc, h1, h2, h3⟩, rl, rc, rr⟩ := h
    obtain ⟨_, ⟨cell', hc', h1', h2', h3'⟩, rl', rc', rr'⟩ := h'
    rw [hc] at hc'
    cases hc'
    rw [Rep.unique l l' rl rl' (h1.symm.trans h1'), Rep.unique c c' rc rc' (h2.symm.trans h2'),
      Rep.unique r r' rr rr' (h3.symm.trans h3')]

theorem Shape.unique {s : State} {t t' : T} (h : Shape s t) (h' : Shape s t') : t = t' :=
  Rep.unique t t' h.rep h'.rep (by rw [h.root, h'.root])

/-- the finite map denoted by the tree: (stem path from the top, address), one entry per node -/
def T.entries (s : State) : T → LRU → List (LRU × Nat)
  | .nil, _ => []
  | .node a l c r, pre =>
    l.entries s pre ++ (pre ++ [s.stemAt a], a) :: (c.entries s (pre ++ [s.stemAt a]) ++ r.entries s pre)

theorem T.entries_nil (s : State) (pre : LRU) : T.nil.entries s pre = [] := rfl

theorem T.entries_node (s : State) (a : Nat) (l c r : T) (pre : LRU) :
    (T.node a l c r).entries s pre =
      l.entries s pre ++ (pre ++ [s.stemAt a], a) :: (c.entries s (pre ++ [s.stemAt a]) ++ r.entries s pre) := rfl

theorem T.entries_leaf (s : State) (b : Nat) (pre : LRU) :
    (T.node b .nil .nil .nil).entries s pre = [(pre ++ [s.stemAt b], b)] := rfl

section
variable {s : State} {a : Nat} {l c r : T} {pre : LRU}

theorem mem_entries_node {x : LRU × Nat} :
    x ∈ (T.node a l c r).entries s pre ↔ x ∈ l.entries s pre ∨ x = (pre ++ [s.stemAt a], a) ∨
      x ∈ c.entries s (pre ++ [s.stemAt a]) ∨ x ∈ r.entries s pre := by
  rw [T.entries_node, List.mem_append, List.mem_cons, List.mem_append]

theorem entry_node_iff {p : LRU} {b : Nat} :
    (p, b) ∈ (T.node a l c r).entries s pre ↔ (p, b) ∈ l.entries s pre ∨ (p = pre ++ [s.stemAt a] ∧ b = a) ∨
      (p, b) ∈ c.entries s (pre ++ [s.stemAt a]) ∨ (p, b) ∈ r.entries s pre := by
  rw [mem_entries_node, Prod.mk.injEq]

theorem entry_self : (pre ++ [s.stemAt a], a) ∈ (T.node a l c r).entries s pre :=
  mem_entries_node.mpr (.inr (.inl rfl))

theorem entry_left {x : LRU × Nat} (h : x ∈ l.entries s pre) : x ∈ (T.node a l c r).entries s pre :=
  mem_entries_node.mpr (.inl h)

theorem entry_child {x : LRU × Nat} (h : x ∈ c.entries s (pre ++ [s.stemAt a])) :
    x ∈ (T.node a l c r).entries s pre :=
  mem_entries_node.mpr (.inr (.inr (.inl h)))

theorem entry_right {x : LRU × Nat} (h : x ∈ r.entries s pre) : x ∈ (T.node a l c r).entries s pre :=
  mem_entries_node.mpr (.inr (.inr (.inr h)))
end

theorem entries_prefix {s : State} : ∀ (u : T) (pre p : LRU) (b : Nat),
    (p, b) ∈ u.entries s pre → ∃ x rest, p = pre ++ x :: rest
  | .nil, _, _, _, h => nomatch h
  | .node a l c r, pre, p, b, h => by
    rcases entry_node_iff.mp h with h | ⟨rfl, _⟩ | h | h
    · exact entries_prefix l pre p b h
    · exact ⟨s.stemAt a, [], rfl⟩
    · obtain ⟨x, rest, rfl⟩ := entries_prefix c _ p b h
      exact ⟨s.stemAt a, x :: rest, by simp⟩
    · exact entries_prefix r pre p b h

theorem entries_ne_nil {s : State} {u : T} {pre q : LRU} {b : Nat} (h : (pre ++ q, b) ∈ u.entries s pre) :
    q ≠ [] := by
  obtain ⟨x, rest, e⟩ := entries_prefix _ _ _ _ h
  rw [List.append_cancel_left e]
  exact List.cons_ne_nil _ _

theorem entry_ne_nil {s : State} {t : T} {p : LRU} {b : Nat} (hm : (p, b) ∈ t.entries s []) : p ≠ [] :=
  entries_ne_nil (pre := []) hm

theorem entry_node_below {s : State} {a : Nat} {l c r : T} {pre q : LRU} {b : Nat} :
    (pre ++ q, b) ∈ (T.node a l c r).entries s pre ↔
      (pre ++ q, b) ∈ l.entries s pre ∨ (q = [s.stemAt a] ∧ b = a) ∨
      (∃ x rest, q = s.stemAt a :: x :: rest ∧
        (pre ++ [s.stemAt a] ++ x :: rest, b) ∈ c.entries s (pre ++ [s.stemAt a])) ∨
      (pre ++ q, b) ∈ r.entries s pre := by
  rw [entry_node_iff]
  refine or_congr Iff.rfl (or_congr (and_congr_left' ⟨List.append_cancel_left, congrArg _⟩) (or_congr ?_ Iff.rfl))
  constructor
  · intro h
    obtain ⟨x, rest, e⟩ := entries_prefix _ _ _ _ h
    rw [List.append_assoc] at e
    obtain rfl := List.append_cancel_left e
    exact ⟨x, rest, rfl, by rw [List.append_assoc]; exact h⟩
  · rintro ⟨x, rest, rfl, h⟩
    rw [List.append_assoc] at h; exact h

theorem entries_addrs_perm {s : State} : ∀ (u : T) (pre : LRU),
    ((u.entries s pre).map (·.2)).Perm u.addrs
  | .nil, _ => by simp [T.entries_nil, T.addrs]
  | .node a l c r, pre => by
    have hl := entries_addrs_perm (s := s) l pre
    have hc := entries_addrs_perm (s := s) c (pre ++ [s.stemAt a])
    have hr := entries_addrs_perm (s := s) r pre
    simp only [T.entries_node, T.addrs, List.map_append, List.map_cons]
    refine List.Perm.trans List.perm_middle ?_
    refine List.Perm.cons a ?_
    rw [List.append_assoc]
    exact hl.append (hc.append hr)

theorem entries_addr_mem {s : State} (u : T) (pre p : LRU) (b : Nat) (h : (p, b) ∈ u.entries s pre) : b ∈ u.addrs :=
  (entries_addrs_perm u pre).subset (List.mem_map.mpr ⟨(p, b), h, rfl⟩)

theorem T.addrs_mem_entries {s : State} {q : Nat} (t : T) (pre : LRU) (h : q ∈ t.addrs) :
    ∃ p, (p, q) ∈ t.entries s pre := by
  obtain ⟨⟨p, _⟩, hm, rfl⟩ := List.mem_map.mp ((entries_addrs_perm (s := s) t pre).mem_iff.mpr h)
  exact ⟨p, hm⟩

inductive Loc where
  | found (b : Nat)
  | fell (q : Nat) (sl : Slot) (pre : LRU) (rest : List Stem)   -- slot `sl` of node `q` is empty; the node for
                                                                  -- `pre ++ [rest.head]` would go there
  | corrupt
deriving Repr, DecidableEq

/-- the whole search as one structural function: BST search on the first stem, then the child tree -/
def T.locate (s : State) : T → LRU → List Stem → Loc
  | .nil, _, _ => .corrupt
  | .node _ _ _ _, _, [] => .corrupt
  | .node a l c r, pre, stem :: rest =>
    if s.stemAt a = stem then
      (match rest with
       | [] => .found a
       | _ :: _ =>
         match c with
         | .nil => .fell a .C (pre ++ [stem]) rest
         | .node _ _ _ _ => c.locate s (pre ++ [stem]) rest)
    else if lexLt stem (s.stemAt a) then
      (match l with
       | .nil => .fell a .L pre (stem :: rest)
       | .node _ _ _ _ => l.locate s pre (stem :: rest))
    else
      (match r with
       | .nil => .fell a .R pre (stem :: rest)
       | .node _ _ _ _ => r.locate s pre (stem :: rest))

/-- order of `dfs_iter`: node, child subtree, left subtree, right subtree; with the flattened LRU -/
def T.pre (s : State) : T → Bytes → List (Nat × Bytes)
  | .nil, _ => []
  | .node a l c r, lru =>
    (a, lru ++ s.stemAt a) :: (c.pre s (lru ++ s.stemAt a) ++ l.pre s lru ++ r.pre s lru)

/-- in-order of one sibling tree with children after their parent (ascending byte order under `OrdT`) -/
def T.inorder (s : State) : T → Bytes → List (Nat × Bytes)
  | .nil, _ => []
  | .node a l c r, lru =>
    l.inorder s lru ++ (a, lru ++ s.stemAt a) :: (c.inorder s (lru ++ s.stemAt a) ++ r.inorder s lru)

theorem T.size_eq_length_addrs : ∀ t : T, t.size = t.addrs.length
  | .nil => rfl
  | .node a l c r => by
    simp [T.size, T.addrs, T.size_eq_length_addrs l, T.size_eq_length_addrs c, T.size_eq_length_addrs r]; omega

theorem Shape.eq_nil {s : State} {t : T} (h : Shape s t) (hsz : s.trie.size ≤ 1) : t = .nil := by
  have hroot := h.root
  rw [if_pos hsz] at hroot
  cases t with
  | nil => rfl
  | node a l c r => exact absurd hroot (Rep.root_ne_zero h.rep nofun)

theorem Shape.root_one {s : State} {t : T} (h : Shape s t) (hsz : ¬ s.trie.size ≤ 1) : t.root = 1 ∧ t ≠ .nil := by
  have hroot := h.root
  rw [if_neg hsz] at hroot
  exact ⟨hroot, by rintro rfl; exact absurd hroot nofun⟩

/-- fuel `trie.size + 1` suffices for any walk over a represented duplicate-free tree -/
theorem Shape.size_le {s : State} {t : T} (h : Shape s t) : t.size ≤ s.trie.size := by
  rw [T.size_eq_length_addrs]
  exact nodup_length_le _ _ h.nodup h.rep.lt_size

theorem root_entry {s : State} : ∀ (u : T) (pre : LRU), u.root ≠ 0 →
    (pre ++ [s.stemAt u.root], u.root) ∈ u.entries s pre
  | .nil, _, h => absurd rfl h
  | .node a l c r, pre, _ => by simp [T.entries]

theorem entries_last_and_ptrs {s : State} : ∀ (u : T) (pre p : LRU) (b : Nat), Rep s u →
    (p, b) ∈ u.entries s pre →
    ∃ q, p = q ++ [s.stemAt b] ∧
      ((s.cell b).left ≠ 0 → (q ++ [s.stemAt (s.cell b).left], (s.cell b).left) ∈ u.entries s pre) ∧
      ((s.cell b).right ≠ 0 → (q ++ [s.stemAt (s.cell b).right], (s.cell b).right) ∈ u.entries s pre) ∧
      ((s.cell b).child ≠ 0 → (p ++ [s.stemAt (s.cell b).child], (s.cell b).child) ∈ u.entries s pre)
  | .nil, _, _, _, _, h => by simp [T.entries] at h
  | .node a l c r, pre, p, b, hr, h => by
    obtain ⟨ha, ⟨cell, hc, h1, h2, h3⟩, rl, rc, rr⟩ := hr
    have inl : ∀ x, x ∈ l.entries s pre → x ∈ (T.node a l c r).entries s pre := fun x hx => by
      simp only [T.entries, List.mem_append, List.mem_cons]; exact Or.inl hx
    have inc : ∀ x, x ∈ c.entries s (pre ++ [s.stemAt a]) → x ∈ (T.node a l c r).entries s pre := fun x hx => by
      simp only [T.entries, List.mem_append, List.mem_cons]; exact Or.inr (Or.inr (Or.inl hx))
    have inr : ∀ x, x ∈ r.entries s pre → x ∈ (T.node a l c r).entries s pre := fun x hx => by
      simp only [T.entries, List.mem_append, List.mem_cons]; exact Or.inr (Or.inr (Or.inr hx))
    simp only [T.entries, List.mem_append, List.mem_cons, Prod.mk.injEq] at h
    rcases h with h | ⟨rfl, rfl⟩ | h | h
    · obtain ⟨q, e, f1, f2, f3⟩ := entries_last_and_ptrs l pre p b rl h
      exact ⟨q, e, fun hx => inl _ (f1 hx), fun hx => inl _ (f2 hx), fun hx => inl _ (f3 hx)⟩
    · have hcell : s.cell b = cell := cell_of_getElem? hc
      rw [hcell, h1, h2, h3]
      exact ⟨pre, rfl, fun hx => inl _ (root_entry l pre hx), fun hx => inr _ (root_entry r pre hx),
        fun hx => inc _ (root_entry c _ hx)⟩
    · obtain ⟨q, e, f1, f2, f3⟩ := entries_last_and_ptrs c _ p b rc h
      exact ⟨q, e, fun hx => inc _ (f1 hx), fun hx => inc _ (f2 hx), fun hx => inc _ (f3 hx)⟩
    · obtain ⟨q, e, f1, f2, f3⟩ := entries_last_and_ptrs r pre p b rr h
      exact ⟨q, e, fun hx => inr _ (f1 hx), fun hx => inr _ (f2 hx), fun hx => inr _ (f3 hx)⟩

#print axioms entries_addrs_perm

end Traph
