import Proofs.LinkBagOps
/-! C16 — the link lists under interleaving: *refresh before write*.

    Every list write of the model (`addStubs`) re-reads the page block (`refresh()`), chains the new stubs
    behind the head it has just read and rewrites only the head pointer. Consequently, whatever ran since
    the generator last looked at the block, the list hanging off every block after a write is the list
    before the write with the new ends prepended (`LinkGrow`), and trie-side writes (`add_lru`,
    `__add_page`, webentity creation, flag writes) do not touch heads or stubs at all (`PtrEq`).
    `CoLinkStep s s'` packages: the heads stay inside the store (`HeadsOk`) and every out-list and in-list of `s`
    is a suffix of the list of the same block in `s'`. -/
namespace Traph
open State

/-- the stub array is well formed and the two list heads of every block are stubs of the store
    (0, the header slot, stands for "no list") -/
def HeadsOk (s : State) : Prop :=
  s.LinksWf ∧ ∀ a, (s.cell a).out < s.links.size ∧ (s.cell a).inn < s.links.size

theorem headsOk_iff_linksOk (s : State) : HeadsOk s ↔ LinksOk s :=
  ⟨fun h => ⟨h.1, fun a => (h.2 a).1, fun a => (h.2 a).2⟩, fun h => ⟨h.wf, fun a => ⟨h.out a, h.inn a⟩⟩⟩

/-- targets of the out-links recorded for block `a`, newest first -/
def outList (s : State) (a : Nat) : List Nat := s.walk0 (s.cell a).out
/-- sources of the in-links recorded for block `a`, newest first -/
def inList (s : State) (a : Nat) : List Nat := s.walk0 (s.cell a).inn

def LinkGrow (s s' : State) : Prop :=
  ∀ a, (∃ new, outList s' a = new ++ outList s a) ∧ (∃ new, inList s' a = new ++ inList s a)

theorem LinkGrow.refl (s : State) : LinkGrow s s := fun _ =>
  ⟨⟨[], (List.nil_append _).symm⟩, ⟨[], (List.nil_append _).symm⟩⟩

theorem LinkGrow.trans {a b c : State} (h1 : LinkGrow a b) (h2 : LinkGrow b c) : LinkGrow a c := fun x => by
  obtain ⟨⟨n1, e1⟩, ⟨m1, f1⟩⟩ := h1 x
  obtain ⟨⟨n2, e2⟩, ⟨m2, f2⟩⟩ := h2 x
  exact ⟨⟨n2 ++ n1, by rw [e2, e1, List.append_assoc]⟩, ⟨m2 ++ m1, by rw [f2, f1, List.append_assoc]⟩⟩

theorem LinkGrow.mem_out {s s' : State} (h : LinkGrow s s') {a x : Nat} (hx : x ∈ outList s a) : x ∈ outList s' a := by
  obtain ⟨⟨n, e⟩, _⟩ := h a
  rw [e]; exact List.mem_append_right _ hx

theorem LinkGrow.mem_in {s s' : State} (h : LinkGrow s s') {a x : Nat} (hx : x ∈ inList s a) : x ∈ inList s' a := by
  obtain ⟨_, ⟨n, e⟩⟩ := h a
  rw [e]; exact List.mem_append_right _ hx

def CoLinkStep (s s' : State) : Prop := HeadsOk s → HeadsOk s' ∧ LinkGrow s s'

theorem CoLinkStep.refl (s : State) : CoLinkStep s s := fun h => ⟨h, LinkGrow.refl s⟩

theorem CoLinkStep.trans {a b c : State} (h1 : CoLinkStep a b) (h2 : CoLinkStep b c) : CoLinkStep a c := fun h => by
  obtain ⟨k1, g1⟩ := h1 h
  obtain ⟨k2, g2⟩ := h2 k1
  exact ⟨k2, g1.trans g2⟩

theorem PtrEq.outList {s s' : State} (f : PtrEq s s') (a : Nat) : outList s' a = outList s a := f.bag true a

theorem PtrEq.inList {s s' : State} (f : PtrEq s s') (a : Nat) : inList s' a = inList s a := f.bag false a

theorem PtrEq.step {s s' : State} (f : PtrEq s s') : CoLinkStep s s' := fun h =>
  ⟨(headsOk_iff_linksOk s').mpr (f.linksOk ((headsOk_iff_linksOk s).mp h)),
    fun a => ⟨⟨[], by rw [f.outList, List.nil_append]⟩, ⟨[], by rw [f.inList, List.nil_append]⟩⟩⟩

/-- **refresh-before-write**: `add_links(page, targets, out)` prepends the reversed targets to the list
    the page has *now* (whoever wrote it) and changes no other list -/
theorem addStubs_lists {s : State} (hk : HeadsOk s) (page : Nat) (targets : List Nat) (out : Bool) :
    HeadsOk (s.addStubs page targets out) ∧
    (∀ a, outList (s.addStubs page targets out) a =
      (if a = page ∧ page < s.trie.size ∧ out = true then targets.reverse else []) ++ outList s a) ∧
    (∀ a, inList (s.addStubs page targets out) a =
      (if a = page ∧ page < s.trie.size ∧ out = false then targets.reverse else []) ++ inList s a) := by
  have key : LinksOk (s.addStubs page targets out) ∧ ∀ o a, (s.addStubs page targets out).bag o a =
      (if a = page ∧ page < s.trie.size ∧ out = o then targets.reverse else []) ++ s.bag o a := by
    obtain ⟨l', hb⟩ := addStubs_bag_any ((headsOk_iff_linksOk s).mp hk) page targets out
    refine ⟨l', fun o a => ?_⟩
    rw [hb]
    by_cases h : o = out ∧ a = page ∧ page < s.trie.size
    · rw [if_pos h, if_pos ⟨h.2.1, h.2.2, h.1.symm⟩]
    · rw [if_neg h, if_neg (fun h' => h ⟨h'.2.2.symm, h'.1, h'.2.1⟩)]; rfl
  exact ⟨(headsOk_iff_linksOk _).mpr key.1, key.2 true, key.2 false⟩

theorem linkStep_addStubs (s : State) (page : Nat) (targets : List Nat) (out : Bool) :
    CoLinkStep s (s.addStubs page targets out) := fun hk => by
  obtain ⟨h1, h2, h3⟩ := addStubs_lists hk page targets out
  exact ⟨h1, fun a => ⟨⟨_, h2 a⟩, ⟨_, h3 a⟩⟩⟩

theorem headsOk_of_trie_init (s : State) (ht : s.trie = #[{}]) (hl : s.links = #[{}]) : HeadsOk s :=
  (headsOk_iff_linksOk s).mpr (linksOk_of_init ht hl)

end Traph
