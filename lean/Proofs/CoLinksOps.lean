import Proofs.CoLinks
/-! `HeadsOk` is an invariant of reachable states (so the link theorems of C16 are not vacuous), and every
    atomic write request other than `clear` is a `CoLinkStep`: heads stay inside the store and the out-list /
    in-list of every block only grows at the front. -/
namespace Traph
open State

/-- trie-side changes are frames; `addStubs` re-reads the head before it writes -/
theorem linkStep_across (k ru : Bool) (wf : Prop) :
    Across k ru wf (fun _ => True) (fun _ _ => True) CoLinkStep where
  refl := CoLinkStep.refl
  trans := CoLinkStep.trans
  keep _ _ := trivial
  stable _ _ _ := trivial
  addLru s stems flag _ := ⟨(ptrEq_addLru s stems flag).step, trivial⟩
  lookup _ _ _ _ _ := trivial
  setPage s x _ _ _ := ⟨PtrEq.step (ptrEq_modCell s x.node _ (fun _ => ⟨rfl, rfl⟩)), trivial⟩
  isPage _ _ _ _ _ := trivial
  setCrawled s x _ _ := PtrEq.step (ptrEq_modCell s x.node _ (fun _ => ⟨rfl, rfl⟩))
  setRule _ s x _ _ _ := PtrEq.step (ptrEq_modCell s x.node _ (fun _ => ⟨rfl, rfl⟩))
  setWe s x _ _ _ _ := PtrEq.step (ptrEq_modCell s x.node _ (fun _ => ⟨rfl, rfl⟩))
  genId _ _ := PtrEq.step (PtrEq.of_eq rfl rfl)
  addStubs _ s page targets out _ _ := linkStep_addStubs s page targets out
  ram _ _ _ _ _ := PtrEq.step (PtrEq.of_eq rfl rfl)

theorem linkStep_step (s : State) (op : Op) (hop : ∀ d rs, op ≠ .clear d rs) : CoLinkStep s (s.step op).1 :=
  (linkStep_across _ _ _).step_any s op hop trivial

theorem headsOk_hist : HistInv HeadsOk :=
  ⟨fun s ht hl => headsOk_of_trie_init s ht hl, fun b h => ((b.across (linkStep_across _ _ _) trivial).1 h).1⟩

theorem headsOk_run (cfg : Config) (dflt : Rule) (rules : List (Bytes × Rule)) (ops : List Op) :
    HeadsOk ((State.fresh cfg dflt rules []).1.run ops) := headsOk_hist.reachable cfg dflt rules ops

theorem linkGrow_run : ∀ (ops : List Op) (s : State), HeadsOk s → (∀ op ∈ ops, ∀ d rs, op ≠ .clear d rs) →
    LinkGrow s (s.run ops)
  | [], s, _, _ => LinkGrow.refl s
  | op :: ops, s, h, hop => by
    obtain ⟨h1, g1⟩ := linkStep_step s op (hop op (by simp)) h
    exact g1.trans (linkGrow_run ops _ h1 (fun o ho => hop o (by simp [ho])))

#print axioms headsOk_run
#print axioms linkStep_step

end Traph
