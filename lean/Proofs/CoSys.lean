import Traph.Co
/-! C16 — the *system* semantics of cooperatively scheduled generators.

    A system is the shared index together with the family of generator state machines of `Traph/Co.lean`;
    `Sys.step σ i` advances machine `i` by one *section* (the code between two `yield`s), a schedule is a
    list of machine indices, `Sys.run` executes a schedule and records the trace of `(machine, status)`
    events. `Sys.run` is the model's `runSched` (`runSched_eq_run`). `Sys.run_relation` (hence `Sys.run_invariant`),
    for what a schedule does to the system, and `Sys.run_events`, for what it puts in the trace, are what the "for
    every schedule" theorems are instances of. -/
namespace Traph
open State

abbrev Sys := State × List CoSt

abbrev Sched := List Nat

def Sys.step (σ : Sys) (i : Nat) : Sys × Option CoOut :=
  match σ.2[i]? with
  | none => (σ, none)
  | some c => (((c.resume σ.1).1, σ.2.set i (c.resume σ.1).2.1), some (c.resume σ.1).2.2)

def Sys.run (σ : Sys) : Sched → Sys × List (Nat × CoOut)
  | [] => (σ, [])
  | i :: rest =>
    match σ.step i with
    | (σ1, none) => Sys.run σ1 rest
    | (σ1, some o) => ((Sys.run σ1 rest).1, (i, o) :: (Sys.run σ1 rest).2)

theorem Sys.step_none {σ : Sys} {i : Nat} (h : σ.2[i]? = none) : σ.step i = (σ, none) := by
  unfold Sys.step; rw [h]

theorem Sys.step_some {σ : Sys} {i : Nat} {c : CoSt} (h : σ.2[i]? = some c) :
    σ.step i = (((c.resume σ.1).1, σ.2.set i (c.resume σ.1).2.1), some (c.resume σ.1).2.2) := by
  unfold Sys.step; rw [h]

theorem Sys.run_nil (σ : Sys) : σ.run [] = (σ, []) := rfl

theorem Sys.run_cons_none {σ : Sys} {i : Nat} (rest : Sched) (h : σ.2[i]? = none) :
    σ.run (i :: rest) = σ.run rest := by
  rw [Sys.run, Sys.step_none h]

theorem Sys.run_cons_some {σ : Sys} {i : Nat} {c : CoSt} (rest : Sched) (h : σ.2[i]? = some c) :
    σ.run (i :: rest) =
      ((Sys.run ((c.resume σ.1).1, σ.2.set i (c.resume σ.1).2.1) rest).1,
        (i, (c.resume σ.1).2.2) :: (Sys.run ((c.resume σ.1).1, σ.2.set i (c.resume σ.1).2.1) rest).2) := by
  rw [Sys.run, Sys.step_some h]

theorem runSched_eq_run : ∀ (sched : Sched) (s : State) (cos : List CoSt),
    runSched s cos sched =
      ((Sys.run (s, cos) sched).1.1, (Sys.run (s, cos) sched).1.2, (Sys.run (s, cos) sched).2.map (·.2))
  | [], s, cos => rfl
  | i :: rest, s, cos => by
    cases h : cos[i]? with
    | none =>
      rw [Sys.run_cons_none (σ := (s, cos)) rest h, runSched, h]
      exact runSched_eq_run rest s cos
    | some c =>
      rw [Sys.run_cons_some (σ := (s, cos)) rest h, runSched, h]
      simp only [List.map_cons]
      rw [runSched_eq_run rest]

theorem Sys.run_append : ∀ (a b : Sched) (σ : Sys),
    σ.run (a ++ b) = ((Sys.run (σ.run a).1 b).1, (σ.run a).2 ++ (Sys.run (σ.run a).1 b).2)
  | [], b, σ => by simp [Sys.run_nil]
  | i :: a, b, σ => by
    cases h : σ.2[i]? with
    | none =>
      rw [List.cons_append, Sys.run_cons_none _ h, Sys.run_cons_none _ h]
      exact Sys.run_append a b σ
    | some c =>
      rw [List.cons_append, Sys.run_cons_some _ h, Sys.run_cons_some _ h, Sys.run_append a b]
      rfl

theorem Sys.run_length : ∀ (sched : Sched) (σ : Sys), (σ.run sched).1.2.length = σ.2.length
  | [], σ => rfl
  | i :: rest, σ => by
    cases h : σ.2[i]? with
    | none => rw [Sys.run_cons_none _ h]; exact Sys.run_length rest σ
    | some c =>
      rw [Sys.run_cons_some _ h]
      simp only
      rw [Sys.run_length rest]
      simp

/-- `Q` holds of the index at every moment of the schedule: before it, between any two sections, after it -/
def Throughout (Q : State → Prop) : Sys → Sched → Prop
  | σ, [] => Q σ.1
  | σ, j :: rest => Q σ.1 ∧ Throughout Q (σ.step j).1 rest

theorem Throughout.imp {Q Q' : State → Prop} (hq : ∀ s, Q s → Q' s) : ∀ (sched : Sched) (σ : Sys),
    Throughout Q σ sched → Throughout Q' σ sched
  | [], _, h => hq _ h
  | _ :: rest, _, h => ⟨hq _ h.1, Throughout.imp hq rest _ h.2⟩

theorem Throughout.head {Q : State → Prop} : ∀ {σ : Sys} {sched : Sched}, Throughout Q σ sched → Q σ.1
  | _, [], h => h
  | _, _ :: _, h => h.1

/-- One induction over schedules for statements about the trace. `P` is an invariant of the system (the index and the
    generators), `Q` a fact assumed of the index at every moment, `E i o σ` what is claimed of the event "generator
    `i` returned `o`" when the system has gone on to `σ`: a section keeps `P`, establishes `E` of its own event and
    keeps `E` of the earlier ones. -/
theorem Sys.run_events (Q : State → Prop) (P : Sys → Prop) (E : Nat → CoOut → Sys → Prop)
    (hstep : ∀ (σ : Sys) (j : Nat) (c : CoSt), P σ → Q σ.1 → Q (c.resume σ.1).1 → σ.2[j]? = some c →
      P ((c.resume σ.1).1, σ.2.set j (c.resume σ.1).2.1) ∧
      E j (c.resume σ.1).2.2 ((c.resume σ.1).1, σ.2.set j (c.resume σ.1).2.1) ∧
      ∀ i o, E i o σ → E i o ((c.resume σ.1).1, σ.2.set j (c.resume σ.1).2.1)) :
    ∀ (sched : Sched) (σ : Sys), P σ → Throughout Q σ sched →
      P (σ.run sched).1 ∧ (∀ i o, E i o σ → E i o (σ.run sched).1) ∧
        ∀ i o, (i, o) ∈ (σ.run sched).2 → E i o (σ.run sched).1
  | [], _, h, _ => ⟨h, fun _ _ e => e, fun _ _ hm => nomatch hm⟩
  | j :: rest, σ, h, hq => by
    cases hc : σ.2[j]? with
    | none =>
      rw [Sys.run_cons_none _ hc]
      exact Sys.run_events Q P E hstep rest σ h (by have := hq.2; rwa [Sys.step_none hc] at this)
    | some c =>
      have hq1 : Throughout Q ((c.resume σ.1).1, σ.2.set j (c.resume σ.1).2.1) rest := by
        have := hq.2; rwa [Sys.step_some hc] at this
      obtain ⟨h1, e1, k1⟩ := hstep σ j c h hq.1 hq1.head hc
      obtain ⟨h2, k2, e2⟩ := Sys.run_events Q P E hstep rest _ h1 hq1
      rw [Sys.run_cons_some _ hc]
      exact ⟨h2, fun i o e => k2 i o (k1 i o e), fun i o hm =>
        (List.mem_cons.mp hm).elim (fun e => by cases e; exact k2 _ _ e1) (e2 i o)⟩

theorem Throughout.trivial : ∀ (sched : Sched) (σ : Sys), Throughout (fun _ => True) σ sched
  | [], _ => ⟨⟩
  | _ :: rest, _ => ⟨⟨⟩, Throughout.trivial rest _⟩

theorem Sys.run_relation (P : Sys → Prop) (R : Sys → Sys → Prop)
    (hrefl : ∀ σ, P σ → R σ σ) (htrans : ∀ σ1 σ2 σ3, R σ1 σ2 → R σ2 σ3 → R σ1 σ3)
    (hstep : ∀ (σ : Sys) (i : Nat) (c : CoSt), P σ → σ.2[i]? = some c →
      P ((c.resume σ.1).1, σ.2.set i (c.resume σ.1).2.1) ∧
      R σ ((c.resume σ.1).1, σ.2.set i (c.resume σ.1).2.1)) :
    ∀ (sched : Sched) (σ : Sys), P σ → P (σ.run sched).1 ∧ R σ (σ.run sched).1
  | [], σ, h => ⟨h, hrefl σ h⟩
  | i :: rest, σ, h => by
    cases hc : σ.2[i]? with
    | none => rw [Sys.run_cons_none _ hc]; exact Sys.run_relation P R hrefl htrans hstep rest σ h
    | some c =>
      rw [Sys.run_cons_some _ hc]
      obtain ⟨h1, r1⟩ := hstep σ i c h hc
      obtain ⟨h2, r2⟩ := Sys.run_relation P R hrefl htrans hstep rest _ h1
      exact ⟨h2, htrans _ _ _ r1 r2⟩

theorem Sys.run_invariant (P : Sys → Prop)
    (hstep : ∀ (σ : Sys) (i : Nat) (c : CoSt), P σ → σ.2[i]? = some c →
      P ((c.resume σ.1).1, σ.2.set i (c.resume σ.1).2.1))
    (sched : Sched) (σ : Sys) (h : P σ) : P (σ.run sched).1 :=
  (Sys.run_relation P (fun _ _ => True) (fun _ _ => trivial) (fun _ _ _ _ _ => trivial)
    (fun σ i c h hc => ⟨hstep σ i c h hc, trivial⟩) sched σ h).1

end Traph
