import Proofs.MarksWalk
import Proofs.ShapeOps
/-! C13: which writes keep the mark invariant `MarkOk`.
    The invariant is a property of the finite map (`markOk_iff`: no stored path whose node is still marked has
    a stored proper extension carrying a webentity); from that reading it is kept by
    writes that keep "no webentity" of every tree block and only clear `noChild` (`MarkOk.mono`);
    `add_lru`, seen as a step that extends the finite map by fresh blocks without webentity (`MarkOk.grow`);
    setting the webentity id of a node all of whose proper ancestors are unmarked (`setWe_markOk`); clearing an id.
    Also `Shape.subtree_with`, `Shape.subtree_at`: under the node of a stored path hang exactly its stored proper extensions. -/
namespace Traph
open State

/-- the node labelled `a` of a sibling tree, as a represented subtree whose child tree is `u.childAt a`;
    `Q` is any property of trees that a node passes on to its subtrees -/
theorem sib_subtree {s : State} {Q : T → Prop} (hQ : ∀ a l c r, Q (.node a l c r) → Q l ∧ Q c ∧ Q r)
    (u : T) (lo hi : Option Stem) (a : Nat) (hr : Rep s u) (ho : OrdT s u lo hi) (hnd : u.addrs.Nodup) (hq : Q u)
    (h : a ∈ u.sibs) :
    ∃ l r lo' hi', Rep s (.node a l (u.childAt a) r) ∧ OrdT s (.node a l (u.childAt a) r) lo' hi' ∧
      (T.node a l (u.childAt a) r).addrs.Nodup ∧ Q (.node a l (u.childAt a) r) ∧
      (T.node a l (u.childAt a) r).size ≤ u.size := by
  obtain ⟨l, r, h1, ⟨lo', hi', h2⟩, h3, h4, h5⟩ := T.sib_node
    (Q := fun t => Rep s t ∧ (∃ lo hi, OrdT s t lo hi) ∧ t.addrs.Nodup ∧ Q t ∧ t.size ≤ u.size)
    (fun a l c r ⟨h1, ⟨_, _, h2⟩, h3, h4, h5⟩ =>
      ⟨⟨h1.2.2.1, ⟨_, _, h2.2.2.1⟩, (T.nodup_node h3).2.2.2.1, (hQ _ _ _ _ h4).1,
          Nat.le_trans (Nat.le_of_lt (T.size_left_lt a l c r)) h5⟩,
        ⟨h1.2.2.2.2, ⟨_, _, h2.2.2.2.1⟩, (T.nodup_node h3).2.2.2.2.2.1, (hQ _ _ _ _ h4).2.2,
          Nat.le_trans (Nat.le_of_lt (T.size_right_lt a l c r)) h5⟩⟩)
    u a ⟨hr, ⟨lo, hi, ho⟩, hnd, hq, Nat.le_refl _⟩ h
  exact ⟨l, r, lo', hi', h1, h2, h3, h4, h5⟩

/-- the node stored under `pre ++ stems` is the root of a represented, ordered, duplicate-free subtree (with `Q`,
    as above) whose child tree holds exactly the entries whose path properly extends `pre ++ stems` -/
theorem subtree_at {s : State} {Q : T → Prop} (hQ : ∀ a l c r, Q (.node a l c r) → Q l ∧ Q c ∧ Q r) :
    ∀ (stems : List Stem) (u : T) (lo hi : Option Stem) (pre : LRU) (a : Nat),
    Rep s u → OrdT s u lo hi → u.addrs.Nodup → Q u → (pre ++ stems, a) ∈ u.entries s pre →
    ∃ l c r lo' hi', Rep s (.node a l c r) ∧ OrdT s (.node a l c r) lo' hi' ∧
      (T.node a l c r).addrs.Nodup ∧ Q (.node a l c r) ∧ (T.node a l c r).size ≤ u.size ∧
      ∀ q b, (q, b) ∈ c.entries s (pre ++ stems) ↔
        ((q, b) ∈ u.entries s pre ∧ ∃ x rest, q = pre ++ (stems ++ x :: rest)) := by
  intro stems
  induction stems with
  | nil => intro u lo hi pre a _ _ _ _ hent; exact absurd rfl (entries_ne_nil hent)
  | cons stem tl ih =>
    intro u lo hi pre a hr hord hnd hq hent
    obtain ⟨a0, hmem, hcase⟩ := entries_head_sib hnd hent
    obtain ⟨l0, r0, lo0, hi0, h1, h2, h3, h4, h5⟩ := sib_subtree hQ u lo hi a0 hr hord hnd hq hmem
    -- below the head stem, the entries of `u` are those of the child tree of `a0`
    have L := childAt_entries_iff (pre := pre) hord hnd (T.find_found u lo hi hord a0 hmem rfl)
    rcases hcase with ⟨e, rfl⟩ | ⟨x, rest, e, hin⟩ <;> obtain ⟨rfl, rfl⟩ := List.cons.inj e
    · exact ⟨l0, u.childAt a, r0, lo0, hi0, h1, h2, h3, h4, h5, L⟩
    · obtain ⟨l, c, r, lo', hi', g1, g2, g3, g4, g5, hiff⟩ :=
        ih (u.childAt a0) none none (pre ++ [s.stemAt a0]) a h1.2.2.2.1 (OrdT.childAt u lo hi a0 hord hmem)
          (T.childAt_nodup u a0 hnd hmem) (hQ _ _ _ _ h4).2.1 hin
      refine ⟨l, c, r, lo', hi', g1, g2, g3, g4, Nat.le_trans g5 (T.childAt_size u a0), fun q b => ?_⟩
      rw [List.append_assoc] at hiff
      rw [show pre ++ s.stemAt a0 :: x :: rest = pre ++ ([s.stemAt a0] ++ x :: rest) from rfl, hiff, L]
      constructor
      · rintro ⟨⟨hu, _⟩, x', rest', rfl⟩
        exact ⟨hu, x', rest', by simp⟩
      · rintro ⟨hu, x', rest', rfl⟩
        exact ⟨⟨hu, x, rest ++ x' :: rest', by simp⟩, x', rest', by simp⟩

/-- `subtree_at` at the root of an index: under the node of a stored path hang exactly its stored proper extensions -/
theorem Shape.subtree_with {s : State} {t : T} (h : Shape s t) {Q : T → Prop}
    (hQ : ∀ a l c r, Q (.node a l c r) → Q l ∧ Q c ∧ Q r) (hq : Q t) {p : LRU} {a : Nat}
    (hp : (p, a) ∈ t.entries s []) :
    ∃ l c r lo hi, Rep s (.node a l c r) ∧ OrdT s (.node a l c r) lo hi ∧ (T.node a l c r).addrs.Nodup ∧
      Q (.node a l c r) ∧ (T.node a l c r).size ≤ s.trie.size ∧
      ∀ q b, (q, b) ∈ c.entries s p ↔ ((q, b) ∈ t.entries s [] ∧ ∃ x rest, q = p ++ x :: rest) := by
  obtain ⟨l, c, r, lo, hi, h1, h2, h3, h4, h5, h6⟩ := subtree_at hQ p t none none [] a h.rep h.ord h.nodup hq hp
  exact ⟨l, c, r, lo, hi, h1, h2, h3, h4, Nat.le_trans h5 h.size_le, h6⟩

theorem Shape.subtree_at {s : State} {t : T} (h : Shape s t) {p : LRU} {a : Nat} (hp : (p, a) ∈ t.entries s []) :
    ∃ l c r lo hi, Rep s (.node a l c r) ∧ OrdT s (.node a l c r) lo hi ∧ (T.node a l c r).addrs.Nodup ∧
      (T.node a l c r).size ≤ s.trie.size ∧
      ∀ q b, (q, b) ∈ c.entries s p ↔ ((q, b) ∈ t.entries s [] ∧ ∃ x rest, q = p ++ x :: rest) := by
  obtain ⟨l, c, r, lo, hi, h1, h2, h3, _, h4, h5⟩ :=
    h.subtree_with (Q := fun _ => True) (fun _ _ _ _ _ => ⟨trivial, trivial, trivial⟩) trivial hp
  exact ⟨l, c, r, lo, hi, h1, h2, h3, h4, h5⟩

theorem MarkOk.subtrees {s : State} (a : Nat) (l c r : T) (h : MarkOk s (.node a l c r)) :
    MarkOk s l ∧ MarkOk s c ∧ MarkOk s r :=
  ⟨h.1, h.2.2.1, h.2.1⟩

theorem markOk_of_entries {s : State} (u : T) : ∀ (pre : LRU),
    (∀ p a q b, (p, a) ∈ u.entries s pre → (q, b) ∈ u.entries s pre → (∃ x rest, q = p ++ x :: rest) →
      (s.cell a).flags.noChild = true → (s.cell b).we = 0) → MarkOk s u := by
  induction u with
  | nil => intro _ _; trivial
  | node a l c r ihl ihc ihr =>
    intro pre H
    have sub : ∀ {v : T} {pre' : LRU}, (∀ x ∈ v.entries s pre', x ∈ (T.node a l c r).entries s pre) →
        ∀ p a' q b, (p, a') ∈ v.entries s pre' → (q, b) ∈ v.entries s pre' → (∃ x rest, q = p ++ x :: rest) →
          (s.cell a').flags.noChild = true → (s.cell b).we = 0 :=
      fun hv p a' q b hp hq => H p a' q b (hv _ hp) (hv _ hq)
    refine ⟨ihl pre (sub fun x => entry_left), ihr pre (sub fun x => entry_right),
      ihc (pre ++ [s.stemAt a]) (sub fun x => entry_child), fun hn b hb => ?_⟩
    obtain ⟨q, hq⟩ := T.addrs_mem_entries (s := s) c (pre ++ [s.stemAt a]) hb
    exact H _ a q b entry_self (entry_child hq) (entries_prefix _ _ _ _ hq) hn

theorem markOk_iff {s : State} {t : T} (h : Shape s t) :
    MarkOk s t ↔ ∀ p a q b, (p, a) ∈ t.entries s [] → (q, b) ∈ t.entries s [] → (∃ x rest, q = p ++ x :: rest) →
      (s.cell a).flags.noChild = true → (s.cell b).we = 0 := by
  refine ⟨fun hm p a q b hp hq hext hn => ?_, markOk_of_entries t []⟩
  obtain ⟨l, c, r, _, _, _, _, _, hmk, _, hiff⟩ := h.subtree_with MarkOk.subtrees hm hp
  exact hmk.2.2.2 hn b (entries_addr_mem _ _ _ _ ((hiff q b).mpr ⟨hq, hext⟩))

theorem MarkOk.mono {s s' : State} : ∀ {t : T}, MarkOk s t →
    (∀ b ∈ t.addrs, (s.cell b).we = 0 → (s'.cell b).we = 0) →
    (∀ b ∈ t.addrs, (s'.cell b).flags.noChild = true → (s.cell b).flags.noChild = true) →
    MarkOk s' t := by
  intro t
  induction t with
  | nil => intro _ _ _; trivial
  | node a l c r ihl ihc ihr =>
    intro hm hwe hnc
    obtain ⟨ml, mr, mc, hmark⟩ := hm
    obtain ⟨_, wl, wc, wr⟩ := T.forall_mem_node hwe
    obtain ⟨na, nl, nc, nr⟩ := T.forall_mem_node hnc
    exact ⟨ihl ml wl nl, ihr mr wr nr, ihc mc wc nc, fun h x hx => wc x hx (hmark (na h) x hx)⟩

theorem MarkOk.of_cells {s s' : State} {t : T} (hm : MarkOk s t)
    (hwe : ∀ b, (s.cell b).we = 0 → (s'.cell b).we = 0)
    (hnc : ∀ b, (s'.cell b).flags.noChild = true → (s.cell b).flags.noChild = true) : MarkOk s' t :=
  hm.mono (fun b _ => hwe b) (fun b _ => hnc b)

theorem cell_modCell_ne (s : State) {i j : Nat} (f : Cell → Cell) (h : i ≠ j) :
    (s.modCell i f).cell j = s.cell j := by
  rw [cell_modCell, if_neg (fun hh => h hh.1)]

theorem MarkOk.modCell {s : State} {t : T} (hm : MarkOk s t) (i : Nat) (f : Cell → Cell)
    (hwe : ∀ c, c.we = 0 → (f c).we = 0)
    (hnc : ∀ c, (f c).flags.noChild = true → c.flags.noChild = true) : MarkOk (s.modCell i f) t := by
  refine hm.of_cells ?_ ?_
  · intro b hb; rw [cell_modCell]; split
    · exact hwe _ hb
    · exact hb
  · intro b hb; rw [cell_modCell] at hb; split at hb
    · exact hnc _ hb
    · exact hb

theorem MarkOk.markCanHave {s : State} {t : T} (hm : MarkOk s t) (n : Nat) (b : Bool) :
    MarkOk (s.markCanHave n b) t := by
  unfold State.markCanHave; split
  · exact hm.modCell n _ (fun _ h => h) (fun _ h => by simp at h)
  · exact hm

theorem clearWe_markOk {s : State} {t : T} (hm : MarkOk s t) (b : Nat) :
    MarkOk (s.modCell b (fun c => { c with we := 0 })) t :=
  hm.modCell b _ (fun _ _ => rfl) (fun _ h => h)

theorem Le.cell_noChild {s s' : State} (h : s ⊑ s') {a : Nat} (ha : a < s.trie.size)
    (hn : (s'.cell a).flags.noChild = true) : (s.cell a).flags.noChild = true :=
  (h.cell_le a ha).noChild hn

theorem Le.noChild_false {s s' : State} (h : s ⊑ s') {a : Nat} (ha : a < s.trie.size)
    (hf : (s.cell a).flags.noChild = false) : (s'.cell a).flags.noChild = false := by
  cases hc : (s'.cell a).flags.noChild with
  | false => rfl
  | true => have := h.cell_noChild ha hc; rw [hf] at this; cases this

/-- a step that extends the finite map by fresh blocks (`Grow`), keeps the ids of the old blocks and gives none
    to the fresh ones (`AttrStep`), and only ever clears `noChild` (`⊑`) keeps the invariant: an old stored path
    has only old stored prefixes -/
theorem MarkOk.grow {stems : LRU} {s s' : State} {t t' : T} (hm : MarkOk s t) (hs : Shape s t)
    (gr : Grow stems s t s' t') (ha : AttrStep s s') (hle : s ⊑ s') : MarkOk s' t' := by
  refine (markOk_iff gr.shape).mpr fun p a q b hp hq hext hn => ?_
  rcases gr.new q b hq with hq0 | ⟨hb, _⟩
  · obtain ⟨x, rest, rfl⟩ := hext
    obtain ⟨y, tl, hy⟩ := entries_prefix _ _ _ _ hp
    obtain ⟨a0, ha0⟩ := entries_prefix_closed t [] _ b hq0 p.length (by rw [hy]; simp) (by simp)
    rw [List.take_left' rfl] at ha0
    have e : a = a0 := entries_path_injective gr.shape.ord gr.shape.nodup hp (gr.keep _ _ ha0)
    subst e
    rw [(ha.old b (hs.rep.lt_size b (entries_addr_mem _ _ _ _ hq0))).we]
    exact (markOk_iff hs).mp hm p a _ b ha0 hq0 ⟨x, rest, rfl⟩
      (hle.cell_noChild (hs.rep.lt_size a (entries_addr_mem _ _ _ _ ha0)) hn)
  · exact (ha.new b hb).we

theorem flags_setWe (s : State) (b w j : Nat) :
    ((s.modCell b (fun c => { c with we := w })).cell j).flags = (s.cell j).flags := by
  rw [cell_modCell]; split <;> rfl

theorem we_setWe_ne (s : State) {b j : Nat} (w : Nat) (h : j ≠ b) :
    ((s.modCell b (fun c => { c with we := w })).cell j).we = (s.cell j).we := by
  rw [cell_modCell_ne s _ (Ne.symm h)]

theorem entries_setWe (s : State) (t : T) (b w : Nat) (pre : LRU) :
    t.entries (s.modCell b (fun c => { c with we := w })) pre = t.entries s pre :=
  (noStruct_setWe s b w).entries t pre

theorem shape_setWe {s : State} {t : T} (hs : Shape s t) (n w : Nat) :
    Shape (s.modCell n (fun c => { c with we := w })) t := (noStruct_setWe s n w).shape hs

theorem setWe_markOk {s : State} {t : T} (hs : Shape s t) (hm : MarkOk s t) {p : LRU} {b : Nat}
    (hent : (p, b) ∈ t.entries s [])
    (hanc : ∀ k, 0 < k → k < p.length → ∀ a, (p.take k, a) ∈ t.entries s [] →
      (s.cell a).flags.noChild = false) (w : Nat) :
    MarkOk (s.modCell b (fun c => { c with we := w })) t := by
  refine (markOk_iff (shape_setWe hs b w)).mpr fun p' a q c hp hq hext hn => ?_
  rw [entries_setWe] at hp hq
  rw [flags_setWe] at hn
  by_cases hc : c = b
  · -- a marked node above `b` would be one of its ancestors
    subst hc
    have e := entries_addr_injective hs.nodup hq hent
    subst e
    obtain ⟨x, rest, rfl⟩ := hext
    obtain ⟨y, tl, hy⟩ := entries_prefix _ _ _ _ hp
    rw [hanc p'.length (by rw [hy]; simp) (by simp) a (by rw [List.take_left' rfl]; exact hp)] at hn
    cases hn
  · rw [we_setWe_ne s w hc]
    exact (markOk_iff hs).mp hm p' a q c hp hq hext hn

theorem setWe_markOk_of_not_mem {s : State} {t : T} (hm : MarkOk s t) {b : Nat} (hb : b ∉ t.addrs)
    (w : Nat) : MarkOk (s.modCell b (fun c => { c with we := w })) t :=
  hm.mono (fun x hx h => by rw [we_setWe_ne s w (fun (e : x = b) => hb (e ▸ hx))]; exact h)
    (fun x _ h => by rw [flags_setWe] at h; exact h)

#print axioms MarkOk.mono
#print axioms MarkOk.grow
#print axioms setWe_markOk

end Traph
