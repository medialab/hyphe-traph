import Proofs.RuleFuel
import Proofs.WeMapBulk
/-! C06 beside `C06_rule_install_full` (Proofs/RuleFuel.lean, used by `C06_rule_install_resolves` only). Every page beneath the anchor is re-inserted in
    a state that already carries the new rule table, and what that re-insertion attaches stays attached until the
    end (`reinsert_visit_state`): hence the page finally resolves at a stem-prefix at least as long as max(E, K) of
    its own re-insertion (E: what `retrieve_prefix` answers just before it; K: the longest prefix the creation rules
    propose then; cf. `C06_ladder`, Props/C06): `C06_rule_install_resolves`.
    The order of the re-insertions matters for the ids (`order_matters_*`, evaluated on a
    concrete index): the property's "in some order" is the model's DFS order. -/
namespace Traph
open State Layout

theorem LongestAt.mono {M M' : LRU → Nat} {stems : LRU} (hm : ∀ p, M p ≠ 0 → M' p = M p) {k : Nat}
    (h : LongestAt M stems k) :
    ∃ k', k ≤ k' ∧ LongestAt M' stems k' ∧ (k' = k → M' (stems.take k') = M (stems.take k)) := by
  have hk : M' (stems.take k) = M (stems.take k) := hm _ h.2.2.1
  obtain ⟨k', hkk, hl⟩ := longest_ge (M := M') h.1 h.2.1 (by rw [hk]; exact h.2.2.1)
  exact ⟨k', hkk, hl, fun e => by rw [e]; exact hk⟩

/-- a rule installation leaves the set of pages and the set of crawled pages exactly as they were, and its
    report counts no page -/
theorem C06_rule_install_pages {s : State} {t : T} (h : Shape s t) (hi : Inv s t) (anchor : Bytes) (r : Rule)
    (hne : lruIter anchor ≠ []) :
    ∃ t', Shape (s.addRule anchor r true).1 t' ∧
      (∀ p, IsPage (s.addRule anchor r true).1 t' p ↔ IsPage s t p) ∧
      (∀ p, IsCrawled (s.addRule anchor r true).1 t' p ↔ IsCrawled s t p) ∧
      (∀ rp, (s.addRule anchor r true).2 = .ok rp → rp.pages = 0) := by
  obtain ⟨t', x, f⟩ := addRule_step h anchor r true
  obtain ⟨a, hr⟩ := f hne hi
  refine ⟨t', x.shape, fun p => by rw [a.page]; simp, fun p => ⟨fun hc => ?_, fun hc => a.must p (Or.inl hc)⟩, hr⟩
  rcases a.may p hc with hc | ⟨y, hy, _⟩
  · exact hc
  · simp at hy

theorem reinsert_append : ∀ (L1 L2 : List Bytes) (s : State) (rep : Report),
    s.reinsert (L1 ++ L2) rep =
      match s.reinsert L1 rep with
      | (s1, .error e) => (s1, .error e)
      | (s1, .ok rep1) => s1.reinsert L2 rep1 := by
  intro L1
  induction L1 with
  | nil => exact fun L2 s rep => rfl
  | cons l L1 ih =>
    intro L2 s rep
    simp only [List.cons_append, State.reinsert]
    rcases s.addPageCore l false with ⟨s1, n1, res⟩
    cases res with
    | error e => rfl
    | ok r1 => exact ih L2 s1 _

theorem reinsert_keeps : ∀ (L : List Bytes) (s : State) (t : T) (rep : Report), Shape s t →
    (∃ t', Shape (s.reinsert L rep).1 t') ∧
    (∀ p, s.weMap p ≠ 0 → (s.reinsert L rep).1.weMap p = s.weMap p) ∧
    (s.reinsert L rep).1.hdrId ≥ s.hdrId := by
  intro L
  induction L with
  | nil => exact fun s t rep h => ⟨⟨t, h⟩, fun _ _ => rfl, Nat.le_refl _⟩
  | cons l L ih =>
    intro s t rep h
    obtain ⟨t1, h1⟩ := shape_addPageCore h l false
    have hw : (∀ p, s.weMap p ≠ 0 → (s.addPageCore l false).1.weMap p = s.weMap p) ∧
        s.hdrId ≤ (s.addPageCore l false).1.hdrId :=
      have ⟨_, hr, _⟩ := (RepOk.init s).addPage h l false
      ⟨hr.old, hr.lo_le⟩
    rcases hA : s.addPageCore l false with ⟨s1, n1, res⟩
    rw [hA] at h1 hw
    simp only at h1 hw
    simp only [State.reinsert, hA]
    cases res with
    | error e => exact ⟨⟨t1, h1⟩, hw.1, hw.2⟩
    | ok r1 =>
      obtain ⟨g1, g2, g3⟩ := ih s1 t1 (rep.add r1) h1
      refine ⟨g1, fun p hp => ?_, Nat.le_trans hw.2 g3⟩
      rw [g2 p (by rw [hw.1 p hp]; exact hp), hw.1 p hp]

theorem ramEq_reinsert (L : List Bytes) (s : State) (rep : Report) : RamEq s (s.reinsert L rep).1 :=
  (built_reinsert (k := false) (wf := False) L rep (.refl s)).ramEq

/-- when the whole re-insertion succeeds, every listed page is re-inserted in a state `si` that carries
    the same rule table as the start, extends its attachments, and whose own attachments — and those the
    re-insertion of the page adds — survive to the end -/
theorem reinsert_visit_state {s : State} {t : T} (h : Shape s t) (L : List Bytes) (rep rp : Report)
    (hok : (s.reinsert L rep).2 = .ok rp) {lru : Bytes} (hl : lru ∈ L) :
    ∃ si ti, Shape si ti ∧ RamEq s si ∧
      (∀ p, s.weMap p ≠ 0 → si.weMap p = s.weMap p) ∧
      (∃ r, (si.addPageCore lru false).2.2 = .ok r) ∧
      (∀ p, (si.addPageCore lru false).1.weMap p ≠ 0 →
        (s.reinsert L rep).1.weMap p = (si.addPageCore lru false).1.weMap p) := by
  obtain ⟨L1, L2, rfl⟩ := List.append_of_mem hl
  rw [reinsert_append] at hok ⊢
  obtain ⟨⟨ti, hti⟩, g2, _⟩ := reinsert_keeps L1 s t rep h
  have rq := ramEq_reinsert L1 s rep
  rcases h1 : s.reinsert L1 rep with ⟨si, res⟩
  rw [h1] at hok hti g2 rq
  cases res with
  | error e => simp at hok
  | ok rep1 =>
    simp only at hok hti g2 rq ⊢
    obtain ⟨t', ht'⟩ := shape_addPageCore hti lru false
    refine ⟨si, ti, hti, rq, g2, ?_⟩
    rcases hA : si.addPageCore lru false with ⟨s', n', res'⟩
    rw [hA] at ht'
    simp only [State.reinsert, hA] at hok ⊢
    cases res' with
    | error e => simp at hok
    | ok r =>
      simp only at hok ⊢
      obtain ⟨_, k2, _⟩ := reinsert_keeps L2 s' t' (rep1.add r) ht'
      exact ⟨⟨r, rfl⟩, k2⟩

/-- used with `s'` the state right after the page's own re-insertion (from `si` of `reinsert_visit_state`) and `sf`
    the final one. By `C06_post_creation` / `C06_post_no_creation` applied to `si`, the `k`-th prefix is max(E, K)
    of the page under the new rules. -/
theorem resolves_after {s' sf : State} (hm : ∀ p, s'.weMap p ≠ 0 → sf.weMap p = s'.weMap p) (lru : Bytes) (w : Nat)
    (hr : s'.retrieveWebentity lru = .ok w) :
    ∃ k k', k ≤ k' ∧ LongestAt s'.weMap (lruIter lru) k ∧ LongestAt sf.weMap (lruIter lru) k' ∧
      sf.retrieveWebentity lru = .ok (sf.weMap ((lruIter lru).take k')) ∧
      sf.retrievePrefix lru = .ok ((lruIter lru).take k').flatten ∧
      (k' = k → sf.retrieveWebentity lru = .ok w) := by
  obtain ⟨k, hl, rfl⟩ := (retrieveWebentity_ok_iff lru w).mp hr
  obtain ⟨k', hkk, hl', he⟩ := hl.mono hm
  refine ⟨k, k', hkk, hl, hl', (retrieveWebentity_ok_iff lru _).mpr ⟨k', hl', rfl⟩,
    (retrievePrefix_ok_iff lru _).mpr ⟨k', hl', rfl⟩, fun e => ?_⟩
  rw [(retrieveWebentity_ok_iff lru _).mpr ⟨k', hl', rfl⟩, he e]

/-- the creation case of `resolves_after`: `si.hdrId + 1` is the id of the webentity created for `K` -/
theorem created_resolves {si sf : State} {ti : T} (hti : Shape si ti) (lru : Bytes)
    (hm : ∀ p, (si.addPageCore lru false).1.weMap p ≠ 0 → sf.weMap p = (si.addPageCore lru false).1.weMap p)
    (hne : lruIter lru ≠ []) {K : Bytes} (hp : si.autoPlan lru = some (some K))
    {k : Nat} (hk0 : 0 < k) (hkl : k ≤ (lruIter lru).length) (hK : K = ((lruIter lru).take k).flatten) :
    ∃ k', k ≤ k' ∧ LongestAt sf.weMap (lruIter lru) k' ∧
      sf.retrieveWebentity lru = .ok (sf.weMap ((lruIter lru).take k')) ∧
      sf.retrievePrefix lru = .ok ((lruIter lru).take k').flatten ∧
      (k' = k → sf.retrieveWebentity lru = .ok (si.hdrId + 1)) := by
  obtain ⟨_, _, _, hMk, _⟩ := creation_map hti lru false hne hp hk0 hkl hK
  have hfk : sf.weMap ((lruIter lru).take k) = si.hdrId + 1 := by
    rw [hm _ (by rw [hMk]; omega), hMk]
  obtain ⟨k', hge, hl⟩ := longest_ge (M := sf.weMap) hk0 hkl (by rw [hfk]; omega)
  have hrw := (retrieveWebentity_ok_iff lru _).mpr ⟨k', hl, rfl⟩
  refine ⟨k', hge, hl, hrw, (retrievePrefix_ok_iff lru _).mpr ⟨k', hl, rfl⟩, fun e => ?_⟩
  rw [hrw, e, hfk]

/-- for the request: after a successful `add_webentity_creation_rule`, for every page `lru`
    beneath the anchor there is the state `si` in which it was re-inserted (new rule table, attachments of the
    index before kept), such that whatever stem-prefix it resolved at right after its re-insertion, it resolves
    in the final index at one at least as long (and to the same webentity if the same prefix) -/
theorem C06_rule_install_resolves {s : State} {t : T} (h : Shape s t) (hi : Inv s t) (hz : SizeOk s t)
    (anchor : Bytes) (r : Rule) (hne : lruIter anchor ≠ []) (rp : Report)
    (hok : (s.addRule anchor r true).2 = .ok rp) {lru : Bytes}
    (hl : lru ∈ (s.rulePrologue anchor r).1.pagesBelow (s.rulePrologue anchor r).2 anchor) :
    ∃ si ti tf, Shape si ti ∧ Shape (s.addRule anchor r true).1 tf ∧
      si.rules = dictSet s.rules anchor r ∧ si.dflt = s.dflt ∧
      (∀ p, s.weMap p ≠ 0 → si.weMap p = s.weMap p) ∧
      (∃ r1, (si.addPageCore lru false).2.2 = .ok r1) ∧
      (∀ w, (si.addPageCore lru false).1.retrieveWebentity lru = .ok w →
        ∃ k k', k ≤ k' ∧ LongestAt (si.addPageCore lru false).1.weMap (lruIter lru) k ∧
          LongestAt (s.addRule anchor r true).1.weMap (lruIter lru) k' ∧
          (s.addRule anchor r true).1.retrieveWebentity lru =
            .ok ((s.addRule anchor r true).1.weMap ((lruIter lru).take k')) ∧
          (s.addRule anchor r true).1.retrievePrefix lru = .ok ((lruIter lru).take k').flatten ∧
          (k' = k → (s.addRule anchor r true).1.retrieveWebentity lru = .ok w)) ∧
      (∀ K k, si.autoPlan lru = some (some K) → 0 < k → k ≤ (lruIter lru).length →
        K = ((lruIter lru).take k).flatten →
        ∃ k', k ≤ k' ∧ LongestAt (s.addRule anchor r true).1.weMap (lruIter lru) k' ∧
          (s.addRule anchor r true).1.retrieveWebentity lru =
            .ok ((s.addRule anchor r true).1.weMap ((lruIter lru).take k')) ∧
          (s.addRule anchor r true).1.retrievePrefix lru = .ok ((lruIter lru).take k').flatten ∧
          (k' = k → (s.addRule anchor r true).1.retrieveWebentity lru = .ok (si.hdrId + 1))) := by
  have e := C06_rule_install_full h hi hz anchor r hne
  have hlne : lruIter lru ≠ [] := by
    obtain ⟨p, ⟨b, hm, _⟩, _, rfl⟩ := (pagesBelow_prologue_iff h hi anchor r hne lru).mp hl
    rw [hi.wf.iter_flatten hm]
    exact entry_ne_nil hm
  obtain ⟨t2, k2, _⟩ := rulePrologue_keeps h anchor r
  rw [e] at hok ⊢
  obtain ⟨si, ti, hti, rq, g2, g3, g4⟩ := reinsert_visit_state k2.shape _ {} rp hok hl
  obtain ⟨⟨tf, htf⟩, _, _⟩ := reinsert_keeps
    ((s.rulePrologue anchor r).1.pagesBelow (s.rulePrologue anchor r).2 anchor) _ t2 {} k2.shape
  have hw2 := weMap_rulePrologue h anchor r
  have hr2 := rulePrologue_ram s anchor r
  refine ⟨si, ti, tf, hti, htf, by rw [rq.1, hr2.1], by rw [rq.2, hr2.2],
    fun p hp => by rw [g2 p (by rw [hw2]; exact hp), hw2], g3, fun w hw => ?_, fun K k hp hk0 hkl hK => ?_⟩
  · exact resolves_after g4 lru w hw
  · exact created_resolves hti lru g4 hlne hp hk0 hkl hK

theorem applyCreated_other (M : LRU → Nat) : ∀ (we : List (Option Nat × List Bytes)) (q : LRU),
    (∀ e ∈ we, ∀ v ∈ e.2, lruIter v ≠ q) → applyCreated M we q = M q := by
  intro we
  induction we generalizing M with
  | nil => intro q _; rfl
  | cons e we ih =>
    intro q hq
    have e1 : applyCreated M (e :: we) = applyCreated (applyCreated M [e]) we := applyCreated_append M [e] we
    rw [e1, ih _ q (fun e' he' => hq e' (by simp [he']))]
    obtain ⟨o, l⟩ := e
    cases o with
    | none => rfl
    | some id =>
      rw [applyCreated_single]
      unfold mapSetAll
      rw [if_neg]
      intro hm
      obtain ⟨v, hv, hvq⟩ := List.mem_map.mp hm
      exact hq (some id, l) (by simp) v hv hvq

/-- an LRU (page or not, beneath the anchor or not) none of whose stem-prefixes is one of the prefixes
    reported for the created webentities resolves after the installation exactly as before -/
theorem C06_rule_install_others {s : State} {t : T} (h : Shape s t) (anchor : Bytes) (r : Rule) (rp : Report)
    (hok : (s.addRule anchor r true).2 = .ok rp) (q : Bytes)
    (hq : ∀ e ∈ rp.we, ∀ v ∈ e.2, ∀ j, lruIter v ≠ (lruIter q).take j) :
    (s.addRule anchor r true).1.retrieveWebentity q = s.retrieveWebentity q ∧
    (s.addRule anchor r true).1.retrievePrefix q = s.retrievePrefix q := by
  obtain ⟨rep', hr, he⟩ := addRule_rep h anchor r true
  have := he rp hok
  subst this
  have hag : ∀ j, 0 < j → j ≤ (lruIter q).length →
      (s.addRule anchor r true).1.weMap ((lruIter q).take j) = s.weMap ((lruIter q).take j) := by
    intro j _ _
    rw [hr.map]
    exact applyCreated_other _ _ _ (fun e he v hv => hq e he v hv j)
  exact ⟨retrieveWebentity_congr_on q hag, retrievePrefix_congr_on q hag⟩

def orderA : Bytes := [115, 58, 104, 116, 116, 112, 124, 104, 58, 99, 111, 109, 124, 104, 58, 97, 124, 112, 58, 120, 124]
def orderB : Bytes := [115, 58, 104, 116, 116, 112, 124, 104, 58, 99, 111, 109, 124, 104, 58, 98, 124, 112, 58, 121, 124]
def orderAnchor : Bytes := [115, 58, 104, 116, 116, 112, 124, 104, 58, 99, 111, 109, 124]
/-- two pages under `s:http|h:com|`, no rule, no webentity -/
def orderState : State :=
  (State.fresh {} .never [] []).1.run [.addPage orderA false, .addPage orderB false]
def okOr0 : Except Err Nat → Nat | .ok w => w | _ => 0

/-- the model walks `…|h:a|p:x|` before `…|h:b|p:y|` -/
theorem order_matters_list :
    (orderState.rulePrologue orderAnchor .domain).1.pagesBelow
      (orderState.rulePrologue orderAnchor .domain).2 orderAnchor = [orderA, orderB] := by decide +kernel

/-- in that order page A gets webentity 1; re-inserting in the other order gives it webentity 2: the final
    index depends on the order (only through the ids here) -/
theorem order_matters_ids :
    okOr0 (((orderState.rulePrologue orderAnchor .domain).1.reinsert [orderA, orderB] {}).1.retrieveWebentity orderA) = 1 ∧
    okOr0 (((orderState.rulePrologue orderAnchor .domain).1.reinsert [orderB, orderA] {}).1.retrieveWebentity orderA) = 2 ∧
    okOr0 ((orderState.addRule orderAnchor .domain true).1.retrieveWebentity orderA) = 1 := by decide +kernel

end Traph
