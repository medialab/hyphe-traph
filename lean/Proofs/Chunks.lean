import Traph.Trie
/-! `chunks` (helpers.chunks_iter) by its closed form (`chunks_eq`: chunk `c` is `s[c*n : c*n + n]`, one per started
    `n` bytes), and the write/read-back of node stems of EVERY length: `writeNew` appends `blocksFor stem` blocks,
    leaves everything else alone, and `stemAt` on the new head returns the stem byte for byte. -/
namespace Traph
open Layout

theorem chunksGo_nil (n fuel : Nat) : chunksGo n fuel [] = [] := by
  cases fuel <;> simp [chunksGo]

theorem chunksGo_cons (n fuel : Nat) (a : Nat) (t : Bytes) :
    chunksGo n (fuel + 1) (a :: t) = (a :: t).take n :: chunksGo n fuel ((a :: t).drop n) := by
  simp [chunksGo]

theorem chunks_ne_nil (n : Nat) (l : Bytes) (hl : l ≠ []) : chunks n l ≠ [] := by
  unfold chunks
  split
  · exact List.cons_ne_nil _ _
  · cases l with
    | nil => exact absurd rfl hl
    | cons a t => rw [chunksGo_cons]; exact List.cons_ne_nil _ _

theorem ceil_step (n l : Nat) (hn : 0 < n) (hl : 0 < l) :
    (l + n - 1) / n = (l - n + n - 1) / n + 1 := by
  rw [Nat.sub_add_comm (show 1 ≤ l from hl), Nat.add_div_right _ hn]
  congr 1
  by_cases h : n ≤ l
  · rw [Nat.sub_add_cancel h]
  · rw [Nat.sub_eq_zero_of_le (Nat.le_of_not_le h), Nat.zero_add,
      Nat.div_eq_of_lt (Nat.lt_of_le_of_lt (Nat.sub_le _ _) (Nat.lt_of_not_le h)),
      Nat.div_eq_of_lt (Nat.sub_lt hn Nat.one_pos)]

/-- chunk `i` exists iff it starts inside the string -/
theorem lt_ceil_iff {n : Nat} (hn : 0 < n) (l i : Nat) : i < (l + n - 1) / n ↔ i * n < l := by
  rw [Nat.lt_iff_add_one_le, Nat.le_div_iff_mul_le hn, Nat.succ_mul, Nat.le_sub_one_iff_lt (Nat.add_pos_right l hn),
    Nat.add_lt_add_iff_right]

/-- chunk `c` of `s`, as `helpers.chunks_iter` cuts it: `s[c*n : c*n + n]` -/
def piece (n : Nat) (s : Bytes) (c : Nat) : Bytes := (s.drop (c * n)).take n

theorem piece_length (n : Nat) (s : Bytes) (c : Nat) : (piece n s c).length = min n (s.length - c * n) := by
  rw [piece, List.length_take, List.length_drop]

theorem piece_drop (n : Nat) (s : Bytes) (c : Nat) : piece n (s.drop n) c = piece n s (c + 1) := by
  rw [piece, piece, List.drop_drop, Nat.succ_mul, Nat.add_comm]

theorem chunksGo_eq (n : Nat) (hn : 0 < n) : ∀ (fuel : Nat) (s : Bytes), s.length < fuel →
    chunksGo n fuel s = (List.range ((s.length + n - 1) / n)).map (piece n s)
  | 0, _, h => absurd h (Nat.not_lt_zero _)
  | fuel + 1, [], _ => by
    rw [chunksGo_nil, List.length_nil, Nat.zero_add, Nat.div_eq_of_lt (Nat.sub_lt hn Nat.one_pos)]; rfl
  | fuel + 1, a :: t, h => by
    have hd : ((a :: t).drop n).length < fuel := by
      rw [List.length_drop]
      exact Nat.lt_of_lt_of_le (Nat.sub_lt (Nat.succ_pos _) hn) (Nat.le_of_lt_succ h)
    rw [chunksGo_cons, chunksGo_eq n hn fuel _ hd, List.length_drop,
      ceil_step n (a :: t).length hn (Nat.succ_pos _), List.range_succ_eq_map, List.map_cons, List.map_map]
    congr 1
    · rw [piece, Nat.zero_mul, List.drop_zero]
    · exact List.map_congr_left fun c _ => piece_drop n _ c

/-- `chunks` on a non-empty string is the closed form as well: a string of at most `n` bytes is its only piece -/
theorem chunks_eq (n : Nat) (hn : 0 < n) (s : Bytes) (hs : s ≠ []) :
    chunks n s = (List.range ((s.length + n - 1) / n)).map (piece n s) := by
  have hl : 0 < s.length := List.length_pos_iff.mpr hs
  unfold chunks
  split
  · next h =>
    have one : (s.length + n - 1) / n = 1 :=
      Nat.le_antisymm
        (Nat.le_of_not_lt fun h1 => Nat.lt_irrefl _ (Nat.lt_of_lt_of_le (Nat.one_mul n ▸ (lt_ceil_iff hn _ 1).mp h1) h))
        ((lt_ceil_iff hn _ 0).mpr ((Nat.zero_mul n).symm ▸ hl))
    rw [one, List.range_one, List.map_singleton, piece, Nat.zero_mul, List.drop_zero, List.take_of_length_le h]
  · exact chunksGo_eq n hn _ _ (Nat.lt_succ_self _)

theorem pieces_flatten (n : Nat) (s : Bytes) : ∀ k, ((List.range k).map (piece n s)).flatten = s.take (k * n)
  | 0 => by rw [Nat.zero_mul]; rfl
  | k + 1 => by
    rw [List.range_succ, List.map_append, List.flatten_append, pieces_flatten n s k, Nat.succ_mul, List.take_add]
    simp [piece]

theorem chunks_flatten (n : Nat) (hn : 0 < n) (s : Bytes) : (chunks n s).flatten = s := by
  by_cases hs : s = []
  · subst hs; rfl
  · rw [chunks_eq n hn s hs, pieces_flatten]
    exact List.take_of_length_le (Nat.le_of_not_lt fun h => Nat.lt_irrefl _ ((lt_ceil_iff hn _ _).mpr h))

theorem chunks_length (n : Nat) (hn : 0 < n) (s : Bytes) (hs : s ≠ []) :
    (chunks n s).length = (s.length + n - 1) / n := by
  rw [chunks_eq n hn s hs, List.length_map, List.length_range]

theorem chunks_sizes (n : Nat) (hn : 0 < n) (s : Bytes) (hs : s ≠ []) :
    (∀ c ∈ chunks n s, 0 < c.length ∧ c.length ≤ n) ∧
    (∀ c ∈ (chunks n s).dropLast, c.length = n) := by
  rw [chunks_eq n hn s hs, ← List.map_dropLast, List.dropLast_eq_take, List.take_range, List.length_range]
  refine ⟨fun c hc => ?_, fun c hc => ?_⟩
  · -- a piece that starts inside the string is not empty
    obtain ⟨i, hi, rfl⟩ := List.mem_map.mp hc
    rw [piece_length]
    exact ⟨Nat.lt_min.mpr ⟨hn, Nat.sub_pos_of_lt ((lt_ceil_iff hn _ i).mp (List.mem_range.mp hi))⟩, Nat.min_le_left _ _⟩
  · -- and it is full when it is not the last: the next one starts inside the string too
    obtain ⟨i, hi, rfl⟩ := List.mem_map.mp hc
    have := (lt_ceil_iff hn s.length (i + 1)).mp (Nat.add_lt_of_lt_sub (Nat.lt_min.mp (List.mem_range.mp hi)).1)
    rw [Nat.succ_mul] at this
    rw [piece_length]
    exact Nat.min_eq_left (Nat.le_sub_of_add_le' (Nat.le_of_lt this))

section
open State

theorem tailCells_cons_cons (a b : Bytes) (r : List Bytes) :
    tailCells (a :: b :: r) =
      { chunk := a, flags := { isTail := true, hasTail := true } } :: tailCells (b :: r) := by
  simp [tailCells]

theorem mem_tailCells : ∀ (chs : List Bytes) (c : Cell), c ∈ tailCells chs →
    ∃ ck ht, c = { chunk := ck, flags := { isTail := true, hasTail := ht } }
  | [], _, h => nomatch h
  | [a], _, h => ⟨a, false, List.mem_singleton.mp h⟩
  | a :: b :: r, c, h => by
    rw [tailCells_cons_cons, List.mem_cons] at h
    exact h.elim (fun e => ⟨a, true, e⟩) (mem_tailCells (b :: r) c)

theorem tailCells_length : ∀ chs : List Bytes, (tailCells chs).length = chs.length
  | [] => rfl
  | [_] => rfl
  | a :: b :: r => by
    rw [tailCells_cons_cons, List.length_cons, tailCells_length (b :: r)]; rfl

theorem tailCells_getLast : ∀ chs : List Bytes, chs ≠ [] →
    ∃ ck, (tailCells chs).getLast? = some { chunk := ck, flags := { isTail := true } }
  | [], h => absurd rfl h
  | [a], _ => ⟨a, rfl⟩
  | a :: b :: r, _ => by
    obtain ⟨ck, hck⟩ := tailCells_getLast (b :: r) (List.cons_ne_nil _ _)
    exact ⟨ck, by rw [tailCells_cons_cons, List.getLast?_cons, hck]; rfl⟩

theorem appendCells_trie : ∀ (cs : List Cell) (s : State),
    (s.appendCells cs).trie = s.trie ++ cs.toArray
  | [], s => by simp [appendCells]
  | c :: cs, s => by
    rw [appendCells, appendCells_trie cs]
    simp [appendCell]

/-- the head block `writeNew` appends -/
def headCell (stem : Bytes) (p : Nat) (c : Bool) : Cell :=
  { chunk := stem.take stemCap,
    flags := { hasTail := decide (stem.length > stemCap), noChild := !c }, parent := p }

/-- the tail blocks `writeNew` appends after the head -/
def tailsOf (stem : Bytes) : List Cell :=
  if stem.length > stemCap then tailCells (chunks stemCap (stem.drop stemCap)) else []

theorem tailsOf_long {stem : Bytes} (hl : stem.length > stemCap) :
    tailsOf stem = tailCells (chunks stemCap (stem.drop stemCap)) ∧ stem.drop stemCap ≠ [] :=
  ⟨if_pos hl, fun e => by
    have := congrArg List.length e
    rw [List.length_drop, List.length_nil] at this
    exact absurd (Nat.le_of_sub_eq_zero this) (Nat.not_le_of_lt hl)⟩

theorem tailsOf_short {stem : Bytes} (hl : ¬ stem.length > stemCap) : tailsOf stem = [] := if_neg hl

theorem writeNew_trie (s : State) (stem : Bytes) (p : Nat) (c : Bool) :
    (s.writeNew stem p c).1.trie = s.trie.push (headCell stem p c) ++ (tailsOf stem).toArray := by
  simp only [writeNew, appendCell, appendCells_trie, headCell, tailsOf, decide_eq_true_eq]

theorem tailsOf_length (stem : Bytes) :
    (tailsOf stem).length =
      if stem.length ≤ stemCap then 0 else (stem.length - stemCap + stemCap - 1) / stemCap := by
  by_cases h : stem.length > stemCap
  · rw [(tailsOf_long h).1, if_neg (Nat.not_le_of_lt h), tailCells_length,
      chunks_length stemCap (by decide) _ (tailsOf_long h).2, List.length_drop]
  · rw [tailsOf_short h, if_pos (Nat.le_of_not_lt h)]; rfl

end

/-- number of 128-byte blocks a node with this stem occupies (head + tails) -/
def blocksFor (stem : Bytes) : Nat :=
  if stem.length ≤ Layout.stemCap then 1 else (stem.length + Layout.stemCap - 1) / Layout.stemCap

section
open State

theorem writeNew_size (s : State) (stem : Bytes) (p : Nat) (c : Bool) :
    (s.writeNew stem p c).1.trie.size = s.trie.size + blocksFor stem := by
  have e : (tailsOf stem).toArray.size = (tailsOf stem).length := rfl
  rw [writeNew_trie, Array.size_append, Array.size_push, e, tailsOf_length, blocksFor]
  by_cases h : stem.length ≤ stemCap
  · rw [if_pos h, if_pos h]
  · rw [if_neg h, if_neg h, ceil_step stemCap stem.length (by decide) (Nat.zero_lt_of_lt (Nat.lt_of_not_le h)),
      Nat.add_assoc, Nat.add_comm 1]

theorem writeNew_idx (s : State) (stem : Bytes) (p : Nat) (c : Bool) :
    (s.writeNew stem p c).2 = s.trie.size := rfl

theorem writeNew_old (s : State) (stem : Bytes) (p : Nat) (c : Bool) (i : Nat)
    (hi : i < s.trie.size) : (s.writeNew stem p c).1.trie[i]? = s.trie[i]? := by
  rw [writeNew_trie, Array.getElem?_append_left (by rw [Array.size_push]; exact Nat.lt_succ_of_lt hi),
    Array.getElem?_push, if_neg (Nat.ne_of_lt hi)]

theorem getElem?_writeNew_head (s : State) (stem : Bytes) (p : Nat) (c : Bool) :
    (s.writeNew stem p c).1.trie[s.trie.size]? = some (headCell stem p c) := by
  rw [writeNew_trie, Array.getElem?_append_left (by rw [Array.size_push]; exact Nat.lt_succ_self _),
    Array.getElem?_push, if_pos rfl]

theorem cell_writeNew_head (s : State) (stem : Bytes) (p : Nat) (c : Bool) :
    (s.writeNew stem p c).1.cell s.trie.size = headCell stem p c := by
  unfold cell; rw [getElem?_writeNew_head]; rfl

theorem getElem?_writeNew_tail (s : State) (stem : Bytes) (p : Nat) (c : Bool) (k : Nat) :
    (s.writeNew stem p c).1.trie[s.trie.size + 1 + k]? = (tailsOf stem)[k]? := by
  rw [writeNew_trie, Array.getElem?_append_right (by rw [Array.size_push]; exact Nat.le_add_right _ _),
    Array.size_push, Nat.add_sub_cancel_left, List.getElem?_toArray]

theorem readTail_tailCells (t : State) : ∀ (chs : List Bytes) (fuel i : Nat),
    (∀ k, t.trie[i + k]? = (tailCells chs)[k]?) → chs.length ≤ fuel →
    t.readTail fuel i = chs.flatten
  | [], fuel, i => by
    intro h _
    cases fuel with
    | zero => rfl
    | succ f => rw [readTail, show t.trie[i]? = none from h 0]; rfl
  | [a], fuel, i => by
    intro h hf
    cases fuel with
    | zero => exact absurd hf (Nat.not_succ_le_zero _)
    | succ f =>
      rw [readTail, show t.trie[i]? = some { chunk := a, flags := { isTail := true } } from h 0]
      exact (List.append_nil a).trans (List.append_nil a).symm
  | a :: b :: r, fuel, i => by
    intro h hf
    cases fuel with
    | zero => exact absurd hf (Nat.not_succ_le_zero _)
    | succ f =>
      have ih := readTail_tailCells t (b :: r) f (i + 1)
        (fun k => by
          have hk := h (k + 1)
          rw [tailCells_cons_cons, List.getElem?_cons_succ] at hk
          rw [← hk, Nat.add_assoc, Nat.add_comm 1 k])
        (Nat.le_of_succ_le_succ hf)
      rw [readTail, show t.trie[i]? = _ from h 0, tailCells_cons_cons]
      simp only [List.getElem?_cons_zero, if_true, ih, List.flatten_cons]

theorem stemAt_writeNew' (s : State) (stem : Bytes) (p : Nat) (c : Bool) :
    (s.writeNew stem p c).1.stemAt s.trie.size = stem := by
  unfold stemAt
  rw [getElem?_writeNew_head]
  simp only [headCell]
  by_cases hl : stem.length > stemCap
  · have hto := (tailsOf_long hl).1
    have hr := readTail_tailCells (s.writeNew stem p c).1 (chunks stemCap (stem.drop stemCap))
      (s.writeNew stem p c).1.trie.size (s.trie.size + 1)
      (fun k => by rw [getElem?_writeNew_tail, hto])
      (by rw [writeNew_trie, Array.size_append, ← tailCells_length, ← hto]; exact Nat.le_add_left _ _)
    rw [hr, chunks_flatten stemCap (by decide)]
    simp only [hl, decide_true, if_true, List.take_append_drop]
  · simp only [hl, decide_false, Bool.false_eq_true, if_false, List.append_nil]
    exact List.take_of_length_le (Nat.le_of_not_lt hl)

theorem stemAt_writeNew (s : State) (stem : Bytes) (p : Nat) (c : Bool) (_hs : 0 < s.trie.size) :
    (s.writeNew stem p c).1.stemAt s.trie.size = stem := stemAt_writeNew' s stem p c

/-- `readTail` never reads past the end of storage, so any fuel ≥ the distance to the end is enough -/
theorem readTail_fuel (s : State) : ∀ (f g i : Nat),
    s.trie.size - i ≤ f → s.trie.size - i ≤ g → s.readTail f i = s.readTail g i
  | 0, g, i, hf, _ => by
    have hn : s.trie[i]? = none := Array.getElem?_eq_none (Nat.le_of_sub_eq_zero (Nat.le_zero.mp hf))
    cases g with
    | zero => rfl
    | succ g => simp [readTail, hn]
  | f + 1, 0, i, _, hg => by
    have hn : s.trie[i]? = none := Array.getElem?_eq_none (Nat.le_of_sub_eq_zero (Nat.le_zero.mp hg))
    simp [readTail, hn]
  | f + 1, g + 1, i, hf, hg => by
    rw [readTail, readTail, readTail_fuel s f g (i + 1) (Nat.sub_add_eq _ _ _ ▸ Nat.sub_le_of_le_add hf)
      (Nat.sub_add_eq _ _ _ ▸ Nat.sub_le_of_le_add hg)]

theorem succ_lt_of_hasTail {s : State} {n i : Nat} {c : Cell}
    (hlast : (s.cell (n - 1)).flags.hasTail = false) (hi : i < n) (hc : s.trie[i]? = some c)
    (hh : c.flags.hasTail = true) : i + 1 < n := by
  refine Nat.lt_of_le_of_ne hi fun e => ?_
  subst e
  rw [show i + 1 - 1 = i from rfl, cell, hc, Option.getD_some, hh] at hlast
  cases hlast

theorem readTail_agree (s t : State) (n : Nat) (hag : ∀ j, j < n → t.trie[j]? = s.trie[j]?)
    (hlast : (s.cell (n - 1)).flags.hasTail = false) :
    ∀ (f i : Nat), i < n → t.readTail f i = s.readTail f i
  | 0, _, _ => rfl
  | f + 1, i, hi => by
    rw [readTail, readTail, hag i hi]
    cases hc : s.trie[i]? with
    | none => rfl
    | some c =>
      simp only
      by_cases hh : c.flags.hasTail = true
      · rw [if_pos hh, if_pos hh, readTail_agree s t n hag hlast f (i + 1) (succ_lt_of_hasTail hlast hi hc hh)]
      · rw [if_neg hh, if_neg hh]

/-- reading an OLD node's stem is unchanged by `writeNew`, provided the last old block does not
    claim a continuation (true of every state built by the API: the last block is either a head
    without tail or the last tail of its node) -/
theorem stemAt_writeNew_other (s : State) (stem : Bytes) (p : Nat) (c : Bool) (i : Nat)
    (hi : i < s.trie.size) (hlast : (s.cell (s.trie.size - 1)).flags.hasTail = false) :
    (s.writeNew stem p c).1.stemAt i = s.stemAt i := by
  have hag := fun j (hj : j < s.trie.size) => writeNew_old s stem p c j hj
  have hsz : s.trie.size ≤ (s.writeNew stem p c).1.trie.size := writeNew_size s stem p c ▸ Nat.le_add_right _ _
  generalize (s.writeNew stem p c).1 = t at hag hsz
  unfold stemAt
  rw [hag i hi]
  cases hc : s.trie[i]? with
  | none => rfl
  | some cl =>
    simp only
    by_cases hh : cl.flags.hasTail = true
    · rw [if_pos hh, if_pos hh,
        readTail_agree s t s.trie.size hag hlast _ (i + 1) (succ_lt_of_hasTail hlast hi hc hh),
        readTail_fuel s t.trie.size s.trie.size (i + 1) (Nat.le_trans (Nat.sub_le _ _) hsz) (Nat.sub_le _ _)]
    · rw [if_neg hh, if_neg hh]

end

#print axioms chunks_flatten
#print axioms chunks_length
#print axioms chunks_sizes
#print axioms writeNew_size
#print axioms writeNew_old
#print axioms stemAt_writeNew
#print axioms stemAt_writeNew_other

end Traph
