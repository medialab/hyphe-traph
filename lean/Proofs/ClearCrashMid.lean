import Proofs.ClearCrash
import Proofs.LinkBag
import Proofs.ForPrefixes
/-! C18 with `clear`: the one state that is not below anything — a crash between the two truncations
    of a `clear` (trie file empty, link file still the old one).

    Reopening it succeeds and finds a trie with just its header block. Every request of the public API starts
    from the trie; on a trie of one block no traversal reads a single link stub, so the stale link file is
    unreachable: every query answers exactly as on the completely cleared index (`midClear_ask`; value by value
    `midClear_observers`), with the one exception of
    `count_links`, which is computed from the size of the link file (`midClear_counts`).

    The order of the truncations matters: `swapped_order_breaks` is a kernel-checked example showing that with
    the link file truncated FIRST, the intermediate state has page blocks whose list heads point past the
    end of the link store. -/
namespace Traph
open State

section trie1
variable {st : State} (h : st.trie = #[{}])
include h

theorem size_t1 : st.trie.size = 1 := by rw [h]; rfl

theorem lruNode_t1 (l : LRU) : st.lruNode l = none := by simp [lruNode, size_t1 h]

theorem followLru_t1 (l : LRU) : st.followLru l = (none, {}) := by simp [followLru, size_t1 h]

theorem dfsIter_t1 (b : Bool) : st.dfsIter none b = [] := by simp [dfsIter, size_t1 h]

theorem dfsWe_t1 : st.dfsWe = [] := by simp [dfsWe, size_t1 h]

theorem allBlocks_t1 : st.allBlocks = [] := by simp [allBlocks, size_t1 h, List.range_succ]

theorem stemAt_t1 (b : Nat) : st.stemAt b = [] := by
  unfold State.stemAt; rw [h]
  cases b <;> rfl

theorem parents_t1 (b : Nat) : st.parents b = [] := by
  simp [parents, parentsGo, cell_of_trie_init h]

theorem windup_t1 (b : Nat) : st.windup b = [] := by
  simp [windup, parents_t1 h, stemAt_t1 h]

theorem forPrefixes_t1 {α} (ps : List Bytes) (f : Nat → Bytes → List α) :
    st.forPrefixes ps f = if ps = [] then .ok [] else .error .traph := by
  cases ps with
  | nil => rfl
  | cons p ps =>
    simp only [forPrefixes, List.foldl_cons, forPrefixesStep, lruNode_t1 h]
    rw [foldl_forPrefixesStep_error]; simp

theorem retrievePrefix_t1 (l : Bytes) : st.retrievePrefix l = .error .traph := by
  simp [retrievePrefix, followLru_t1 h]

theorem retrieveWebentity_t1 (l : Bytes) : st.retrieveWebentity l = .error .traph := by
  simp [retrieveWebentity, followLru_t1 h]

theorem webentityByPrefix_t1 (p : Bytes) : st.webentityByPrefix p = .error .traph := by
  simp [webentityByPrefix, lruNode_t1 h]

/-- only the RAM default rule is consulted -/
theorem potentialPrefix_t1 (l : Bytes) :
    st.potentialPrefix l = (match st.dflt.search l with
      | some k => if k.isEmpty then .ok none else .ok (some k)
      | none => .ok none) := by
  rw [potentialPrefix, followLru_t1 h]; rfl

theorem webentityPages_t1 (ps : List Bytes) :
    st.webentityPages ps = if ps = [] then .ok [] else .error .traph := by
  simp only [webentityPages, forPrefixes_t1 h]

theorem webentityCrawledPages_t1 (ps : List Bytes) :
    st.webentityCrawledPages ps = if ps = [] then .ok [] else .error .traph := by
  simp only [webentityCrawledPages, webentityPages_t1 h]
  split <;> rfl

theorem mostLinked_t1 (ps : List Bytes) (k : Nat) (d : Option Nat) :
    st.mostLinked ps k d = if ps = [] then .ok [] else .error .traph := by
  simp only [mostLinked, forPrefixes_t1 h]
  split <;> rfl

theorem parentWebentities_t1 (w : Nat) (ps : List Bytes) :
    st.parentWebentities w ps = if ps = [] then .ok [] else .error .traph := by
  simp only [parentWebentities, forPrefixes_t1 h]
  split <;> rfl

theorem childWebentities_t1 (w : Nat) (ps : List Bytes) :
    st.childWebentities w ps = if ps = [] then .ok [] else .error .traph := by
  simp only [childWebentities, forPrefixes_t1 h]
  split <;> rfl

theorem webentityPagelinks_t1 (w : Nat) (ps : List Bytes) (i n o : Bool) :
    st.webentityPagelinks w ps i n o =
      if !n && !o && !i then .error .traph else if ps = [] then .ok [] else .error .traph := by
  simp only [webentityPagelinks, forPrefixes_t1 h]

theorem citedWebentities_t1 (ps : List Bytes) (o : Bool) :
    st.citedWebentities ps o = if ps = [] then .ok [] else .error .traph := by
  simp only [citedWebentities, forPrefixes_t1 h]
  split <;> rfl

theorem webentityDegrees_t1 (ps : List Bytes) :
    st.webentityDegrees ps = if ps = [] then .ok [0, 0, 0] else .error .traph := by
  by_cases hp : ps = [] <;> simp [webentityDegrees, citedWebentities_t1 h, hp]

theorem pageLinks_t1 (l : Bytes) (i n o : Bool) : st.pageLinks l i n o = [] := by
  simp [pageLinks, lruNode_t1 h]

theorem pageDegree_t1 (l : Bytes) (k : DegKind) (w : Bool) : st.pageDegree l k w = 0 := by
  cases k <;> cases w <;> simp [pageDegree, pageLinks_t1 h]

theorem network_t1 (o a : Bool) : st.network o a = [] := by rw [network, dfsWe_t1 h]; rfl

theorem networkSlow_t1 (o a : Bool) : st.networkSlow o a = [] := by rw [networkSlow, dfsWe_t1 h]; rfl

theorem pagesIter_t1 : st.pagesIter = [] := by rw [pagesIter, dfsIter_t1 h]; rfl

theorem prefixIter_t1 : st.prefixIter = [] := by rw [prefixIter, dfsIter_t1 h]; rfl

theorem linksIter_t1 (o : Bool) : st.linksIter o = [] := by rw [linksIter, dfsIter_t1 h]; rfl

theorem countPages_t1 : st.countPages = 0 := by rw [countPages, allBlocks_t1 h]; rfl

theorem countCrawledPages_t1 : st.countCrawledPages = 0 := by rw [countCrawledPages, allBlocks_t1 h]; rfl

theorem metrics_t1 : st.metrics = {} := by rw [metrics, allBlocks_t1 h]; rfl

theorem linksMetrics_t1 : st.linksMetrics = (0, none, 0, none) := by rw [linksMetrics, allBlocks_t1 h]; rfl

theorem paginatePagesPrefixes_t1 (k : Option Nat) (co : Bool) (l : List (Nat × Bytes)) (pp : Option Nat) (acc : PagAcc) :
    st.paginatePagesPrefixes k co l pp acc = (match l with
      | [] => .ok { done := true, count := acc.n, crawled := acc.c, pages := acc.pages, token := none }
      | _ :: _ => .error .traph) := by
  cases l with
  | nil => rfl
  | cons ip rest => obtain ⟨i, p⟩ := ip; simp [paginatePagesPrefixes, lruNode_t1 h]

theorem paginateLinksPrefixes_t1 (w : Nat) (n o : Bool) (k : Option Nat) (l : List (Nat × Bytes)) (pp : Option Nat)
    (acc : PlAcc) :
    st.paginateLinksPrefixes w n o k l pp acc = (match l with
      | [] => .ok { done := true, sourcePages := acc.n, links := acc.links, token := none }
      | _ :: _ => .error .traph) := by
  cases l with
  | nil => rfl
  | cons ip rest => obtain ⟨i, p⟩ := ip; simp [paginateLinksPrefixes, lruNode_t1 h]

end trie1

/-- ALL QUERIES BUT `count_links`: two indexes whose tries have just the header block and that were given the
    same default rule answer every query alike — whatever their link files, RAM rule dicts, id counters hold -/
theorem ask_t1_congr {st st' : State} (h : st.trie = #[{}]) (h' : st'.trie = #[{}]) (hd : st.dflt = st'.dflt)
    (q : Query) (hq : q ≠ .counts) : st.ask q = st'.ask q := by
  cases q with
  | counts => exact absurd rfl hq
  | retrievePrefix l => simp only [ask, retrievePrefix_t1 h, retrievePrefix_t1 h']
  | potentialPrefix l => simp only [ask, potentialPrefix_t1 h, potentialPrefix_t1 h', hd]
  | retrieveWebentity l => simp only [ask, retrieveWebentity_t1 h, retrieveWebentity_t1 h']
  | webentityByPrefix p => simp only [ask, webentityByPrefix_t1 h, webentityByPrefix_t1 h']
  | pages ps => simp only [ask, webentityPages_t1 h, webentityPages_t1 h']
  | crawledPages ps => simp only [ask, webentityCrawledPages_t1 h, webentityCrawledPages_t1 h']
  | paginatePages ps k t co =>
    simp only [ask, paginatePages, paginatePagesPrefixes_t1 h, paginatePagesPrefixes_t1 h']
  | mostLinked ps k d => simp only [ask, mostLinked_t1 h, mostLinked_t1 h']
  | parents w ps => simp only [ask, parentWebentities_t1 h, parentWebentities_t1 h']
  | children w ps => simp only [ask, childWebentities_t1 h, childWebentities_t1 h']
  | pagelinks w ps i n o => simp only [ask, webentityPagelinks_t1 h, webentityPagelinks_t1 h']
  | paginateLinks w ps n o k t =>
    simp only [ask, paginateLinks, paginateLinksPrefixes_t1 h, paginateLinksPrefixes_t1 h']
  | cited ps o => simp only [ask, citedWebentities_t1 h, citedWebentities_t1 h']
  | weDegrees ps => simp only [ask, webentityDegrees_t1 h, webentityDegrees_t1 h']
  | pageLinks l i n o => simp only [ask, pageLinks_t1 h, pageLinks_t1 h']
  | pageDegree l k w => simp only [ask, pageDegree_t1 h, pageDegree_t1 h']
  | network o a slow => simp only [ask, network_t1 h, network_t1 h', networkSlow_t1 h, networkSlow_t1 h']
  | expand p => rfl
  | linksIter o => simp only [ask, linksIter_t1 h, linksIter_t1 h']
  | pagesIter => simp only [ask, pagesIter_t1 h, pagesIter_t1 h']
  | prefixIter => simp only [ask, prefixIter_t1 h, prefixIter_t1 h']
  | metrics => simp only [ask, metrics_t1 h, metrics_t1 h']; rfl
  | lruNode l => simp only [ask, lruNode_t1 h, lruNode_t1 h']
  | windup b => simp only [ask, windup_t1 h, windup_t1 h']
  | dfs => simp only [ask, dfsIter_t1 h, dfsIter_t1 h']

/-- the completely cleared index as a reopen finds it (both files empty: both headers written again) -/
def State.clearedOpen (ram : State) : State := { ram with hdrId := 0, trie := #[{}], links := #[{}], log := [] }

theorem openCut_empty (ram : State) : openCut ram {} 0 = .ok ram.clearedOpen := by
  simp [openCut, State.clearedOpen]

@[simp] theorem midClearOpen_trie (ram a : State) : (ram.midClearOpen a).trie = #[{}] := rfl
@[simp] theorem midClearOpen_hdrId (ram a : State) : (ram.midClearOpen a).hdrId = 0 := rfl
@[simp] theorem midClearOpen_links (ram a : State) : (ram.midClearOpen a).links = a.links := rfl

theorem midClear_opens (ram a : State) (hl : Live a) :
    ∃ st, openCut ram a.midClear 0 = .ok st ∧ st.trie = #[{}] ∧ st.hdrId = 0 ∧ st.links = a.links :=
  ⟨_, openCut_midClear ram a hl, rfl, rfl, rfl⟩

/-- EVERY query except `count_links` answers on the mid-clear index exactly what it answers on the completely
    cleared index: the stale link file is unreachable -/
theorem midClear_ask (ram a : State) (q : Query) (hq : q ≠ .counts) :
    (ram.midClearOpen a).ask q = ram.clearedOpen.ask q :=
  ask_t1_congr (st := ram.midClearOpen a) (st' := ram.clearedOpen) rfl rfl rfl q hq

/-- the exception: `count_links` is computed from the size of the link file, so it still reports the number of
    stubs of the index that is being cleared (no page, no crawled page) -/
theorem midClear_counts (ram a : State) :
    (ram.midClearOpen a).ask .counts = .counts 0 0 (a.links.size - 1) := by
  simp only [ask, countPages_t1 (midClearOpen_trie ram a), countCrawledPages_t1 (midClearOpen_trie ram a)]
  rfl

theorem clearedOpen_counts (ram : State) : ram.clearedOpen.ask .counts = .counts 0 0 0 := by
  have h : ram.clearedOpen.trie = #[{}] := rfl
  simp only [ask, countPages_t1 h, countCrawledPages_t1 h]
  rfl

/-- `metrics()` divides by the number of stems, which is 0: `ZeroDivisionError`, as on any empty index -/
theorem midClear_metrics (ram a : State) :
    (ram.midClearOpen a).metrics = {} ∧ (ram.midClearOpen a).ask .metrics = .err (.other "ZeroDivisionError") := by
  refine ⟨metrics_t1 rfl, ?_⟩
  simp only [ask, metrics_t1 (midClearOpen_trie ram a)]; rfl

/-- the observers of the crash-cut harness, value by value: no stub is read at all -/
theorem midClear_observers (ram a : State) :
    let st := ram.midClearOpen a
    st.pagesIter = [] ∧ (∀ o, st.linksIter o = []) ∧ st.prefixIter = [] ∧ (∀ b, st.dfsIter none b = []) ∧
    (∀ o au, st.network o au = [] ∧ st.networkSlow o au = []) ∧
    st.countPages = 0 ∧ st.countCrawledPages = 0 ∧ st.countLinks2 = a.links.size - 1 ∧
    st.linksMetrics = (0, none, 0, none) ∧
    (∀ l, st.retrieveWebentity l = .error .traph) ∧ (∀ l, st.retrievePrefix l = .error .traph) ∧
    (∀ p, st.webentityByPrefix p = .error .traph) ∧
    (∀ ps, st.webentityPages ps = if ps = [] then .ok [] else .error .traph) ∧
    (∀ l i n o, st.pageLinks l i n o = []) ∧ (∀ l, st.lruNode l = none) := by
  have h : (ram.midClearOpen a).trie = #[{}] := rfl
  exact ⟨pagesIter_t1 h, linksIter_t1 h, prefixIter_t1 h, dfsIter_t1 h,
    fun o au => ⟨network_t1 h o au, networkSlow_t1 h o au⟩, countPages_t1 h, countCrawledPages_t1 h, rfl,
    linksMetrics_t1 h, retrieveWebentity_t1 h, retrievePrefix_t1 h, webentityByPrefix_t1 h,
    webentityPages_t1 h, pageLinks_t1 h, lruNode_t1 h⟩

/-- the mid-clear index satisfies the range/acyclicity invariant of the link store (no block holds a list head,
    and the old link file is as well-formed as it was) -/
theorem midClear_linksOk (ram a : State) (hwf : a.LinksWf) (hl : Live a) : LinksOk (ram.midClearOpen a) := by
  have hc : ∀ b, (ram.midClearOpen a).cell b = {} := cell_of_trie_init rfl
  refine ⟨State.linksWf_congr (s := a) rfl hwf, fun b => ?_, fun b => ?_⟩
  · rw [hc]; exact hl.2
  · rw [hc]; exact hl.2

/-- it reports no page and no link at all — so certainly only pages and links of the completed history -/
theorem midClear_reports_nothing (ram a : State) :
    (ram.midClearOpen a).ask .pagesIter = .pages [] ∧
    (∀ o, (ram.midClearOpen a).ask (.linksIter o) = .pairs []) ∧
    (∀ o au slow, (ram.midClearOpen a).ask (.network o au slow) = .net []) ∧
    (ram.midClearOpen a).ask .prefixIter = .prefixes [] ∧
    (ram.midClearOpen a).ask .dfs = .blocks [] := by
  have h : (ram.midClearOpen a).trie = #[{}] := rfl
  refine ⟨?_, fun o => ?_, fun o au slow => ?_, ?_, ?_⟩
  · simp only [ask, pagesIter_t1 h]
  · simp only [ask, linksIter_t1 h]
  · simp only [ask, network_t1 h, networkSlow_t1 h]; simp
  · simp only [ask, prefixIter_t1 h]
  · simp only [ask, dfsIter_t1 h]

/-- a fresh index (no rules), then `add_links([(a|, b|)])` -/
def swapDemo : State := ((State.fresh {} .never []).1.step (.addLinks [([97, 124], [98, 124])])).1

/-- what a reopen would find after the first truncation of the opposite order -/
def swapDemoCut : Except Err State := openCut {} (swapDemo.files.applyE .truncLinks) 0

/-- with the link file truncated first, the reopened index has a page block (block 1, `a|`) whose out-list head
    is stub 1 while the link store has only its header: `LinksOk` fails, the link walk runs off the file.
    With the model's order this cannot happen (`midClear_linksOk`). -/
theorem swapped_order_breaks :
    ∃ st, swapDemoCut = .ok st ∧ (st.cell 1).flags.page = true ∧ (st.cell 1).out = 1 ∧ st.links.size = 1 ∧
      (st.cell 2).flags.page = true ∧ (st.cell 2).inn = 2 ∧ ¬ LinksOk st := by
  refine ⟨_, rfl, by decide, by decide, by decide, by decide, by decide, fun h => ?_⟩
  have := h.out 1
  revert this
  decide

/-- the same cut with the model's order: the first event is `truncTrie`, and the state is the harmless one -/
example : openCut {} (swapDemo.files.applyE .truncTrie) 0 = .ok (({} : State).midClearOpen swapDemo) :=
  openCut_midClear {} swapDemo ⟨by decide, by decide⟩

#print axioms ask_t1_congr
#print axioms midClear_ask
#print axioms midClear_observers
#print axioms swapped_order_breaks

end Traph
