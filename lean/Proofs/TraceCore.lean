import Proofs.LeOps
/-! C18, write by write. A `Trace` (Proofs/Frame.lean) is a list of writes (`Trace.writes`, into
    `Writes Write.Inc s ws s'`): the part `ws` of the log that is new, which replays from the files of `s` to the
    files of `s'`, each write increasing where it is applied. Everything about cuts, back-ends and reopening is
    said of such lists (`WsAll`), with the files and not the states in between. For a predicate on the writes
    stronger than `Write.Inc` the route is an `Across` instance with `R s s' := ∃ ws, Writes Q s ws s'` (`PTrace`,
    `wt_across` in PtrOkOps.lean), not `Trace.writes`. -/
namespace Traph
open State

theorem Files.Le.empty (g : Files) : Files.Le {} g :=
  ⟨fun i c h => by simp at h, fun i b h => by simp at h⟩

theorem log_modCell_none {s : State} {i : Nat} (f : Cell → Cell) (h : s.trie[i]? = none) :
    s.modCell i f = s := by
  unfold modCell; rw [h]

theorem log_modCell_some {s : State} {i : Nat} (f : Cell → Cell) {c : Cell} (h : s.trie[i]? = some c) :
    (s.modCell i f).log = .trieSet i (f c) :: s.log := by
  unfold modCell; rw [h]; rfl

theorem files_modCell_some {s : State} {i : Nat} (f : Cell → Cell) {c : Cell} (h : s.trie[i]? = some c) :
    (s.modCell i f).files = s.files.apply (.trieSet i (f c)) := by
  unfold modCell; rw [h]; rfl

def WsAll (Q : Files → Write → Prop) : Files → List Write → Prop
  | _, [] => True
  | f, w :: ws => Q f w ∧ WsAll Q (f.apply w) ws

theorem WsAll.append {Q : Files → Write → Prop} (a b : List Write) : ∀ (f : Files),
    WsAll Q f (a ++ b) ↔ WsAll Q f a ∧ WsAll Q (a.foldl Files.apply f) b := by
  induction a with
  | nil => intro f; simp [WsAll]
  | cons x a ih => intro f; simp only [List.cons_append, WsAll, List.foldl_cons, ih, and_assoc]

theorem WsAll.imp {Q Q' : Files → Write → Prop} (h : ∀ f w, Q f w → Q' f w) : ∀ (ws : List Write) (f : Files),
    WsAll Q f ws → WsAll Q' f ws
  | [], _, _ => trivial
  | _ :: ws, _, hw => ⟨h _ _ hw.1, WsAll.imp h ws _ hw.2⟩

theorem WsAll.and_mem {Q : Files → Write → Prop} {P : Write → Prop} : ∀ (ws : List Write) (f : Files),
    WsAll Q f ws → (∀ w ∈ ws, P w) → WsAll (fun f w => Q f w ∧ P w) f ws
  | [], _, _, _ => trivial
  | w :: ws, _, hw, hp =>
    ⟨⟨hw.1, hp w List.mem_cons_self⟩, WsAll.and_mem ws _ hw.2 fun x hx => hp x (List.mem_cons_of_mem _ hx)⟩

theorem WsAll.split {Q : Files → Write → Prop} {f : Files} {ws : List Write} (h : WsAll Q f ws) (k : Nat) :
    WsAll Q f (ws.take k) ∧ WsAll Q ((ws.take k).foldl Files.apply f) (ws.drop k) :=
  (WsAll.append _ _ f).mp (by rw [List.take_append_drop]; exact h)

theorem WsAll.cut {P : Files → Prop} : ∀ (ws : List Write) (f : Files), WsAll (fun f w => P (f.apply w)) f ws →
    ∀ k, 0 < k → k ≤ ws.length → P ((ws.take k).foldl Files.apply f)
  | [], _, _, k, h0, hk => absurd hk (Nat.not_le_of_gt h0)
  | w :: ws, f, h, k + 1, _, hk => by
    cases k with
    | zero => exact h.1
    | succ k => exact WsAll.cut ws _ h.2 (k + 1) (Nat.succ_pos k) (Nat.le_of_succ_le_succ hk)

/-- the write finds the block it needs (an append the header block of its file, an in-place write the block it
    replaces) and an in-place write only adds to that block -/
def Write.Inc (f : Files) : Write → Prop
  | .trieAppend _ => 0 < f.trie.size
  | .trieSet i c => ∃ c0, f.trie[i]? = some c0 ∧ CellLe c0 c
  | .linkAppend _ => 0 < f.links.size
  | _ => True

theorem Write.Inc.mono {f : Files} {w : Write} (h : w.Inc f) : w.Mono f := by
  cases w <;> first | exact h | trivial

theorem WsAll.le : ∀ (ws : List Write) (f : Files), WsAll Write.Inc f ws → Files.Le f (ws.foldl Files.apply f)
  | [], f, _ => Files.Le.refl f
  | _ :: ws, _, h => (Files.le_apply h.1.mono).trans (WsAll.le ws _ h.2)

theorem WsAll.cut_le {f : Files} {ws : List Write} (h : WsAll Write.Inc f ws) (k : Nat) :
    Files.Le f ((ws.take k).foldl Files.apply f) ∧
    Files.Le ((ws.take k).foldl Files.apply f) (ws.foldl Files.apply f) := by
  obtain ⟨h1, h2⟩ := h.split k
  refine ⟨WsAll.le _ _ h1, ?_⟩
  have := WsAll.le _ _ h2
  rwa [← List.foldl_append, List.take_append_drop] at this

structure Writes (Q : Files → Write → Prop) (s : State) (ws : List Write) (s' : State) : Prop where
  log : s'.log = ws.reverse ++ s.log
  files : ws.foldl Files.apply s.files = s'.files
  all : WsAll Q s.files ws

theorem Writes.refl (Q : Files → Write → Prop) (s : State) : Writes Q s [] s := ⟨rfl, rfl, trivial⟩

theorem Writes.trans {Q : Files → Write → Prop} {a b c : State} {ws ws' : List Write} (h1 : Writes Q a ws b)
    (h2 : Writes Q b ws' c) : Writes Q a (ws ++ ws') c :=
  ⟨by rw [h2.log, h1.log, List.reverse_append, List.append_assoc],
   by rw [List.foldl_append, h1.files, h2.files],
   (WsAll.append ws ws' _).mpr ⟨h1.all, by rw [h1.files]; exact h2.all⟩⟩

theorem Writes.one {Q : Files → Write → Prop} {s s' : State} {w : Write} (hlog : s'.log = w :: s.log)
    (hf : s'.files = s.files.apply w) (hq : Q s.files w) : Writes Q s [w] s' :=
  ⟨hlog, hf.symm, hq, trivial⟩

theorem Writes.ram {Q : Files → Write → Prop} {s s1 s2 : State} {ws : List Write} (h : Writes Q s ws s1)
    (hf : s2.files = s1.files) (hlog : s2.log = s1.log) : Writes Q s ws s2 :=
  ⟨hlog.trans h.log, h.files.trans hf.symm, h.all⟩

theorem Writes.imp {Q Q' : Files → Write → Prop} (hq : ∀ f w, Q f w → Q' f w) {s s' : State} {ws : List Write}
    (h : Writes Q s ws s') : Writes Q' s ws s' := ⟨h.log, h.files, WsAll.imp hq _ _ h.all⟩

theorem Writes.eq_of_log {Q : Files → Write → Prop} {s s' : State} {ws l : List Write} (h : Writes Q s ws s')
    (hl : s'.log = l.reverse ++ s.log) : ws = l :=
  List.reverse_inj.mp (List.append_cancel_right (h.log.symm.trans hl))

theorem Writes.le {s s' : State} {ws : List Write} (h : Writes Write.Inc s ws s') : s ⊑ s' :=
  Files.Le.of_files (h.files ▸ WsAll.le _ _ h.all)

theorem writes_appendCell {Q : Files → Write → Prop} (s : State) (c : Cell) (hq : Q s.files (.trieAppend c)) :
    Writes Q s [.trieAppend c] (s.appendCell c).1 := .one rfl rfl hq

theorem writes_appendStub {Q : Files → Write → Prop} (s : State) (b : Stub) (hq : Q s.files (.linkAppend b)) :
    Writes Q s [.linkAppend b] (s.appendStub b).1 := .one rfl rfl hq

theorem writes_setHdr {Q : Files → Write → Prop} (s : State) (id : Nat) (h0 : 0 < s.trie.size)
    (hq : Q s.files (.hdr id)) : Writes Q s [.hdr id] (s.setHdr id) := by
  refine .one rfl ?_ hq
  -- the header write creates the header block only in an empty file
  have hp : ¬ s.files.trie.size = 0 := Nat.ne_of_gt h0
  simp only [Files.apply, if_neg hp]; rfl

theorem writes_modCell {Q : Files → Write → Prop} (s : State) (i : Nat) (f : Cell → Cell)
    (hq : ∀ c, s.trie[i]? = some c → Q s.files (.trieSet i (f c))) :
    ∃ ws, Writes Q s ws (s.modCell i f) := by
  cases hi : s.trie[i]? with
  | none => rw [log_modCell_none f hi]; exact ⟨[], .refl Q s⟩
  | some c =>
    exact ⟨[.trieSet i (f c)], .one (log_modCell_some f hi) (files_modCell_some f hi) (hq c hi)⟩

theorem Trace.writes {s s' : State} (hl : Live s) (h : Trace s s') : ∃ ws, Writes Write.Inc s ws s' := by
  induction h with
  | refl => exact ⟨[], .refl _ _⟩
  | ram _ e1 e2 e3 e4 ih =>
    obtain ⟨ws, hw⟩ := ih
    exact ⟨ws, hw.ram (by simp only [State.files, e1, e2, e3]) e4⟩
  | appendCell c ht ih =>
    obtain ⟨ws, hw⟩ := ih
    exact ⟨_, hw.trans (writes_appendCell _ c (ht.pos hl.1))⟩
  | modCell i f _ hf ih =>
    obtain ⟨ws, hw⟩ := ih
    obtain ⟨ws', hw'⟩ := writes_modCell (Q := Write.Inc) _ i f fun c hc => ⟨c, hc, hf c hc⟩
    exact ⟨_, hw.trans hw'⟩
  | appendStub b ht ih =>
    obtain ⟨ws, hw⟩ := ih
    exact ⟨_, hw.trans (writes_appendStub _ b (ht.live hl).2)⟩
  | setHdr id ht ih =>
    obtain ⟨ws, hw⟩ := ih
    exact ⟨_, hw.trans (writes_setHdr _ id (ht.pos hl.1) trivial)⟩

def GoodLog (s : State) : Prop := replay s.log.reverse = s.files

theorem replay_append (ws ws' : List Write) : replay (ws ++ ws') = ws'.foldl Files.apply (replay ws) := by
  simp [replay, List.foldl_append]

theorem goodLog_base (cfg : Config) (dflt : Rule) :
    GoodLog ({ cfg := cfg, dflt := dflt, log := [.linkHdr, .hdr 0] } : State) := by
  simp [GoodLog, replay, Files.apply, State.files]

/-- After a `clear` the model's log goes on and does not show the truncations, so the model's own state need not
    satisfy `GoodLog`: `Writes` is relative to its start, whose log must replay to its files. -/
theorem Writes.cut {Q : Files → Write → Prop} {s s' : State} {ws : List Write} (hg : GoodLog s)
    (h : Writes Q s ws s') (k : Nat) :
    replay (s'.log.reverse.take (s.log.length + k)) = (ws.take k).foldl Files.apply s.files := by
  rw [h.log, List.reverse_append, List.reverse_reverse, ← List.length_reverse, List.take_length_add_append,
    replay_append, hg]

theorem Writes.goodLog {Q : Files → Write → Prop} {s s' : State} {ws : List Write} (hg : GoodLog s)
    (h : Writes Q s ws s') : GoodLog s' := by
  unfold GoodLog at *
  rw [h.log, List.reverse_append, List.reverse_reverse, replay_append, hg, h.files]

theorem Trace.goodLog {s s' : State} (hg : GoodLog s) (h0 : 0 < s.trie.size) (_h1 : 0 < s.links.size)
    (h : Trace s s') : GoodLog s' := by
  obtain ⟨ws, hw⟩ := h.writes ⟨h0, _h1⟩
  exact hw.goodLog hg

end Traph
