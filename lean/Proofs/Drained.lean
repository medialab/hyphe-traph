import Traph.Co
/-! A generator drained on its own. Every machine of `Traph/Co.lean` is a loop (`run`, given `fuelOf q` iterations per
    section) that is resumed until it no longer yields: three drains of one shape, `Gen`, each equated with `Gen.drain`
    where it lives (`QSt.drain` of Traph/Co.lean by `QSt.drain_eq` in CoDrain, `cf_drain` by `cf_drain_eq` in
    CoFuelDrain, `CoSt.drainW` by `cw_drain_eq` in CoDrainWriters). `G.Drains q A B Y`: from the private state `q`, the
    rest of a section that has more than `B` iterations left, followed by at least `Y` further sections, ends with `A`.
    The judgement is derived by the rules `cont` / `congr` / `yield` / `done` / `failed` (`list`, `each`, `fold_runs`
    for a loop inside the machine) from the equations of one iteration, never by unfolding a drain; the bounds are
    checked where a section starts (`yield`, `drain`) and nowhere else. -/
namespace Traph

/-- what the caller of `next()` does with its result: resume again (`k`), or keep what the last call left (`ret`) -/
def goOn {σ ρ : Type} (k : σ → ρ) (ret : σ → CoOut → ρ) : σ × CoOut → ρ
  | (q, .yielded) => k q
  | (q, o) => ret q o

/-- `run g q`: one section from `q` given `g` iterations; `fuelOf q`: how many the drain gives it; `ret q o`: the result
    of the drain when the section ends otherwise than by a `yield` -/
structure Gen (σ ρ : Type) where
  run : Nat → σ → σ × CoOut
  fuelOf : σ → Nat
  ret : σ → CoOut → ρ
  /-- what is left of a generator that still yields when its caller gives up -/
  out : σ → ρ

namespace Gen
variable {σ ρ : Type} (G : Gen σ ρ)

/-- `run_iterator`, with a bound on the number of `next()` -/
def drain : Nat → σ → ρ
  | 0, q => G.out q
  | N + 1, q => goOn (drain N) G.ret (G.run (G.fuelOf q) q)

theorem drain_succ (N : Nat) (q : σ) : G.drain (N + 1) q = goOn (G.drain N) G.ret (G.run (G.fuelOf q) q) := rfl

def Drains (q : σ) (A : ρ) (B Y : Nat) : Prop :=
  ∀ g N, B < g → Y ≤ N → goOn (G.drain N) G.ret (G.run g q) = A

variable {G}

theorem Drains.mono {q : σ} {A : ρ} {B Y B' Y' : Nat} (h : G.Drains q A B Y) (hB : B ≤ B') (hY : Y ≤ Y') :
    G.Drains q A B' Y' := fun g N hg hN => h g N (Nat.lt_of_le_of_lt hB hg) (Nat.le_trans hY hN)

theorem Drains.cont {q q' : σ} {A : ρ} {B Y : Nat} (e : ∀ g, G.run (g + 1) q = G.run g q') (h : G.Drains q' A B Y) :
    G.Drains q A (B + 1) Y := fun g N hg hN => by
  obtain ⟨g, rfl⟩ : ∃ k, g = k + 1 := ⟨g - 1, by omega⟩
  rw [e]; exact h g N (by omega) hN

theorem Drains.congr {q q' : σ} {A : ρ} {B Y : Nat} (h : G.Drains q' A B Y) (e : ∀ g, G.run (g + 1) q = G.run (g + 1) q') :
    G.Drains q A B Y := fun g N hg hN => by
  obtain ⟨g, rfl⟩ : ∃ k, g = k + 1 := ⟨g - 1, by omega⟩
  rw [e]; exact h _ N hg hN

/-- the section ends with a `yield`: the next one starts with its own fuel -/
theorem Drains.yield {q q' : σ} {A : ρ} {B Y : Nat} (e : ∀ g, G.run (g + 1) q = (q', .yielded)) (h : G.Drains q' A B Y)
    (hB : B < G.fuelOf q') : G.Drains q A 0 (Y + 1) := fun g N hg hN => by
  obtain ⟨g, rfl⟩ : ∃ k, g = k + 1 := ⟨g - 1, by omega⟩
  obtain ⟨N, rfl⟩ : ∃ k, N = k + 1 := ⟨N - 1, by omega⟩
  rw [e]
  show G.drain (N + 1) q' = A
  rw [G.drain_succ]; exact h _ N hB (by omega)

theorem Drains.done {q q' : σ} {a : Ans} (e : ∀ g, G.run (g + 1) q = (q', .done a)) :
    G.Drains q (G.ret q' (.done a)) 0 0 := fun g N hg _ => by
  obtain ⟨g, rfl⟩ : ∃ k, g = k + 1 := ⟨g - 1, by omega⟩
  rw [e]; rfl

theorem Drains.failed {q q' : σ} {x : Err} (e : ∀ g, G.run (g + 1) q = (q', .failed x)) :
    G.Drains q (G.ret q' (.failed x)) 0 0 := fun g N hg _ => by
  obtain ⟨g, rfl⟩ : ∃ k, g = k + 1 := ⟨g - 1, by omega⟩
  rw [e]; rfl

theorem Drains.drain {q : σ} {A : ρ} {B Y N : Nat} (h : G.Drains q A B Y) (hB : B < G.fuelOf q) (hN : Y < N) :
    G.drain N q = A := by
  obtain ⟨N, rfl⟩ : ∃ k, N = k + 1 := ⟨N - 1, by omega⟩
  rw [G.drain_succ]; exact h _ N hB (by omega)

/-- a loop inside the machine over a list it holds (`st L a`: the list still to come, what has been accumulated):
    an entry is consumed in one iteration, which may end the section (`y`) -/
theorem Drains.list {α β : Type} (st : List β → α → σ) (step : α → β → α) (y : α → β → Bool) (F : α → ρ) (B Y : Nat)
    (hgo : ∀ x L a, y a x = false → ∀ g, G.run (g + 1) (st (x :: L) a) = G.run g (st L (step a x)))
    (hyield : ∀ x L a, y a x = true → ∀ g, G.run (g + 1) (st (x :: L) a) = (st L (step a x), .yielded))
    (hfuel : ∀ L a, B + L.length < G.fuelOf (st L a))
    (hK : ∀ a, G.Drains (st [] a) (F a) B Y) :
    ∀ (L : List β) (a : α), G.Drains (st L a) (F (L.foldl step a)) (B + L.length) (Y + L.length)
  | [], a => hK a
  | x :: L, a => by
    have ih := Drains.list st step y F B Y hgo hyield hfuel hK L (step a x)
    cases hy : y a x with
    | false => exact (ih.cont (hgo x L a hy)).mono (Nat.le_refl _) (by simp)
    | true => exact ((ih.yield (hyield x L a hy) (hfuel _ _)).mono (Nat.zero_le _) (Nat.le_refl _))

/-- the same when every entry ends a section (the iterations do not add up), for a list the machine need not hold:
    `view c` is what its iterator `c` will still deliver -/
theorem Drains.each {α β γ : Type} (st : γ → α → σ) (view : γ → List β) (step : α → β → α) (F : α → ρ) (B Y : Nat)
    (hyield : ∀ c x L a, view c = x :: L → ∃ c', view c' = L ∧ ∀ g, G.run (g + 1) (st c a) = (st c' (step a x), .yielded))
    (hfuel : ∀ c a, B < G.fuelOf (st c a))
    (hK : ∀ c a, view c = [] → G.Drains (st c a) (F a) B Y) :
    ∀ (n : Nat) (c : γ) (a : α), (view c).length = n → G.Drains (st c a) (F ((view c).foldl step a)) B (Y + n)
  | 0, c, a, h => by rw [List.eq_nil_of_length_eq_zero h]; exact hK c a (List.eq_nil_of_length_eq_zero h)
  | n + 1, c, a, h => by
    obtain ⟨x, L, hv⟩ := List.exists_cons_of_length_eq_add_one h
    obtain ⟨c', hv', e⟩ := hyield c x L a hv
    have ih := Drains.each st view step F B Y hyield hfuel hK n c' (step a x) (by rw [hv'] ; simpa [hv] using h)
    rw [hv, List.foldl_cons, ← hv']
    exact (ih.yield e (hfuel _ _)).mono (Nat.zero_le _) (Nat.le_refl _)

theorem Drains.each_list {α β : Type} (st : List β → α → σ) (step : α → β → α) (F : α → ρ) (B Y : Nat)
    (hyield : ∀ x L a g, G.run (g + 1) (st (x :: L) a) = (st L (step a x), .yielded))
    (hfuel : ∀ L a, B < G.fuelOf (st L a)) (hK : ∀ a, G.Drains (st [] a) (F a) B Y) (L : List β) (a : α) :
    G.Drains (st L a) (F (L.foldl step a)) B (Y + L.length) :=
  Drains.each st id step F B Y (fun c x L a (e : c = x :: L) => ⟨L, rfl, e ▸ hyield x L a⟩) hfuel
    (fun c a (e : c = []) => e ▸ hK a) _ L a rfl

/-! A section that does not run out of the iterations it is given does the same with more (`Stable`). Where that
    is known of the sections of a generator for another reason (`hsafe`), its `fuelOf` can be exchanged for a larger
    one before the iterations are counted. -/

def Stable (G : Gen σ ρ) : Prop :=
  ∀ g q, (G.run g q).2 ≠ .failed (.other "fuel") → ∀ k, G.run (g + k) q = G.run g q

theorem drain_more_fuel (hst : G.Stable) (fuel' : σ → Nat) (hle : ∀ q, G.fuelOf q ≤ fuel' q) (Safe : σ → Prop)
    (hsafe : ∀ q, Safe q → (G.run (G.fuelOf q) q).2 ≠ .failed (.other "fuel") ∧
      ((G.run (G.fuelOf q) q).2 = .yielded → Safe (G.run (G.fuelOf q) q).1)) :
    ∀ N q, Safe q → G.drain N q = ({ G with fuelOf := fuel' } : Gen σ ρ).drain N q
  | 0, _, _ => rfl
  | N + 1, q, hq => by
    obtain ⟨k, hk⟩ : ∃ k, fuel' q = G.fuelOf q + k := ⟨fuel' q - G.fuelOf q, by have := hle q; omega⟩
    show goOn (G.drain N) G.ret (G.run (G.fuelOf q) q) = goOn (Gen.drain _ N) G.ret (G.run (fuel' q) q)
    rw [hk, hst _ q (hsafe q hq).1 k]
    rcases hr : G.run (G.fuelOf q) q with ⟨q1, o⟩
    cases o with
    | yielded => exact drain_more_fuel hst fuel' hle Safe hsafe N q1 (by have := (hsafe q hq).2; rw [hr] at this; exact this rfl)
    | done a => rfl
    | failed e => rfl

end Gen

/-- a generator that only reads: what it leaves is its answer -/
def Gen.reader {τ : Type} (run : Nat → τ → τ × CoOut) (fuelOf : τ → Nat) : Gen τ Ans where
  run := run
  fuelOf := fuelOf
  ret := fun _ o => match o with | .done a => a | .failed e => .err e | .yielded => .err (.other "fuel")
  out := fun _ => .err (.other "fuel")

abbrev QItem := Nat × Bytes × Cell

/-- the suspended traversal `w`, advanced by `nx`, yields exactly `items` and then stops (`none`) or raises; at every
    point no more than `bd` items are still to come (the consumers' sections are given fuel by that bound) -/
inductive Runs {κ : Type} (nx : κ → κ × CurOut) (bd : κ → Nat) : κ → List QItem → Option Err → Prop
  | stop {w w' : κ} : nx w = (w', .stop) → Runs nx bd w [] none
  | fail {w w' : κ} {e : Err} : nx w = (w', .fail e) → Runs nx bd w [] (some e)
  | item {w w' : κ} {b : Nat} {lru : Bytes} {c : Cell} {items : List QItem} {e : Option Err} :
      nx w = (w', .item b lru c) → Runs nx bd w' items e → items.length ≤ bd w' →
      Runs nx bd w ((b, lru, c) :: items) e

def drainAns (e : Option Err) (a : Ans) : Ans := match e with | none => a | some e => .err e

/-- **a lazily consumed traversal, drained, is the eager fold.** The machine pulls an item where its private state
    is `pull w a`; what it does with the item until it pulls again (`hitem`: at most `c` iterations of the section
    in which it pulls again, at most `cost` yields) amounts to `f`. -/
theorem Gen.Drains.fold_runs {σ κ α : Type} {G : Gen σ Ans} {nx : κ → κ × CurOut} {bd : κ → Nat}
    (pull : κ → α → σ) (f : α → QItem → α) (fin : α → Ans) (cost : QItem → Nat) (c : Nat)
    (hstop : ∀ w w' a, nx w = (w', .stop) → G.Drains (pull w a) (fin a) c 0)
    (hfail : ∀ w w' e a, nx w = (w', .fail e) → G.Drains (pull w a) (.err e) c 0)
    (hitem : ∀ w w' it (F : α → Ans) B Y, nx w = (w', .item it.1 it.2.1 it.2.2) → B ≤ c * (bd w' + 1) →
      (∀ a, G.Drains (pull w' a) (F a) B Y) → ∀ a, G.Drains (pull w a) (F (f a it)) (B + c) (Y + cost it))
    {w : κ} {items : List QItem} {e : Option Err} (h : Runs nx bd w items e) :
    ∀ a, G.Drains (pull w a) (drainAns e (fin (items.foldl f a))) (c * (items.length + 1)) (items.map cost).sum := by
  induction h with
  | stop hw => intro a; exact (hstop _ _ a hw).mono (by simp) (Nat.zero_le _)
  | fail hw => intro a; exact (hfail _ _ _ a hw).mono (by simp) (Nat.zero_le _)
  | @item w w' b l cl items e hw _ hl ih =>
    intro a
    refine (hitem w w' (b, l, cl) _ _ _ hw (Nat.mul_le_mul_left c (Nat.succ_le_succ hl)) ih a).mono ?_ ?_
    · exact Nat.le_of_eq (Nat.mul_succ c (items.length + 1)).symm
    · simp only [List.map_cons, List.sum_cons]; omega

/-- **a generator whose private state says what is still to do.** `todo q`: what draining from `q` is to give. A
    section that yields leaves it as it was, up to `E`, with fewer yields to come (`mu`); the last section gives it. -/
theorem Gen.drain_todo {σ ρ : Type} (G : Gen σ ρ) (K : σ → Prop) (E : ρ → ρ → Prop) (todo : σ → ρ) (mu : σ → Nat)
    (htrans : ∀ {x y z}, E x y → E y z → E x z)
    (hsec : ∀ q, K q → match G.run (G.fuelOf q) q with
      | (q1, .yielded) => K q1 ∧ E (todo q1) (todo q) ∧ mu q1 < mu q
      | (q1, o) => E (G.ret q1 o) (todo q)) :
    ∀ N q, K q → mu q < N → E (G.drain N q) (todo q)
  | 0, _, _, h => absurd h (Nat.not_lt_zero _)
  | N + 1, q, hK, hN => by
    have := hsec q hK
    rw [Gen.drain_succ]
    generalize G.run (G.fuelOf q) q = r at this ⊢
    obtain ⟨q1, o⟩ := r
    cases o with
    | yielded => exact htrans (Gen.drain_todo G K E todo mu htrans hsec N q1 this.1 (by have := this.2.2; omega)) this.2.1
    | done a => exact this
    | failed e => exact this

end Traph
