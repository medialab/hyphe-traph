import Proofs.Trace
import Proofs.LogIndep
/-! C18 for histories that contain `clear`.

    `clear` on a live folder truncates the trie file, then the link file, then writes the two headers
    (and the rules, if given). `Traph/Crash.lean` models the two truncations as crash events of their own
    (`Event.truncTrie`, `Event.truncLinks`, in this order: `clearTruncations`). The event history of a list of
    requests is defined as the driver accumulates it (`State.events`, `historyEvents`). For EVERY history (any
    number of `clear`s anywhere) and EVERY cut of its event list the rebuilt files are
      * between the files of two consecutive completed requests (request not a `clear`), or
      * below the index the `clear` in progress is building (cut after both truncations), or
      * the one special state in the middle of a `clear` (trie empty, link file still the old one), analysed in
        `Proofs/ClearCrashMid.lean`;
    and every cut that falls after the truncations of the last `clear` is a cut of a clear-free history on a
    fresh index, where the theorems of `Proofs/Trace.lean` apply. Main: `history_cut` (`CutOf`), `history_cut_segment`,
    `C18_events_cut`. -/
namespace Traph
open State

def Op.isClear : Op → Bool
  | .clear _ _ => true
  | _ => false

theorem Op.not_clear_of_isClear {op : Op} (h : op.isClear = false) : ∀ d rs, op ≠ .clear d rs := by
  rintro d rs rfl; cases h

theorem Op.isClear_of_not_clear {op : Op} (h : ∀ d rs, op ≠ .clear d rs) : op.isClear = false := by
  cases op <;> first | rfl | exact absurd rfl (h _ _)

theorem Op.eq_clear_of_isClear {op : Op} (h : op.isClear = true) : ∃ d rs, op = .clear d rs := by
  cases op with
  | clear d rs => exact ⟨d, rs, rfl⟩
  | _ => cases h

/-- the storage writes of one request, oldest first — as the driver records them: run the request from the
    state with an emptied log and read the log off afterwards -/
def State.stepWrites (s : State) (op : Op) : List Write :=
  (({ s with log := [] } : State).step op).1.log.reverse

def State.stepEvents (s : State) (op : Op) : List Event := opEvents op.isClear (s.stepWrites op)

/-- the crash events of a list of requests issued in state `s` (what the driver appends to `full`) -/
def State.events : State → List Op → List Event
  | _, [] => []
  | s, op :: ops => s.stepEvents op ++ (s.step op).1.events ops

def freshWrites (cfg : Config) (dflt : Rule) (rules : List (Bytes × Rule)) : List Write :=
  (State.fresh cfg dflt rules []).1.log.reverse

def historyEvents (cfg : Config) (dflt : Rule) (rules : List (Bytes × Rule)) (ops : List Op) : List Event :=
  (freshWrites cfg dflt rules).map .write ++ (State.fresh cfg dflt rules []).1.events ops

@[simp] theorem events_nil (s : State) : s.events [] = [] := rfl
@[simp] theorem events_cons (s : State) (op : Op) (ops : List Op) :
    s.events (op :: ops) = s.stepEvents op ++ (s.step op).1.events ops := rfl

theorem events_append : ∀ (a b : List Op) (s : State), s.events (a ++ b) = s.events a ++ (s.run a).events b
  | [], _, _ => rfl
  | op :: a, b, s => by
    simp only [List.cons_append, events_cons, run_cons, events_append a b, List.append_assoc]

theorem take_of_le {α} (l : List α) {a b : Nat} (h : a ≤ b) : l.take b = l.take a ++ (l.drop a).take (b - a) := by
  rw [← List.take_add, Nat.add_sub_cancel' h]

theorem length_events_take_le (s : State) (ops : List Op) (a b : Nat) (h : a ≤ b) :
    (s.events (ops.take a)).length ≤ (s.events (ops.take b)).length := by
  rw [take_of_le ops h, events_append, List.length_append]; omega

theorem replayE_append (es es' : List Event) : replayE (es ++ es') = es'.foldl Files.applyE (replayE es) := by
  simp [replayE, List.foldl_append]

theorem foldl_clearTruncations (f : Files) : clearTruncations.foldl Files.applyE f = {} := rfl

theorem replayE_clear (pre post : List Event) :
    replayE (pre ++ clearTruncations ++ post) = replayE post := by
  rw [replayE_append, replayE_append, foldl_clearTruncations]; rfl

theorem replayE_clear_writes (pre : List Event) (ws : List Write) :
    replayE (pre ++ clearTruncations ++ ws.map Event.write) = replay ws := by
  rw [replayE_clear, replayE_map_write]

theorem length_append_clear (pre : List Event) : (pre ++ clearTruncations).length = pre.length + 2 := by
  simp [clearTruncations]

theorem replayE_take_clear (pre : List Event) (ws : List Write) (k : Nat) :
    replayE ((pre ++ clearTruncations ++ ws.map Event.write).take (pre.length + 2 + k)) = replay (ws.take k) := by
  rw [← length_append_clear, List.take_length_add_append, ← List.map_take, replayE_clear_writes]

theorem getElem?_clear (pre : List Event) (ws : List Write) (k : Nat) :
    (pre ++ clearTruncations ++ ws.map Event.write)[pre.length + 2 + k]? = ws[k]?.map .write := by
  rw [← length_append_clear, List.getElem?_append_right (Nat.le_add_right _ _), Nat.add_sub_cancel_left,
    List.getElem?_map]

theorem cutOpenE_clear (ram : State) (pre : List Event) (ws : List Write) (k j : Nat) :
    cutOpenE ram (pre ++ clearTruncations ++ ws.map Event.write) (pre.length + 2 + k) j = cutOpen ram ws k j := by
  unfold cutOpenE cutOpen
  rw [replayE_take_clear, getElem?_clear]
  cases ws[k]? <;> rfl

theorem stepWrites_log (s : State) (op : Op) : (s.step op).1.log = (s.stepWrites op).reverse ++ s.log := by
  unfold State.stepWrites; rw [List.reverse_reverse]; exact step_log s op

theorem step_writes (s : State) (hl : Live s) (op : Op) (hop : op.isClear = false) :
    Writes Write.Inc s (s.stepWrites op) (s.step op).1 := by
  obtain ⟨ws, hw⟩ := (step_trace s op hl (Op.not_clear_of_isClear hop)).writes hl
  exact hw.eq_of_log (stepWrites_log s op) ▸ hw

theorem trace_clear (s : State) (d : Option Rule) (rs : Option (List (Bytes × Rule))) :
    Trace (s.clearBase d rs) (s.clear d rs).1 := by
  rw [clear_eq_installRules]; exact trace_installRules _ _ true Nat.zero_lt_one

theorem live_clearBase (s : State) (d : Option Rule) (rs : Option (List (Bytes × Rule))) :
    Live (s.clearBase d rs) := ⟨Nat.zero_lt_one, Nat.zero_lt_one⟩

theorem files_addLog (s : State) (l : List Write) : (s.addLog l).files = s.files := rfl

theorem le_addLog (s : State) (l : List Write) : s.addLog l ⊑ s := Le.of_eq rfl rfl
theorem addLog_le (s : State) (l : List Write) : s ⊑ s.addLog l := Le.of_eq rfl rfl

/-- the index a `clear d rs` issued in state `s` builds, with a log of its own (as on a fresh folder) -/
def State.cleared (s : State) (d : Option Rule) (rs : Option (List (Bytes × Rule))) : State :=
  (({ s with log := [] } : State).clear d rs).1

theorem cleared_eq_fresh (s : State) (d : Rule) (rs : List (Bytes × Rule)) :
    s.cleared (some d) (some rs) = (State.fresh s.cfg d rs []).1 := rfl

theorem step_clear_eq (s : State) (d : Option Rule) (rs : Option (List (Bytes × Rule))) :
    (s.step (.clear d rs)).1 = (s.cleared d rs).addLog s.log := by
  rw [step_eq_of_nolog]; rfl

theorem cleared_log (s : State) (d : Option Rule) (rs : Option (List (Bytes × Rule))) :
    (s.cleared d rs).log.reverse = s.stepWrites (.clear d rs) := rfl

theorem run_clear_eq (s : State) (d : Option Rule) (rs : Option (List (Bytes × Rule))) (seg : List Op) :
    s.run (.clear d rs :: seg) = ((s.cleared d rs).run seg).addLog s.log := by
  rw [run_cons, step_clear_eq, run_addLog]

theorem live_cleared (s : State) (d : Option Rule) (rs : Option (List (Bytes × Rule))) : Live (s.cleared d rs) :=
  live_hist.clear _ d rs

theorem logged_cleared (s : State) (d : Option Rule) (rs : Option (List (Bytes × Rule))) :
    Logged Write.Inc (s.cleared d rs) :=
  (Logged.base rfl rfl rfl rfl trivial trivial).trace (live_clearBase _ d rs) (trace_clear _ d rs)

theorem logged_cleared_run (s : State) (d : Option Rule) (rs : Option (List (Bytes × Rule))) (seg : List Op)
    (hseg : ∀ op ∈ seg, op.isClear = false) : Logged Write.Inc ((s.cleared d rs).run seg) :=
  (logged_cleared s d rs).trace (live_cleared s d rs)
    (run_trace seg _ (live_cleared s d rs) fun op h => Op.not_clear_of_isClear (hseg op h))

theorem goodLog_cleared (s : State) (d : Option Rule) (rs : Option (List (Bytes × Rule))) : GoodLog (s.cleared d rs) :=
  (logged_cleared s d rs).1

theorem clear_cut (s : State) (d : Option Rule) (rs : Option (List (Bytes × Rule))) :
    replay (s.stepWrites (.clear d rs)) = (s.step (.clear d rs)).1.files ∧
    ∀ j, Files.Le (replay ((s.stepWrites (.clear d rs)).take j)) (s.step (.clear d rs)).1.files := by
  rw [step_clear_eq]
  exact ⟨goodLog_cleared s d rs, (logged_cleared s d rs).cut_le⟩

/-- the files in the middle of a `clear` issued in state `a`: trie file truncated, link file not yet -/
def State.midClear (a : State) : Files := { hdrId := 0, trie := #[], links := a.links }

/-- what the files can be `j ≥ 1` events into a request `op` issued in state `a`: the mid-clear files after the first
    truncation of a `clear`; otherwise files below those the request leaves — and above those it found, unless it
    is a `clear` -/
def CutOf (a : State) (op : Op) (j : Nat) (f : Files) : Prop :=
  (op.isClear = true ∧ j = 1 ∧ f = a.midClear) ∨
  ((op.isClear = false → Files.Le a.files f) ∧ Files.Le f (a.step op).1.files)

theorem stepEvents_noclear (a : State) (op : Op) (hop : op.isClear = false) :
    a.stepEvents op = (a.stepWrites op).map .write := by
  simp [State.stepEvents, opEvents, hop]

theorem stepEvents_clear (a : State) (d : Option Rule) (rs : Option (List (Bytes × Rule))) :
    a.stepEvents (.clear d rs) = clearTruncations ++ (a.stepWrites (.clear d rs)).map .write := by
  simp [State.stepEvents, opEvents, Op.isClear]

theorem stepEvents_end (a : State) (hl : Live a) (op : Op) :
    (a.stepEvents op).foldl Files.applyE a.files = (a.step op).1.files := by
  cases hc : op.isClear with
  | false =>
    rw [stepEvents_noclear a op hc, foldl_applyE_map_write]
    exact (step_writes a hl op hc).files
  | true =>
    obtain ⟨d, rs, rfl⟩ := Op.eq_clear_of_isClear hc
    rw [stepEvents_clear, List.foldl_append, foldl_clearTruncations, foldl_applyE_map_write]
    exact (clear_cut a d rs).1

theorem stepEvents_cut (a : State) (hl : Live a) (pre : List Event) (hpre : replayE pre = a.files) (op : Op)
    (j : Nat) (hj0 : 0 < j) : CutOf a op j (replayE (pre ++ (a.stepEvents op).take j)) := by
  cases hc : op.isClear with
  | false =>
    rw [stepEvents_noclear a op hc, ← List.map_take, replayE_append, foldl_applyE_map_write, hpre]
    have hw := step_writes a hl op hc
    exact .inr ⟨fun _ => (hw.all.cut_le j).1, hw.files ▸ (hw.all.cut_le j).2⟩
  | true =>
    obtain ⟨d, rs, rfl⟩ := Op.eq_clear_of_isClear hc
    rw [stepEvents_clear]
    match j, hj0 with
    | 1, _ =>
      have : (clearTruncations ++ (a.stepWrites (.clear d rs)).map Event.write).take 1 = [.truncTrie] := rfl
      rw [this, replayE_append, hpre]
      exact .inl ⟨rfl, rfl, rfl⟩
    | j + 2, _ =>
      have : (clearTruncations ++ (a.stepWrites (.clear d rs)).map Event.write).take (j + 2) =
          clearTruncations ++ ((a.stepWrites (.clear d rs)).take j).map Event.write := by
        simp [clearTruncations, List.map_take]
      rw [this, ← List.append_assoc, replayE_clear_writes]
      exact .inr ⟨nofun, (clear_cut a d rs).2 j⟩

theorem events_end : ∀ (ops : List Op) (s : State), Live s → (s.events ops).foldl Files.applyE s.files = (s.run ops).files
  | [], _, _ => rfl
  | op :: ops, s, hl => by
    rw [events_cons, List.foldl_append, stepEvents_end s hl, run_cons]
    exact events_end ops _ (live_hist.step s op hl)

theorem replayE_freshWrites (cfg : Config) (dflt : Rule) (rules : List (Bytes × Rule)) :
    replayE ((freshWrites cfg dflt rules).map .write) = (State.fresh cfg dflt rules []).1.files := by
  rw [replayE_map_write]; exact goodLog_fresh cfg dflt rules

theorem length_historyEvents (cfg : Config) (dflt : Rule) (rules : List (Bytes × Rule)) (ops : List Op) :
    (historyEvents cfg dflt rules ops).length =
      (freshWrites cfg dflt rules).length + ((State.fresh cfg dflt rules []).1.events ops).length := by
  simp [historyEvents]

theorem historyEvents_end (cfg : Config) (dflt : Rule) (rules : List (Bytes × Rule)) (ops : List Op) :
    replayE (historyEvents cfg dflt rules ops) = ((State.fresh cfg dflt rules []).1.run ops).files := by
  rw [historyEvents, replayE_append, replayE_freshWrites]
  exact events_end ops _ (live_fresh cfg dflt rules [])

theorem historyEvents_append (cfg : Config) (dflt : Rule) (rules : List (Bytes × Rule)) (a b : List Op) :
    historyEvents cfg dflt rules (a ++ b) =
      historyEvents cfg dflt rules a ++ ((State.fresh cfg dflt rules []).1.run a).events b := by
  unfold historyEvents; rw [events_append, List.append_assoc]

theorem historyEvents_take_take (cfg : Config) (dflt : Rule) (rules : List (Bytes × Rule)) (ops : List Op)
    (n k : Nat) (hk : k ≤ (historyEvents cfg dflt rules (ops.take n)).length) :
    (historyEvents cfg dflt rules ops).take k = (historyEvents cfg dflt rules (ops.take n)).take k := by
  conv => lhs; rw [← List.take_append_drop n ops, historyEvents_append]
  exact List.take_append_of_le_length hk

theorem history_cut_at (cfg : Config) (dflt : Rule) (rules : List (Bytes × Rule)) (ops : List Op) {n : Nat}
    {op : Op} (hop : ops[n]? = some op) (k : Nat)
    (h1 : (historyEvents cfg dflt rules (ops.take n)).length < k)
    (h2 : k ≤ (historyEvents cfg dflt rules (ops.take (n + 1))).length) :
    CutOf ((State.fresh cfg dflt rules []).1.run (ops.take n)) op
      (k - (historyEvents cfg dflt rules (ops.take n)).length)
      (replayE ((historyEvents cfg dflt rules ops).take k)) := by
  have e : ops.take (n + 1) = ops.take n ++ [op] := by rw [List.take_add_one, hop, Option.toList_some]
  rw [historyEvents_take_take cfg dflt rules ops (n + 1) k h2]
  rw [e, historyEvents_append, events_cons, events_nil, List.append_nil] at h2 ⊢
  rw [List.take_append, List.take_of_length_le (Nat.le_of_lt h1)]
  exact stepEvents_cut _ (live_hist.run _ _ (live_fresh cfg dflt rules [])) _ (historyEvents_end cfg dflt rules _) op _
    (Nat.sub_pos_of_lt h1)

/-- Any history on a fresh index, `clear` allowed anywhere and any number of times; any cut `k`
    of its event history. Either the cut is inside the constructor and the files are below the fresh index, or
    it falls into exactly one request `ops[n]` and the files are what `CutOf` says for that request issued in the
    state reached by the first `n` requests:
    between the states before and after a request that is not `clear`; the mid-clear files after the first
    truncation of a `clear`; below the cleared index from the second truncation of a `clear` on. -/
theorem history_cut (cfg : Config) (dflt : Rule) (rules : List (Bytes × Rule)) (ops : List Op) (k : Nat)
    (hk : k ≤ (historyEvents cfg dflt rules ops).length) :
    let fr := (State.fresh cfg dflt rules []).1
    let f := replayE ((historyEvents cfg dflt rules ops).take k)
    (k ≤ (freshWrites cfg dflt rules).length ∧ Files.Le f fr.files) ∨
    ∃ n op, ops[n]? = some op ∧ (historyEvents cfg dflt rules (ops.take n)).length < k ∧
      k ≤ (historyEvents cfg dflt rules (ops.take (n + 1))).length ∧
      CutOf (fr.run (ops.take n)) op (k - (historyEvents cfg dflt rules (ops.take n)).length) f := by
  dsimp only
  -- the first request whose events reach the cut, if the constructor's do not
  have locate : ∀ n, n ≤ ops.length → k ≤ (historyEvents cfg dflt rules (ops.take n)).length →
      k ≤ (freshWrites cfg dflt rules).length ∨ ∃ m, m < n ∧
        (historyEvents cfg dflt rules (ops.take m)).length < k ∧
        k ≤ (historyEvents cfg dflt rules (ops.take (m + 1))).length := by
    intro n
    induction n with
    | zero => intro _ h; left; simpa [length_historyEvents] using h
    | succ n ih =>
      intro hn h
      by_cases hc : k ≤ (historyEvents cfg dflt rules (ops.take n)).length
      · exact (ih (Nat.le_of_succ_le hn) hc).imp id fun ⟨m, hm, h⟩ => ⟨m, Nat.lt_succ_of_lt hm, h⟩
      · exact .inr ⟨n, Nat.lt_succ_self n, Nat.lt_of_not_le hc, h⟩
  rcases locate ops.length (Nat.le_refl _) (by rwa [List.take_length]) with hc | ⟨n, hn, h1, h2⟩
  · left
    refine ⟨hc, ?_⟩
    have e : (historyEvents cfg dflt rules ops).take k = ((freshWrites cfg dflt rules).take k).map .write := by
      unfold historyEvents
      rw [List.take_append_of_le_length (by simpa using hc), List.map_take]
    rw [e, replayE_map_write]
    exact C18_fresh_cut_le cfg dflt rules [] (by simp) k (by simpa [freshWrites, State.run] using hc)
  · exact .inr ⟨n, ops[n], List.getElem?_eq_getElem hn, h1, h2,
      history_cut_at cfg dflt rules ops (List.getElem?_eq_getElem hn) k h1 h2⟩

theorem events_addLog : ∀ (ops : List Op) (s : State) (l : List Write), (s.addLog l).events ops = s.events ops
  | [], _, _ => rfl
  | op :: ops, s, l => by
    have h : (s.addLog l).stepEvents op = s.stepEvents op := rfl
    rw [events_cons, events_cons, h, step_addLog]
    exact congrArg _ (events_addLog ops _ l)

/-- the driver's own recursion (`drvStep` in Main.lean): it carries on with the state whose log holds just the
    writes of the last request -/
def State.eventsD : State → List Op → List Event
  | _, [] => []
  | s, op :: ops =>
    let s' := (({ s with log := [] } : State).step op).1
    opEvents op.isClear s'.log.reverse ++ s'.eventsD ops

theorem eventsD_eq : ∀ (ops : List Op) (s : State), s.eventsD ops = s.events ops
  | [], _ => rfl
  | op :: ops, s => by
    have h : (s.step op).1 = ((({ s with log := [] } : State).step op).1).addLog s.log := by
      rw [step_eq_of_nolog]
    rw [events_cons, h, events_addLog, ← eventsD_eq ops]
    rfl

theorem events_noclear : ∀ (ops : List Op) (s : State), (∀ op ∈ ops, op.isClear = false) →
    ∃ ws : List Write, s.events ops = ws.map .write ∧ (s.run ops).log = ws.reverse ++ s.log
  | [], _, _ => ⟨[], rfl, rfl⟩
  | op :: ops, s, hop => by
    obtain ⟨ws, h1, h2⟩ := events_noclear ops (s.step op).1 (fun o ho => hop o (by simp [ho]))
    refine ⟨s.stepWrites op ++ ws, ?_, ?_⟩
    · rw [events_cons, h1, stepEvents_noclear s op (hop op (by simp)), List.map_append]
    · rw [run_cons, h2, stepWrites_log, List.reverse_append, List.append_assoc]

theorem historyEvents_noclear (cfg : Config) (dflt : Rule) (rules : List (Bytes × Rule)) (ops : List Op)
    (hop : ∀ op ∈ ops, op.isClear = false) :
    historyEvents cfg dflt rules ops = (((State.fresh cfg dflt rules []).1.run ops).log.reverse).map .write := by
  obtain ⟨ws, h1, h2⟩ := events_noclear ops (State.fresh cfg dflt rules []).1 hop
  unfold historyEvents freshWrites
  rw [h1, h2, List.reverse_append, List.reverse_reverse, List.map_append]

theorem events_clear_segment (s : State) (d : Option Rule) (rs : Option (List (Bytes × Rule))) (seg : List Op)
    (hseg : ∀ op ∈ seg, op.isClear = false) :
    s.events (.clear d rs :: seg) =
      clearTruncations ++ (((s.cleared d rs).run seg).log.reverse).map .write := by
  obtain ⟨ws, h1, h2⟩ := events_noclear seg (s.cleared d rs) hseg
  rw [events_cons, stepEvents_clear, step_clear_eq, events_addLog, h1, h2, List.reverse_append,
    List.reverse_reverse, cleared_log, List.map_append, List.append_assoc]

theorem history_segment_cutOpenE (ram : State) (cfg : Config) (dflt : Rule) (rules : List (Bytes × Rule))
    (pre : List Op) (d : Option Rule) (rs : Option (List (Bytes × Rule))) (seg : List Op)
    (hseg : ∀ op ∈ seg, op.isClear = false) (k j : Nat) :
    cutOpenE ram (historyEvents cfg dflt rules (pre ++ .clear d rs :: seg))
        ((historyEvents cfg dflt rules pre).length + 2 + k) j =
      cutOpen ram ((((State.fresh cfg dflt rules []).1.run pre).cleared d rs).run seg).log.reverse k j := by
  rw [historyEvents_append, events_clear_segment _ d rs seg hseg, ← List.append_assoc, cutOpenE_clear]

/-- Split the history at its LAST `clear` (`seg` is clear-free). A cut `k` writes past
    the two truncations of that `clear` is a cut of the clear-free history `seg` on the fresh index that the
    `clear` builds, and is below the completed history. -/
theorem history_segment_cut (cfg : Config) (dflt : Rule) (rules : List (Bytes × Rule)) (pre : List Op)
    (d : Option Rule) (rs : Option (List (Bytes × Rule))) (seg : List Op)
    (hseg : ∀ op ∈ seg, op.isClear = false) (k : Nat) :
    let s := (State.fresh cfg dflt rules []).1.run pre
    let sf := (s.cleared d rs).run seg
    let full := historyEvents cfg dflt rules (pre ++ .clear d rs :: seg)
    let off := (historyEvents cfg dflt rules pre).length + 2
    full.length = off + sf.log.length ∧
    replayE (full.take (off + k)) = replay ((sf.log.reverse).take k) ∧
    sf.files = ((State.fresh cfg dflt rules []).1.run (pre ++ .clear d rs :: seg)).files ∧
    (k ≤ sf.log.length → Files.Le (replayE (full.take (off + k))) sf.files) := by
  dsimp only
  have h2 : replayE ((historyEvents cfg dflt rules (pre ++ .clear d rs :: seg)).take
      ((historyEvents cfg dflt rules pre).length + 2 + k)) =
      replay ((((((State.fresh cfg dflt rules []).1.run pre).cleared d rs).run seg).log.reverse).take k) := by
    rw [historyEvents_append, events_clear_segment _ d rs seg hseg, ← List.append_assoc, replayE_take_clear]
  refine ⟨?_, h2, ?_, fun hk => ?_⟩
  · rw [historyEvents_append, events_clear_segment _ d rs seg hseg]
    simp [clearTruncations]; omega
  · rw [run_append, run_clear_eq]
    rfl  -- the model's own state differs only in its log, which goes on
  · rw [h2]; exact (logged_cleared_run _ d rs seg hseg).cut_le k

theorem split_last_clear : ∀ (l : List Op), (∀ op ∈ l, op.isClear = false) ∨
    ∃ pre d rs seg, l = pre ++ .clear d rs :: seg ∧ ∀ op ∈ seg, op.isClear = false
  | [] => Or.inl (by simp)
  | op :: l => by
    rcases split_last_clear l with h | ⟨pre, d, rs, seg, e, h⟩
    · cases hc : op.isClear with
      | false =>
        refine Or.inl (fun o ho => ?_)
        rcases List.mem_cons.mp ho with rfl | ho
        · exact hc
        · exact h o ho
      | true =>
        obtain ⟨d, rs, rfl⟩ := Op.eq_clear_of_isClear hc
        exact Or.inr ⟨[], d, rs, l, rfl, h⟩
    · exact Or.inr ⟨op :: pre, d, rs, seg, by rw [e]; rfl, h⟩

theorem history_free_cut (cfg : Config) (dflt : Rule) (rules : List (Bytes × Rule)) (l : List Op)
    (hfree : ∀ op ∈ l, op.isClear = false) (k : Nat) (hk : k ≤ (historyEvents cfg dflt rules l).length) :
    k ≤ ((State.fresh cfg dflt rules []).1.run l).log.length ∧
    replayE ((historyEvents cfg dflt rules l).take k) =
      replay ((((State.fresh cfg dflt rules []).1.run l).log.reverse).take k) ∧
    Files.Le (replayE ((historyEvents cfg dflt rules l).take k)) ((State.fresh cfg dflt rules []).1.run l).files := by
  rw [historyEvents_noclear cfg dflt rules l hfree] at hk ⊢
  rw [List.length_map, List.length_reverse] at hk
  rw [← List.map_take, replayE_map_write]
  exact ⟨hk, rfl, C18_fresh_cut_le cfg dflt rules l (fun op h => Op.not_clear_of_isClear (hfree op h)) k hk⟩

/-- Any history, any number of `clear`s, any cut `k` of its events. The
    rebuilt files are one of:
    (a0) no `clear` has begun: a cut of the write log of the clear-free history `ops.take n` on the
         constructor's fresh index (`C18_fresh_cut_le` applies verbatim);
    (a1) the last `clear` that began before the cut has done both truncations: with `ops.take n = pre ++ clear d rs
         :: seg`, a cut `k'` of the write log of the clear-free history `seg` on the fresh index
         `(run pre).cleared d rs` that `clear` builds, below the completed state of the segment so far — whose
         files are those of the model's own state `run (ops.take n)`;
    (b)  the cut separates the two truncations of a `clear`: the mid-clear files. -/
theorem history_cut_segment (cfg : Config) (dflt : Rule) (rules : List (Bytes × Rule)) (ops : List Op) (k : Nat)
    (hk : k ≤ (historyEvents cfg dflt rules ops).length) :
    let fr := (State.fresh cfg dflt rules []).1
    let f := replayE ((historyEvents cfg dflt rules ops).take k)
    (∃ n, n ≤ ops.length ∧ (∀ op ∈ ops.take n, op.isClear = false) ∧
        k ≤ (fr.run (ops.take n)).log.length ∧
        f = replay (((fr.run (ops.take n)).log.reverse).take k) ∧
        Files.Le f (fr.run (ops.take n)).files) ∨
    (∃ n pre d rs seg k', n ≤ ops.length ∧ ops.take n = pre ++ .clear d rs :: seg ∧
        (∀ op ∈ seg, op.isClear = false) ∧
        k = (historyEvents cfg dflt rules pre).length + 2 + k' ∧
        k' ≤ (((fr.run pre).cleared d rs).run seg).log.length ∧
        f = replay (((((fr.run pre).cleared d rs).run seg).log.reverse).take k') ∧
        (((fr.run pre).cleared d rs).run seg).files = (fr.run (ops.take n)).files ∧
        Files.Le f (fr.run (ops.take n)).files) ∨
    (∃ n d rs, ops[n]? = some (.clear d rs) ∧
        k = (historyEvents cfg dflt rules (ops.take n)).length + 1 ∧ f = (fr.run (ops.take n)).midClear) := by
  dsimp only
  -- Any truncation `ops.take n` that contains the cut will do. The last `clear` of the truncation classifies the
  -- cut; a cut that lies before that `clear` is a cut of the shorter truncation that ends there.
  refine (?_ : ∀ n, n ≤ ops.length → k ≤ (historyEvents cfg dflt rules (ops.take n)).length → _)
    ops.length (Nat.le_refl _) (by rwa [List.take_length])
  intro n
  induction n using Nat.strongRecOn with | _ n ih => ?_
  intro hn hkn
  rcases split_last_clear (ops.take n) with hfree | ⟨pre, d, rs, seg, hsplit, hfree⟩
  · rw [historyEvents_take_take cfg dflt rules ops n k hkn]
    exact Or.inl ⟨n, hn, hfree, history_free_cut cfg dflt rules _ hfree k hkn⟩
  · have hpre : ops.take pre.length = pre :=
      (List.prefix_iff_eq_take.mp ((List.prefix_append pre _).trans (hsplit ▸ List.take_prefix n ops))).symm
    have hpn : pre.length < n := by
      have := congrArg List.length hsplit
      rw [List.length_take, List.length_append, List.length_cons] at this; omega
    rcases Nat.lt_trichotomy k ((historyEvents cfg dflt rules pre).length + 1) with hlo | rfl | hlo
    · exact ih pre.length hpn (Nat.le_trans (Nat.le_of_lt hpn) hn) (by rw [hpre]; exact Nat.le_of_lt_succ hlo)
    · refine Or.inr (Or.inr ⟨pre.length, d, rs, ?_, by rw [hpre], ?_⟩)
      · rw [← List.getElem?_take_of_lt hpn, hsplit]; simp
      · rw [historyEvents_take_take cfg dflt rules ops n _ hkn, hpre, hsplit, historyEvents_append, events_cons,
          stepEvents_clear, List.take_length_add_append]
        show replayE (historyEvents cfg dflt rules pre ++ [.truncTrie]) = _
        rw [replayE_append, historyEvents_end]; rfl
    · obtain ⟨k', rfl⟩ := Nat.exists_eq_add_of_le (Nat.succ_le_of_lt hlo)
      obtain ⟨h1, h2, h3, h4⟩ := history_segment_cut cfg dflt rules pre d rs seg hfree k'
      rw [← hsplit] at h1 h2 h3 h4
      have hk' : k' ≤ ((((State.fresh cfg dflt rules []).1.run pre).cleared d rs).run seg).log.length := by
        rw [h1] at hkn; omega
      rw [historyEvents_take_take cfg dflt rules ops n _ hkn]
      exact Or.inr (Or.inl ⟨n, pre, d, rs, seg, k', hn, hsplit, hfree, rfl, hk', h2, h3, h3 ▸ h4 hk'⟩)

theorem run_take_le (s : State) (hl : Live s) (ops : List Op) (n n' : Nat) (h : n ≤ n')
    (hseg : ∀ i op, n ≤ i → i < n' → ops[i]? = some op → op.isClear = false) :
    s.run (ops.take n) ⊑ s.run (ops.take n') := by
  rw [take_of_le ops h, run_append]
  refine (run_le _ _ (live_hist.run _ s hl) (fun op hop => ?_)).1
  obtain ⟨i, hi⟩ := List.getElem?_of_mem hop
  rw [List.getElem?_take] at hi
  split at hi
  · rw [List.getElem?_drop] at hi
    exact Op.not_clear_of_isClear (hseg (n + i) op (by omega) (by omega) hi)
  · cases hi

theorem torn_clear_iff (pre : List Event) (ws : List Write) (k j : Nat) :
    Torn (pre ++ clearTruncations ++ ws.map .write) (pre.length + 2 + k) j ↔
      (j ≠ 0 ∧ ∃ w, ws[k]? = some w ∧ w.isAppend (replay (ws.take k)) = true) := by
  unfold Torn
  rw [replayE_take_clear, getElem?_clear]
  constructor
  · rintro ⟨hj, ev, he, ha⟩
    cases hw : ws[k]? with
    | none => simp [hw] at he
    | some w =>
      simp only [hw, Option.map_some, Option.some.injEq] at he
      subst he
      exact ⟨hj, w, rfl, ha⟩
  · rintro ⟨hj, w, hw, ha⟩
    exact ⟨hj, .write w, by simp [hw], ha⟩

/-- both stores begin with a header block as the constructor writes it. (`{}` is the model's state with just
    the two header blocks.) Holds in every reachable state, across `clear`. -/
def Rooted (s : State) : Prop := ({} : State) ⊑ s

theorem Rooted.live {s : State} (h : Rooted s) : Live s := live_default.mono h

theorem rooted_hist : HistInv Rooted :=
  ⟨fun _ ht hl => Le.of_eq ht hl, fun b h => Le.trans h (b.across (trace_across _ _ _) h.live.1).1.le⟩

theorem openCut_le (ram : State) (f : Files) (b : State) (hle : Files.Le f b.files) (hr : Rooted b) :
    ∃ st, openCut ram f 0 = .ok st ∧ st ⊑ b := by
  obtain ⟨st, hst, hf, _⟩ := openCut_opened ram f
  exact ⟨st, hst, Files.Le.of_files (hf ▸ hle.opened hr.files)⟩

/-- the state a reopen finds in the middle of a `clear` issued in state `a`: an empty trie (the header block is
    written again by the constructor), the OLD link file, the RAM part supplied again -/
def State.midClearOpen (ram a : State) : State :=
  { ram with hdrId := 0, trie := #[{}], links := a.links, log := [] }

theorem openCut_midClear (ram a : State) (hl : Live a) : openCut ram a.midClear 0 = .ok (ram.midClearOpen a) := by
  have h : ¬ a.links.size = 0 := Nat.ne_of_gt hl.2
  simp [openCut, State.midClear, State.midClearOpen, h]

/-- C18 WITH `clear`. Any history on a fresh index, with any number of `clear` requests anywhere; any cut of its
    event history after `k` events plus `j` bytes of the next one; any RAM part `ram` supplied at reopening.

    * Reopening refuses, with the library's own error, exactly when `j ≠ 0` bytes of an APPEND are torn
      (a truncation, an in-place rewrite, a header rewrite cannot be torn).
    * Otherwise it opens, to a state `st` which is
      - either below the state reached by the first `n` requests, where request `n - 1` is the one the cut falls
        into (`n = 0`: the constructor), and then also below every later state up to the next `clear`:
        every page block, pointer and link stub of `st` is one of the completed segment;
      - or, when the cut separates the two truncations of a `clear` (request `n`): the empty trie with the old
        link file, `ram.midClearOpen _` (analysed in `Proofs/ClearCrashMid.lean`: every traversal is empty). -/
theorem C18_events_cut (cfg : Config) (dflt : Rule) (rules : List (Bytes × Rule)) (ops : List Op)
    (ram : State) (k j : Nat) (hk : k ≤ (historyEvents cfg dflt rules ops).length) :
    let full := historyEvents cfg dflt rules ops
    let fr := (State.fresh cfg dflt rules []).1
    let off := fun n => (historyEvents cfg dflt rules (ops.take n)).length
    (cutOpenE ram full k j = .error .traph ↔ Torn full k j) ∧
    (¬ Torn full k j → ∃ st, cutOpenE ram full k j = .ok st ∧
      ((∃ n, n ≤ ops.length ∧ k ≤ off n ∧ (n = 0 ∨ off (n - 1) < k) ∧ st ⊑ fr.run (ops.take n) ∧
          ∀ n', n ≤ n' → (∀ i op, n ≤ i → i < n' → ops[i]? = some op → op.isClear = false) →
            st ⊑ fr.run (ops.take n')) ∨
       (∃ n d rs, ops[n]? = some (.clear d rs) ∧ k = off n + 1 ∧
          st = ram.midClearOpen (fr.run (ops.take n))))) := by
  dsimp only
  refine ⟨cutOpenE_refuses_iff ram _ k j, fun hn => ?_⟩
  rw [cutOpenE_not_torn ram _ k j hn]
  have hfr := rooted_hist.fresh cfg dflt rules []
  have ext : ∀ (st : State) (n : Nat), st ⊑ (State.fresh cfg dflt rules []).1.run (ops.take n) →
      ∀ n', n ≤ n' → (∀ i op, n ≤ i → i < n' → ops[i]? = some op → op.isClear = false) →
        st ⊑ (State.fresh cfg dflt rules []).1.run (ops.take n') :=
    fun st n h n' hnn hseg => h.trans (run_take_le _ hfr.live ops n n' hnn hseg)
  rcases history_cut cfg dflt rules ops k hk with ⟨hc, hle⟩ | ⟨n, op, hop, h1, h2, h3⟩
  · obtain ⟨st, hst, hb⟩ := openCut_le ram _ _ hle hfr
    refine ⟨st, hst, Or.inl ⟨0, Nat.zero_le _, ?_, Or.inl rfl, hb, ext st 0 hb⟩⟩
    simp only [List.take_zero, length_historyEvents, events_nil, List.length_nil, Nat.add_zero]; exact hc
  · have hn : n < ops.length := by
      have := List.getElem?_eq_some_iff.mp hop; exact this.1
    have hrb : Rooted ((State.fresh cfg dflt rules []).1.run (ops.take (n + 1))) := rooted_hist.run _ _ hfr
    have hstep : (State.fresh cfg dflt rules []).1.run (ops.take (n + 1)) =
        (((State.fresh cfg dflt rules []).1.run (ops.take n)).step op).1 := by
      rw [List.take_add_one, hop, Option.toList_some, run_append]; rfl
    rcases h3 with ⟨hc, hk1, hf⟩ | ⟨_, hle⟩
    · obtain ⟨d, rs, rfl⟩ := Op.eq_clear_of_isClear hc
      refine ⟨_, ?_, Or.inr ⟨n, d, rs, hop, by omega, rfl⟩⟩
      rw [hf]
      exact openCut_midClear ram _ (rooted_hist.run _ _ hfr).live
    · rw [← hstep] at hle
      obtain ⟨st, hst, hb⟩ := openCut_le ram _ _ hle hrb
      exact ⟨st, hst, Or.inl ⟨n + 1, hn, h2, Or.inr h1, hb, ext st _ hb⟩⟩

#print axioms history_cut
#print axioms history_segment_cut
#print axioms history_cut_segment
#print axioms C18_events_cut

end Traph
