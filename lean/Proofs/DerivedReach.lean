import Proofs.DerivedOps
import Proofs.ReopenEverywhere
/-! The derived requests keep a state reachable: the state after an unchecked deletion
    (`delete_webentity(…, check_for_corruption=False)`) whose prefixes are all in the index is reached by a
    disciplined history of well-formed requests, so every theorem about reachable states (`reachable_invariants`, …)
    applies after it. -/
namespace Traph
open State

theorem dr_reachable_run : ∀ (ops : List Op) {s : State}, Reachable s → (∀ op ∈ ops, OpWf op) → Disciplined s ops →
    Reachable (s.run ops)
  | [], _, h, _, _ => h
  | op :: ops, s, h, hwf, hd => by
    rw [run_cons]
    exact dr_reachable_run ops (reachable_step h op (hwf op (by simp)) hd.1)
      (fun o ho => hwf o (by simp [ho])) hd.2

theorem dr_removePrefix_disciplined : ∀ (l : List Bytes) (s : State),
    Disciplined s (l.map (fun p => Op.removePrefix p none))
  | [], _ => trivial
  | _ :: l, _ => ⟨trivial, dr_removePrefix_disciplined l _⟩

theorem dr_reachable_removePrefixes {s : State} (h : Reachable s) (l : List Bytes) :
    Reachable (s.run (l.map (fun p => Op.removePrefix p none))) := by
  refine dr_reachable_run _ h (fun op ho => ?_) (dr_removePrefix_disciplined l s)
  obtain ⟨p, _, rfl⟩ := List.mem_map.mp ho
  trivial

/-- **the state after an unchecked deletion whose prefixes are all located is reachable** (no hypothesis on the
    prefixes beyond being located: `OpWf` and `StepOk` are both `True` for `removePrefix`) -/
theorem deleteUnchecked_reachable' {s : State} (h : Reachable s) (ps : List Bytes)
    (hloc : ∀ p ∈ ps, s.lruNode (lruIter p) ≠ none) : Reachable (s.deleteUnchecked ps).1 := by
  obtain ⟨t, hs, _⟩ := reachable_invariants h
  rw [deleteUnchecked_eq_run hs ps hloc]
  exact dr_reachable_removePrefixes h _

theorem deleteUnchecked_reachable {s : State} (h : Reachable s) (ps : List Bytes)
    (_hne : ∀ p ∈ ps, lruIter p ≠ []) (hloc : ∀ p ∈ ps, s.lruNode (lruIter p) ≠ none) :
    Reachable (s.deleteUnchecked ps).1 :=
  deleteUnchecked_reachable' h ps hloc

/-- …and even when some prefix is NOT located (the request raises `AttributeError` half-way) the state it leaves is
    reachable: it is the run of the requests for the distinct prefixes before the first missing one -/
theorem deleteUnchecked_reachable_any {s : State} (h : Reachable s) (ps : List Bytes) :
    Reachable (s.deleteUnchecked ps).1 := by
  by_cases hloc : ∀ p ∈ ps, s.lruNode (lruIter p) ≠ none
  · exact deleteUnchecked_reachable' h ps hloc
  · obtain ⟨t, hs, _⟩ := reachable_invariants h
    have hmiss : ∃ p ∈ ps, s.lruNode (lruIter p) = none := by
      apply Classical.byContradiction
      intro hn
      exact hloc (fun p hp e => hn ⟨p, hp, e⟩)
    obtain ⟨before, _, _, _, _, _, e⟩ := deleteUnchecked_fail hs ps hmiss
    rw [e]
    exact dr_reachable_removePrefixes h _

theorem deleteUnchecked_invariants {s : State} (h : Reachable s) (ps : List Bytes) :
    ∃ t, Shape (s.deleteUnchecked ps).1 t ∧ Inv (s.deleteUnchecked ps).1 t ∧ SizeOk (s.deleteUnchecked ps).1 t ∧
      ParOk (s.deleteUnchecked ps).1 t 0 ∧ MarkOk (s.deleteUnchecked ps).1 t ∧ LkOk (s.deleteUnchecked ps).1 t [] ∧
      LinksOk (s.deleteUnchecked ps).1 ∧ RulesOk (s.deleteUnchecked ps).1 ∧ Whole (s.deleteUnchecked ps).1 ∧
      HeaderStub (s.deleteUnchecked ps).1 ∧ ∃ L, Graph (s.deleteUnchecked ps).1 t L :=
  reachable_invariants (deleteUnchecked_reachable_any h ps)

/-! A rule registered in RAM only (`add_webentity_creation_rule(…, write_in_trie=False)`):
    `Reachable` does NOT ask the keys of the RAM dict to be complete LRUs: `rulesCanonical` / `Canon` constrain the
    constructor's rules, `clear`'s rules and the anchors of `addRule` (which writes the trie), but `reopen d rs` takes
    ANY list `rs` that covers the anchors flagged in the trie. In a reachable state the RAM dict has distinct keys
    (`oe_reachable_rulesNodup`), so the state after the RAM-only registration is exactly the state after closing and
    reopening with the same default rule and the dict extended by the new rule — a disciplined request. -/

theorem dr_addRule_ram_eq_reopen {s : State} (hn : (s.rules.map (·.1)).Nodup) (a : Bytes) (r : Rule) :
    (s.addRule a r false).1 = (s.step (.reopen s.dflt (dictSet s.rules a r))).1 := by
  rw [addRule_ram]
  show _ = s.reopen s.dflt (dictSet s.rules a r)
  unfold reopen
  rw [foldl_dictSet_self _ (dictSet_keys_nodup s.rules a r hn) [] (by simp) (by simp)]
  simp

/-- **the state after a RAM-only rule registration is reachable** — whatever the anchor (not even a well-formed
    LRU is asked: nothing is written, and `reopen` accepts any list covering the flagged anchors) -/
theorem addRule_ram_reachable {s : State} (h : Reachable s) (a : Bytes) (r : Rule) :
    Reachable (s.addRule a r false).1 := by
  obtain ⟨t, _, _, _, _, _, _, _, ok, _⟩ := reachable_invariants h
  rw [dr_addRule_ram_eq_reopen (oe_reachable_rulesNodup h)]
  refine reachable_step h _ trivial ?_
  show Covers s (dictSet s.rules a r)
  exact covers_of_keys ok _ (fun k hk => (mem_keys_dictSet s.rules a r k).mpr (Or.inl hk))

end Traph

#print axioms Traph.addRule_ram_reachable
#print axioms Traph.dr_reachable_run
#print axioms Traph.deleteUnchecked_reachable
#print axioms Traph.deleteUnchecked_reachable'
#print axioms Traph.deleteUnchecked_reachable_any
#print axioms Traph.deleteUnchecked_invariants
