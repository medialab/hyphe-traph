import Proofs.Built
/-! A component of the state that the trie writes leave alone (`Kept π`, Proofs/Frame) is left alone by the trie
    layer (`Kept.addLru`, Proofs/FrameOps) and — with the three other ways a request changes the state (the header,
    the link file, the RAM rules), as far as the request uses them — by every request (`Kept.across`). -/
namespace Traph
open State

namespace Kept
variable {β : Type} {π : State → β} (K : Kept π)
include K

omit K in
theorem addStubsGo (hb : ∀ s b, π (s.appendStub b).1 = π s) (ts : List Nat) (s : State) (tail : Nat) :
    π (addStubsGo s tail ts).1 = π s := by
  induction ts generalizing s tail with
  | nil => rfl
  | cons t ts ih => exact (ih _ _).trans (hb s _)

theorem addStubs (hb : ∀ s b, π (s.appendStub b).1 = π s) (s : State) (page : Nat) (targets : List Nat) (out : Bool) :
    π (s.addStubs page targets out) = π s := by
  unfold State.addStubs
  split
  · rfl
  · exact (K.modCell _ _ _).trans (addStubsGo hb _ _ _)

/-- `π` has to ignore stubs and RAM rules only where the request may write them (`k`, `ru`) -/
theorem across {k ru : Bool} {wf : Prop} (hh : ∀ s id, π (s.setHdr id) = π s)
    (hb : k = true → ∀ s b, π (s.appendStub b).1 = π s)
    (hr : ru = true → ∀ s d r, π { s with dflt := d, rules := r } = π s) :
    Across k ru wf (fun _ => True) (fun _ _ => True) (fun a b => π b = π a) where
  refl _ := rfl
  trans h1 h2 := h2.trans h1
  keep _ _ := trivial
  stable _ _ _ := trivial
  addLru s stems flag _ := ⟨K.addLru s stems flag, trivial⟩
  lookup _ _ _ _ _ := trivial
  setPage s x _ _ _ := ⟨K.modCell s x.node _, trivial⟩
  isPage _ _ _ _ _ := trivial
  setCrawled s x _ _ := K.modCell s x.node _
  setRule _ s x _ _ _ := K.modCell s x.node _
  setWe s x _ _ _ _ := K.modCell s x.node _
  genId s _ := hh s _
  addStubs hk s page targets out _ _ := K.addStubs (hb hk) s page targets out
  ram h s d r _ := hr h s d r

end Kept

theorem addStubsGo_trie_eq (targets : List Nat) (s : State) (tail : Nat) :
    (s.addStubsGo tail targets).1.trie = s.trie := Kept.addStubsGo (π := State.trie) (fun _ _ => rfl) targets s tail

end Traph
