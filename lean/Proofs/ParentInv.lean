import Proofs.InsertStep
/-! The parent invariant on the ghost tree: every node's `parent` field is the block of its TST parent
    (the node one stem up; 0 at the top level). Siblings share the parent; the child tree of `a` has
    parent `a`. In terms of the finite map: the parent of the node stored under `p ++ [x]` is the node stored under `p`. -/
namespace Traph
open State

def ParOk (s : State) : T → Nat → Prop
  | .nil, _ => True
  | .node a l c r, par => (s.cell a).parent = par ∧ ParOk s l par ∧ ParOk s r par ∧ ParOk s c a

@[simp] theorem ParOk.nil (s : State) (par : Nat) : ParOk s .nil par = True := rfl

theorem ParOk.node_iff (s : State) (a : Nat) (l c r : T) (par : Nat) :
    ParOk s (.node a l c r) par ↔
      ((s.cell a).parent = par ∧ ParOk s l par ∧ ParOk s r par ∧ ParOk s c a) := Iff.rfl

theorem ParOk.frame {s s' : State} : ∀ {t : T} {par : Nat}, ParOk s t par →
    (∀ a ∈ t.addrs, (s'.cell a).parent = (s.cell a).parent) → ParOk s' t par := by
  intro t
  induction t with
  | nil => intro _ _ _; trivial
  | node a l c r ihl ihc ihr =>
    intro par hp hag
    obtain ⟨h0, hl, hr, hc⟩ := hp
    obtain ⟨hga, hgl, hgc, hgr⟩ := T.forall_mem_node hag
    exact ⟨hga.trans h0, ihl hl hgl, ihr hr hgr, ihc hc hgc⟩

theorem ParOk.leaf {s : State} {b par : Nat} (h : (s.cell b).parent = par) :
    ParOk s (.node b .nil .nil .nil) par := ⟨h, trivial, trivial, trivial⟩

/-- a graft keeps the invariant when the fresh block carries the parent expected at the slot and the old
    blocks keep theirs (no `Nodup` needed: every node labelled `q` expects the same parent) -/
theorem ParOk.graft {s s' : State} {q b : Nat} {sl : Slot} : ∀ {t : T} {par : Nat}, ParOk s t par →
    (∀ a ∈ t.addrs, (s'.cell a).parent = (s.cell a).parent) →
    (s'.cell b).parent = slotPar s q sl → ParOk s' (t.graft q sl b) par := by
  intro t
  induction t with
  | nil => intro _ _ _ _; trivial
  | node a l c r ihl ihc ihr =>
    intro par hp hag hb
    obtain ⟨h0, hl, hr, hc⟩ := hp
    obtain ⟨hga, hagl, hagc, hagr⟩ := T.forall_mem_node hag
    -- a slot of `a`: the new leaf, with the parent the slot asks for, or the graft of what was there
    have sub : ∀ (P : Prop) [Decidable P] (w : T) (pw : Nat), (P → (s'.cell b).parent = pw) →
        ParOk s' (w.graft q sl b) pw → ParOk s' (if P then T.node b .nil .nil .nil else w.graft q sl b) pw := by
      intro P _ w pw hP ih
      split
      · exact ParOk.leaf (hP ‹_›)
      · exact ih
    simp only [T.graft]
    exact ⟨hga.trans h0, sub _ l par (fun ⟨e1, e2, _⟩ => by subst e1 e2; rw [hb]; exact h0) (ihl hl hagl hb),
      sub _ r par (fun ⟨e1, e2, _⟩ => by subst e1 e2; rw [hb]; exact h0) (ihr hr hagr hb),
      sub _ c a (fun ⟨e1, e2, _⟩ => by subst e1 e2; rw [hb]; rfl) (ihc hc hagc hb)⟩

theorem ParOk.graft_hole {s s' : State} {q b : Nat} {sl u pre lo hi pre' lo' hi'} {par : Nat}
    (_h : Hole s q sl u pre lo hi pre' lo' hi') (hp : ParOk s u par)
    (hag : ∀ a ∈ u.addrs, (s'.cell a).parent = (s.cell a).parent)
    (hb : (s'.cell b).parent = slotPar s q sl) : ParOk s' (u.graft q sl b) par :=
  hp.graft hag hb

theorem ParOk.of_parent_eq {s s' : State} {t : T} {par : Nat} (hp : ParOk s t par)
    (h : ∀ a, (s'.cell a).parent = (s.cell a).parent) : ParOk s' t par :=
  hp.frame (fun a _ => h a)

theorem parent_modCell (s : State) (i : Nat) (f : Cell → Cell) (hf : ∀ c, (f c).parent = c.parent) (j : Nat) :
    ((s.modCell i f).cell j).parent = (s.cell j).parent := by
  rw [cell_modCell]; split
  · exact hf _
  · rfl

theorem ParOk.modCell {s : State} {t : T} {par : Nat} (hp : ParOk s t par) (i : Nat) (f : Cell → Cell)
    (hf : ∀ c, (f c).parent = c.parent) : ParOk (s.modCell i f) t par :=
  hp.of_parent_eq (parent_modCell s i f hf)

theorem parent_setSlot (c : Cell) (sl : Slot) (v : Nat) : (c.setSlot sl v).parent = c.parent := by
  cases sl <;> rfl

theorem parent_markCanHave (s : State) (n : Nat) (b : Bool) (j : Nat) :
    ((s.markCanHave n b).cell j).parent = (s.cell j).parent := by
  unfold markCanHave; split
  · apply parent_modCell; intro c; rfl
  · rfl

theorem ParOk.markCanHave {s : State} {t : T} {par : Nat} (hp : ParOk s t par) (n : Nat) (b : Bool) :
    ParOk (s.markCanHave n b) t par :=
  hp.of_parent_eq (parent_markCanHave s n b)

theorem entry_parent_gen {s : State} : ∀ (u : T) (pre : LRU) (par : Nat) (p : LRU) (b : Nat),
    ParOk s u par → (p, b) ∈ u.entries s pre →
    (∃ x, p = pre ++ [x] ∧ (s.cell b).parent = par) ∨
    (∃ a, (p.dropLast, a) ∈ u.entries s pre ∧ (s.cell b).parent = a) := by
  intro u
  induction u with
  | nil => intro _ _ _ _ _ h; exact nomatch h
  | node a l c r ihl ihc ihr =>
    intro pre par p b hp h
    obtain ⟨h0, hl, hr, hc⟩ := hp
    rcases entry_node_iff.mp h with h | ⟨rfl, rfl⟩ | h | h
    · rcases ihl pre par p b hl h with h1 | ⟨a', h1, h2⟩
      · exact Or.inl h1
      · exact Or.inr ⟨a', entry_left h1, h2⟩
    · exact Or.inl ⟨_, rfl, h0⟩
    · rcases ihc (pre ++ [s.stemAt a]) a p b hc h with ⟨x, h1, h2⟩ | ⟨a', h1, h2⟩
      · refine Or.inr ⟨a, ?_, h2⟩
        rw [h1, List.dropLast_concat]
        exact entry_self
      · exact Or.inr ⟨a', entry_child h1, h2⟩
    · rcases ihr pre par p b hr h with h1 | ⟨a', h1, h2⟩
      · exact Or.inl h1
      · exact Or.inr ⟨a', entry_right h1, h2⟩

theorem entry_parent {s : State} {t : T} (hp : ParOk s t 0) {p : LRU} {x : Stem} {b : Nat}
    (h : (p ++ [x], b) ∈ t.entries s []) (hne : p ≠ []) :
    ∃ a, (p, a) ∈ t.entries s [] ∧ (s.cell b).parent = a := by
  rcases entry_parent_gen t [] 0 _ b hp h with ⟨y, h1, _⟩ | ⟨a, h1, h2⟩
  · exfalso
    have := congrArg List.length h1
    simp at this
    exact hne this
  · rw [List.dropLast_concat] at h1
    exact ⟨a, h1, h2⟩

theorem entry_parent_top {s : State} {t : T} (hp : ParOk s t 0) {x : Stem} {b : Nat}
    (h : ([x], b) ∈ t.entries s []) : (s.cell b).parent = 0 := by
  rcases entry_parent_gen t [] 0 _ b hp h with ⟨y, _, h2⟩ | ⟨a, h1, _⟩
  · exact h2
  · exact absurd rfl (entry_ne_nil h1)

/-- block addresses of tree nodes are not 0, so `parent = 0` unambiguously means "top level" -/
theorem entry_addr_ne_zero {s : State} {t : T} (hr : Rep s t) {pre p : LRU} {b : Nat}
    (h : (p, b) ∈ t.entries s pre) : b ≠ 0 := by
  have hm := entries_addr_mem _ _ _ _ h
  clear h
  induction t with
  | nil => exact nomatch hm
  | node a l c r ihl ihc ihr =>
    obtain ⟨ha, _, rl, rc, rr⟩ := hr
    rcases T.mem_addrs_node.mp hm with rfl | hm | hm | hm
    · exact ha
    · exact ihl rl hm
    · exact ihc rc hm
    · exact ihr rr hm

theorem entry_parent_ne_zero {s : State} {t : T} (hr : Rep s t) (hp : ParOk s t 0) {p : LRU} {x : Stem} {b : Nat}
    (h : (p ++ [x], b) ∈ t.entries s []) (hne : p ≠ []) : (s.cell b).parent ≠ 0 := by
  obtain ⟨a, h1, h2⟩ := entry_parent hp h hne
  rw [h2]; exact entry_addr_ne_zero hr h1

#print axioms ParOk.frame
#print axioms ParOk.graft
#print axioms entry_parent
#print axioms entry_parent_top

end Traph
