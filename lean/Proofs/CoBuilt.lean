import Proofs.Built
import Traph.Co
/-! The sections of the generators of `Traph/Co.lean` are made of the same state changes as the write requests.
    A section of the crawl batch is a run of loop iterations (`BatchStep`, `BatchRun`, `batchResume_run`); a
    section of the rule installation is its prologue (`ruleStart`, first section only) followed by one round of
    the walk (`ruleBody`). `resume_rel` lists what a relation has to do to hold across every section of every
    generator, the code of the sections being walked once. The prologue of the rule installation is `Built`, the
    rest of every section is `__add_page`; only the crawl batch also threads stubs, between blocks that were
    answered in EARLIER sections (its page cache), so that a relation `Across` the changes holds across its
    sections if it asks nothing of the blocks (`across_resume`). -/
namespace Traph
open State

theorem batchResume_zero (s : State) (b : BatchSt) : batchResume 0 s b = (s, b, .failed (.other "fuel")) := by
  rw [batchResume]

/-! `cw_Pg`, `cw_In`: the types of `BatchSt.pages` and `.inl`. -/

abbrev cw_Pg := List (Bytes × Nat × Bool)
abbrev cw_In := List (Bytes × List Bytes)

theorem cw_br_flush_nil (f : Nat) (s : State) (data cur pendIn) (P : cw_Pg) (I : cw_In) (R : Report) :
    batchResume (f + 1) s ⟨data, cur, pendIn, P, I, some [], R⟩
      = (s, ⟨data, cur, pendIn, P, I, some [], R⟩, .done (.report R)) := by
  rw [batchResume]

theorem cw_br_flush_cons (f : Nat) (s : State) (data cur pendIn) (P : cw_Pg) (I : cw_In) (R : Report)
    (t : Bytes) (srcs : List Bytes) (rest : cw_In) :
    batchResume (f + 1) s ⟨data, cur, pendIn, P, I, some ((t, srcs) :: rest), R⟩
      = (s.addStubs (pageBlock P t) (srcs.map (pageBlock P)) false, ⟨data, cur, pendIn, P, I, some rest, R⟩, .yielded) := by
  rw [batchResume]

theorem cw_br_data_nil (f : Nat) (s : State) (pendIn) (P : cw_Pg) (I : cw_In) (R : Report) :
    batchResume (f + 1) s ⟨[], none, pendIn, P, I, none, R⟩
      = batchResume f s ⟨[], none, pendIn, P, I, some I, R⟩ := by
  rw [batchResume]

theorem cw_br_src_new_err (f : Nat) (s : State) (src : Bytes) (tgts : List Bytes) (more pendIn) (P : cw_Pg) (I : cw_In)
    (R : Report) (hg : pagesGet P src = none) {s1 : State} {n : Nat} {e : Err}
    (ha : s.addPageCore src true = (s1, n, .error e)) :
    batchResume (f + 1) s ⟨(src, tgts) :: more, none, pendIn, P, I, none, R⟩
      = (s1, ⟨(src, tgts) :: more, none, pendIn, P, I, none, R⟩, .failed e) := by
  rw [batchResume]; simp only [hg, ha]

theorem cw_br_src_new_ok (f : Nat) (s : State) (src : Bytes) (tgts : List Bytes) (more pendIn) (P : cw_Pg) (I : cw_In)
    (R : Report) (hg : pagesGet P src = none) {s1 : State} {n : Nat} {r : Report}
    (ha : s.addPageCore src true = (s1, n, .ok r)) :
    batchResume (f + 1) s ⟨(src, tgts) :: more, none, pendIn, P, I, none, R⟩
      = batchResume f s1 ⟨more, some (src, tgts, []), pendIn, pagesSet P src (n, (s1.cell n).flags.crawled), I, none, R.add r⟩ := by
  rw [batchResume]; simp only [hg, ha]

theorem cw_br_src_uncrawled (f : Nat) (s : State) (src : Bytes) (tgts : List Bytes) (more pendIn) (P : cw_Pg) (I : cw_In)
    (R : Report) {n : Nat} (hg : pagesGet P src = some (n, false)) :
    batchResume (f + 1) s ⟨(src, tgts) :: more, none, pendIn, P, I, none, R⟩
      = batchResume f (s.modCell n (fun c => { c with flags := { c.flags with crawled := true } }))
          ⟨more, some (src, tgts, []), pendIn, pagesSet P src (n, true), I, none, R⟩ := by
  rw [batchResume]; simp only [hg, Bool.not_false, if_true]

theorem cw_br_src_crawled (f : Nat) (s : State) (src : Bytes) (tgts : List Bytes) (more pendIn) (P : cw_Pg) (I : cw_In)
    (R : Report) {n : Nat} (hg : pagesGet P src = some (n, true)) :
    batchResume (f + 1) s ⟨(src, tgts) :: more, none, pendIn, P, I, none, R⟩
      = batchResume f s ⟨more, some (src, tgts, []), pendIn, P, I, none, R⟩ := by
  rw [batchResume]; simp only [hg, Bool.not_true, Bool.false_eq_true, if_false]

/-- the in-link list once the pending in-link of the last new target is recorded -/
def cw_pend (I : cw_In) (src : Bytes) : Option Bytes → cw_In
  | some t => multiAdd I t src
  | none => I

theorem cw_br_tgt_nil (f : Nat) (s : State) (src : Bytes) (tb : List Nat) (data pendIn) (P : cw_Pg) (I : cw_In)
    (R : Report) :
    batchResume (f + 1) s ⟨data, some (src, [], tb), pendIn, P, I, none, R⟩
      = batchResume f (s.addStubs (pageBlock P src) tb true)
          ⟨data, none, none, pagesSet P src (pageBlock P src, (s.cell (pageBlock P src)).flags.crawled),
            cw_pend I src pendIn, none, R⟩ := by
  rw [batchResume]; cases pendIn <;> rfl

theorem cw_br_tgt_cached (f : Nat) (s : State) (src t : Bytes) (ts : List Bytes) (tb : List Nat) (data pendIn) (P : cw_Pg)
    (I : cw_In) (R : Report) {n : Nat} {c : Bool} (hg : pagesGet P t = some (n, c)) :
    batchResume (f + 1) s ⟨data, some (src, t :: ts, tb), pendIn, P, I, none, R⟩
      = batchResume f s ⟨data, some (src, ts, tb ++ [n]), none, P, multiAdd (cw_pend I src pendIn) t src, none, R⟩ := by
  rw [batchResume]; cases pendIn <;> simp only [hg, cw_pend]

theorem cw_br_tgt_new_err (f : Nat) (s : State) (src t : Bytes) (ts : List Bytes) (tb : List Nat) (data pendIn) (P : cw_Pg)
    (I : cw_In) (R : Report) (hg : pagesGet P t = none) {s1 : State} {n : Nat} {e : Err}
    (ha : s.addPageCore t false = (s1, n, .error e)) :
    batchResume (f + 1) s ⟨data, some (src, t :: ts, tb), pendIn, P, I, none, R⟩
      = (s1, ⟨data, some (src, t :: ts, tb), none, P, cw_pend I src pendIn, none, R⟩, .failed e) := by
  rw [batchResume]; cases pendIn <;> simp only [hg, ha, cw_pend]

theorem cw_br_tgt_new_ok (f : Nat) (s : State) (src t : Bytes) (ts : List Bytes) (tb : List Nat) (data pendIn) (P : cw_Pg)
    (I : cw_In) (R : Report) (hg : pagesGet P t = none) {s1 : State} {n : Nat} {r : Report}
    (ha : s.addPageCore t false = (s1, n, .ok r)) :
    batchResume (f + 1) s ⟨data, some (src, t :: ts, tb), pendIn, P, I, none, R⟩
      = (s1, ⟨data, some (src, ts, tb ++ [n]), some t, pagesSet P t (n, (s1.cell n).flags.crawled),
              cw_pend I src pendIn, none, R.add r⟩, .yielded) := by
  rw [batchResume]; cases pendIn <;> simp only [hg, ha, cw_pend]

/-- `l` is looked up in the page cache `P` and inserted if it is not there (`crawl`: it is the source of a row, to be
    marked crawled). Answers: index, cache, report, the block of `l`, whether `__add_page` ran. -/
inductive CacheStep (s : State) (P : cw_Pg) (R : Report) (l : Bytes) (crawl : Bool) :
    State → cw_Pg → Report → Nat → Bool → Prop
  | new {s1 : State} {n : Nat} {r : Report} (hg : pagesGet P l = none) (ha : s.addPageCore l crawl = (s1, n, .ok r)) :
      CacheStep s P R l crawl s1 (pagesSet P l (n, (s1.cell n).flags.crawled)) (R.add r) n true
  | mark {n : Nat} (hc : crawl = true) (hg : pagesGet P l = some (n, false)) :
      CacheStep s P R l crawl (s.modCell n fun c => { c with flags := { c.flags with crawled := true } })
        (pagesSet P l (n, true)) R n false
  | hit {n : Nat} {c : Bool} (hg : pagesGet P l = some (n, c)) (hc : crawl = true → c = true) :
      CacheStep s P R l crawl s P R n false

/-- one iteration of the loop of `index_batch_crawl_iter`, from the index `s` and the private state in the first
    place to those in the next two; `none`: the loop goes on -/
inductive BatchStep (s : State) : BatchSt → State → BatchSt → Option CoOut → Prop
  | done (data cur pendIn) (P : cw_Pg) (I : cw_In) (R : Report) :
      BatchStep s ⟨data, cur, pendIn, P, I, some [], R⟩ s ⟨data, cur, pendIn, P, I, some [], R⟩ (some (.done (.report R)))
  | flush (data cur pendIn) (P : cw_Pg) (I : cw_In) (R : Report) (t : Bytes) (srcs : List Bytes) (rest : cw_In) :
      BatchStep s ⟨data, cur, pendIn, P, I, some ((t, srcs) :: rest), R⟩
        (s.addStubs (pageBlock P t) (srcs.map (pageBlock P)) false) ⟨data, cur, pendIn, P, I, some rest, R⟩ (some .yielded)
  | toFlush (pendIn) (P : cw_Pg) (I : cw_In) (R : Report) :
      BatchStep s ⟨[], none, pendIn, P, I, none, R⟩ s ⟨[], none, pendIn, P, I, some I, R⟩ none
  | src {src : Bytes} {P P1 : cw_Pg} {R R1 : Report} {s1 : State} {n : Nat} {new : Bool} (tgts : List Bytes) (more pendIn)
      (I : cw_In) (c : CacheStep s P R src true s1 P1 R1 n new) :
      BatchStep s ⟨(src, tgts) :: more, none, pendIn, P, I, none, R⟩ s1 ⟨more, some (src, tgts, []), pendIn, P1, I, none, R1⟩ none
  | srcErr {src : Bytes} {P : cw_Pg} {s1 : State} {n : Nat} {e : Err} (tgts : List Bytes) (more pendIn) (I : cw_In)
      (R : Report) (hg : pagesGet P src = none) (ha : s.addPageCore src true = (s1, n, .error e)) :
      BatchStep s ⟨(src, tgts) :: more, none, pendIn, P, I, none, R⟩ s1 ⟨(src, tgts) :: more, none, pendIn, P, I, none, R⟩
        (some (.failed e))
  | tgtEnd (data) (src : Bytes) (tb : List Nat) (pendIn) (P : cw_Pg) (I : cw_In) (R : Report) :
      BatchStep s ⟨data, some (src, [], tb), pendIn, P, I, none, R⟩ (s.addStubs (pageBlock P src) tb true)
        ⟨data, none, none, pagesSet P src (pageBlock P src, (s.cell (pageBlock P src)).flags.crawled),
          cw_pend I src pendIn, none, R⟩ none
  /-- a target already cached is recorded at once; after a new one the generator yields, the in-link still to record -/
  | tgt {t : Bytes} {P P1 : cw_Pg} {R R1 : Report} {s1 : State} {n : Nat} {new : Bool} (data) (src : Bytes)
      (ts : List Bytes) (tb : List Nat) (pendIn) (I : cw_In) (c : CacheStep s P R t false s1 P1 R1 n new) :
      BatchStep s ⟨data, some (src, t :: ts, tb), pendIn, P, I, none, R⟩ s1
        ⟨data, some (src, ts, tb ++ [n]), bif new then some t else none, P1,
          bif new then cw_pend I src pendIn else multiAdd (cw_pend I src pendIn) t src, none, R1⟩
        (bif new then some .yielded else none)
  | tgtErr {t : Bytes} {P : cw_Pg} {s1 : State} {n : Nat} {e : Err} (data) (src : Bytes) (ts : List Bytes) (tb : List Nat)
      (pendIn) (I : cw_In) (R : Report) (hg : pagesGet P t = none) (ha : s.addPageCore t false = (s1, n, .error e)) :
      BatchStep s ⟨data, some (src, t :: ts, tb), pendIn, P, I, none, R⟩ s1
        ⟨data, some (src, t :: ts, tb), none, P, cw_pend I src pendIn, none, R⟩ (some (.failed e))

theorem batchResume_step (f : Nat) (s : State) (b : BatchSt) :
    ∃ s1 b1 o, BatchStep s b s1 b1 o ∧
      batchResume (f + 1) s b = match o with | some o => (s1, b1, o) | none => batchResume f s1 b1 := by
  obtain ⟨data, cur, pendIn, P, I, flush, R⟩ := b
  rcases flush with _ | _ | ⟨⟨t, srcs⟩, rest⟩
  · rcases cur with _ | ⟨src, tgts, tb⟩
    · rcases data with _ | ⟨⟨src, tgts⟩, more⟩
      · exact ⟨_, _, _, .toFlush .., cw_br_data_nil ..⟩
      · rcases hg : pagesGet P src with _ | ⟨n, _ | _⟩
        · rcases ha : s.addPageCore src true with ⟨s1, n, e | r⟩
          · exact ⟨_, _, _, .srcErr _ _ _ _ _ hg ha, cw_br_src_new_err _ _ _ _ _ _ _ _ _ hg ha⟩
          · exact ⟨_, _, _, .src _ _ _ _ (.new hg ha), cw_br_src_new_ok _ _ _ _ _ _ _ _ _ hg ha⟩
        · exact ⟨_, _, _, .src _ _ _ _ (.mark rfl hg), cw_br_src_uncrawled _ _ _ _ _ _ _ _ _ hg⟩
        · exact ⟨_, _, _, .src _ _ _ _ (.hit hg fun _ => rfl), cw_br_src_crawled _ _ _ _ _ _ _ _ _ hg⟩
    · rcases tgts with _ | ⟨t, ts⟩
      · exact ⟨_, _, _, .tgtEnd .., cw_br_tgt_nil ..⟩
      · rcases hg : pagesGet P t with _ | ⟨n, c⟩
        · rcases ha : s.addPageCore t false with ⟨s1, n, e | r⟩
          · exact ⟨_, _, _, .tgtErr _ _ _ _ _ _ _ hg ha, cw_br_tgt_new_err _ _ _ _ _ _ _ _ _ _ _ hg ha⟩
          · exact ⟨_, _, _, .tgt _ _ _ _ _ _ (.new hg ha), cw_br_tgt_new_ok _ _ _ _ _ _ _ _ _ _ _ hg ha⟩
        · exact ⟨_, _, _, .tgt _ _ _ _ _ _ (.hit hg nofun), cw_br_tgt_cached _ _ _ _ _ _ _ _ _ _ _ hg⟩
  · exact ⟨_, _, _, .done .., cw_br_flush_nil ..⟩
  · exact ⟨_, _, _, .flush .., cw_br_flush_cons ..⟩

/-- a section of the crawl batch: iterations up to the first one that leaves the loop, or until the fuel is spent -/
inductive BatchRun : Nat → State → BatchSt → State × BatchSt × CoOut → Prop
  | fuel (s : State) (b : BatchSt) : BatchRun 0 s b (s, b, .failed (.other "fuel"))
  | stop {f : Nat} {s s1 : State} {b b1 : BatchSt} {o : CoOut} (st : BatchStep s b s1 b1 (some o)) :
      BatchRun (f + 1) s b (s1, b1, o)
  | loop {f : Nat} {s s1 : State} {b b1 : BatchSt} {r : State × BatchSt × CoOut} (st : BatchStep s b s1 b1 none)
      (run : BatchRun f s1 b1 r) : BatchRun (f + 1) s b r

theorem batchResume_run : ∀ (f : Nat) (s : State) (b : BatchSt), BatchRun f s b (batchResume f s b)
  | 0, s, b => by rw [batchResume_zero]; exact .fuel s b
  | f + 1, s, b => by
    obtain ⟨s1, b1, o, st, e⟩ := batchResume_step f s b
    rw [e]
    cases o with
    | some o => exact .stop st
    | none => exact .loop st (batchResume_run f s1 b1)

/-- first section only: register the rule in RAM, insert the anchor, flag it, start the walk there -/
def ruleStart (s : State) (r : RuleSt) : State × RuleSt :=
  if r.started then (s, r) else
    ((s.rulePrologue r.anchor r.rule).1,
     { r with started := true, start := (s.rulePrologue r.anchor r.rule).2,
              stack := [((s.rulePrologue r.anchor r.rule).2, lruDirname r.anchor)] })

/-- the stack a section starts from: the children of the node visited last are pushed first, from its stale copy -/
def RuleSt.pending (r : RuleSt) : List (Nat × Bytes) :=
  match r.pend with
  | some (b, lru, cur, c) => ruleNext r.start b c lru cur r.stack
  | none => r.stack

/-- every section: expand the node visited last from its stale copy, pop, re-insert if a page, yield -/
def ruleBody (s : State) (r : RuleSt) : State × RuleSt × CoOut :=
  match r.pending with
  | [] => (s, { r with stack := [], pend := none }, .done (.report r.rep))
  | (b, lru) :: rest =>
    if (s.cell b).flags.page then
      match s.addPageCore (lru ++ s.stemAt b) false with
      | (s1, _, .error e) => (s1, { r with stack := rest, pend := none }, .failed e)
      | (s1, _, .ok r1) =>
        (s1, { r with stack := rest, pend := some (b, lru, lru ++ s.stemAt b, s.cell b), rep := r.rep.add r1 }, .yielded)
    else (s, { r with stack := rest, pend := some (b, lru, lru ++ s.stemAt b, s.cell b) }, .yielded)

theorem dfsPush_eq_ruleNext (start b : Nat) (lru cur : Bytes) (c : Cell) (stack : List (Nat × Bytes)) :
    dfsPush start b lru cur c stack = ruleNext start b c lru cur stack := rfl

/-- The two sides are the same case analysis; they are compared leaf by leaf, each scrutinee a variable, since
    `rfl` on the whole would unfold `addPageCore`. -/
theorem ruleResume_of_started {s : State} {r : RuleSt} (h : r.started = true) : ruleResume s r = ruleBody s r := by
  unfold ruleResume ruleBody RuleSt.pending
  simp only [h, if_true, dfsPush_eq_ruleNext]
  generalize r.pend = p
  generalize r.stack = stack
  rcases p with _ | ⟨b0, l0, c0, cell0⟩ <;> simp only
  case' some => generalize ruleNext r.start b0 cell0 l0 c0 stack = stack
  all_goals
    rcases stack with _ | ⟨⟨b, lru⟩, rest⟩
    · rfl
    · simp only
      rcases s.addPageCore (lru ++ s.stemAt b) false with ⟨s1, n, (e | r1)⟩ <;> rfl

theorem ruleStart_of_started {s : State} {r : RuleSt} (h : r.started = true) : ruleStart s r = (s, r) := by
  unfold ruleStart; rw [if_pos h]

theorem ruleStart_started (s : State) (r : RuleSt) : (ruleStart s r).2.started = true := by
  unfold ruleStart
  by_cases hs : r.started = true
  · rw [if_pos hs]; exact hs
  · rw [if_neg hs]

theorem ruleResume_eq (s : State) (r : RuleSt) :
    ruleResume s r = ruleBody (ruleStart s r).1 (ruleStart s r).2 := by
  rw [← ruleResume_of_started (ruleStart_started s r)]
  by_cases h : r.started = true
  · rw [ruleStart_of_started h]
  · unfold ruleResume ruleStart State.rulePrologue
    simp only [h, Bool.false_eq_true, if_false, if_true]

theorem ruleBody_nil (s : State) {r : RuleSt} (h : r.pending = []) :
    ruleBody s r = (s, { r with stack := [], pend := none }, .done (.report r.rep)) := by
  unfold ruleBody; rw [h]

theorem ruleBody_cons (s : State) {r : RuleSt} {b : Nat} {lru : Bytes} {rest : List (Nat × Bytes)}
    (h : r.pending = (b, lru) :: rest) :
    ruleBody s r = match ruleVisit s b lru r.rep with
      | (s1, .error e) => (s1, { r with stack := rest, pend := none }, .failed e)
      | (s1, .ok rep1) =>
        (s1, { r with stack := rest, pend := some (b, lru, lru ++ s.stemAt b, s.cell b), rep := rep1 }, .yielded) := by
  unfold ruleBody ruleVisit
  rw [h]
  simp only
  by_cases hp : (s.cell b).flags.page = true
  · rw [if_pos hp, if_pos hp]
    rcases s.addPageCore (lru ++ s.stemAt b) false with ⟨s1, n, (e | r1)⟩ <;> rfl
  · rw [if_neg hp, if_neg hp]

theorem ruleBody_started (s : State) (r : RuleSt) : (ruleBody s r).2.1.started = r.started := by
  unfold ruleBody
  split
  · rfl
  · split
    · split <;> rfl
    · rfl

theorem ruleResume_started (s : State) (r : RuleSt) : (ruleResume s r).2.1.started = true := by
  rw [ruleResume_eq, ruleBody_started, ruleStart_started]

theorem resume_batch_fst (s : State) (b : BatchSt) :
    ((CoSt.batch b).resume s).1 = (batchResume 1000000 s b).1 := by
  rcases h : batchResume 1000000 s b with ⟨s1, b1, o⟩
  simp only [CoSt.resume, h]

theorem resume_rule_fst (s : State) (r : RuleSt) : ((CoSt.rule r).resume s).1 = (ruleResume s r).1 := by
  rcases h : ruleResume s r with ⟨s1, r1, o⟩
  simp only [CoSt.resume, h]

section Rel
variable {I : State → Prop} {R : State → State → Prop} (refl : ∀ s, I s → R s s)
  (trans : ∀ {a b c}, R a b → R b c → R a c) (keep : ∀ {a b}, I a → R a b → I b)
  (core : ∀ s l c, I s → R s (s.addPageCore l c).1)
include refl core in
theorem CacheStep.rel (crawled : ∀ s n, I s → R s (s.modCell n fun c => { c with flags := { c.flags with crawled := true } }))
    {s s1 : State} {P P1 : cw_Pg} {R0 R1 : Report} {l : Bytes} {crawl new : Bool} {n : Nat}
    (c : CacheStep s P R0 l crawl s1 P1 R1 n new) (hi : I s) : R s s1 := by
  cases c with
  | new hg ha => have r := core s l crawl hi; rw [ha] at r; exact r
  | mark => exact crawled _ _ hi
  | hit => exact refl s hi

include refl core in
theorem BatchStep.rel (stubs : ∀ s p ts o, I s → R s (s.addStubs p ts o))
    (crawled : ∀ s n, I s → R s (s.modCell n fun c => { c with flags := { c.flags with crawled := true } }))
    {s s1 : State} {b b1 : BatchSt} {o : Option CoOut} (st : BatchStep s b s1 b1 o) (hi : I s) : R s s1 := by
  cases st with
  | done | toFlush => exact refl s hi
  | flush | tgtEnd => exact stubs _ _ _ _ hi
  | src _ _ _ _ c | tgt _ _ _ _ _ _ c => exact c.rel refl core crawled hi
  | @srcErr l _ _ _ _ _ _ _ _ _ _ ha => have r := core s l true hi; rwa [ha] at r
  | @tgtErr l _ _ _ _ _ _ _ _ _ _ _ _ ha => have r := core s l false hi; rwa [ha] at r

include refl trans keep core

theorem BatchRun.rel (stubs : ∀ s p ts o, I s → R s (s.addStubs p ts o))
    (crawled : ∀ s n, I s → R s (s.modCell n fun c => { c with flags := { c.flags with crawled := true } }))
    {f : Nat} {s : State} {b : BatchSt} {r : State × BatchSt × CoOut} (run : BatchRun f s b r) (hi : I s) : R s r.1 := by
  induction run with
  | fuel s b => exact refl s hi
  | stop st => exact st.rel refl core stubs crawled hi
  | loop st _ ih =>
    have r1 := st.rel refl core stubs crawled hi
    exact trans r1 (ih (keep hi r1))

omit trans keep in
theorem ruleBody_rel (s : State) (r : RuleSt) (hi : I s) : R s (ruleBody s r).1 := by
  have fst : ∀ {α : Type} {p q : State × α}, R s p.1 → p = q → R s q.1 := fun r e => e ▸ r
  unfold ruleBody
  split
  · exact refl s hi
  · split
    · split <;> rename_i heq <;> have c := fst (core _ _ _ hi) heq <;> exact c
    · exact refl s hi

theorem ruleResume_rel (start : ∀ s r, I s → R s (ruleStart s r).1) (s : State) (r : RuleSt) (hi : I s) :
    R s (ruleResume s r).1 := by
  rw [ruleResume_eq]
  exact trans (start s r hi) (ruleBody_rel refl core _ _ (keep hi (start s r hi)))

theorem resume_rel (stubs : ∀ s p ts o, I s → R s (s.addStubs p ts o))
    (crawled : ∀ s n, I s → R s (s.modCell n fun c => { c with flags := { c.flags with crawled := true } }))
    (start : ∀ s r, I s → R s (ruleStart s r).1) (s : State) (c : CoSt) (hi : I s) : R s (c.resume s).1 := by
  cases c with
  | batch b => rw [resume_batch_fst]; exact (batchResume_run _ s b).rel refl trans keep core stubs crawled hi
  | rule r => rw [resume_rule_fst]; exact ruleResume_rel refl trans keep core start s r hi
  | pages p => exact refl s hi
  | net n => exact refl s hi
  | query q => exact refl s hi
  | finished => exact refl s hi

end Rel

variable {k ru : Bool} {wf : Prop}

theorem built_ruleStart {s0 s : State} {N0 : List Answered} (h : Built k true wf s0 N0 s) (r : RuleSt) :
    Built.To k true wf s0 N0 (ruleStart s r).1 := by
  unfold ruleStart
  split
  · exact .here h trivial
  · have h0 : Built k true wf s0 N0 { s with rules := dictSet s.rules r.anchor r.rule } := h.ram s.dflt _ rfl
    have h1 := (h0.addLru (lruIter r.anchor) false).setRule ⟨lruIter r.anchor, false, _, false⟩ true rfl (List.mem_cons_self ..)
    unfold State.rulePrologue
    dsimp only
    exact ⟨_, h1, fun _ hx => List.mem_cons_of_mem _ hx, trivial⟩

section Sections
variable {I : State → Prop} {Q : Answered → State → Prop} {R : State → State → Prop}

theorem across_addPageCore (A : Across k ru wf I Q R) (s : State) (l : Bytes) (c : Bool) (hi : I s) :
    R s (s.addPageCore l c).1 := (built_addPageCore (.refl s) l c).across A hi

/-- the stubs of the crawl batch run between blocks of its page cache, answered in earlier sections -/
theorem across_cacheStubs (A : Across true ru wf I (fun _ _ => True) R) (s : State) (p : Nat) (ts : List Nat) (o : Bool)
    (hi : I s) : R s (s.addStubs p ts o) :=
  A.addStubs rfl s p ts o hi fun t _ => ⟨⟨[[]], false, t, true⟩, trivial, rfl, rfl, fun _ => List.cons_ne_nil _ _⟩

theorem across_batchStep (A : Across true ru wf I (fun _ _ => True) R) {s s1 : State} {b b1 : BatchSt} {o : Option CoOut}
    (st : BatchStep s b s1 b1 o) (hi : I s) : R s s1 :=
  st.rel (fun s _ => A.refl s) (across_addPageCore A) (across_cacheStubs A)
    (fun s n hi => A.setCrawled s ⟨[], false, n, false⟩ hi trivial) hi

theorem across_ruleResume (A : Across k true wf I Q R) (s : State) (r : RuleSt) (hi : I s) : R s (ruleResume s r).1 :=
  ruleResume_rel (fun s _ => A.refl s) A.trans A.keep (across_addPageCore A)
    (fun s r hi => (built_ruleStart (.refl s) r).across A hi) s r hi

theorem across_resume (A : Across true true wf I (fun _ _ => True) R) (s : State) (c : CoSt) (hi : I s) :
    R s (c.resume s).1 :=
  resume_rel (fun s _ => A.refl s) A.trans A.keep (across_addPageCore A) (across_cacheStubs A)
    (fun s n hi => A.setCrawled s ⟨[], false, n, false⟩ hi trivial)
    (fun s r hi => (built_ruleStart (.refl s) r).across A hi) s c hi

end Sections

/-- `g 0 + … + g (n - 1)` -/
def cf_sumTo (g : Nat → Nat) : Nat → Nat
  | 0 => 0
  | n + 1 => cf_sumTo g n + g n

theorem cf_sumTo_range (g : Nat → Nat) : ∀ n, ((List.range n).map g).sum = cf_sumTo g n
  | 0 => rfl
  | n + 1 => by
    rw [List.range_succ, List.map_append, List.sum_append, cf_sumTo_range g n]
    simp only [cf_sumTo, List.map_cons, List.map_nil, List.sum_cons, List.sum_nil, Nat.add_zero]

theorem cf_sumTo_congr {g g' : Nat → Nat} (n : Nat) (h : ∀ a, a < n → g' a = g a) : cf_sumTo g' n = cf_sumTo g n := by
  induction n with
  | zero => rfl
  | succ n ih =>
    simp only [cf_sumTo]
    rw [ih (fun a ha => h a (by omega)), h n (by omega)]

end Traph
