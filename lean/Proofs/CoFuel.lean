import Proofs.CoSchedules
import Proofs.Resolve
/-! C16 — the fuel of the two query machines whose section fuel is recomputed from the CURRENT index
    (`CoSt.pages`, `CoSt.net`). Here the page query `get_webentity_pages_iter` (the network query rests on
    `Proofs/CoFuelNet`; its fuel theorems are in `Proofs/CoNetFold`).

    A section is a loop of iterations (`pagesIter_cases`, `pages_section` of `Proofs/CoQuery`), each of which opens a
    prefix or pops a block. In a represented tree a block has at most one referrer, in one slot (`cf_edges`, `cf_par_unique`), so the
    blocks held by the traversal and the blocks already expanded are DISTINCT blocks of the tree (ghost invariant
    `cf_PI`, closed under "referred to by an expanded block" up to the prefix nodes; stable under the sections of all
    other generators, `.mono`): under one prefix a block is popped once. With the ghosts reset when a prefix is opened
    (`cf_PagesInv`, which holds initially for every well-formed prefix list) the constant of the model,
    `(trie.size + 1) * (prefixes.length + 1)`, suffices for ARBITRARY prefixes (equal, nested, …):
    `cf_pagesResume_fuel_general`, `cf_pagesResume_fuel`. Hence, for every schedule, whatever the other generators
    are, the page query never fails except with `TraphException` (prefix not in the index): `cf_C16_pages_query_failures`,
    `cf_C16_pages_query_no_fuel` (instances of `Reader.sched`).

    Why a product and not a sum: the additive constant `cf_oldFuel = trie.size + prefixes.length + 2` suffices when
    the prefixes are pairwise not prefixes of one another (`cf_Apart`; invariant `cf_PagesInvA`, ghosts kept across
    prefixes; `cf_old_pagesResume_fuel`), and does NOT otherwise: `cf_old_pages_fuel_insufficient_dup`,
    `cf_old_pages_fuel_insufficient_nested` (kernel-checked witnesses; Python has no fuel — the atomic request of the
    model answers `[]` there). -/
namespace Traph
open State Layout

def cf_edgeTo (a : Nat) (sl : Slot) : T → List (Nat × Slot × Nat)
  | .nil => []
  | .node b _ _ _ => [(a, sl, b)]

/-- the pointers of the tree: (referring block, slot, block referred to) -/
def cf_edges : T → List (Nat × Slot × Nat)
  | .nil => []
  | .node a l c r =>
    (cf_edgeTo a .L l ++ cf_edges l) ++ (cf_edgeTo a .C c ++ cf_edges c) ++ (cf_edgeTo a .R r ++ cf_edges r)

theorem cf_edges_targets (a : Nat) (sl : Slot) : ∀ u : T,
    (cf_edgeTo a sl u ++ cf_edges u).map (·.2.2) = u.addrs
  | .nil => rfl
  | .node b l c r => by
    have hl := cf_edges_targets b .L l
    have hc := cf_edges_targets b .C c
    have hr := cf_edges_targets b .R r
    show (([(a, sl, b)] : List (Nat × Slot × Nat)) ++ ((cf_edgeTo b .L l ++ cf_edges l) ++ (cf_edgeTo b .C c ++ cf_edges c) ++
      (cf_edgeTo b .R r ++ cf_edges r))).map (·.2.2) = b :: (l.addrs ++ c.addrs ++ r.addrs)
    rw [List.map_append, List.map_append, List.map_append, hl, hc, hr]
    rfl

theorem cf_edges_nodup {u : T} (hnd : u.addrs.Nodup) : ((cf_edges u).map (·.2.2)).Nodup := by
  cases u with
  | nil => simp [cf_edges]
  | node b l c r =>
    have h := cf_edges_targets 0 .L (.node b l c r)
    simp only [cf_edgeTo, List.cons_append, List.nil_append, List.map_cons] at h
    rw [← h] at hnd
    exact (List.nodup_cons.mp hnd).2

theorem cf_edges_not_root {u : T} (hnd : u.addrs.Nodup) (e : Nat × Slot × Nat) (he : e ∈ cf_edges u) :
    e.2.2 ≠ u.root := by
  cases u with
  | nil => simp [cf_edges] at he
  | node b l c r =>
    have h := cf_edges_targets 0 .L (.node b l c r)
    simp only [cf_edgeTo, List.cons_append, List.nil_append, List.map_cons] at h
    rw [← h] at hnd
    have := (List.nodup_cons.mp hnd).1
    intro e'
    apply this
    simp only [T.root_node] at e'
    exact List.mem_map.mpr ⟨e, he, e'⟩

theorem cf_edgeTo_mem {s : State} {u : T} (hr : Rep s u) (a : Nat) (sl : Slot) (hne : u.root ≠ 0) :
    (a, sl, u.root) ∈ cf_edgeTo a sl u := by
  cases u with
  | nil => simp at hne
  | node b l c r => simp [cf_edgeTo]

theorem cf_edges_mem {s : State} : ∀ (u : T), Rep s u → ∀ (y : Nat) (sl : Slot), y ∈ u.addrs →
    (s.cell y).slot sl ≠ 0 → (y, sl, (s.cell y).slot sl) ∈ cf_edges u
  | .nil, _, y, _, hy, _ => nomatch hy
  | .node a l c r, hr, y, sl, hy, hne => by
    have hce := Rep.cell_eq hr
    obtain ⟨_, _, rl, rc, rr⟩ := hr
    simp only [cf_edges, List.mem_append]
    rcases T.mem_addrs_node.mp hy with rfl | hy | hy | hy
    · cases sl with
      | L =>
        simp only [Cell.slot] at hne ⊢
        rw [hce.1] at hne ⊢
        exact Or.inl (Or.inl (Or.inl (cf_edgeTo_mem rl _ _ hne)))
      | C =>
        simp only [Cell.slot] at hne ⊢
        rw [hce.2.1] at hne ⊢
        exact Or.inl (Or.inr (Or.inl (cf_edgeTo_mem rc _ _ hne)))
      | R =>
        simp only [Cell.slot] at hne ⊢
        rw [hce.2.2] at hne ⊢
        exact Or.inr (Or.inl (cf_edgeTo_mem rr _ _ hne))
    · exact Or.inl (Or.inl (Or.inr (cf_edges_mem l rl y sl hy hne)))
    · exact Or.inl (Or.inr (Or.inr (cf_edges_mem c rc y sl hy hne)))
    · exact Or.inr (Or.inr (cf_edges_mem r rr y sl hy hne))

/-- `y` refers to `x` in slot `sl` -/
def cf_Par (s : State) (y : Nat) (sl : Slot) (x : Nat) : Prop := x ≠ 0 ∧ (s.cell y).slot sl = x

theorem cf_par_unique {s : State} {t : T} (h : Shape s t) {y y' x : Nat} {sl sl' : Slot}
    (hy : y ∈ t.addrs) (hy' : y' ∈ t.addrs) (p : cf_Par s y sl x) (p' : cf_Par s y' sl' x) :
    y = y' ∧ sl = sl' := by
  have e1 := cf_edges_mem t h.rep y sl hy (by rw [p.2]; exact p.1)
  have e2 := cf_edges_mem t h.rep y' sl' hy' (by rw [p'.2]; exact p'.1)
  rw [p.2] at e1
  rw [p'.2] at e2
  have := nodup_map_inj (·.2.2) _ (cf_edges_nodup h.nodup) _ e1 _ e2 rfl
  simp only [Prod.mk.injEq, and_true] at this
  exact this

theorem cf_Par.mono {s s' : State} {y x : Nat} {sl : Slot} (le : s ⊑ s') (hy : y < s.trie.size)
    (p : cf_Par s y sl x) : cf_Par s' y sl x := by
  have cl := le.cell_le y hy
  refine ⟨p.1, ?_⟩
  obtain ⟨hne, e⟩ := p
  cases sl with
  | L => simp only [Cell.slot] at e ⊢; rw [cl.left (by rw [e]; exact hne), e]
  | C => simp only [Cell.slot] at e ⊢; rw [cl.child (by rw [e]; exact hne), e]
  | R => simp only [Cell.slot] at e ⊢; rw [cl.right (by rw [e]; exact hne), e]

def cf_Apart (a b : LRU) : Prop := ¬ a <+: b ∧ ¬ b <+: a

theorem cf_pairwise_ne {l : List LRU} (h : l.Pairwise cf_Apart) {a b : LRU} (ha : a ∈ l) (hb : b ∈ l) (hne : a ≠ b) :
    cf_Apart a b := by
  induction l with
  | nil => simp at ha
  | cons x xs ih =>
    rw [List.pairwise_cons] at h
    rcases List.mem_cons.mp ha with ea | ha' <;> rcases List.mem_cons.mp hb with eb | hb'
    · exact absurd (ea.trans eb.symm) hne
    · rw [ea]; exact h.1 b hb'
    · rw [eb]; exact ⟨(h.1 a ha').2, (h.1 a ha').1⟩
    · exact ih h.2 ha' hb'

/-- the ghost part of the local invariant of the page query. `front` : the blocks still to be expanded or
    popped (the block of the stale copy first); `V` : the blocks already expanded; `opened` : the paths of the
    prefixes opened so far, `cur` the last of them. The blocks of `front ++ V` are distinct; each is the node
    of an opened prefix or is referred to by a block of `V`. -/
structure cf_PI (s : State) (t : T) (prefixes : List Bytes) (start : Nat) (front V : List Nat)
    (opened : List LRU) (cur : LRU) : Prop where
  nd    : (front ++ V).Nodup
  apart : (opened ++ prefixes.map lruIter).Pairwise cf_Apart
  wf    : ∀ pf ∈ prefixes, lruIter pf ≠ []
  live  : ∀ b ∈ front, ∃ q, (q, b) ∈ t.entries s [] ∧ cur <+: q ∧ (cur, start) ∈ t.entries s [] ∧ cur ∈ opened
  clos  : ∀ x ∈ front ++ V, ∃ q, (q, x) ∈ t.entries s [] ∧ ∃ P ∈ opened, P <+: q ∧
            (q = P ∨ ∃ y ∈ V, ∃ sl, cf_Par s y sl x)

theorem cf_PI.mono {s s' : State} {t t' : T} {prefixes : List Bytes} {start : Nat} {front V : List Nat}
    {opened : List LRU} {cur : LRU} (h : Shape s t) (x : Ext s t s' t') (le : s ⊑ s')
    (hp : cf_PI s t prefixes start front V opened cur) : cf_PI s' t' prefixes start front V opened cur where
  nd := hp.nd
  apart := hp.apart
  wf := hp.wf
  live := fun b hb => by
    obtain ⟨q, h1, h2, h3, h4⟩ := hp.live b hb
    exact ⟨q, x.keep _ _ h1, h2, x.keep _ _ h3, h4⟩
  clos := fun y hy => by
    obtain ⟨q, h1, P, hP, h2, h3⟩ := hp.clos y hy
    refine ⟨q, x.keep _ _ h1, P, hP, h2, ?_⟩
    rcases h3 with h3 | ⟨z, hz, sl, hpar⟩
    · exact Or.inl h3
    · obtain ⟨qz, hz1, _⟩ := hp.clos z (List.mem_append_right _ hz)
      exact Or.inr ⟨z, hz, sl, hpar.mono le (entry_lt h hz1)⟩

theorem cf_PI.length_le {s : State} {t : T} {prefixes : List Bytes} {start : Nat} {front V : List Nat}
    {opened : List LRU} {cur : LRU} (h : Shape s t)
    (hp : cf_PI s t prefixes start front V opened cur) : front.length + V.length ≤ s.trie.size := by
  rw [← List.length_append]
  refine nodup_length_le _ _ hp.nd (fun x hx => ?_)
  obtain ⟨q, h1, _⟩ := hp.clos x hx
  exact entry_lt h h1

theorem cf_PI.open {s : State} {t : T} {pf : Bytes} {more : List Bytes} {start : Nat} {V : List Nat}
    {opened : List LRU} {cur : LRU} (h : Shape s t)
    (hp : cf_PI s t (pf :: more) start [] V opened cur) {n : Nat} (hn : s.lruNode (lruIter pf) = some n) :
    cf_PI s t more n [n] V (opened ++ [lruIter pf]) (lruIter pf) := by
  have hne := hp.wf pf (by simp)
  have hent : (lruIter pf, n) ∈ t.entries s [] := (lruNode_iff_entries h _ hne n).mp hn
  have hap := hp.apart
  rw [List.map_cons, List.pairwise_append] at hap
  refine ⟨?_, ?_, fun x hx => hp.wf x (List.mem_cons_of_mem _ hx), ?_, ?_⟩
  · rw [List.singleton_append, List.nodup_cons]
    refine ⟨fun hV => ?_, by simpa using hp.nd⟩
    obtain ⟨q, h1, P, hP, h2, _⟩ := hp.clos n (by simpa using hV)
    have := entries_addr_injective h.nodup h1 hent
    subst this
    exact (hap.2.2 P hP _ (by simp)).1 h2
  · rw [List.append_assoc, List.singleton_append]
    exact hp.apart
  · intro b hb
    simp only [List.mem_singleton] at hb
    subst hb
    exact ⟨_, hent, List.prefix_rfl, hent, by simp⟩
  · intro x hx
    rw [List.singleton_append, List.mem_cons] at hx
    rcases hx with rfl | hx
    · exact ⟨_, hent, _, by simp, List.prefix_rfl, Or.inl rfl⟩
    · obtain ⟨q, h1, P, hP, h2, h3⟩ := hp.clos x (by simpa using hx)
      exact ⟨q, h1, P, List.mem_append_left _ hP, h2, h3⟩

theorem cf_mem_opt {α : Type} {c : Prop} [Decidable c] {x y : α} {M : List α} :
    x ∈ (if c then [y] else []) ++ M ↔ (c ∧ x = y) ∨ x ∈ M := by
  by_cases hc : c <;> simp [hc]

theorem cf_nodup_opt {α : Type} {c : Prop} [Decidable c] {y : α} {M : List α} (hM : M.Nodup) (hy : c → y ∉ M) :
    ((if c then [y] else []) ++ M).Nodup := by
  by_cases hc : c
  · simp only [hc, if_true, List.singleton_append, List.nodup_cons]; exact ⟨hy hc, hM⟩
  · simpa [hc] using hM

/-- the blocks `b` refers to in its three slots, each new, are pushed in front of `F` and `b` joins the expanded
    blocks `V`: the blocks stay distinct (a block has one referrer, in one slot) -/
theorem cf_push_nodup {s : State} {t : T} (h : Shape s t) {b : Nat} (hb : b ∈ t.addrs) {F V : List Nat}
    (hnd : ((b :: F) ++ V).Nodup) {c1 c2 c3 : Prop} [Decidable c1] [Decidable c2] [Decidable c3] {x1 x2 x3 : Nat}
    (p1 : c1 → cf_Par s b .C x1) (p2 : c2 → cf_Par s b .L x2) (p3 : c3 → cf_Par s b .R x3)
    (f1 : c1 → x1 ∉ (b :: F) ++ V) (f2 : c2 → x2 ∉ (b :: F) ++ V) (f3 : c3 → x3 ∉ (b :: F) ++ V) :
    (((if c1 then [x1] else []) ++ ((if c2 then [x2] else []) ++ ((if c3 then [x3] else []) ++ F))) ++ b :: V).Nodup := by
  have dif : ∀ {sl sl' : Slot} {x x' : Nat}, cf_Par s b sl x → cf_Par s b sl' x' → x = x' → sl = sl' :=
    fun p p' e => (cf_par_unique h hb hb p (e ▸ p')).2
  simp only [List.append_assoc]
  refine cf_nodup_opt (cf_nodup_opt (cf_nodup_opt (List.perm_middle.nodup_iff.mpr hnd) ?_) ?_) ?_
  · exact fun hc hx => f3 hc (List.perm_middle.mem_iff.mp hx)
  · intro hc hx
    rcases cf_mem_opt.mp hx with ⟨hc3, e⟩ | hx
    · exact Slot.noConfusion (dif (p2 hc) (p3 hc3) e)
    · exact f2 hc (List.perm_middle.mem_iff.mp hx)
  · intro hc hx
    rcases cf_mem_opt.mp hx with ⟨hc2, e⟩ | hx
    · exact Slot.noConfusion (dif (p1 hc) (p2 hc2) e)
    rcases cf_mem_opt.mp hx with ⟨hc3, e⟩ | hx
    · exact Slot.noConfusion (dif (p1 hc) (p3 hc3) e)
    · exact f1 hc (List.perm_middle.mem_iff.mp hx)

theorem cf_push_mem {b : Nat} {F V : List Nat} {c1 c2 c3 : Prop} [Decidable c1] [Decidable c2] [Decidable c3]
    {x1 x2 x3 x : Nat} :
    x ∈ ((if c1 then [x1] else []) ++ ((if c2 then [x2] else []) ++ ((if c3 then [x3] else []) ++ F))) ++ b :: V ↔
      (c1 ∧ x = x1) ∨ (c2 ∧ x = x2) ∨ (c3 ∧ x = x3) ∨ x ∈ (b :: F) ++ V := by
  rw [List.append_assoc, cf_mem_opt, List.append_assoc, cf_mem_opt, List.append_assoc, cf_mem_opt,
    List.perm_middle.mem_iff]
  rfl

/-- expanding block `b`: its non-null pointers are pushed (the siblings only below the prefix node), `b`
    joins `V` -/
theorem cf_PI.expand {s : State} {t : T} {prefixes : List Bytes} {start b : Nat} {F V : List Nat}
    {opened : List LRU} {cur : LRU} (h : Shape s t)
    (hp : cf_PI s t prefixes start (b :: F) V opened cur) {c1 c2 c3 : Prop} [Decidable c1] [Decidable c2] [Decidable c3]
    {x1 x2 x3 : Nat} (h1 : c1 → cf_Par s b .C x1) (h2 : c2 → cf_Par s b .L x2 ∧ b ≠ start)
    (h3 : c3 → cf_Par s b .R x3 ∧ b ≠ start) :
    cf_PI s t prefixes start ((if c1 then [x1] else []) ++ ((if c2 then [x2] else []) ++ ((if c3 then [x3] else []) ++ F)))
      (b :: V) opened cur := by
  obtain ⟨qb, hb1, hb2, hb3, hb4⟩ := hp.live b (by simp)
  have hbA : b ∈ t.addrs := entries_addr_mem _ _ _ _ hb1
  obtain ⟨q0, eqb, f1, f2, f3⟩ := entries_last_and_ptrs t [] qb b h.rep hb1
  -- below the prefix node the parent's path is still below the prefix
  have hside : b ≠ start → cur <+: q0 := fun hbs => by
    rw [eqb] at hb2
    rcases List.prefix_concat_iff.mp hb2 with e | e
    · rw [← eqb] at e
      rw [e] at hb3
      exact absurd (entries_path_injective h.ord h.nodup hb1 hb3) hbs
    · exact e
  -- where a block referred to by `b` lives
  have key : ∀ sl x, cf_Par s b sl x → (sl = .C ∨ b ≠ start) → ∃ q z, (q ++ [z], x) ∈ t.entries s [] ∧ cur <+: q := by
    rintro sl x ⟨hx0, rfl⟩ hsl
    cases sl with
    | C => exact ⟨qb, _, f3 hx0, hb2⟩
    | L => exact ⟨q0, _, f1 hx0, hside (hsl.resolve_left (fun e => nomatch e))⟩
    | R => exact ⟨q0, _, f2 hx0, hside (hsl.resolve_left (fun e => nomatch e))⟩
  have hbV : b ∉ V := fun hv => (List.nodup_cons.mp hp.nd).1 (List.mem_append_right _ hv)
  have fresh : ∀ sl x, cf_Par s b sl x → (sl = .C ∨ b ≠ start) → x ∉ (b :: F) ++ V := by
    intro sl x hpar hsl hx
    obtain ⟨q, z, hq, hcur⟩ := key sl x hpar hsl
    obtain ⟨q', hq', P, hP, hPq, hcl⟩ := hp.clos x hx
    cases entries_addr_injective h.nodup hq' hq
    rcases hcl with e | ⟨y, hy, sl', hpar'⟩
    · have hne : cur ≠ P := by
        intro e'
        have := (e'.trans e.symm ▸ hcur).length_le
        simp at this
        omega
      apply (cf_pairwise_ne hp.apart (List.mem_append_left _ hb4) (List.mem_append_left _ hP) hne).1
      rw [← e]
      exact hcur.trans (List.prefix_append _ _)
    · obtain ⟨qy, hy1, _⟩ := hp.clos y (List.mem_append_right _ hy)
      cases (cf_par_unique h (entries_addr_mem _ _ _ _ hy1) hbA hpar' hpar).1
      exact hbV hy
  -- a block just pushed is below the current prefix and referred to by `b`
  have new : ∀ sl x, cf_Par s b sl x → (sl = .C ∨ b ≠ start) →
      ∃ q, (q, x) ∈ t.entries s [] ∧ cur <+: q ∧ ∃ y ∈ b :: V, ∃ sl, cf_Par s y sl x := by
    intro sl x hpar hsl
    obtain ⟨q, z, hq, hcur⟩ := key sl x hpar hsl
    exact ⟨_, hq, hcur.trans (List.prefix_append _ _), b, List.mem_cons_self .., sl, hpar⟩
  refine ⟨cf_push_nodup h hbA hp.nd h1 (fun hc => (h2 hc).1) (fun hc => (h3 hc).1)
    (fun hc => fresh _ _ (h1 hc) (.inl rfl)) (fun hc => fresh _ _ (h2 hc).1 (.inr (h2 hc).2))
    (fun hc => fresh _ _ (h3 hc).1 (.inr (h3 hc).2)), hp.apart, hp.wf, fun x hx => ?_, fun x hx => ?_⟩
  · have live : ∀ sl x, cf_Par s b sl x → (sl = .C ∨ b ≠ start) →
        ∃ q, (q, x) ∈ t.entries s [] ∧ cur <+: q ∧ (cur, start) ∈ t.entries s [] ∧ cur ∈ opened := fun sl x hpar hsl =>
      have ⟨q, hq, hcur, _⟩ := new sl x hpar hsl
      ⟨q, hq, hcur, hb3, hb4⟩
    rcases cf_mem_opt.mp hx with ⟨hc, rfl⟩ | hx
    · exact live _ _ (h1 hc) (.inl rfl)
    rcases cf_mem_opt.mp hx with ⟨hc, rfl⟩ | hx
    · exact live _ _ (h2 hc).1 (.inr (h2 hc).2)
    rcases cf_mem_opt.mp hx with ⟨hc, rfl⟩ | hx
    · exact live _ _ (h3 hc).1 (.inr (h3 hc).2)
    exact hp.live x (List.mem_cons_of_mem _ hx)
  · have clos : ∀ sl x, cf_Par s b sl x → (sl = .C ∨ b ≠ start) → ∃ q, (q, x) ∈ t.entries s [] ∧ ∃ P ∈ opened, P <+: q ∧
        (q = P ∨ ∃ y ∈ b :: V, ∃ sl, cf_Par s y sl x) := fun sl x hpar hsl =>
      have ⟨q, hq, hcur, hy⟩ := new sl x hpar hsl
      ⟨q, hq, cur, hb4, hcur, .inr hy⟩
    rcases cf_push_mem.mp hx with ⟨hc, rfl⟩ | ⟨hc, rfl⟩ | ⟨hc, rfl⟩ | hx
    · exact clos _ _ (h1 hc) (.inl rfl)
    · exact clos _ _ (h2 hc).1 (.inr (h2 hc).2)
    · exact clos _ _ (h3 hc).1 (.inr (h3 hc).2)
    · obtain ⟨q, hq, P, hP, hPq, hcl⟩ := hp.clos x hx
      exact ⟨q, hq, P, hP, hPq, hcl.imp id fun ⟨y, hy, hpar⟩ => ⟨y, List.mem_cons_of_mem _ hy, hpar⟩⟩

theorem cf_weDfsPush_map (start b : Nat) (lru cur : Bytes) (lvl : Nat) (c : Cell) (stack : List (Nat × Bytes × Nat)) :
    (weDfsPush start b lru cur lvl c stack).map (·.1) =
      (if (b = start ∨ c.we = 0) ∧ c.child ≠ 0 then [c.child] else []) ++
        ((if b ≠ start ∧ c.left ≠ 0 then [c.left] else []) ++
          ((if b ≠ start ∧ c.right ≠ 0 then [c.right] else []) ++ stack.map (·.1))) := by
  unfold weDfsPush
  simp only [Bool.and_eq_true, Bool.or_eq_true, decide_eq_true_eq, map_ite_cons]
  by_cases h1 : b = start
  · simp only [h1, ne_eq, not_true_eq_false, if_false, false_and, List.nil_append]
  · simp only [h1, ne_eq, not_false_eq_true, if_true, true_and, map_ite_cons]

/-- what `expand` needs about the pointers of a copy `c` of block `b` that is below the block's contents -/
theorem cf_PI.expand_copy {s : State} {t : T} {prefixes : List Bytes} {start b : Nat} {F V : List Nat}
    {opened : List LRU} {cur : LRU} (h : Shape s t)
    (hp : cf_PI s t prefixes start (b :: F) V opened cur) {c : Cell} (cl : CellLe c (s.cell b)) :
    cf_PI s t prefixes start
      ((if (b = start ∨ c.we = 0) ∧ c.child ≠ 0 then [c.child] else []) ++
        ((if b ≠ start ∧ c.left ≠ 0 then [c.left] else []) ++
          ((if b ≠ start ∧ c.right ≠ 0 then [c.right] else []) ++ F))) (b :: V) opened cur :=
  hp.expand h (fun hc => ⟨hc.2, cl.child hc.2⟩) (fun hc => ⟨⟨hc.2, cl.left hc.2⟩, hc.1⟩)
    (fun hc => ⟨⟨hc.2, cl.right hc.2⟩, hc.1⟩)

def cf_pendBlock (p : PagesSt) : List Nat :=
  match p.pend with
  | some (b, _, _, _, _) => [b]
  | none => []

/-- the block of the stale copy (to be expanded when the query is resumed), then the blocks of the stack -/
def cf_front (p : PagesSt) : List Nat := cf_pendBlock p ++ p.stack.map (·.1)

structure cf_PInv (s : State) (t : T) (p : PagesSt) (V : List Nat) (opened : List LRU) (cur : LRU) : Prop where
  pi     : cf_PI s t p.prefixes p.start (cf_front p) V opened cur
  pendle : ∀ b lru cu lvl c, p.pend = some (b, lru, cu, lvl, c) → CellLe c (s.cell b)

/-- the local invariant of the page query under which the additive constant `cf_oldFuel` suffices (independent of `PagesOk`): the
    blocks the traversal still holds and the blocks it has expanded SINCE THE START are distinct blocks of the tree,
    closed under "is referred to by an expanded block" up to the prefix nodes; the prefixes (opened and to come) are
    pairwise not prefixes of one another -/
def cf_PagesInvA (s : State) (t : T) (p : PagesSt) : Prop := ∃ V opened cur, cf_PInv s t p V opened cur

theorem cf_PagesInvA.mono {s s' : State} {t t' : T} {p : PagesSt} (h : Shape s t) (x : Ext s t s' t') (le : s ⊑ s')
    (hp : cf_PagesInvA s t p) : cf_PagesInvA s' t' p := by
  obtain ⟨V, opened, cur, hpi, hle⟩ := hp
  refine ⟨V, opened, cur, hpi.mono h x le, fun b lru cu lvl c e => ?_⟩
  have hb : b ∈ cf_front p := by simp [cf_front, cf_pendBlock, e]
  obtain ⟨q, h1, _⟩ := hpi.live b hb
  exact (hle b lru cu lvl c e).trans (le.cell_le b (entry_lt h h1))

theorem cf_PagesInvA.init (s : State) (t : T) (prefixes : List Bytes) (hwf : ∀ pf ∈ prefixes, lruIter pf ≠ [])
    (hap : (prefixes.map lruIter).Pairwise cf_Apart) : cf_PagesInvA s t { prefixes := prefixes } :=
  ⟨[], [], [], ⟨by simp [cf_front, cf_pendBlock], by simpa using hap, hwf, fun b hb => by simp [cf_front, cf_pendBlock] at hb,
    fun b hb => by simp [cf_front, cf_pendBlock] at hb⟩, fun _ _ _ _ _ e => by simp at e⟩

/-- expanding the stale copy: the state the next section starts from -/
theorem cf_PI.norm {s : State} {t : T} {p : PagesSt} {ps : List Bytes} {V : List Nat} {opened : List LRU} {cur : LRU}
    (h : Shape s t) (hpi : cf_PI s t ps p.start (cf_front p) V opened cur)
    (hle : ∀ b lru cu lvl c, p.pend = some (b, lru, cu, lvl, c) → CellLe c (s.cell b)) :
    ∃ V', V.length ≤ V'.length ∧ cf_PI s t ps p.start (p.pending.map (·.1)) V' opened cur := by
  unfold PagesSt.pending
  cases hpe : p.pend with
  | none =>
    simp only
    refine ⟨V, Nat.le_refl _, ?_⟩
    have : cf_front p = p.stack.map (·.1) := by simp [cf_front, cf_pendBlock, hpe]
    rw [this] at hpi
    exact hpi
  | some x =>
    obtain ⟨b, lru, cu, lvl, c⟩ := x
    simp only
    refine ⟨b :: V, by simp, ?_⟩
    have : cf_front p = b :: p.stack.map (·.1) := by simp [cf_front, cf_pendBlock, hpe]
    rw [this] at hpi
    rw [cf_weDfsPush_map]
    exact hpi.expand_copy h (hle b lru cu lvl c hpe)

/-- an additive bound on the iterations of a section of the page query; NOT the constant `CoSt.resume` grants -/
def cf_oldFuel (s : State) (p : PagesSt) : Nat := s.trie.size + p.prefixes.length + 2

/-- the additive constant is sufficient for one section of the page query in any state of the machine
    satisfying `cf_PagesInvA` (which holds initially when the prefixes are pairwise not prefixes of one another, is
    stable under the sections of all other generators, and is re-established here) — and only then:
    `cf_old_pages_fuel_insufficient_*` -/
theorem cf_old_pagesResume_fuel {s : State} {t : T} {p : PagesSt} (h : Shape s t) (hp : cf_PagesInvA s t p) :
    (pagesResume (cf_oldFuel s p) s p).2 ≠ .failed (.other "fuel") ∧
    ((pagesResume (cf_oldFuel s p) s p).2 = .yielded →
      cf_PagesInvA s t (pagesResume (cf_oldFuel s p) s p).1) := by
  obtain ⟨V, opened, cur, hinv⟩ := hp
  obtain ⟨V', hV, hpi⟩ := hinv.pi.norm h hinv.pendle
  -- every iteration opens a prefix or expands a block, the ghosts kept across prefixes
  refine pages_section
    (fun F p => ∃ V opened cur, cf_PI s t p.prefixes p.start (p.stack.map Prod.fst) V opened cur ∧
      s.trie.size + p.prefixes.length + 1 ≤ F + V.length)
    (fun p o => o ≠ .failed (.other "fuel") ∧ (o = .yielded → cf_PagesInvA s t p)) ?_ ?_ _ p
    ⟨V', opened, cur, hpi, by show _ + p.prefixes.length + 1 ≤ cf_oldFuel s p + _; unfold cf_oldFuel; omega⟩
  · rintro p ⟨V, opened, cur, hp, hF⟩
    have := hp.length_le h
    omega
  · rintro F prefixes start stack pages ⟨V, opened, cur, hp, hF⟩
    refine pagesIter_cases (fun _ _ => ⟨nofun, nofun⟩) (fun _ _ _ _ _ => ⟨nofun, nofun⟩) ?_ ?_ ?_
    · rintro pf more n rfl rfl hn
      exact ⟨rfl, V, _, _, hp.open h hn, by simp only [List.length_cons] at hF ⊢; omega⟩
    · rintro b lru lvl rest rfl _ _
      exact ⟨nofun, fun _ => ⟨V, opened, cur, hp, by rintro _ _ _ _ _ ⟨⟩; exact CellLe.refl _⟩⟩
    · rintro b lru lvl rest rfl _
      refine ⟨rfl, b :: V, opened, cur, ?_, by simp only [List.length_cons] at hF ⊢; omega⟩
      rw [cf_weDfsPush_map]
      exact hp.expand_copy h (CellLe.refl (s.cell b))

/-- **the local invariant of the page query** (independent of `PagesOk`), without any hypothesis on the prefixes
    (only well-formedness): the blocks the traversal still holds and the blocks it has expanded under the CURRENT
    prefix are distinct blocks of the tree — popped once (the ghosts are reset when a prefix is opened) -/
def cf_PagesInv (s : State) (t : T) (p : PagesSt) : Prop :=
  (∀ pf ∈ p.prefixes, lruIter pf ≠ []) ∧
  (∀ b lru cu lvl c, p.pend = some (b, lru, cu, lvl, c) → CellLe c (s.cell b)) ∧
  ∃ V cur, cf_PI s t [] p.start (cf_front p) V [cur] cur

theorem cf_PagesInv.mono {s s' : State} {t t' : T} {p : PagesSt} (h : Shape s t) (x : Ext s t s' t') (le : s ⊑ s')
    (hp : cf_PagesInv s t p) : cf_PagesInv s' t' p := by
  obtain ⟨hwf, hle, V, cur, hpi⟩ := hp
  refine ⟨hwf, fun b lru cu lvl c e => ?_, V, cur, hpi.mono h x le⟩
  have hb : b ∈ cf_front p := by simp [cf_front, cf_pendBlock, e]
  obtain ⟨q, h1, _⟩ := hpi.live b hb
  exact (hle b lru cu lvl c e).trans (le.cell_le b (entry_lt h h1))

theorem cf_PagesInv.init (s : State) (t : T) (prefixes : List Bytes) (hwf : ∀ pf ∈ prefixes, lruIter pf ≠ []) :
    cf_PagesInv s t { prefixes := prefixes } :=
  ⟨hwf, fun _ _ _ _ _ e => by simp at e, [], [], by simp [cf_front, cf_pendBlock], by simp, fun _ h => by simp at h,
    fun b hb => by simp [cf_front, cf_pendBlock] at hb, fun b hb => by simp [cf_front, cf_pendBlock] at hb⟩

/-- **the fuel that suffices for one section of the page query whatever the prefixes** (equal, nested, …):
    every `F ≥ (trie.size + 1) * (prefixes.length + 1)`, recomputed from the current index -/
theorem cf_pagesResume_fuel_general {s : State} {t : T} {p : PagesSt} (h : Shape s t) (hp : cf_PagesInv s t p)
    (F : Nat) (hF : (s.trie.size + 1) * (p.prefixes.length + 1) ≤ F) :
    (pagesResume F s p).2 ≠ .failed (.other "fuel") ∧
    ((pagesResume F s p).2 = .yielded → cf_PagesInv s t (pagesResume F s p).1) := by
  obtain ⟨hwf, hle, V, cur, hpi⟩ := hp
  obtain ⟨V', hV, hpi'⟩ := hpi.norm h hle
  -- every iteration opens a prefix, which takes the ghosts back to nothing, or expands a block
  refine pages_section
    (fun F p => (∀ pf ∈ p.prefixes, lruIter pf ≠ []) ∧ ∃ V cur, cf_PI s t [] p.start (p.stack.map Prod.fst) V [cur] cur ∧
      (s.trie.size + 1) * p.prefixes.length + s.trie.size + 1 ≤ F + V.length)
    (fun p o => o ≠ .failed (.other "fuel") ∧ (o = .yielded → cf_PagesInv s t p)) ?_ ?_ F p ⟨hwf, V', cur, hpi', ?_⟩
  · rintro p ⟨_, V, cur, hp, hF⟩
    have := hp.length_le h
    omega
  · rintro F prefixes start stack pages ⟨hwf, V, cur, hp, hF⟩
    refine pagesIter_cases (fun _ _ => ⟨nofun, nofun⟩) (fun _ _ _ _ _ => ⟨nofun, nofun⟩) ?_ ?_ ?_
    · rintro pf more n rfl rfl hn
      have hent : (lruIter pf, n) ∈ t.entries s [] := (lruNode_iff_entries h _ (hwf pf (by simp)) n).mp hn
      have hV := hp.length_le h
      refine ⟨rfl, fun x hx => hwf x (List.mem_cons_of_mem _ hx), [], lruIter pf, ⟨by simp, by simp, nofun, ?_, ?_⟩, ?_⟩
      · intro b hb
        cases List.mem_singleton.mp hb
        exact ⟨_, hent, List.prefix_rfl, hent, by simp⟩
      · intro b hb
        cases List.mem_singleton.mp hb
        exact ⟨_, hent, _, by simp, List.prefix_rfl, Or.inl rfl⟩
      · simp only [List.length_cons, List.length_nil, Nat.mul_add, Nat.mul_one] at hF ⊢
        omega
    · rintro b lru lvl rest rfl _ _
      exact ⟨nofun, fun _ => ⟨hwf, by rintro _ _ _ _ _ ⟨⟩; exact CellLe.refl _, V, cur, hp⟩⟩
    · rintro b lru lvl rest rfl _
      refine ⟨rfl, hwf, b :: V, cur, ?_, by simp only [List.length_cons] at hF ⊢; omega⟩
      rw [cf_weDfsPush_map]
      exact hp.expand_copy h (CellLe.refl (s.cell b))
  · simp only [Nat.mul_add, Nat.mul_one] at hF
    show _ * p.prefixes.length + _ + 1 ≤ _
    omega

/-- **fuel sufficiency for one section of the page query**, at the constant `CoSt.resume` grants, in any
    state of the machine satisfying the local invariant (which holds initially for EVERY well-formed prefix list —
    equal or nested prefixes included —, is stable under the sections of all other generators, and is re-established
    here) -/
theorem cf_pagesResume_fuel {s : State} {t : T} {p : PagesSt} (h : Shape s t) (hp : cf_PagesInv s t p) :
    (pagesResume ((s.trie.size + 1) * (p.prefixes.length + 1)) s p).2 ≠ .failed (.other "fuel") ∧
    ((pagesResume ((s.trie.size + 1) * (p.prefixes.length + 1)) s p).2 = .yielded →
      cf_PagesInv s t (pagesResume ((s.trie.size + 1) * (p.prefixes.length + 1)) s p).1) :=
  cf_pagesResume_fuel_general h hp _ (Nat.le_refl _)

/-- the failures of a section of the page query, with no hypothesis at all -/
theorem cf_pagesResume_failed (fuel : Nat) (s : State) (p : PagesSt) (e : Err)
    (he : (pagesResume fuel s p).2 = .failed e) : e = .traph ∨ e = .other "fuel" :=
  pages_section (fun _ _ => True) (fun _ o => ∀ e, o = .failed e → e = .traph ∨ e = .other "fuel")
    (fun _ _ _ he => .inr (CoOut.failed.inj he).symm)
    (fun _ _ _ _ _ _ => pagesIter_cases (fun _ _ _ he => nomatch he) (fun _ _ _ _ _ _ he => .inl (CoOut.failed.inj he).symm)
      (fun _ _ _ _ _ _ => ⟨rfl, trivial⟩) (fun _ _ _ _ _ _ _ _ he => nomatch he) (fun _ _ _ _ _ _ => ⟨rfl, trivial⟩))
    fuel p trivial e he

/-- **C16, page query, no section ever runs out of fuel**: for every schedule, whatever the other
    generators are (writers included; not even their well-formedness is needed), started from fresh
    generators on an index with the shape invariant, the page query `reqs[i] = queryPages ps` whose prefixes
    are well formed (ANY such list: equal prefixes, prefixes below one another, …) never fails, except with the
    `TraphException` of a prefix that is not in the index (and `StopIteration` if resumed after its end); in
    particular never with "fuel". (With the additive constant `cf_oldFuel` this is false without a hypothesis on the
    prefixes: `cf_old_pages_fuel_insufficient_*`.) -/
theorem cf_C16_pages_query_failures {s : State} {t : T} (hs : Shape s t) (reqs : List CoReq) (sched : Sched)
    (i : Nat) (ps : List Bytes) (hreq : reqs[i]? = some (.queryPages ps))
    (hwf : ∀ pf ∈ ps, lruIter pf ≠ []) (e : Err)
    (hm : (i, CoOut.failed e) ∈ (Sys.run (s, reqs.map CoReq.init) sched).2) :
    e = .traph ∨ e = .other "StopIteration" := by
  exact (Reader.pages.sched .shape_only (fun _ => True) cf_PagesInv (fun _ _ o => ∀ e, o = .failed e → e = .traph)
    (fun _ _ l _ _ hj => hj.mono l.shape l.ext l.le) (fun _ _ _ a => a)
    (fun h _ hj =>
      have ⟨g1, g2⟩ := cf_pagesResume_fuel h.1 hj
      ⟨fun e he => (cf_pagesResume_failed _ _ _ e he).resolve_right fun e' => g1 (e' ▸ he), g2⟩)
    sched (s, reqs.map CoReq.init) t ⟨hs, trivial⟩ i { prefixes := ps } (CoReq.init_get hreq) (cf_PagesInv.init s t ps hwf) (.trivial _ _) _ hm).elim
    (fun e => .inr (CoOut.failed.inj e)) fun ⟨_, _, _, a⟩ => .inl (a e rfl)

theorem cf_C16_pages_query_no_fuel {s : State} {t : T} (hs : Shape s t) (reqs : List CoReq) (sched : Sched)
    (i : Nat) (ps : List Bytes) (hreq : reqs[i]? = some (.queryPages ps))
    (hwf : ∀ pf ∈ ps, lruIter pf ≠ []) :
    (i, CoOut.failed (.other "fuel")) ∉ (Sys.run (s, reqs.map CoReq.init) sched).2 := fun hm => by
  rcases cf_C16_pages_query_failures hs reqs sched i ps hreq hwf _ hm with h | h
  · cases h
  · exact absurd h (by decide)

def cf_b (s : String) : Bytes := s.toList.map (·.toNat)

/-- an index holding one webentity prefix and no page -/
def cf_idx (l : String) : State := (State.fresh {} .domain [] []).1.run [.create [cf_b l]]

/-- **finding (model fuel)**: the same prefix twice. The index has 3 nodes (`trie.size = 4`); the first section
    opens `a|`, pops 3 blocks, opens `a|` again, pops the same 3 blocks, and needs a 9th iteration to return;
    `cf_oldFuel` grants `4 + 2 + 2 = 8`. The atomic request answers `[]` — and so does the machine with the constant of
    the model (`5 * 3 = 15`). -/
theorem cf_old_pages_fuel_insufficient_dup :
    (cf_idx "a|b|c|").trie.size = 4 ∧
    (pagesResume (cf_oldFuel (cf_idx "a|b|c|") { prefixes := [cf_b "a|", cf_b "a|"] }) (cf_idx "a|b|c|")
      { prefixes := [cf_b "a|", cf_b "a|"] }).2 = .failed (.other "fuel") ∧
    (pagesResume 9 (cf_idx "a|b|c|") { prefixes := [cf_b "a|", cf_b "a|"] }).2 = .done (.pages []) ∧
    (CoSt.resume (cf_idx "a|b|c|") (.pages { prefixes := [cf_b "a|", cf_b "a|"] })).2.2 = .done (.pages []) ∧
    (cf_idx "a|b|c|").ask (.pages [cf_b "a|", cf_b "a|"]) = .pages [] := by decide +kernel

/-- **finding (model fuel)**: two different prefixes, one below the other (4 nodes, `trie.size = 5`: 1 + 4 + 1 + 3 + 1
    = 10 iterations, 9 granted by `cf_oldFuel`; `6 * 3 = 18` by the model) -/
theorem cf_old_pages_fuel_insufficient_nested :
    (cf_idx "a|b|c|d|").trie.size = 5 ∧
    (pagesResume (cf_oldFuel (cf_idx "a|b|c|d|") { prefixes := [cf_b "a|", cf_b "a|b|"] }) (cf_idx "a|b|c|d|")
      { prefixes := [cf_b "a|", cf_b "a|b|"] }).2 = .failed (.other "fuel") ∧
    (pagesResume 10 (cf_idx "a|b|c|d|") { prefixes := [cf_b "a|", cf_b "a|b|"] }).2 = .done (.pages []) ∧
    (CoSt.resume (cf_idx "a|b|c|d|") (.pages { prefixes := [cf_b "a|", cf_b "a|b|"] })).2.2 = .done (.pages []) ∧
    (cf_idx "a|b|c|d|").ask (.pages [cf_b "a|", cf_b "a|b|"]) = .pages [] := by decide +kernel

#print axioms cf_old_pagesResume_fuel
#print axioms cf_pagesResume_fuel
#print axioms cf_pagesResume_fuel_general
#print axioms cf_C16_pages_query_failures
#print axioms cf_C16_pages_query_no_fuel
#print axioms cf_old_pages_fuel_insufficient_dup
#print axioms cf_old_pages_fuel_insufficient_nested

end Traph
