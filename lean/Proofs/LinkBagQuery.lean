import Proofs.LinkBagRun
import Proofs.LinkBagPar
import Proofs.LinkRead
/-! C03, what the link queries report in a state satisfying the link invariant `Graph s t L` (plus
    `Shape`, `Inv` and the parent invariant, all of which hold in every reachable state):
    `get_page_links`, `get_page_*degree`, `links_iter`, `count_links` in terms of the submitted links `L`.
    `LinkView s t L` is the four hypotheses together; `LinkView.mem_pageLinks`, `LinkView.degree_unweighted`. -/
namespace Traph
open State

theorem lruNode_eq_iff {s : State} {t : T} (h : Shape s t) {p x : LRU} {a : Nat} (hp : (p, a) ∈ t.entries s [])
    (hx : x ≠ []) : s.lruNode x = some a ↔ x = p := by
  constructor
  · intro e
    exact entries_addr_injective h.nodup ((lruNode_iff_entries h x hx a).mp e) hp
  · rintro rfl
    exact (lruNode_iff_entries h x hx a).mpr hp

/-- the end of a submitted pair on the side of the page whose list is read, and the other end -/
def nearEnd (o : Bool) (st : Bytes × Bytes) : LRU := if o then lruIter st.1 else lruIter st.2
def farEnd (o : Bool) (st : Bytes × Bytes) : LRU := if o then lruIter st.2 else lruIter st.1

/-- how often the link between `p` (on side `o`: `true` = source) and `q` was submitted, counted by `nearEnd`/`farEnd` -/
theorem nsub_side (L : List (Bytes × Bytes)) (o : Bool) (p q : LRU) :
    (if o then nsub L p q else nsub L q p) =
      (L.filter (fun st => decide (nearEnd o st = p ∧ farEnd o st = q))).length := by
  cases o
  · exact congrArg List.length (List.filter_congr fun _ _ => decide_eq_decide.mpr and_comm)
  · rfl

/-- `Graph.out` and `Graph.inn` in one statement -/
theorem Graph.count_side {s : State} {t : T} {L : List (Bytes × Bytes)} (g : Graph s t L) (o : Bool) (a b : Nat) :
    count b (s.bag o a) =
      (L.filter (fun st => decide (s.lruNode (nearEnd o st) = some a ∧ s.lruNode (farEnd o st) = some b))).length := by
  cases o
  · exact (g.inn b a).trans (congrArg List.length (List.filter_congr fun _ _ => decide_eq_decide.mpr and_comm))
  · exact g.out a b

theorem Graph.pages_side {s : State} {t : T} {L : List (Bytes × Bytes)} (g : Graph s t L) (o : Bool)
    {st : Bytes × Bytes} (hst : st ∈ L) : IsPage s t (nearEnd o st) ∧ IsPage s t (farEnd o st) := by
  cases o
  · exact (g.pages st hst).symm
  · exact g.pages st hst

theorem Graph.bag_count {s : State} {t : T} {L : List (Bytes × Bytes)} (g : Graph s t L) (h : Shape s t)
    {p q : LRU} {a b : Nat} (hp : (p, a) ∈ t.entries s []) (hq : (q, b) ∈ t.entries s []) (o : Bool) :
    count b (s.bag o a) = if o then nsub L p q else nsub L q p := by
  rw [g.count_side, nsub_side]
  refine congrArg List.length (List.filter_congr fun st hst => decide_eq_decide.mpr ?_)
  obtain ⟨p1, p2⟩ := g.pages_side o hst
  exact and_congr (lruNode_eq_iff h hp (isPage_node h p1).1) (lruNode_eq_iff h hq (isPage_node h p2).1)

theorem Graph.bag_entry {s : State} {t : T} {L : List (Bytes × Bytes)} (g : Graph s t L) (h : Shape s t)
    {a b : Nat} {o : Bool} (hb : b ∈ s.bag o a) :
    ∃ q, (q, b) ∈ t.entries s [] ∧ (s.cell b).flags.page = true := by
  have hc := (count_pos_iff b _).mpr hb
  rw [g.count_side] at hc
  obtain ⟨st, hst, hd⟩ := List.length_filter_pos_iff.mp hc
  obtain ⟨_, n, e, hm, hf⟩ := isPage_node h (g.pages_side o hst).2
  cases e.symm.trans (of_decide_eq_true hd).2
  exact ⟨_, hm, hf⟩

theorem nsub_pos {L : List (Bytes × Bytes)} {p q : LRU} (h : 0 < nsub L p q) :
    ∃ st ∈ L, lruIter st.1 = p ∧ lruIter st.2 = q := by
  obtain ⟨st, hst, hd⟩ := List.length_filter_pos_iff.mp h
  exact ⟨st, hst, of_decide_eq_true hd⟩

theorem nsub_pos_pages {s : State} {t : T} {L : List (Bytes × Bytes)} (g : Graph s t L) {p q : LRU}
    (h : 0 < nsub L p q) : IsPage s t p ∧ IsPage s t q := by
  obtain ⟨st, hst, rfl, rfl⟩ := nsub_pos h
  exact g.pages st hst

theorem nsub_side_page {s : State} {t : T} {L : List (Bytes × Bytes)} (g : Graph s t L) {o : Bool} {p q : LRU}
    (h : 0 < (if o then nsub L p q else nsub L q p)) : IsPage s t q := by
  cases o
  · exact (nsub_pos_pages g h).1
  · exact (nsub_pos_pages g h).2

theorem Graph.mem_bag {s : State} {t : T} {L : List (Bytes × Bytes)} (g : Graph s t L) (h : Shape s t)
    {p : LRU} {a : Nat} (hp : (p, a) ∈ t.entries s []) (o : Bool) (b : Nat) :
    b ∈ s.bag o a ↔ ∃ q, (q, b) ∈ t.entries s [] ∧ 0 < (if o then nsub L p q else nsub L q p) := by
  constructor
  · intro hb
    obtain ⟨q, hq, _⟩ := g.bag_entry h hb
    refine ⟨q, hq, ?_⟩
    rw [← g.bag_count h hp hq o]
    exact (count_pos_iff b _).mpr hb
  · rintro ⟨q, hq, hpos⟩
    rw [← g.bag_count h hp hq o] at hpos
    exact (count_pos_iff b _).mp hpos

theorem flatten_inj {s : State} {t : T} (hi : Inv s t) {p q : LRU} {a b : Nat}
    (hp : (p, a) ∈ t.entries s []) (hq : (q, b) ∈ t.entries s []) : q.flatten = p.flatten ↔ q = p :=
  ⟨hi.wf.flatten_inj hq hp, congrArg _⟩

theorem bag_eq_walk (s : State) (o : Bool) (a : Nat)
    (hne : (if o then (s.cell a).out else (s.cell a).inn) ≠ 0) :
    s.bag o a = s.walk (if o then (s.cell a).out else (s.cell a).inn) := by
  unfold State.bag State.walk0
  rw [if_pos hne]

theorem bag_of_head_zero (s : State) (o : Bool) (a : Nat)
    (h0 : (if o then (s.cell a).out else (s.cell a).inn) = 0) : s.bag o a = [] := by
  unfold State.bag
  rw [h0]; exact lbWalk0_zero s

/-- one side of the answer of `get_page_links lru`: the list at `head`, a member kept by whether it reads back
    as `lru` itself (`sel`) -/
def sideOf (s : State) (head : Nat) (on : Bool) (lru : Bytes) (sel : Bool → Bool) (mk : Bytes → Nat → PageLink) :
    List PageLink :=
  readList s head on (fun c => sel (decide (s.windup c = lru)) = true) (fun c k => mk (s.windup c) k)

def outsOf (s : State) (a : Nat) (lru : Bytes) (incInt incOut : Bool) : List PageLink :=
  sideOf s (headOf s true a) (incOut || incInt) lru (fun e => (incOut && !e) || (incInt && e)) (fun tl w => (lru, tl, w))

def insOf (s : State) (a : Nat) (lru : Bytes) (incIn : Bool) : List PageLink :=
  sideOf s (headOf s false a) incIn lru (fun e => !e) (fun sl w => (sl, lru, w))

theorem pageLinks_eq {s : State} {lru : Bytes} {a : Nat} (hn : s.lruNode (lruIter lru) = some a)
    (hp : (s.cell a).flags.page = true) (incIn incInt incOut : Bool) :
    s.pageLinks lru incIn incInt incOut = outsOf s a lru incInt incOut ++ insOf s a lru incIn := by
  unfold State.pageLinks outsOf insOf sideOf readList headOf
  rw [hn]
  simp only [hp, Bool.not_true, Bool.false_eq_true, if_false, if_true, decide_not, Bool.not_eq_true',
    decide_eq_false_iff_not, ne_eq]

theorem pageLinks_not_page {s : State} {t : T} (h : Shape s t) {lru : Bytes} (hne : lruIter lru ≠ [])
    (hp : ¬ IsPage s t (lruIter lru)) (incIn incInt incOut : Bool) :
    s.pageLinks lru incIn incInt incOut = [] := by
  unfold State.pageLinks
  cases hn : s.lruNode (lruIter lru) with
  | none => rfl
  | some a =>
    simp only
    have : (s.cell a).flags.page = false := by
      cases hf : (s.cell a).flags.page with
      | false => rfl
      | true => exact absurd ((isPage_iff_lruNode h _ hne).mpr ⟨a, hn, hf⟩) hp
    rw [this]; rfl

/-- the state-level hypotheses under which the queries are read back -/
structure LinkView (s : State) (t : T) (L : List (Bytes × Bytes)) : Prop where
  shape : Shape s t
  inv   : Inv s t
  par   : ParOk s t 0
  graph : Graph s t L

theorem LinkView.ends {s : State} {t : T} {L : List (Bytes × Bytes)} (v : LinkView s t L) : LinkEnds s t :=
  ⟨v.shape, v.inv, v.par, fun _ _ _ hc => v.graph.bag_entry v.shape hc⟩

theorem LinkView.windup {s : State} {t : T} {L : List (Bytes × Bytes)} (v : LinkView s t L) {q : LRU} {b : Nat}
    (hq : (q, b) ∈ t.entries s []) : s.windup b = q.flatten := windup_eq v.shape v.par hq

theorem LinkView.linked_iff {s : State} {t : T} {L : List (Bytes × Bytes)} (v : LinkView s t L)
    {p : LRU} {a : Nat} (hp : (p, a) ∈ t.entries s []) (hpg : (s.cell a).flags.page = true) (o : Bool)
    (other : Bytes) (k : Nat) :
    Linked s o p.flatten other k ↔
      ∃ q, other = q.flatten ∧ 0 < (if o then nsub L p q else nsub L q p) ∧
        k = (if o then nsub L p q else nsub L q p) := by
  have hpn := (entry_reads v.shape v.inv v.par hp).2.2
  constructor
  · rintro ⟨b, c, hb, _, hn, hc, rfl⟩
    cases nodeOf_unique hb hpn
    obtain ⟨q, hq, hpos⟩ := (v.graph.mem_bag v.shape hp o c).mp hc
    exact ⟨q, by rw [← (v.ends.of_nodeOf hc hn).1, v.windup hq], hpos, v.graph.bag_count v.shape hp hq o⟩
  · rintro ⟨q, rfl, hpos, rfl⟩
    obtain ⟨_, b, _, hq, _⟩ := isPage_node v.shape (nsub_side_page v.graph hpos)
    exact ⟨a, b, hpn, hpg, (entry_reads v.shape v.inv v.par hq).2.2,
      (v.graph.mem_bag v.shape hp o b).mpr ⟨q, hq, hpos⟩, (v.graph.bag_count v.shape hp hq o).symm⟩

theorem LinkView.mem_sideOf {s : State} {t : T} {L : List (Bytes × Bytes)} (v : LinkView s t L)
    {p : LRU} {a : Nat} (hp : (p, a) ∈ t.entries s []) (hpg : (s.cell a).flags.page = true) (o on : Bool)
    (sel : Bool → Bool) (mk : Bytes → Nat → PageLink) (x : PageLink) :
    x ∈ sideOf s (headOf s o a) on p.flatten sel mk ↔
      on = true ∧ ∃ q, 0 < (if o then nsub L p q else nsub L q p) ∧ sel (decide (q = p)) = true ∧
        x = mk q.flatten (if o then nsub L p q else nsub L q p) := by
  have key : ∀ {q}, 0 < (if o then nsub L p q else nsub L q p) →
      decide (q.flatten = p.flatten) = decide (q = p) := fun hpos =>
    have ⟨_, _, _, hq, _⟩ := isPage_node v.shape (nsub_side_page v.graph hpos)
    decide_eq_decide.mpr (flatten_inj v.inv hp hq)
  refine (v.ends.mem_pageSide hp hpg o on (fun l _ => sel (decide (l = p.flatten)) = true)
    (fun l _ k => mk l k) x).trans (and_congr_right fun _ => ⟨?_, ?_⟩)
  · rintro ⟨other, k, hl, hs, rfl⟩
    obtain ⟨q, rfl, hpos, rfl⟩ := (v.linked_iff hp hpg o other k).mp hl
    exact ⟨q, hpos, key hpos ▸ hs, rfl⟩
  · rintro ⟨q, hpos, hs, rfl⟩
    exact ⟨_, _, (v.linked_iff hp hpg o _ _).mpr ⟨q, rfl, hpos, rfl⟩, (key hpos).symm ▸ hs, rfl⟩

/-- the outbound / internal switches, as a choice by "is it the page itself" -/
theorem sel_out_iff (incInt incOut : Bool) (e : Prop) [Decidable e] :
    (((incOut && !decide e) || (incInt && decide e)) = true ∧ (incOut || incInt) = true) ↔
      ((incOut = true ∧ ¬e) ∨ (incInt = true ∧ e)) := by
  by_cases h : e <;> cases incOut <;> cases incInt <;> simp [h]


theorem LinkView.mem_outsOf {s : State} {t : T} {L : List (Bytes × Bytes)} (v : LinkView s t L)
    {p : LRU} {a : Nat} (hp : (p, a) ∈ t.entries s []) (hpg : (s.cell a).flags.page = true) (incInt incOut : Bool)
    (x : PageLink) :
    x ∈ outsOf s a p.flatten incInt incOut ↔
      ∃ q, 0 < nsub L p q ∧ ((incOut = true ∧ q ≠ p) ∨ (incInt = true ∧ q = p)) ∧
        x = (p.flatten, q.flatten, nsub L p q) := by
  refine (v.mem_sideOf hp hpg true _ _ _ x).trans ⟨?_, ?_⟩
  · rintro ⟨hon, q, hpos, hsel, rfl⟩
    exact ⟨q, hpos, (sel_out_iff incInt incOut (q = p)).mp ⟨hsel, hon⟩, rfl⟩
  · rintro ⟨q, hpos, hc, rfl⟩
    have := (sel_out_iff incInt incOut (q = p)).mpr hc
    exact ⟨this.2, q, hpos, this.1, rfl⟩

theorem LinkView.mem_insOf {s : State} {t : T} {L : List (Bytes × Bytes)} (v : LinkView s t L)
    {p : LRU} {a : Nat} (hp : (p, a) ∈ t.entries s []) (hpg : (s.cell a).flags.page = true) (incIn : Bool)
    (x : PageLink) :
    x ∈ insOf s a p.flatten incIn ↔
      incIn = true ∧ ∃ q, 0 < nsub L q p ∧ q ≠ p ∧ x = (q.flatten, p.flatten, nsub L q p) := by
  refine (v.mem_sideOf hp hpg false _ _ _ x).trans ?_
  refine and_congr_right fun _ => exists_congr fun q => and_congr_right fun _ => and_congr_left' ?_
  show (!decide (q = p)) = true ↔ q ≠ p
  rw [Bool.not_eq_true', decide_eq_false_iff_not]

theorem LinkView.pageLinks_at {s : State} {t : T} {L : List (Bytes × Bytes)} (v : LinkView s t L)
    {p : LRU} (hp : IsPage s t p) :
    ∃ a, (p, a) ∈ t.entries s [] ∧ (s.cell a).flags.page = true ∧ ∀ incIn incInt incOut,
      s.pageLinks p.flatten incIn incInt incOut = outsOf s a p.flatten incInt incOut ++ insOf s a p.flatten incIn := by
  obtain ⟨_, a, hn, hm, hf⟩ := isPage_node v.shape hp
  exact ⟨a, hm, hf, pageLinks_eq (by rw [v.inv.wf.iter_flatten hm]; exact hn) hf⟩

/-- `get_page_links`: for a page `p`, with any switches, the reported triples are exactly:
    from the out-list, one triple per page `q` the link `p → q` was submitted to, weight = number of
    submissions (as outbound for `q ≠ p`, as internal for `q = p`); from the in-list, one triple per
    page `q ≠ p` from which `q → p` was submitted, weight = number of submissions. A self-link is
    stored on both sides and reported once, from the out-list, as internal. -/
theorem LinkView.mem_pageLinks {s : State} {t : T} {L : List (Bytes × Bytes)} (v : LinkView s t L)
    {p : LRU} (hp : IsPage s t p) (incIn incInt incOut : Bool) (x : PageLink) :
    x ∈ s.pageLinks p.flatten incIn incInt incOut ↔
      (∃ q, 0 < nsub L p q ∧ ((incOut = true ∧ q ≠ p) ∨ (incInt = true ∧ q = p)) ∧
        x = (p.flatten, q.flatten, nsub L p q)) ∨
      (incIn = true ∧ ∃ q, 0 < nsub L q p ∧ q ≠ p ∧ x = (q.flatten, p.flatten, nsub L q p)) := by
  obtain ⟨a, hm, hf, e⟩ := v.pageLinks_at hp
  rw [e, List.mem_append, v.mem_outsOf hm hf, v.mem_insOf hm hf]


#print axioms LinkView.mem_pageLinks

theorem Graph.bag_perm {s : State} {t : T} {L : List (Bytes × Bytes)} (g : Graph s t L) (h : Shape s t)
    {p : LRU} {a : Nat} (hp : (p, a) ∈ t.entries s []) (o : Bool) :
    (s.bag o a).Perm ((L.filter (fun st => decide (nearEnd o st = p))).map
      (fun st => (s.lruNode (farEnd o st)).getD 0)) := by
  rw [List.perm_iff_count]
  intro b
  rw [← count_eq_count, g.count_side, List.count_eq_length_filter, List.filter_map, List.length_map,
    List.filter_filter]
  refine congrArg List.length (List.filter_congr fun st hst => ?_)
  obtain ⟨p1, p2⟩ := g.pages_side o hst
  obtain ⟨_, n, e, _⟩ := isPage_node h p2
  rw [Bool.eq_iff_iff, decide_eq_true_eq, Bool.and_eq_true, decide_eq_true_eq, lruNode_eq_iff h hp (isPage_node h p1).1]
  show _ ↔ ((s.lruNode (farEnd o st)).getD 0 == b) = true ∧ _
  rw [e, beq_iff_eq, Option.getD_some, Option.some.injEq]
  exact and_comm

theorem Graph.filter_bag_length {s : State} {t : T} {L : List (Bytes × Bytes)} (g : Graph s t L) (h : Shape s t)
    {p : LRU} {a : Nat} (hp : (p, a) ∈ t.entries s []) (o : Bool) (P : Nat → Bool) :
    ((s.bag o a).filter P).length =
      (L.filter (fun st => decide (nearEnd o st = p) && P ((s.lruNode (farEnd o st)).getD 0))).length := by
  rw [((g.bag_perm h hp o).filter P).length_eq, List.filter_map, List.length_map, List.filter_filter]
  exact congrArg List.length (List.filter_congr fun st _ => Bool.and_comm _ _)

def wsumP (P : Nat → Bool) (W : List (Nat × Nat)) : Nat := ((W.filter (fun tw => P tw.1)).map (·.2)).sum

theorem wsumP_fold (P : Nat → Bool) (l : List Nat) (acc : List (Nat × Nat)) :
    wsumP P (l.foldl countInto acc) = wsumP P acc + (l.filter P).length := fold_sumP P l acc


#print axioms Graph.bag_perm

theorem lbFilter_false_length {α : Type} (l : List α) : (l.filter (fun _ => false)).length = 0 := by
  induction l with
  | nil => rfl
  | cons x l ih => rw [List.filter_cons_of_neg Bool.false_ne_true]; exact ih

theorem LinkView.sum_sideOf {s : State} {t : T} {L : List (Bytes × Bytes)} (v : LinkView s t L)
    {p : LRU} {a : Nat} (hp : (p, a) ∈ t.entries s []) (o on : Bool) (sel : Bool → Bool)
    (mk : Bytes → Nat → PageLink) (hmk : ∀ l w, (mk l w).2.2 = w) :
    ((sideOf s (headOf s o a) on p.flatten sel mk).map (·.2.2)).sum =
      (L.filter (fun st => on && (decide (nearEnd o st = p) && sel (decide (farEnd o st = p))))).length := by
  refine (readList_sum s _ on _ _ (fun x : PageLink => x.2.2) fun _ _ => hmk _ _).trans ?_
  cases on
  · exact (lbFilter_false_length L).symm
  · show ((s.bag o a).filter _).length = _
    rw [v.graph.filter_bag_length v.shape hp o]
    refine congrArg List.length (List.filter_congr fun st hst => ?_)
    -- the far end's block reads back as the far end's LRU
    obtain ⟨_, b, e, hb, _⟩ := isPage_node v.shape (v.graph.pages_side o hst).2
    rw [e, Option.getD_some, v.windup hb, decide_eq_decide.mpr (flatten_inj v.inv hp hb), Bool.true_and,
      Bool.decide_eq_true]


/-- the weights of an answer of `get_page_links` add up to the submitted links it covers; the switches appear as
    the code tests them -/
theorem LinkView.sum_pageLinks {s : State} {t : T} {L : List (Bytes × Bytes)} (v : LinkView s t L)
    {p : LRU} (hp : IsPage s t p) (incIn incInt incOut : Bool) :
    ((s.pageLinks p.flatten incIn incInt incOut).map (·.2.2)).sum =
      (L.filter (fun st => (incOut || incInt) && (decide (lruIter st.1 = p) &&
        ((incOut && !decide (lruIter st.2 = p)) || (incInt && decide (lruIter st.2 = p)))))).length +
      (L.filter (fun st => incIn && (decide (lruIter st.2 = p) && !decide (lruIter st.1 = p)))).length := by
  obtain ⟨a, hm, _, e⟩ := v.pageLinks_at hp
  rw [e, List.map_append, List.sum_append]
  exact congr (congrArg _ (v.sum_sideOf hm true _ _ _ fun _ _ => rfl)) (v.sum_sideOf hm false _ _ _ fun _ _ => rfl)

theorem LinkView.outdegree {s : State} {t : T} {L : List (Bytes × Bytes)} (v : LinkView s t L)
    {p : LRU} (hp : IsPage s t p) :
    s.pageDegree p.flatten .outdeg true =
      (L.filter (fun st => decide (lruIter st.1 = p ∧ lruIter st.2 ≠ p))).length := by
  refine (v.sum_pageLinks hp false false true).trans ?_
  simp only [Bool.true_and, Bool.false_and, Bool.or_false, Bool.decide_and, decide_not, lbFilter_false_length,
    Nat.add_zero]

theorem LinkView.indegree {s : State} {t : T} {L : List (Bytes × Bytes)} (v : LinkView s t L)
    {p : LRU} (hp : IsPage s t p) :
    s.pageDegree p.flatten .indeg true =
      (L.filter (fun st => decide (lruIter st.2 = p ∧ lruIter st.1 ≠ p))).length := by
  refine (v.sum_pageLinks hp true false false).trans ?_
  simp only [Bool.true_and, Bool.false_and, Bool.or_self, Bool.and_false, Bool.decide_and, decide_not,
    lbFilter_false_length, Nat.zero_add]

/-- the weighted degree of page `p`: every submitted link leaving `p` (self-links included, once) plus
    every submitted link arriving from another page -/
theorem LinkView.degree {s : State} {t : T} {L : List (Bytes × Bytes)} (v : LinkView s t L)
    {p : LRU} (hp : IsPage s t p) :
    s.pageDegree p.flatten .deg true =
      (L.filter (fun st => decide (lruIter st.1 = p))).length +
      (L.filter (fun st => decide (lruIter st.2 = p ∧ lruIter st.1 ≠ p))).length := by
  refine (v.sum_pageLinks hp true true true).trans ?_
  simp only [Bool.true_and, Bool.or_self, Bool.decide_and, decide_not, Bool.not_or_self, Bool.and_true]

#print axioms LinkView.outdegree
#print axioms LinkView.indegree
#print axioms LinkView.degree

theorem lbNodup_of_map {α β : Type} (f : α → β) {l : List α} (h : (l.map f).Nodup) : l.Nodup :=
  List.Pairwise.of_map f (fun _ _ hne e => hne (congrArg f e)) h

/-- `key` reads the page back from the triple -/
theorem LinkView.sideOf_nodup {s : State} {t : T} {L : List (Bytes × Bytes)} (v : LinkView s t L)
    (a : Nat) (o on : Bool) (lru : Bytes) (sel : Bool → Bool) (mk : Bytes → Nat → PageLink) (key : PageLink → Bytes)
    (hkey : ∀ l w, key (mk l w) = l) :
    ((sideOf s (headOf s o a) on lru sel mk).map key).Nodup :=
  readList_nodup s _ on _ _ key fun _ hc _ hc' _ _ _ _ e =>
    v.ends.windup_inj (o := o) (a := a) hc hc' (by rwa [hkey, hkey] at e)


/-- `get_page_links` never repeats a triple; together with `mem_pageLinks` this
    determines the answer up to order: every linked page appears exactly once per side -/
theorem LinkView.pageLinks_nodup {s : State} {t : T} {L : List (Bytes × Bytes)} (v : LinkView s t L)
    {p : LRU} (hp : IsPage s t p) (incIn incInt incOut : Bool) :
    (s.pageLinks p.flatten incIn incInt incOut).Nodup := by
  obtain ⟨a, hm, hf, e⟩ := v.pageLinks_at hp
  rw [e, List.nodup_append]
  refine ⟨lbNodup_of_map _ (v.sideOf_nodup a true _ _ _ _ (·.2.1) fun _ _ => rfl),
    lbNodup_of_map _ (v.sideOf_nodup a false _ _ _ _ (·.1) fun _ _ => rfl), ?_⟩
  intro x hx y hy e
  subst e
  obtain ⟨q, _, _, rfl⟩ := (v.mem_outsOf hm hf incInt incOut x).mp hx
  obtain ⟨_, q', hpos, hne, e⟩ := (v.mem_insOf hm hf incIn _).mp hy
  simp only [Prod.mk.injEq] at e
  obtain ⟨_, b, _, hq', _⟩ := isPage_node v.shape (nsub_pos_pages v.graph hpos).1
  exact hne ((flatten_inj v.inv hm hq').mp e.1.symm)

/-- `links_iter`: in direction `o` the enumeration lists (page, other end) for exactly the
    submitted links having the page on that side -/
theorem LinkView.mem_linksIter {s : State} {t : T} {L : List (Bytes × Bytes)} (v : LinkView s t L)
    (o : Bool) (x y : Bytes) :
    (x, y) ∈ s.linksIter o ↔
      ∃ p q, 0 < (if o then nsub L p q else nsub L q p) ∧ x = p.flatten ∧ y = q.flatten := by
  rw [v.ends.mem_linksIter]
  constructor
  · rintro ⟨k, hl⟩
    obtain ⟨a, _, ha, hpg, _⟩ := id hl
    obtain ⟨p, hp, rfl⟩ := (nodeOf_iff v.shape v.inv _ a).mp ha
    obtain ⟨q, rfl, hpos, _⟩ := (v.linked_iff hp hpg o y k).mp hl
    exact ⟨p, q, hpos, rfl, rfl⟩
  · rintro ⟨p, q, hpos, rfl, rfl⟩
    have hp : IsPage s t p := by
      cases o
      · exact (nsub_pos_pages v.graph hpos).2
      · exact (nsub_pos_pages v.graph hpos).1
    obtain ⟨_, a, _, hp, hf⟩ := isPage_node v.shape hp
    exact ⟨_, (v.linked_iff hp hf o _ _).mpr ⟨q, rfl, hpos, rfl⟩⟩


theorem LinkView.linksIter_transpose {s : State} {t : T} {L : List (Bytes × Bytes)} (v : LinkView s t L)
    (x y : Bytes) : (x, y) ∈ s.linksIter true ↔ (y, x) ∈ s.linksIter false := by
  rw [v.mem_linksIter, v.mem_linksIter]
  constructor
  · rintro ⟨p, q, hpos, rfl, rfl⟩; exact ⟨q, p, hpos, rfl, rfl⟩
  · rintro ⟨q, p, hpos, rfl, rfl⟩; exact ⟨p, q, hpos, rfl, rfl⟩

theorem LinkView.mem_linksIter_out {s : State} {t : T} {L : List (Bytes × Bytes)} (v : LinkView s t L)
    (x y : Bytes) :
    (x, y) ∈ s.linksIter true ↔ ∃ st ∈ L, x = (lruIter st.1).flatten ∧ y = (lruIter st.2).flatten := by
  rw [v.mem_linksIter]
  constructor
  · rintro ⟨p, q, hpos, rfl, rfl⟩
    obtain ⟨st, hst, rfl, rfl⟩ := nsub_pos hpos
    exact ⟨st, hst, rfl, rfl⟩
  · rintro ⟨st, hst, rfl, rfl⟩
    refine ⟨_, _, ?_, rfl, rfl⟩
    simp only [if_true]
    unfold nsub
    exact List.length_pos_of_mem (List.mem_filter.mpr ⟨hst, decide_eq_true ⟨rfl, rfl⟩⟩)

/-- the global link count: two stubs per submitted link (the model reports twice `count_links`) -/
theorem Graph.countLinks2 {s : State} {t : T} {L : List (Bytes × Bytes)} (g : Graph s t L) :
    s.countLinks2 = 2 * L.length := by
  unfold State.countLinks2
  rw [g.size]; omega

#print axioms LinkView.pageLinks_nodup
#print axioms LinkView.mem_linksIter
#print axioms LinkView.linksIter_transpose

theorem lruIter_flatten_of_pos {s : State} {t : T} {L : List (Bytes × Bytes)} (v : LinkView s t L)
    {q : LRU} (hq : IsPage s t q) : lruIter q.flatten = q := by
  obtain ⟨_, hm, _⟩ := hq
  exact v.inv.wf.iter_flatten hm


theorem LinkView.sideOf_card {s : State} {t : T} {L : List (Bytes × Bytes)} (v : LinkView s t L)
    {p : LRU} {a : Nat} (hp : (p, a) ∈ t.entries s []) (hpg : (s.cell a).flags.page = true) (o on : Bool)
    (sel : Bool → Bool) (mk : Bytes → Nat → PageLink) (key : PageLink → Bytes) (hkey : ∀ l w, key (mk l w) = l) :
    ∃ qs : List LRU, qs.Nodup ∧
      (∀ q, q ∈ qs ↔ (on = true ∧ 0 < (if o then nsub L p q else nsub L q p) ∧ sel (decide (q = p)) = true)) ∧
      (sideOf s (headOf s o a) on p.flatten sel mk).length = qs.length := by
  refine ⟨(sideOf s (headOf s o a) on p.flatten sel mk).map (fun x => lruIter (key x)),
    ?_, fun q => ?_, (List.length_map _).symm⟩
  · refine nodup_map_on (v.sideOf_nodup a o on p.flatten sel mk key hkey) fun x hx y hy e => ?_
    obtain ⟨_, q, hq, _, rfl⟩ := (v.mem_sideOf hp hpg o on sel mk x).mp hx
    obtain ⟨_, q', hq', _, rfl⟩ := (v.mem_sideOf hp hpg o on sel mk y).mp hy
    rw [hkey, hkey, lruIter_flatten_of_pos v (nsub_side_page v.graph hq),
      lruIter_flatten_of_pos v (nsub_side_page v.graph hq')] at e
    rw [hkey, hkey, e]
  · rw [List.mem_map]
    constructor
    · rintro ⟨x, hx, rfl⟩
      obtain ⟨hon, q', hq', hc, rfl⟩ := (v.mem_sideOf hp hpg o on sel mk x).mp hx
      rw [hkey, lruIter_flatten_of_pos v (nsub_side_page v.graph hq')]
      exact ⟨hon, hq', hc⟩
    · rintro ⟨hon, hq, hc⟩
      refine ⟨_, (v.mem_sideOf hp hpg o on sel mk _).mpr ⟨hon, q, hq, hc, rfl⟩, ?_⟩
      rw [hkey]
      exact lruIter_flatten_of_pos v (nsub_side_page v.graph hq)

theorem LinkView.degree_unweighted {s : State} {t : T} {L : List (Bytes × Bytes)} (v : LinkView s t L)
    {p : LRU} (hp : IsPage s t p) :
    ∃ outAll outOther inOther : List LRU, outAll.Nodup ∧ outOther.Nodup ∧ inOther.Nodup ∧
      (∀ q, q ∈ outAll ↔ 0 < nsub L p q) ∧
      (∀ q, q ∈ outOther ↔ (0 < nsub L p q ∧ q ≠ p)) ∧
      (∀ q, q ∈ inOther ↔ (0 < nsub L q p ∧ q ≠ p)) ∧
      s.pageDegree p.flatten .outdeg false = outOther.length ∧
      s.pageDegree p.flatten .indeg false = inOther.length ∧
      s.pageDegree p.flatten .deg false = outAll.length + inOther.length := by
  obtain ⟨a, hm, hf, e⟩ := v.pageLinks_at hp
  -- the three sides that are read, with the switches of the three figures put in
  obtain ⟨oa, oa1, oa2, oa3⟩ := v.sideOf_card hm hf true true (fun e => (true && !e) || (true && e))
    (fun tl w => (p.flatten, tl, w)) (·.2.1) fun _ _ => rfl
  obtain ⟨oo, oo1, oo2, oo3⟩ := v.sideOf_card hm hf true true (fun e => (true && !e) || (false && e))
    (fun tl w => (p.flatten, tl, w)) (·.2.1) fun _ _ => rfl
  obtain ⟨it, it1, it2, it3⟩ := v.sideOf_card hm hf false true (fun e => !e)
    (fun sl w => (sl, p.flatten, w)) (·.1) fun _ _ => rfl
  have hon : outsOf s a p.flatten false false = [] := by
    unfold outsOf sideOf; exact readList_nil _ _ _ _ _ (Or.inr rfl)
  have hif : insOf s a p.flatten false = [] := by
    unfold insOf sideOf; exact readList_nil _ _ _ _ _ (Or.inr rfl)
  refine ⟨oa, oo, it, oa1, oo1, it1, fun q => by simp [oa2], fun q => by simp [oo2], fun q => by simp [it2],
    ?_, ?_, ?_⟩
  · show (s.pageLinks p.flatten false false true).length = _
    rw [e, List.length_append, hif]; exact oo3
  · show (s.pageLinks p.flatten true false false).length = _
    rw [e, List.length_append, hon]; exact (Nat.zero_add _).trans it3
  · show (s.pageLinks p.flatten true true true).length = _
    rw [e, List.length_append]; exact congr (congrArg _ oa3) it3

#print axioms LinkView.degree_unweighted

end Traph
