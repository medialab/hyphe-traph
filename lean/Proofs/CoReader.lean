import Proofs.CoMachines
import Proofs.WeMapBulk
/-! C16 — ONE generator among the others, once. `CoLater s t s' t'`: what the sections of any generators may have done
    to the index between two looks of a generator. `SysInv G`: an invariant of the system that every section keeps
    (`SysInv.sched`: for every schedule). `SysInv.local`: what the generator's own sections re-establish and `CoLater`
    does not disturb holds of every entry of the generator's trace, for every schedule. `Reader`: a kind of generator
    whose sections leave the index alone; `Reader.sched` is `SysInv.local` in terms of its private state.
    What `Proofs/CoSchedules` says of the traces of writers and of the page query, and the theorems about the page
    query and the network query under interleaving (`CoFuel`, `CoNetFold`, `CoNetBounds`), are instances. -/
namespace Traph
open State Layout

/-- a path that carries a webentity keeps it -/
def cnb_WeMono (s s' : State) : Prop := ∀ p, s.weMap p ≠ 0 → s'.weMap p = s.weMap p

theorem cnb_WeMono.refl (s : State) : cnb_WeMono s s := fun _ _ => rfl

theorem cnb_WeMono.trans {a b c : State} (h1 : cnb_WeMono a b) (h2 : cnb_WeMono b c) : cnb_WeMono a c := fun p hp => by
  have e1 := h1 p hp
  rw [h2 p (by rw [e1]; exact hp), e1]

theorem cnb_WeMono.of_eq {s s' : State} (e : s'.weMap = s.weMap) : cnb_WeMono s s' := fun p _ => by rw [e]

/-- `__add_page` creates webentities only where there was none -/
theorem cnb_weMono_addPageCore {s : State} {t : T} (h : Shape s t) (lru : Bytes) (c : Bool) :
    cnb_WeMono s (s.addPageCore lru c).1 :=
  have ⟨_, hr, _⟩ := (RepOk.init s).addPage h lru c
  hr.old

theorem cnb_weMono_ruleStart {s : State} {t : T} (h : Shape s t) (r : RuleSt) :
    (∃ t', Shape (ruleStart s r).1 t') ∧ cnb_WeMono s (ruleStart s r).1 := by
  obtain ⟨t', x, _⟩ := ruleStart_sec h r
  refine ⟨⟨t', x.shape⟩, ?_⟩
  unfold ruleStart
  split
  · exact .refl s
  · exact .of_eq (weMap_rulePrologue h r.anchor r.rule)

/-- every section of every generator only ATTACHES webentities -/
theorem cnb_weMono_resume {s : State} {t : T} (h : Shape s t) (c : CoSt) : cnb_WeMono s (c.resume s).1 :=
  (resume_rel (I := fun s => ∃ t, Shape s t) (R := fun s s' => (∃ t', Shape s' t') ∧ cnb_WeMono s s')
    (fun s hi => ⟨hi, cnb_WeMono.refl s⟩) (fun r1 r2 => ⟨r2.1, r1.2.trans r2.2⟩) (fun _ r => r.1)
    (fun _ l c ⟨_, h⟩ => ⟨shape_addPageCore h l c, cnb_weMono_addPageCore h l c⟩)
    (fun _ p ts o ⟨t, h⟩ => ⟨⟨t, (keeps_addStubs h p ts o).shape⟩, .of_eq (weMap_addStubs h p ts o)⟩)
    (fun _ n ⟨t, h⟩ => ⟨⟨t, (ext_markCrawled h n).shape⟩, .of_eq (weMap_markCrawled h n)⟩)
    (fun _ r ⟨_, h⟩ => cnb_weMono_ruleStart h r) s c ⟨t, h⟩).2

/-- stubs are never altered: the list hanging off a stub of the store is the same ever after -/
theorem cf_walk_le {s s' : State} (le : s ⊑ s') (hwf : s.LinksWf) (hwf' : s'.LinksWf) :
    ∀ (n h : Nat), h < n → h < s.links.size → s'.walk h = s.walk h := by
  intro n
  induction n with
  | zero => intro h hn; omega
  | succ n ih =>
    intro h hn hh
    have hs : s.links[h]? = some s.links[h] := by simp [hh]
    have hs' := le.stubs h _ hs
    rw [walk_unfold' s hwf h _ hs, walk_unfold' s' hwf' h _ hs']
    by_cases hp : (s.links[h]).prev ≠ 0
    · rw [if_pos hp, if_pos hp]
      rcases hwf.2 h _ hs with hlt | ⟨_, h0⟩
      · rw [ih _ (by omega) (by omega)]
      · exact absurd h0 hp
    · rw [if_neg hp, if_neg hp]

/-- **what a reader can rely on between two of its looks at the index**, whatever ran in between: the tree it knew is
    still there (`ext`), no block, pointer, mark or stub was lost or altered (`le`), a path that carried a webentity
    carries it still (`we`), the list heads stay inside the store and every list is a suffix of what it is now (`link`) -/
structure CoLater (s : State) (t : T) (s' : State) (t' : T) : Prop where
  shape : Shape s t
  ext   : Ext s t s' t'
  le    : s ⊑ s'
  we    : cnb_WeMono s s'
  link  : CoLinkStep s s'

namespace CoLater
variable {s s1 s2 : State} {t t1 t2 : T}

theorem refl (h : Shape s t) : CoLater s t s t := ⟨h, .refl h, .refl _, .refl _, .refl _⟩

theorem trans (a : CoLater s t s1 t1) (b : CoLater s1 t1 s2 t2) : CoLater s t s2 t2 :=
  ⟨a.shape, a.ext.trans b.ext, a.le.trans b.le, a.we.trans b.we, a.link.trans b.link⟩

theorem shape' (a : CoLater s t s1 t1) : Shape s1 t1 := a.ext.shape

theorem heads (a : CoLater s t s1 t1) (hk : HeadsOk s) : HeadsOk s1 := (a.link hk).1

theorem grow (a : CoLater s t s1 t1) (hk : HeadsOk s) : LinkGrow s s1 := (a.link hk).2

theorem cell (a : CoLater s t s1 t1) {p : LRU} {b : Nat} (hm : (p, b) ∈ t.entries s []) : CellLe (s.cell b) (s1.cell b) :=
  a.le.cell_le b (entry_lt a.shape hm)

theorem walk (a : CoLater s t s1 t1) (hk : HeadsOk s) {hd : Nat} (hlt : hd < s.links.size) : s1.walk hd = s.walk hd :=
  cf_walk_le a.le hk.1 (a.heads hk).1 _ hd (Nat.lt_succ_self _) hlt

theorem weighted (a : CoLater s t s1 t1) (hk : HeadsOk s) {hd : Nat} (hlt : hd < s.links.size) :
    s1.weighted hd = s.weighted hd := by
  unfold State.weighted
  rw [a.walk hk hlt]

end CoLater

theorem CoLater.of_sec {s : State} {t t' : T} {c : CoSt} (h : Shape s t) (sec : CoSec s t c (c.resume s) t') :
    CoLater s t (c.resume s).1 t' := ⟨h, sec.ext, sec.le, cnb_weMono_resume h c, sec.link⟩

/-- **an invariant of the system**: it says that the index has its shape, and every section of every generator keeps
    it, for some tree that extends the one before -/
structure SysInv (G : Sys → T → Prop) : Prop where
  shape : ∀ {σ t}, G σ t → Shape σ.1 t
  step  : ∀ {σ t j cj}, G σ t → σ.2[j]? = some cj →
    ∃ t1, G ((cj.resume σ.1).1, σ.2.set j (cj.resume σ.1).2.1) t1 ∧ CoLater σ.1 t (cj.resume σ.1).1 t1

theorem SysInv.of_state {G : State → Prop} (hG : ∀ (s : State) (t : T) (c : CoSt), Shape s t → G s → G (c.resume s).1) :
    SysInv (fun σ t => Shape σ.1 t ∧ G σ.1) where
  shape h := h.1
  step := fun {_ t _ cj} h _ =>
    have ⟨t1, sec⟩ := resume_sec h.1 cj
    ⟨t1, ⟨sec.ext.shape, hG _ t cj h.1 h.2⟩, .of_sec h.1 sec⟩

theorem SysInv.shape_only : SysInv (fun σ t => Shape σ.1 t ∧ True) := .of_state (G := fun _ => True) fun _ _ _ _ _ => trivial

theorem SysInv.heads : SysInv (fun σ t => Shape σ.1 t ∧ HeadsOk σ.1) :=
  .of_state fun _ _ c h hk => have ⟨_, sec⟩ := resume_sec h c; (sec.link hk).1

theorem SysInv.sched {G : Sys → T → Prop} (I : SysInv G) : ∀ (sched : Sched) (σ : Sys) (t : T), G σ t →
    ∃ t', G (σ.run sched).1 t' ∧ CoLater σ.1 t (σ.run sched).1.1 t'
  | [], σ, t, h => ⟨t, h, .refl (I.shape h)⟩
  | j :: rest, σ, t, h => by
    cases hc : σ.2[j]? with
    | none => rw [Sys.run_cons_none _ hc]; exact I.sched rest σ t h
    | some cj =>
      rw [Sys.run_cons_some _ hc]
      obtain ⟨t1, h1, l1⟩ := I.step h hc
      obtain ⟨t2, h2, l2⟩ := I.sched rest _ t1 h1
      exact ⟨t2, h2, l1.trans l2⟩

theorem finished_set {σ : Sys} {i j : Nat} {c : CoSt} (hf : σ.2[i]? = some .finished) (hc : σ.2[j]? = some c) :
    (σ.2.set j (c.resume σ.1).2.1)[i]? = some .finished := by
  by_cases hij : j = i
  · subst hij
    rw [hf] at hc
    cases hc
    exact List.getElem?_set_self (List.getElem?_eq_some_iff.mp hf).1
  · rw [List.getElem?_set_ne hij]; exact hf

/-- a generator that has returned only ever raises `StopIteration` afterwards -/
theorem finished_trace : ∀ (sched : Sched) (σ : Sys) (i : Nat), σ.2[i]? = some .finished →
    ∀ o, (i, o) ∈ (σ.run sched).2 → o = .failed (.other "StopIteration") := fun sched σ i hf o hm =>
  (Sys.run_events (fun _ => True) (fun τ => τ.2[i]? = some .finished)
    (fun j o _ => j = i → o = .failed (.other "StopIteration"))
    (fun τ j c hf _ _ hc => ⟨finished_set hf hc, fun e => by subst e; rw [hf] at hc; cases hc; rfl, fun _ _ e => e⟩)
    sched σ hf (Throughout.trivial _ _)).2.2 i o hm rfl

/-- a kind of generator that reads only: its private state `α`, how it sits among the generators, and one section
    as a function of the index. Only `Reader.pages` and `Reader.net` exist: the six `QSt` machines have no instance
    (CoReadOnly and draining cover them). -/
structure Reader (α : Type) where
  emb : α → CoSt
  run : State → α → α × CoOut
  resume_eq : ∀ s n, (emb n).resume s = (s, CoSt.next emb (run s n).1 (run s n).2, (run s n).2)

/-- `get_webentity_pages_iter` -/
def Reader.pages : Reader PagesSt where
  emb := .pages
  run s p := pagesResume ((s.trie.size + 1) * (p.prefixes.length + 1)) s p
  resume_eq := resume_pages

/-- `get_webentities_links_iter` -/
def Reader.net : Reader NetSt where
  emb := .net
  run s n := netResume (s.trie.size + s.links.size + n.pointers.length + 3) s n
  resume_eq := resume_net

/-- **one generator among the others, for every schedule.** `G` an invariant of the system; `Q` assumed of the index at
    every moment; `J` a local invariant of the generator in slot `i`, stable between any two states of which the second
    is `CoLater`, and re-established by the generator's own sections when they yield (`t1`: the tree of the index they
    leave); `A` what a section puts out, with the same stability. Then every entry of the generator's trace is the
    `StopIteration` of a generator resumed after its end, or satisfies `A` in the final index, with its tree. (An instance of
    `Sys.run_events`: the system invariant carried there is `G` together with `J` of slot `i`.) -/
theorem SysInv.local {G : Sys → T → Prop} (I : SysInv G) (Q : State → Prop) (J : State → T → CoSt → Prop)
    (A : State → T → CoOut → Prop)
    (hJ : ∀ {σ σ' : Sys} {t t' c}, G σ t → G σ' t' → CoLater σ.1 t σ'.1 t' → Q σ.1 → Q σ'.1 → J σ.1 t c → J σ'.1 t' c)
    (hA : ∀ {σ σ' : Sys} {t t' o}, G σ t → G σ' t' → CoLater σ.1 t σ'.1 t' → A σ.1 t o → A σ'.1 t' o)
    (hsec : ∀ {σ : Sys} {t t1 j c}, G σ t → σ.2[j]? = some c → Q σ.1 → J σ.1 t c →
      G ((c.resume σ.1).1, σ.2.set j (c.resume σ.1).2.1) t1 →
      A (c.resume σ.1).1 t1 (c.resume σ.1).2.2 ∧ ((c.resume σ.1).2.2 = .yielded → J (c.resume σ.1).1 t1 (c.resume σ.1).2.1))
    (sched : Sched) (σ : Sys) (t : T) (h : G σ t) (i : Nat) (c : CoSt) (hi : σ.2[i]? = some c) (hj : J σ.1 t c)
    (hthr : Throughout Q σ sched) (o : CoOut) (hm : (i, o) ∈ (σ.run sched).2) :
    o = .failed (.other "StopIteration") ∨ ∀ t', G (σ.run sched).1 t' → A (σ.run sched).1.1 t' o := by
  refine ((Sys.run_events Q
    (fun τ => ∃ t', G τ t' ∧ ∃ c', τ.2[i]? = some c' ∧ (c' = .finished ∨ J τ.1 t' c'))
    (fun i' o τ => i' = i → o = .failed (.other "StopIteration") ∨ ∃ t', G τ t' ∧ A τ.1 t' o)
    ?_ sched σ ⟨t, h, c, hi, .inr hj⟩ hthr).2.2 i o hm rfl).imp id fun ⟨t', h', a⟩ t2 h2 => by
      cases Shape.unique (I.shape h2) (I.shape h'); exact a
  rintro τ j cj ⟨t', g, c', hi', hc'⟩ q q1 hcj
  obtain ⟨t1, g1, l1⟩ := I.step g hcj
  have keep : ∀ i' o', (i' = i → o' = .failed (.other "StopIteration") ∨ ∃ t', G τ t' ∧ A τ.1 t' o') → i' = i →
      o' = .failed (.other "StopIteration") ∨ ∃ t', G _ t' ∧ A (cj.resume τ.1).1 t' o' := fun _ _ e ei =>
    (e ei).imp id fun ⟨t3, g3, a⟩ => by cases Shape.unique (I.shape g3) (I.shape g); exact ⟨t1, g1, hA g g1 l1 a⟩
  by_cases hij : j = i
  · -- a section of the generator itself
    subst hij
    cases Option.some.inj (hcj.symm.trans hi')
    have hset := List.getElem?_set_self (a := (cj.resume τ.1).2.1) (List.getElem?_eq_some_iff.mp hcj).1
    rcases hc' with rfl | hj'
    · exact ⟨⟨t1, g1, _, hset, .inl rfl⟩, fun _ => .inl rfl, keep⟩
    · have sec := hsec g hcj q hj' g1
      refine ⟨⟨t1, g1, _, hset, ?_⟩, fun _ => .inr ⟨t1, g1, sec.1⟩, keep⟩
      by_cases ho : (cj.resume τ.1).2.2 = .yielded
      · exact .inr (sec.2 ho)
      · exact .inl (resume_not_yielded _ _ ho)
  · -- a section of another generator: the slot is as before
    exact ⟨⟨t1, g1, c', by rw [List.getElem?_set_ne hij]; exact hi', hc'.imp id (hJ g g1 l1 q q1)⟩,
      fun e => absurd e hij, keep⟩

/-- **a reader among writers, for every schedule**: `SysInv.local` for a generator whose sections leave the index alone,
    the local invariant and the sections in terms of its private state -/
theorem Reader.sched {α : Type} (R : Reader α) {G : Sys → T → Prop} (I : SysInv G) (Q : State → Prop)
    (J : State → T → α → Prop) (A : State → T → CoOut → Prop)
    (hJ : ∀ {σ σ' : Sys} {t t' n}, G σ t → G σ' t' → CoLater σ.1 t σ'.1 t' → Q σ.1 → Q σ'.1 → J σ.1 t n → J σ'.1 t' n)
    (hA : ∀ {σ σ' : Sys} {t t' o}, G σ t → G σ' t' → CoLater σ.1 t σ'.1 t' → A σ.1 t o → A σ'.1 t' o)
    (hsec : ∀ {σ : Sys} {t n}, G σ t → Q σ.1 → J σ.1 t n →
      A σ.1 t (R.run σ.1 n).2 ∧ ((R.run σ.1 n).2 = .yielded → J σ.1 t (R.run σ.1 n).1))
    (sched : Sched) (σ : Sys) (t : T) (h : G σ t) (i : Nat) (n : α) (hi : σ.2[i]? = some (R.emb n)) (hj : J σ.1 t n)
    (hthr : Throughout Q σ sched) (o : CoOut) (hm : (i, o) ∈ (σ.run sched).2) :
    o = .failed (.other "StopIteration") ∨
      ∃ t', G (σ.run sched).1 t' ∧ CoLater σ.1 t (σ.run sched).1.1 t' ∧ A (σ.run sched).1.1 t' o :=
  have ⟨t', h', l⟩ := I.sched sched σ t h
  (I.local Q (fun s t c => ∃ n, c = R.emb n ∧ J s t n) A (fun g g' l q q' ⟨n, e, j⟩ => ⟨n, e, hJ g g' l q q' j⟩) hA
    (fun {σ t t1 _ _} g _ q ⟨n, e, j⟩ g1 => by
      subst e
      rw [R.resume_eq] at g1 ⊢
      have s1 : Shape σ.1 t1 := by have := I.shape g1; exact this
      cases Shape.unique s1 (I.shape g)
      exact ⟨(hsec g q j).1, fun ho => ⟨_, CoSt.next_yielded _ _ ho, (hsec g q j).2 ho⟩⟩)
    sched σ t h i _ hi ⟨n, rfl, hj⟩ hthr o hm).imp id fun a => ⟨t', h', l, a t' h'⟩

#print axioms cnb_weMono_resume
#print axioms Reader.sched

end Traph
