import Proofs.GraftHole
import Proofs.DescendSpec
/-! Specification of the ghost graft `T.graft q sl b` at the three places the insertion code performs it:
    1. at the fall-off point of a one-level sibling search `T.find`,
    2. at the fall-off point of the level-by-level descent `T.descend`,
    3. at the (nil) child slot of an arbitrary node `q` of the tree (the fresh chain of `add_lru`).
    In each case: `OrdT` survives, exactly the address `b` is added, exactly the entry
    `(path of the slot ++ [x], b)` is added to the finite map `T.entries`.
    The three places are reduced to the relation `Hole` of `Proofs/GraftHole.lean`. -/
namespace Traph
open State

theorem T.find_hole {s : State} {x : Stem} : ∀ (u : T) (pre : LRU) (lo hi : Option Stem) (q : Nat) (sl : Slot),
    u.find s x = .missing q sl →
    (∀ y, lo = some y → lexLt y x = true) → (∀ y, hi = some y → lexLt x y = true) →
    ∃ lo' hi', Hole s q sl u pre lo hi pre lo' hi' ∧
      (∀ y, lo' = some y → lexLt y x = true) ∧ (∀ y, hi' = some y → lexLt x y = true) := by
  intro u
  induction u with
  | nil => intro _ _ _ _ _ hf; exact nomatch hf
  | node a l c r ihl _ ihr =>
    intro pre lo hi q sl hf hlo hhi
    rcases T.find_cases s x a l c r with ⟨_, e⟩ | ⟨_, hlt, h⟩ | ⟨hne, hnlt, h⟩
    · rw [e] at hf; exact nomatch hf
    · have hhi' : ∀ y, some (s.stemAt a) = some y → lexLt x y = true := fun y hy => Option.some.inj hy ▸ hlt
      rcases h with ⟨rfl, e⟩ | ⟨_, e⟩ <;> rw [e] at hf
      · cases hf; exact ⟨_, _, .hereL c r pre lo hi, hlo, hhi'⟩
      · obtain ⟨lo', hi', hh, b1, b2⟩ := ihl pre lo _ q sl hf hlo hhi'
        exact ⟨lo', hi', .inL c r hi hh, b1, b2⟩
    · have hgt : lexLt (s.stemAt a) x = true := by
        rcases lexLt_tri x (s.stemAt a) with h' | h' | h'
        · rw [hnlt] at h'; exact nomatch h'
        · exact absurd h'.symm hne
        · exact h'
      have hlo' : ∀ y, some (s.stemAt a) = some y → lexLt y x = true := fun y hy => Option.some.inj hy ▸ hgt
      rcases h with ⟨rfl, e⟩ | ⟨_, e⟩ <;> rw [e] at hf
      · cases hf; exact ⟨_, _, .hereR l c pre lo hi, hlo', hhi⟩
      · obtain ⟨lo', hi', hh, b1, b2⟩ := ihr pre _ hi q sl hf hlo' hhi
        exact ⟨lo', hi', .inR l c lo hh, b1, b2⟩

section OneLevel
variable {s s' : State} {u : T} {q b : Nat} {sl : Slot} {x : Stem} {lo hi : Option Stem}

theorem OrdT.graft_find (hnd : u.addrs.Nodup) (hb : b ∉ u.addrs)
    (hst : ∀ a ∈ u.addrs, s'.stemAt a = s.stemAt a) (hsb : s'.stemAt b = x)
    (hf : u.find s x = .missing q sl) (ho : OrdT s u lo hi)
    (hlo : ∀ y, lo = some y → lexLt y x = true) (hhi : ∀ y, hi = some y → lexLt x y = true) :
    OrdT s' (u.graft q sl b) lo hi := by
  obtain ⟨lo', hi', hh, b1, b2⟩ := T.find_hole u [] lo hi q sl hf hlo hhi
  exact hh.graft_ord hnd hst hsb ho b1 b2

theorem addrs_graft_find (hnd : u.addrs.Nodup) (hf : u.find s x = .missing q sl) :
    (u.graft q sl b).addrs.Perm (b :: u.addrs) := by
  obtain ⟨lo', hi', hh, _, _⟩ := T.find_hole u [] none none q sl hf (by simp) (by simp)
  exact hh.graft_addrs hnd

theorem nodup_graft_find (hnd : u.addrs.Nodup) (hb : b ∉ u.addrs) (hf : u.find s x = .missing q sl) :
    (u.graft q sl b).addrs.Nodup :=
  (addrs_graft_find hnd hf).nodup_iff.mpr (List.nodup_cons.mpr ⟨hb, hnd⟩)

theorem entries_graft_find {pre : LRU} (hnd : u.addrs.Nodup)
    (hst : ∀ a ∈ u.addrs, s'.stemAt a = s.stemAt a) (hsb : s'.stemAt b = x)
    (hf : u.find s x = .missing q sl) :
    ((u.graft q sl b).entries s' pre).Perm ((pre ++ [x], b) :: u.entries s pre) := by
  obtain ⟨lo', hi', hh, _, _⟩ := T.find_hole u pre none none q sl hf (by simp) (by simp)
  exact hh.graft_entries hnd hst hsb
end OneLevel

theorem Hole.of_sib {s : State} {q : Nat} {sl : Slot} {a : Nat} {pre pre' : LRU} {lo' hi' : Option Stem} (u : T)
    (h : a ∈ u.sibs) : ∃ l r, (∀ lo hi, Hole s q sl (.node a l (u.childAt a) r) pre lo hi pre' lo' hi') →
      ∀ lo hi, Hole s q sl u pre lo hi pre' lo' hi' :=
  T.sib_node (Q := fun t => (∀ lo hi, Hole s q sl t pre lo hi pre' lo' hi') → ∀ lo hi, Hole s q sl u pre lo hi pre' lo' hi')
    (fun _ l c r h => ⟨fun g => h fun lo hi => .inL c r hi (g lo _), fun g => h fun lo hi => .inR l c lo (g _ hi)⟩)
    u a id h

theorem Hole.of_childAt {s : State} {q : Nat} {sl : Slot} {a : Nat} {pre' : LRU} {lo' hi' : Option Stem} (u : T)
    (pre : LRU) (lo hi : Option Stem) (ha : a ∈ u.sibs)
    (hh : Hole s q sl (u.childAt a) (pre ++ [s.stemAt a]) none none pre' lo' hi') :
    Hole s q sl u pre lo hi pre' lo' hi' := by
  obtain ⟨l, r, hq⟩ := Hole.of_sib (s := s) (q := q) (sl := sl) (pre := pre) (pre' := pre') (lo' := lo') (hi' := hi') u ha
  exact hq (fun lo hi => .inC l r lo hi hh) lo hi

theorem Hole.of_childAt_nil {s : State} {a : Nat} (u : T) (pre : LRU) (lo hi : Option Stem) (ha : a ∈ u.sibs)
    (hc : u.childAt a = .nil) : Hole s a .C u pre lo hi (pre ++ [s.stemAt a]) none none := by
  obtain ⟨l, r, hq⟩ := Hole.of_sib (s := s) (q := a) (sl := .C) (pre := pre) (pre' := pre ++ [s.stemAt a])
    (lo' := none) (hi' := none) u ha
  exact hq (fun lo hi => hc ▸ .hereC l r pre lo hi) lo hi

/-- where the descent falls off there is a hole; its inner bounds enclose the first unconsumed stem,
    provided the outer bounds enclose the first stem searched -/
theorem T.descend_hole {s : State} : ∀ (stems : List Stem) (u : T) (pre : LRU) (lo hi : Option Stem)
    (q : Nat) (sl : Slot) (pre' : LRU) (x : Stem) (rest' : List Stem),
    u.descend s stems pre = .fell q sl pre' (x :: rest') →
    (∀ y, lo = some y → lexLt y stems.head! = true) → (∀ y, hi = some y → lexLt stems.head! y = true) →
    ∃ lo' hi', Hole s q sl u pre lo hi pre' lo' hi' ∧
      (∀ y, lo' = some y → lexLt y x = true) ∧ (∀ y, hi' = some y → lexLt x y = true) := by
  intro stems
  induction stems with
  | nil => intro u pre lo hi q sl pre' x rest' h; exact nomatch h
  | cons stem rest ih =>
    intro u pre lo hi q sl pre' x rest' h hlo hhi
    rcases T.descend_cases s stem rest u pre
      with ⟨_, e⟩ | ⟨q0, sl0, hf, e⟩ | ⟨a, hf, ⟨_, e⟩ | ⟨_, hc, e⟩ | ⟨hr, _, e⟩⟩ <;> rw [e] at h
    · exact nomatch h
    · obtain ⟨rfl, rfl, rfl, e4⟩ := Loc.fell.inj h
      obtain ⟨rfl, rfl⟩ := List.cons.inj e4
      exact T.find_hole u pre lo hi q0 sl0 hf hlo hhi
    · exact nomatch h
    · obtain ⟨rfl, rfl, rfl, rfl⟩ := Loc.fell.inj h
      obtain ⟨hmem, hsa⟩ := T.find_sound u a hf
      exact ⟨none, none, hsa ▸ Hole.of_childAt_nil u pre lo hi hmem hc, nofun, nofun⟩
    · obtain ⟨hmem, hsa⟩ := T.find_sound u a hf
      obtain ⟨lo', hi', hh, b1, b2⟩ := ih _ (pre ++ [stem]) none none q sl pre' x rest' h nofun nofun
      exact ⟨lo', hi', Hole.of_childAt u pre lo hi hmem (hsa ▸ hh), b1, b2⟩

section MultiLevel
variable {s s' : State} {u : T} {q b : Nat} {sl : Slot} {x : Stem} {lo hi : Option Stem}
  {stems rest' : List Stem} {pre pre' : LRU}

theorem descend_fell_mem (hd : u.descend s stems pre = .fell q sl pre' (x :: rest')) : q ∈ u.addrs := by
  obtain ⟨_, _, hh, _, _⟩ := T.descend_hole stems u pre none none q sl pre' x rest' hd (by simp) (by simp)
  exact hh.mem

theorem OrdT.graft_descend (hnd : u.addrs.Nodup)
    (hst : ∀ a ∈ u.addrs, s'.stemAt a = s.stemAt a) (hsb : s'.stemAt b = x)
    (hd : u.descend s stems pre = .fell q sl pre' (x :: rest')) (ho : OrdT s u lo hi)
    (hlo : ∀ y, lo = some y → lexLt y stems.head! = true)
    (hhi : ∀ y, hi = some y → lexLt stems.head! y = true) :
    OrdT s' (u.graft q sl b) lo hi := by
  obtain ⟨lo', hi', hh, b1, b2⟩ := T.descend_hole stems u pre lo hi q sl pre' x rest' hd hlo hhi
  exact hh.graft_ord hnd hst hsb ho b1 b2

/-- the same with the first stem named -/
theorem OrdT.graft_descend_cons {x0 : Stem} {rest0 : List Stem} (hnd : u.addrs.Nodup) (hb : b ∉ u.addrs)
    (hst : ∀ a ∈ u.addrs, s'.stemAt a = s.stemAt a) (hsb : s'.stemAt b = x)
    (hd : u.descend s (x0 :: rest0) pre = .fell q sl pre' (x :: rest')) (ho : OrdT s u lo hi)
    (hlo : ∀ y, lo = some y → lexLt y x0 = true) (hhi : ∀ y, hi = some y → lexLt x0 y = true) :
    OrdT s' (u.graft q sl b) lo hi :=
  OrdT.graft_descend hnd hst hsb hd ho hlo hhi

theorem OrdT.graft_descend_top (hnd : u.addrs.Nodup) (hb : b ∉ u.addrs)
    (hst : ∀ a ∈ u.addrs, s'.stemAt a = s.stemAt a) (hsb : s'.stemAt b = x)
    (hd : u.descend s stems pre = .fell q sl pre' (x :: rest')) (ho : OrdT s u none none) :
    OrdT s' (u.graft q sl b) none none :=
  OrdT.graft_descend hnd hst hsb hd ho (by simp) (by simp)

theorem addrs_graft_descend (hnd : u.addrs.Nodup)
    (hd : u.descend s stems pre = .fell q sl pre' (x :: rest')) :
    (u.graft q sl b).addrs.Perm (b :: u.addrs) := by
  obtain ⟨_, _, hh, _, _⟩ := T.descend_hole stems u pre none none q sl pre' x rest' hd (by simp) (by simp)
  exact hh.graft_addrs hnd

theorem nodup_graft_descend (hnd : u.addrs.Nodup) (hb : b ∉ u.addrs)
    (hd : u.descend s stems pre = .fell q sl pre' (x :: rest')) :
    (u.graft q sl b).addrs.Nodup :=
  (addrs_graft_descend hnd hd).nodup_iff.mpr (List.nodup_cons.mpr ⟨hb, hnd⟩)

theorem entries_graft_descend (hnd : u.addrs.Nodup)
    (hst : ∀ a ∈ u.addrs, s'.stemAt a = s.stemAt a) (hsb : s'.stemAt b = x)
    (hd : u.descend s stems pre = .fell q sl pre' (x :: rest')) :
    ((u.graft q sl b).entries s' pre).Perm ((pre' ++ [x], b) :: u.entries s pre) := by
  obtain ⟨_, _, hh, _, _⟩ := T.descend_hole stems u pre none none q sl pre' x rest' hd (by simp) (by simp)
  exact hh.graft_entries hnd hst hsb
end MultiLevel

/-- the child subtree of the node labelled `q`, wherever it is in the tree (sibling closure and child
    trees); meaningful for duplicate-free trees -/
def T.childOf : T → Nat → T
  | .nil, _ => .nil
  | .node a l c r, q =>
    if a = q then c else if q ∈ l.addrs then l.childOf q else if q ∈ c.addrs then c.childOf q else r.childOf q

theorem T.child_hole {s : State} {q : Nat} {p : LRU} : ∀ (u : T) (pre : LRU) (lo hi : Option Stem),
    u.addrs.Nodup → (p, q) ∈ u.entries s pre → u.childOf q = .nil →
    Hole s q .C u pre lo hi p none none := by
  intro u
  induction u with
  | nil => intro _ _ _ _ h; exact nomatch h
  | node a l c r ihl ihc ihr =>
    intro pre lo hi hnd hm hc
    obtain ⟨hal, hac, har, ndl, ndc, ndr, dlc, dlr, dcr⟩ := T.nodup_node hnd
    simp only [T.childOf] at hc
    rcases entry_node_iff.mp hm with hm | ⟨rfl, rfl⟩ | hm | hm
    · have hq := entries_addr_mem l _ _ _ hm
      have haq : ¬ a = q := by rintro rfl; exact hal hq
      rw [if_neg haq, if_pos hq] at hc
      exact .inL c r hi (ihl pre lo _ ndl hm hc)
    · rw [if_pos rfl] at hc; subst hc
      exact .hereC l r pre lo hi
    · have hq := entries_addr_mem c _ _ _ hm
      have haq : ¬ a = q := by rintro rfl; exact hac hq
      have hql : q ∉ l.addrs := fun hx => dlc q hx hq
      rw [if_neg haq, if_neg hql, if_pos hq] at hc
      exact .inC l r lo hi (ihc _ none none ndc hm hc)
    · have hq := entries_addr_mem r _ _ _ hm
      have haq : ¬ a = q := by rintro rfl; exact har hq
      have hql : q ∉ l.addrs := fun hx => dlr q hx hq
      have hqc : q ∉ c.addrs := fun hx => dcr q hx hq
      rw [if_neg haq, if_neg hql, if_neg hqc] at hc
      exact .inR l c lo (ihr pre _ hi ndr hm hc)

/-- the freshly grafted leaf has no child tree (so the chain can be continued below it): wherever the search for `b`
    goes in the new tree, it ends in a leaf `b` or, by induction, in a graft of a subtree without `b` -/
theorem T.childOf_graft_new {q b : Nat} {sl : Slot} : ∀ (u : T), b ∉ u.addrs → (u.graft q sl b).childOf b = .nil := by
  intro u
  induction u with
  | nil => intro _; rfl
  | node a l c r ihl ihc ihr =>
    intro hb
    obtain ⟨hba, hbl, hbc, hbr⟩ := T.not_mem_node hb
    have sub : ∀ (P : Prop) [Decidable P] (x : T), (x.graft q sl b).childOf b = .nil →
        (if P then T.node b .nil .nil .nil else x.graft q sl b).childOf b = .nil := by
      intro P _ x ih
      split
      · exact if_pos rfl
      · exact ih
    simp only [T.graft, T.childOf]
    rw [if_neg (Ne.symm hba), sub _ l (ihl hbl), sub _ c (ihc hbc), sub _ r (ihr hbr), ite_self, ite_self]

section ChildChain
variable {s s' : State} {u : T} {q b : Nat} {x : Stem} {lo hi : Option Stem} {pre p : LRU}

theorem graft_child_ord (hnd : u.addrs.Nodup)
    (hst : ∀ a ∈ u.addrs, s'.stemAt a = s.stemAt a) (hsb : s'.stemAt b = x)
    (hm : (p, q) ∈ u.entries s pre) (hc : u.childOf q = .nil) (ho : OrdT s u lo hi) :
    OrdT s' (u.graft q .C b) lo hi :=
  (T.child_hole u pre lo hi hnd hm hc).graft_ord hnd hst hsb ho (by simp) (by simp)

theorem graft_child_ord_of_mem (hnd : u.addrs.Nodup) (hb : b ∉ u.addrs)
    (hst : ∀ a ∈ u.addrs, s'.stemAt a = s.stemAt a)
    (hq : q ∈ u.addrs) (hc : u.childOf q = .nil) (ho : OrdT s u lo hi) :
    OrdT s' (u.graft q .C b) lo hi := by
  obtain ⟨p, hm⟩ := T.addrs_mem_entries (s := s) u [] hq
  exact graft_child_ord (x := s'.stemAt b) (pre := []) hnd hst rfl hm hc ho

theorem graft_child_addrs (hnd : u.addrs.Nodup)
    (hm : (p, q) ∈ u.entries s pre) (hc : u.childOf q = .nil) :
    (u.graft q .C b).addrs.Perm (b :: u.addrs) :=
  (T.child_hole u pre none none hnd hm hc).graft_addrs hnd

theorem graft_child_addrs_of_mem (hnd : u.addrs.Nodup) (hq : q ∈ u.addrs) (hc : u.childOf q = .nil) :
    (u.graft q .C b).addrs.Perm (b :: u.addrs) := by
  obtain ⟨p, hm⟩ := T.addrs_mem_entries (s := default) u [] hq
  exact graft_child_addrs hnd hm hc

theorem graft_child_nodup (hnd : u.addrs.Nodup) (hb : b ∉ u.addrs)
    (hq : q ∈ u.addrs) (hc : u.childOf q = .nil) :
    (u.graft q .C b).addrs.Nodup :=
  (graft_child_addrs_of_mem hnd hq hc).nodup_iff.mpr (List.nodup_cons.mpr ⟨hb, hnd⟩)

theorem graft_child_entries (hnd : u.addrs.Nodup)
    (hst : ∀ a ∈ u.addrs, s'.stemAt a = s.stemAt a) (hsb : s'.stemAt b = x)
    (hm : (p, q) ∈ u.entries s pre) (hc : u.childOf q = .nil) :
    ((u.graft q .C b).entries s' pre).Perm ((p ++ [x], b) :: u.entries s pre) :=
  (T.child_hole u pre none none hnd hm hc).graft_entries hnd hst hsb

/-- with `graft_child_childOf_new`: the hypotheses `hm`, `hc` hold again of `b` in the new tree, for the next link
    of the chain -/
theorem graft_child_next (hnd : u.addrs.Nodup)
    (hst : ∀ a ∈ u.addrs, s'.stemAt a = s.stemAt a) (hsb : s'.stemAt b = x)
    (hm : (p, q) ∈ u.entries s pre) (hc : u.childOf q = .nil) :
    (p ++ [x], b) ∈ (u.graft q .C b).entries s' pre :=
  (graft_child_entries hnd hst hsb hm hc).symm.subset (by simp)

theorem graft_child_childOf_new (hnd : u.addrs.Nodup) (hb : b ∉ u.addrs)
    (hm : (p, q) ∈ u.entries s pre) (hc : u.childOf q = .nil) :
    (u.graft q .C b).childOf b = .nil :=
  T.childOf_graft_new u hb

theorem descend_childOf_new {stems rest' : List Stem} {pre' : LRU} {sl : Slot}
    (hnd : u.addrs.Nodup) (hb : b ∉ u.addrs)
    (hd : u.descend s stems pre = .fell q sl pre' (x :: rest')) :
    (u.graft q sl b).childOf b = .nil :=
  T.childOf_graft_new u hb
end ChildChain

/-! A graft below the sibling `a` only replaces the child tree of `a`. -/

def T.replaceChildAt : T → Nat → T → T
  | .nil, _, _ => .nil
  | .node d l c r, a, c' =>
    if d = a then .node d l c' r
    else if a ∈ l.sibs then .node d (l.replaceChildAt a c') c r
    else .node d l c (r.replaceChildAt a c')

theorem T.graft_childAt {q b : Nat} {sl : Slot} {a : Nat} : ∀ (u : T), u.addrs.Nodup → a ∈ u.sibs →
    q ∈ (u.childAt a).addrs → u.graft q sl b = u.replaceChildAt a ((u.childAt a).graft q sl b) := by
  intro u
  induction u with
  | nil => intro _ h; exact nomatch h
  | node d l c r ihl _ ihr =>
    intro hnd ha hq
    obtain ⟨_, _, _, ndl, _, ndr, _⟩ := T.nodup_node hnd
    rcases T.sibs_cases ha with rfl | ⟨e, hl⟩ | ⟨e, hl, har'⟩
    · rw [T.childAt_node_self] at hq ⊢
      rw [T.replaceChildAt, if_pos rfl, T.graft_inC sl l r hq hnd]
    · rw [T.childAt_node_go_left c r e hl] at hq ⊢
      rw [T.replaceChildAt, if_neg e, if_pos hl, T.graft_inL sl c r (T.childAt_addrs l a q hq) hnd, ihl ndl hl hq]
    · rw [T.childAt_node_go_right c r e hl] at hq ⊢
      rw [T.replaceChildAt, if_neg e, if_neg hl, T.graft_inR sl l c (T.childAt_addrs r a q hq) hnd,
        ihr ndr har' hq]

#print axioms OrdT.graft_find
#print axioms addrs_graft_find
#print axioms OrdT.graft_descend
#print axioms addrs_graft_descend
#print axioms entries_graft_descend
#print axioms descend_fell_mem
#print axioms graft_child_ord
#print axioms graft_child_addrs
#print axioms graft_child_entries

end Traph
