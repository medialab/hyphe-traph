import Proofs.NetworkSlow
/-! C07, the webentity network read back. With `Proofs/NetworkSlow.lean` both variants are one fold of the
    same link events; here the events are summed (`esum_netEvents`: block level, over the bags of
    `Proofs/LinkBag.lean`), the block-level sum is pushed through `Graph` to the list `L` of submitted
    links (`LinkView.blockW_eq`), the first pass is read (`netTally`: rows and page tallies), and everything is
    assembled into the statements about `State.network` / `State.networkSlow` for a state satisfying
    `LinkView s t L`: `LinkView.C07_weight_dir` (recorded weight = `specDir`), `.C07_slow`, `.C07_transpose`,
    `.network_rows`, `.network_tally`. `Proofs/NetworkRun.lean` collects them (`LinkView.C07`) and lifts them to every
    reachable state (`C07_reachable`). -/
namespace Traph
open State

theorem sum_map_ite_filter {α : Type} (c : Prop) [Decidable c] (q : α → Bool) (f : α → Nat) : ∀ (D : List α),
    (D.map (fun x => if c ∧ q x = true then f x else 0)).sum = if c then ((D.filter q).map f).sum else 0
  | [] => by simp
  | x :: D => by
    rw [List.map_cons, List.sum_cons, sum_map_ite_filter c q f D]
    by_cases hc : c
    · simp only [hc, true_and, if_true]
      by_cases hq : q x = true
      · rw [if_pos hq, List.filter_cons_of_pos hq]; simp
      · rw [if_neg hq, List.filter_cons_of_neg hq]; simp
    · simp [hc]

theorem sum_map_indicator {α : Type} (q : α → Bool) : ∀ (D : List α),
    (D.map (fun x => if q x = true then 1 else 0)).sum = (D.filter q).length
  | [] => rfl
  | x :: D => by
    rw [List.map_cons, List.sum_cons, sum_map_indicator q D]
    by_cases hq : q x = true
    · rw [if_pos hq, List.filter_cons_of_pos hq, List.length_cons]; omega
    · rw [if_neg hq, List.filter_cons_of_neg hq]; omega

theorem length_filter_or_disjoint {α : Type} (p q : α → Bool) (hd : ∀ x, ¬ (p x = true ∧ q x = true)) :
    ∀ (l : List α), (l.filter (fun x => p x || q x)).length = (l.filter p).length + (l.filter q).length
  | [] => rfl
  | x :: l => by
    have ih := length_filter_or_disjoint p q hd l
    cases hp : p x <;> cases hq : q x
    · rw [List.filter_cons_of_neg (by simp [hp, hq]), List.filter_cons_of_neg (by simp [hp]),
        List.filter_cons_of_neg (by simp [hq])]; exact ih
    · rw [List.filter_cons_of_pos (by simp [hp, hq]), List.filter_cons_of_neg (by simp [hp]),
        List.filter_cons_of_pos (by simp [hq])]; simp only [List.length_cons]; omega
    · rw [List.filter_cons_of_pos (by simp [hp, hq]), List.filter_cons_of_pos (by simp [hp]),
        List.filter_cons_of_neg (by simp [hq])]; simp only [List.length_cons]; omega
    · exact absurd ⟨hp, hq⟩ (hd x)

/-- summing, over distinct keys, the number of items carrying the key = counting the items whose key is listed -/
theorem sum_filter_by_key {β : Type} (f : β → Nat) (Q : β → Bool) (L : List β) : ∀ (K : List Nat), K.Nodup →
    (K.map (fun k => (L.filter (fun x => decide (f x = k) && Q x)).length)).sum =
      (L.filter (fun x => decide (f x ∈ K) && Q x)).length
  | [], _ => by simp; exact (lbFilter_false_length L).symm
  | k :: K, hnd => by
    rw [List.nodup_cons] at hnd
    rw [List.map_cons, List.sum_cons, sum_filter_by_key f Q L K hnd.2,
      ← length_filter_or_disjoint _ _ (by
        intro x ⟨h1, h2⟩
        simp only [Bool.and_eq_true, decide_eq_true_eq] at h1 h2
        exact hnd.1 (h1.1 ▸ h2.1))]
    refine congrArg List.length (List.filter_congr ?_)
    intro x _
    rw [Bool.eq_iff_iff]
    simp only [Bool.or_eq_true, Bool.and_eq_true, decide_eq_true_eq, List.mem_cons]
    constructor
    · rintro (⟨h1, h2⟩ | ⟨h1, h2⟩)
      · exact ⟨Or.inl h1, h2⟩
      · exact ⟨Or.inr h1, h2⟩
    · rintro ⟨h1 | h1, h2⟩
      · exact Or.inl ⟨h1, h2⟩
      · exact Or.inr ⟨h1, h2⟩

theorem wsumP_cons (P : Nat → Bool) (tw : Nat × Nat) (W : List (Nat × Nat)) :
    wsumP P (tw :: W) = (if P tw.1 = true then tw.2 else 0) + wsumP P W := by
  unfold wsumP
  by_cases h : P tw.1 = true
  · rw [List.filter_cons_of_pos (by simpa using h), if_pos h]; simp
  · rw [List.filter_cons_of_neg (by simpa using h), if_neg h]; simp

theorem wsumP_weighted (s : State) (P : Nat → Bool) (head : Nat) :
    wsumP P (s.weighted head) = ((s.walk head).filter P).length :=
  (fold_sumP P (s.walk head) []).trans (Nat.zero_add _)

/-- when a link from `A` to `B` is reported at all: both ends resolve, and self-links only on request -/
def netCond (auto : Bool) (A B : Nat) : Prop := A ≠ 0 ∧ B ≠ 0 ∧ (auto = true ∨ A ≠ B)

instance (auto : Bool) (A B : Nat) : Decidable (netCond auto A B) := by unfold netCond; infer_instance

namespace State
/-- block-level weight: over the page blocks the traversal carries `A` to, the number of members of the
    block's bag (out-list or in-list) whose bottom-up webentity is `B` -/
def blockW (s : State) (out : Bool) (A B : Nat) : Nat :=
  ((s.dfsWe.filter (fun bw => (s.cell bw.1).flags.page && decide (bw.2 = A))).map
    (fun bw => ((s.bag out bw.1).filter (fun b => decide (s.windupWe b = B))).length)).sum
end State

theorem esum_blockEvents (s : State) (out auto : Bool) (A B : Nat) (bw : Nat × Nat) :
    esum A B (s.blockEvents out auto bw) =
      if netCond auto A B ∧ ((s.cell bw.1).flags.page && decide (bw.2 = A)) = true then
        ((s.bag out bw.1).filter (fun b => decide (s.windupWe b = B))).length else 0 := by
  unfold esum State.blockEvents
  rw [readList_filter s _ _ _ _ _ (fun c => bw.2 = A ∧ s.windupWe c = B) (fun _ _ => rfl),
    readList_sum s _ _ _ _ (fun e : Nat × Nat × Nat => e.2.2) (fun _ _ => rfl)]
  show (if _ then ((s.bag out bw.1).filter _).length else 0) = _
  by_cases hc : netCond auto A B ∧ ((s.cell bw.1).flags.page && decide (bw.2 = A)) = true
  · rw [if_pos hc]
    obtain ⟨⟨hA, hB, ha⟩, hp⟩ := hc
    rw [Bool.and_eq_true, decide_eq_true_eq] at hp
    rw [if_pos (by rw [Bool.and_eq_true, decide_eq_true_eq]; exact ⟨hp.1, hp.2 ▸ hA⟩)]
    refine congrArg List.length (List.filter_congr fun c _ => decide_eq_decide.mpr ⟨fun h => h.2.2, fun h => ?_⟩)
    refine ⟨⟨h ▸ hB, ?_⟩, hp.2, h⟩
    rw [hp.2, h, Bool.and_eq_true, Bool.not_eq_true', decide_eq_true_eq]
    rintro ⟨h1, h2⟩
    exact ha.elim (fun h' => by rw [h1] at h'; cases h') (fun h' => h' h2)
  · rw [if_neg hc]
    split
    · rename_i hon
      rw [Bool.and_eq_true, decide_eq_true_eq] at hon
      rw [List.length_eq_zero_iff, List.filter_eq_nil_iff]
      rintro c _ hk
      obtain ⟨⟨h0, hauto⟩, e1, e2⟩ := of_decide_eq_true hk
      refine hc ⟨⟨e1 ▸ hon.2, e2 ▸ h0, ?_⟩, by rw [Bool.and_eq_true, decide_eq_true_eq]; exact ⟨hon.1, e1⟩⟩
      rw [e1, e2, Bool.and_eq_true, Bool.not_eq_true', decide_eq_true_eq] at hauto
      cases auto
      · exact Or.inr fun e => hauto ⟨rfl, e⟩
      · exact Or.inl rfl
    · rfl

theorem esum_netEvents (s : State) (out auto : Bool) (A B : Nat) :
    esum A B (s.netEvents out auto) = if netCond auto A B then s.blockW out A B else 0 := by
  unfold State.netEvents State.blockW
  rw [esum_flatMap]
  rw [List.map_congr_left (fun bw _ => esum_blockEvents s out auto A B bw)]
  exact sum_map_ite_filter (netCond auto A B) _ _ s.dfsWe

theorem mem_netEvents {s : State} {out auto : Bool} {e : Nat × Nat × Nat} (he : e ∈ s.netEvents out auto) :
    ∃ bw ∈ s.dfsWe, (s.cell bw.1).flags.page = true ∧ bw.2 ≠ 0 ∧
      ∃ c ∈ s.bag out bw.1, e = (bw.2, s.windupWe c, count c (s.bag out bw.1)) := by
  obtain ⟨bw, hbw, hb⟩ := List.mem_flatMap.mp he
  obtain ⟨hon, c, hc, _, rfl⟩ := (mem_readList ..).mp hb
  rw [Bool.and_eq_true, decide_eq_true_eq] at hon
  exact ⟨bw, hbw, hon.1, hon.2, c, hc, rfl⟩

theorem netEvents_pos (s : State) (out auto : Bool) : ∀ e ∈ s.netEvents out auto, 0 < e.2.2 := by
  intro e he
  obtain ⟨bw, _, _, _, c, hc, rfl⟩ := mem_netEvents he
  exact (count_pos_iff _ _).mpr hc

theorem esum_pos {A B : Nat} : ∀ {es : List (Nat × Nat × Nat)}, (∀ e ∈ es, 0 < e.2.2) →
    (∃ e ∈ es, e.1 = A ∧ e.2.1 = B) → 0 < esum A B es
  | e' :: es, hpos, ⟨e, he, h⟩ => by
    rw [esum_cons]
    rcases List.mem_cons.mp he with rfl | he
    · rw [if_pos h]; exact Nat.lt_of_lt_of_le (hpos e (List.mem_cons_self ..)) (Nat.le_add_right ..)
    · exact Nat.lt_of_lt_of_le (esum_pos (fun x hx => hpos x (List.mem_cons_of_mem _ hx)) ⟨e, he, h⟩)
        (Nat.le_add_left ..)

theorem exists_of_esum_pos {A B : Nat} : ∀ {es : List (Nat × Nat × Nat)}, 0 < esum A B es → ∃ e ∈ es, e.1 = A ∧ e.2.1 = B
  | [], h => by simp at h
  | e :: es, h => by
    rw [esum_cons] at h
    by_cases he : e.1 = A ∧ e.2.1 = B
    · exact ⟨e, List.mem_cons_self .., he⟩
    · rw [if_neg he, Nat.zero_add] at h
      obtain ⟨e', h1, h2⟩ := exists_of_esum_pos h
      exact ⟨e', List.mem_cons_of_mem _ h1, h2⟩

namespace State
/-- the webentity a byte string resolves to by `retrieve_webentity`, `0` when it answers its error; the same number as
    `Traph.weOf` of Proofs/LinkRead (`weOf_eq`), which reads it off `followLru` -/
def weOf (s : State) (lru : Bytes) : Nat :=
  match s.retrieveWebentity lru with
  | .ok w => w
  | .error _ => 0

/-- the links of `L` whose source resolves to `A` and whose target resolves to `B`, with multiplicity -/
def linkCount (s : State) (L : List (Bytes × Bytes)) (A B : Nat) : Nat :=
  (L.filter (fun st => decide (s.weOf st.1 = A ∧ s.weOf st.2 = B))).length

/-- THE SPECIFICATION of the webentity network: the page-level multigraph `L` pushed through resolution,
    pages without webentity dropped, self-links iff requested -/
def specW (s : State) (L : List (Bytes × Bytes)) (auto : Bool) (A B : Nat) : Nat :=
  if netCond auto A B then s.linkCount L A B else 0
end State

/-- the same number as `weOf` of Proofs/LinkRead -/
theorem weOf_eq (s : State) (lru : Bytes) : s.weOf lru = weOf s lru := by
  unfold State.weOf
  rw [retrieveWebentity_weOf]
  by_cases h0 : weOf s lru = 0
  · rw [if_pos h0]; exact h0.symm
  · rw [if_neg h0]

theorem retrieveWebentity_weOf_net (s : State) (lru : Bytes) :
    s.retrieveWebentity lru = if s.weOf lru = 0 then .error .traph else .ok (s.weOf lru) := by
  rw [weOf_eq]; rfl

theorem weOf_flatten {s : State} {t : T} (h : Shape s t) (hi : Inv s t) (hp : ParOk s t 0) {p : LRU} {b : Nat}
    (hpb : (p, b) ∈ t.entries s []) : s.weOf p.flatten = s.windupWe b := by
  rw [weOf_eq]; exact (entry_reads h hi hp hpb).2.1.symm

theorem LinkView.windupWe_end {s : State} {t : T} {L : List (Bytes × Bytes)} (v : LinkView s t L)
    {x : Bytes} (hx : IsPage s t (lruIter x)) :
    ∃ n, s.lruNode (lruIter x) = some n ∧ (lruIter x, n) ∈ t.entries s [] ∧ (s.cell n).flags.page = true ∧
      s.windupWe n = s.weOf x := by
  obtain ⟨_, n, e, hm, hf⟩ := isPage_node v.shape hx
  exact ⟨n, e, hm, hf, by rw [weOf_eq]; exact windupWe_eq_followLru v.shape v.par hm⟩

theorem dfsWe_keys_nodup {s : State} {t : T} (h : Shape s t) : (s.dfsWe.map (·.1)).Nodup := by
  rw [dfsWe_eq h]; exact (preWe_addrs_perm t 0).nodup_iff.mpr h.nodup

theorem LinkView.blockW_eq {s : State} {t : T} {L : List (Bytes × Bytes)} (v : LinkView s t L)
    (out : Bool) (A B : Nat) :
    s.blockW out A B = if out then s.linkCount L A B else s.linkCount L B A := by
  let blkN : Bytes × Bytes → Nat := fun st => (s.lruNode (nearEnd out st)).getD 0
  let Q : Bytes × Bytes → Bool := fun st => decide (s.windupWe ((s.lruNode (farEnd out st)).getD 0) = B)
  let D' := s.dfsWe.filter (fun bw => (s.cell bw.1).flags.page && decide (bw.2 = A))
  have hterm : ∀ bw ∈ D', ((s.bag out bw.1).filter (fun b => decide (s.windupWe b = B))).length =
      (L.filter (fun st => decide (blkN st = bw.1) && Q st)).length := by
    intro bw hbw
    obtain ⟨hbw1, _⟩ := List.mem_filter.mp hbw
    obtain ⟨p, hpb, _⟩ := (dfsWe_mem_iff v.shape bw.1 bw.2).mp hbw1
    rw [v.graph.filter_bag_length v.shape hpb out]
    refine congrArg List.length (List.filter_congr ?_)
    intro st hst
    obtain ⟨ne, n, e, hm, _⟩ := isPage_node v.shape (v.graph.pages_side out hst).1
    congr 1
    rw [decide_eq_decide]
    show nearEnd out st = p ↔ (s.lruNode (nearEnd out st)).getD 0 = bw.1
    rw [e, Option.getD_some, ← lruNode_eq_iff v.shape hpb ne, e, Option.some.injEq]
  have hK : (D'.map (·.1)).Nodup :=
    (List.filter_sublist.map _).nodup (dfsWe_keys_nodup v.shape)
  have hsum := sum_filter_by_key blkN Q L (D'.map (·.1)) hK
  rw [List.map_map] at hsum
  unfold State.blockW
  rw [List.map_congr_left hterm]
  refine hsum.trans ?_
  -- membership of the near block among the keys = resolution of the near end
  have hcongr : ∀ st ∈ L, (decide (blkN st ∈ D'.map (·.1)) && Q st) =
      decide (s.weOf (if out then st.1 else st.2) = A ∧ s.weOf (if out then st.2 else st.1) = B) := by
    intro st hst
    obtain ⟨hn, hf⟩ := v.graph.pages_side out hst
    have en : nearEnd out st = lruIter (if out then st.1 else st.2) := by cases out <;> rfl
    have ef : farEnd out st = lruIter (if out then st.2 else st.1) := by cases out <;> rfl
    rw [en] at hn; rw [ef] at hf
    obtain ⟨n, e1, hm1, hp1, w1⟩ := v.windupWe_end hn
    obtain ⟨m, e2, hm2, hp2, w2⟩ := v.windupWe_end hf
    rw [Bool.eq_iff_iff]
    simp only [Bool.and_eq_true, decide_eq_true_eq, blkN, Q, en, ef, e1, e2, Option.getD_some, w2, ← w1]
    refine and_congr_left (fun _ => ?_)
    constructor
    · intro hmem
      obtain ⟨bw, hbw, ebw⟩ := List.mem_map.mp hmem
      obtain ⟨hbw1, hbw2⟩ := List.mem_filter.mp hbw
      simp only [Bool.and_eq_true, decide_eq_true_eq] at hbw2
      have := dfsWe_windupWe v.shape v.par hbw1
      rw [← ebw, ← this]; exact hbw2.2
    · intro hA
      refine List.mem_map.mpr ⟨(n, s.windupWe n), List.mem_filter.mpr ⟨dfsWe_of_entry v.shape v.par hm1, ?_⟩, rfl⟩
      simp [hp1, hA]
  rw [List.filter_congr hcongr]
  cases out
  · simp only [Bool.false_eq_true, if_false]
    exact congrArg List.length (List.filter_congr fun st _ => by rw [decide_eq_decide]; exact and_comm)
  · rfl

/-- `graph[we]["pages_crawled" | "pages_uncrawled"] += 1` -/
def tallyStep (s : State) (bw : Nat × Nat) (r : NetRow) : NetRow :=
  if (s.cell bw.1).flags.crawled then { r with crawled := r.crawled + 1 }
  else { r with uncrawled := r.uncrawled + 1 }

theorem netTally_def (s : State) :
    s.netTally = netFold (·.2) (tallyStep s) []
      (s.dfsWe.filter (fun bw => (s.cell bw.1).flags.page && decide (bw.2 ≠ 0))) := rfl

theorem tallyStep_src (s : State) (bw : Nat × Nat) (r : NetRow) : (tallyStep s bw r).src = r.src := by
  unfold tallyStep; split <;> rfl

theorem tallyStep_targets (s : State) (bw : Nat × Nat) (r : NetRow) : (tallyStep s bw r).targets = r.targets := by
  unfold tallyStep; split <;> rfl

namespace State
/-- block-level tally: the page blocks with crawled mark `c` that the walk `dfsWe` reaches carrying webentity `A` -/
def blockPages (s : State) (c : Bool) (A : Nat) : Nat :=
  (s.dfsWe.filter (fun bw => (s.cell bw.1).flags.page && decide (bw.2 = A) &&
    decide ((s.cell bw.1).flags.crawled = c))).length

/-- API-level tally: the pages `pages_iter` lists with crawled mark `c` that `retrieve_webentity` resolves to `A` -/
def pageCount (s : State) (c : Bool) (A : Nat) : Nat :=
  (s.pagesIter.filter (fun lc => decide (lc.2 = c ∧ s.weOf lc.1 = A))).length
end State

theorem netTally_tally (s : State) (c : Bool) (A : Nat) (hA : A ≠ 0) :
    netSum (fun r => if c then r.crawled else r.uncrawled) s.netTally A = s.blockPages c A := by
  rw [netTally_def, netFold_sum (·.2) (tallyStep s) (fun r => if c then r.crawled else r.uncrawled)
    (fun bw => if decide ((s.cell bw.1).flags.crawled = c) = true then 1 else 0)
    (tallyStep_src s) (fun _ => by cases c <;> rfl)
    (fun bw r => by
      unfold tallyStep
      cases c <;> cases (s.cell bw.1).flags.crawled <;> simp)]
  rw [netSum_nil, Nat.zero_add, sum_map_indicator, List.filter_filter, List.filter_filter]
  unfold State.blockPages
  refine congrArg List.length (List.filter_congr ?_)
  intro bw _
  rw [Bool.eq_iff_iff]
  simp only [Bool.and_eq_true, decide_eq_true_eq]
  constructor
  · rintro ⟨⟨h1, h2⟩, h3, _⟩; exact ⟨⟨h3, h2⟩, h1⟩
  · rintro ⟨⟨h3, h2⟩, h1⟩; exact ⟨⟨h1, h2⟩, h3, h2 ▸ hA⟩

theorem netTally_weight (s : State) (A B : Nat) : netW s.netTally A B = 0 := by
  unfold netW
  rw [netTally_def, netFold_sum (·.2) (tallyStep s) (fun r => ctr r.targets B) (fun _ => 0)
    (tallyStep_src s) (fun _ => rfl) (fun bw r => by rw [tallyStep_targets]; rfl)]
  rw [netSum_nil, Nat.zero_add, List.map_const', List.sum_replicate_nat]; rfl

theorem netTally_ok (s : State) : NetOk s.netTally := by
  rw [netTally_def]
  exact netFold_ok (·.2) (tallyStep s) (tallyStep_src s) _
    (fun bw _ r hr => by rw [tallyStep_targets]; exact hr) [] netOk_nil

theorem netTally_rows (s : State) (A : Nat) :
    A ∈ s.netTally.map (·.src) ↔
      A ≠ 0 ∧ ∃ bw ∈ s.dfsWe, (s.cell bw.1).flags.page = true ∧ bw.2 = A := by
  rw [netTally_def, netFold_mem_srcs (·.2) (tallyStep s) (tallyStep_src s)]
  simp only [List.map_nil, List.not_mem_nil, false_or, List.mem_filter, Bool.and_eq_true, decide_eq_true_eq]
  constructor
  · rintro ⟨bw, ⟨h1, h2, h3⟩, rfl⟩; exact ⟨h3, bw, h1, h2, rfl⟩
  · rintro ⟨hA, bw, h1, h2, rfl⟩; exact ⟨bw, ⟨h1, h2, hA⟩, rfl⟩

theorem netTally_targets (s : State) : ∀ r ∈ s.netTally, r.targets = [] := by
  rw [netTally_def]
  exact netFold_all (·.2) (tallyStep s) (fun r => r.targets = []) (fun _ => rfl) _ []
    (fun bw _ r hr => by rw [tallyStep_targets]; exact hr) (by simp)

theorem dfs_keys_perm {s : State} {t : T} (h : Shape s t) :
    ((s.dfsIter none false).map (·.1)).Perm (s.dfsWe.map (·.1)) := by
  rw [dfsIter_root h, dfsWe_eq h]
  exact (pre_addrs_perm t []).trans (preWe_addrs_perm t 0).symm

theorem blockPages_eq {s : State} {t : T} (h : Shape s t) (hi : Inv s t) (hp : ParOk s t 0) (c : Bool) (A : Nat) :
    s.blockPages c A = s.pageCount c A := by
  let Pb : Nat → Bool := fun b => (s.cell b).flags.page && decide (s.windupWe b = A) &&
    decide ((s.cell b).flags.crawled = c)
  have h1 : s.blockPages c A = ((s.dfsWe.map (·.1)).filter Pb).length := by
    unfold State.blockPages
    rw [List.filter_map, List.length_map]
    refine congrArg List.length (List.filter_congr ?_)
    intro bw hbw
    simp only [Function.comp, Pb]
    rw [← dfsWe_windupWe h hp hbw]
  have h2 : s.pageCount c A = (((s.dfsIter none false).map (·.1)).filter Pb).length := by
    unfold State.pageCount State.pagesIter
    rw [List.filter_map, List.length_map, List.filter_filter, List.filter_map, List.length_map]
    refine congrArg List.length (List.filter_congr ?_)
    intro bl hbl
    obtain ⟨p, hpb, e⟩ := (dfsIter_mem_iff h bl.1 bl.2).mp hbl
    have hw : s.weOf bl.2 = s.windupWe bl.1 := e ▸ weOf_flatten h hi hp hpb
    simp only [Function.comp, Pb, hw]
    rw [Bool.eq_iff_iff]
    simp only [Bool.and_eq_true, decide_eq_true_eq]
    constructor
    · rintro ⟨⟨h1, h2⟩, h3⟩; exact ⟨⟨h3, h2⟩, h1⟩
    · rintro ⟨⟨h3, h2⟩, h1⟩; exact ⟨⟨h1, h2⟩, h3⟩
  rw [h1, h2]
  exact ((dfs_keys_perm h).filter Pb).length_eq.symm

/-- the block-level weight over the finite map of the index instead of the traversal -/
theorem blockW_entries {s : State} {t : T} (h : Shape s t) (hp : ParOk s t 0) (out : Bool) (A B : Nat) :
    s.blockW out A B =
      (((t.entries s []).filter (fun pb => (s.cell pb.2).flags.page && decide ((s.followLru pb.1).2.we = A))).map
        (fun pb => ((s.bag out pb.2).filter (fun b => decide (s.windupWe b = B))).length)).sum := by
  let Pa : Nat → Bool := fun a => (s.cell a).flags.page && decide (s.windupWe a = A)
  let f : Nat → Nat := fun a => ((s.bag out a).filter (fun b => decide (s.windupWe b = B))).length
  have h1 : s.blockW out A B = (((s.dfsWe.map (·.1)).filter Pa).map f).sum := by
    unfold State.blockW
    rw [List.filter_map, List.map_map]
    congr 2
    apply List.filter_congr
    intro bw hbw
    simp only [Function.comp, Pa]
    rw [← dfsWe_windupWe h hp hbw]
  have h2 : (((t.entries s []).filter (fun pb => (s.cell pb.2).flags.page &&
        decide ((s.followLru pb.1).2.we = A))).map
        (fun pb => ((s.bag out pb.2).filter (fun b => decide (s.windupWe b = B))).length)).sum =
      ((((t.entries s []).map (·.2)).filter Pa).map f).sum := by
    rw [List.filter_map, List.map_map]
    congr 2
    apply List.filter_congr
    intro pb hpb
    simp only [Function.comp, Pa]
    rw [windupWe_eq_followLru h hp hpb]
  rw [h1, h2]
  apply List.Perm.sum_nat
  apply List.Perm.map
  apply List.Perm.filter
  have p1 : (s.dfsWe.map (·.1)).Perm t.addrs := by rw [dfsWe_eq h]; exact preWe_addrs_perm t 0
  exact p1.trans (entries_addrs_perm t []).symm

theorem netCond_symm (auto : Bool) (A B : Nat) : netCond auto B A ↔ netCond auto A B := by
  unfold netCond
  constructor
  · rintro ⟨h1, h2, h3⟩; exact ⟨h2, h1, h3.imp id (fun h e => h e.symm)⟩
  · rintro ⟨h1, h2, h3⟩; exact ⟨h2, h1, h3.imp id (fun h e => h e.symm)⟩

namespace State
/-- the specification read in the requested direction: the row of `A` in the outbound network holds the
    links from `A`, in the inbound network the links to `A` -/
def specDir (s : State) (L : List (Bytes × Bytes)) (out auto : Bool) (A B : Nat) : Nat :=
  if out then s.specW L auto A B else s.specW L auto B A
end State

theorem LinkView.network_ok {s : State} {t : T} {L : List (Bytes × Bytes)} (v : LinkView s t L) (out auto : Bool) :
    NetOk (s.network out auto) := by
  rw [network_eq v]; exact netOk_events _ _ (netEvents_pos s out auto) (netTally_ok s)

theorem networkSlow_ok {s : State} {t : T} (h : Shape s t) (hp : ParOk s t 0) (out auto : Bool) :
    NetOk (s.networkSlow out auto) := by
  rw [networkSlow_eq h hp]; exact netOk_events _ _ (netEvents_pos s out auto) netOk_nil

/-- C07 at block level: the recorded weight from `A` to `B` is, when both are webentities and self-links
    are requested or `A ≠ B`, the number of stubs hanging off page blocks of `A` whose other end is a
    block of `B`; and 0 otherwise -/
theorem LinkView.network_blocks {s : State} {t : T} {L : List (Bytes × Bytes)} (v : LinkView s t L)
    (out auto : Bool) (A B : Nat) :
    netW (s.network out auto) A B = if netCond auto A B then s.blockW out A B else 0 := by
  rw [network_eq v, netW_events, netTally_weight, Nat.zero_add, esum_netEvents]

theorem networkSlow_blocks {s : State} {t : T} (h : Shape s t) (hp : ParOk s t 0) (out auto : Bool) (A B : Nat) :
    netW (s.networkSlow out auto) A B = if netCond auto A B then s.blockW out A B else 0 := by
  rw [networkSlow_eq h hp, netW_events, esum_netEvents]
  unfold netW; rw [netSum_nil, Nat.zero_add]

/-- C07, the memory-light variant records the same weights -/
theorem LinkView.C07_slow {s : State} {t : T} {L : List (Bytes × Bytes)} (v : LinkView s t L)
    (out auto : Bool) (A B : Nat) :
    netW (s.networkSlow out auto) A B = netW (s.network out auto) A B := by
  rw [networkSlow_blocks v.shape v.par, v.network_blocks]

/-- C07, weights: the recorded weight is the specification, in either direction -/
theorem LinkView.C07_weight_dir {s : State} {t : T} {L : List (Bytes × Bytes)} (v : LinkView s t L)
    (out auto : Bool) (A B : Nat) :
    netW (s.network out auto) A B = s.specDir L out auto A B := by
  rw [v.network_blocks, v.blockW_eq]
  unfold State.specDir State.specW
  cases out
  · simp only [Bool.false_eq_true, if_false]
    exact ite_congr (propext (netCond_symm auto A B).symm) (fun _ => rfl) (fun _ => rfl)
  · rfl

/-- C07, outbound: the weight from `A` to `B` is the number of submitted page links whose source resolves
    to `A` and target to `B` (0 when either is "no webentity", or when `A = B` and self-links are off) -/
theorem LinkView.C07_weight {s : State} {t : T} {L : List (Bytes × Bytes)} (v : LinkView s t L)
    (auto : Bool) (A B : Nat) : netW (s.network true auto) A B = s.specW L auto A B :=
  v.C07_weight_dir true auto A B

/-- C07, inbound: the row of `B` records under `A` the same number -/
theorem LinkView.C07_weight_in {s : State} {t : T} {L : List (Bytes × Bytes)} (v : LinkView s t L)
    (auto : Bool) (A B : Nat) : netW (s.network false auto) B A = s.specW L auto A B :=
  v.C07_weight_dir false auto B A

/-- C07, the inbound network is the transpose of the outbound one -/
theorem LinkView.C07_transpose {s : State} {t : T} {L : List (Bytes × Bytes)} (v : LinkView s t L)
    (auto : Bool) (A B : Nat) : netW (s.network false auto) B A = netW (s.network true auto) A B := by
  rw [v.C07_weight_in, v.C07_weight]

theorem LinkView.blockW_transpose {s : State} {t : T} {L : List (Bytes × Bytes)} (v : LinkView s t L)
    (A B : Nat) : s.blockW false B A = s.blockW true A B := by
  rw [v.blockW_eq, v.blockW_eq]; rfl

/-- rows of the two-pass variant: exactly the webentities some listed page resolves to (whether or not
    any link qualifies) -/
theorem LinkView.network_rows {s : State} {t : T} {L : List (Bytes × Bytes)} (v : LinkView s t L)
    (out auto : Bool) (A : Nat) :
    A ∈ (s.network out auto).map (·.src) ↔ A ≠ 0 ∧ ∃ lc ∈ s.pagesIter, s.weOf lc.1 = A := by
  have hpages : (∃ bw ∈ s.dfsWe, (s.cell bw.1).flags.page = true ∧ bw.2 = A) ↔
      ∃ lc ∈ s.pagesIter, s.weOf lc.1 = A := by
    constructor
    · rintro ⟨bw, hbw, hpg, rfl⟩
      obtain ⟨p, hpb, _⟩ := (dfsWe_mem_iff v.shape bw.1 bw.2).mp hbw
      refine ⟨(p.flatten, (s.cell bw.1).flags.crawled),
        (pagesIter_iff v.shape _ _).mpr ⟨p, bw.1, hpb, rfl, hpg, rfl⟩, ?_⟩
      exact (weOf_flatten v.shape v.inv v.par hpb).trans (dfsWe_windupWe v.shape v.par hbw).symm
    · rintro ⟨⟨lru, c⟩, hlc, rfl⟩
      obtain ⟨p, b, hpb, e, hpg, _⟩ := (pagesIter_iff v.shape lru c).mp hlc
      exact ⟨(b, s.windupWe b), dfsWe_of_entry v.shape v.par hpb, hpg, e ▸ (weOf_flatten v.shape v.inv v.par hpb).symm⟩
  rw [network_eq v, netFold_mem_srcs (·.1) netAdd (fun _ _ => rfl), netTally_rows, hpages]
  constructor
  · rintro (h | ⟨e, he, rfl⟩)
    · exact h
    · obtain ⟨bw, hbw, hpg, h0, c, _, rfl⟩ := mem_netEvents he
      exact ⟨h0, hpages.mp ⟨bw, hbw, hpg, rfl⟩⟩
  · exact Or.inl

/-- page tallies of the two-pass variant: the numbers of listed pages resolving to the row's webentity,
    with and without the crawled mark -/
theorem LinkView.network_tally {s : State} {t : T} {L : List (Bytes × Bytes)} (v : LinkView s t L)
    (out auto : Bool) : ∀ r ∈ s.network out auto,
    r.crawled = s.pageCount true r.src ∧ r.uncrawled = s.pageCount false r.src := by
  intro r hr
  have hA : r.src ≠ 0 := ((v.network_rows out auto r.src).mp (List.mem_map.mpr ⟨r, hr, rfl⟩)).1
  have key : ∀ c : Bool, (if c then r.crawled else r.uncrawled) = s.pageCount c r.src := by
    intro c
    rw [← netSum_of_mem (fun r => if c then r.crawled else r.uncrawled) _ r (v.network_ok out auto).rows hr,
      network_eq v, netSum_events _ (fun _ _ => by cases c <;> rfl) (fun _ => by cases c <;> rfl),
      netTally_tally s c _ hA, blockPages_eq v.shape v.inv v.par]
  exact ⟨key true, key false⟩

/-- the memory-light variant carries no tallies… -/
theorem networkSlow_tally {s : State} {t : T} (h : Shape s t) (hp : ParOk s t 0) (out auto : Bool) :
    ∀ r ∈ s.networkSlow out auto, r.crawled = 0 ∧ r.uncrawled = 0 := by
  rw [networkSlow_eq h hp]
  exact netFold_all (·.1) netAdd (fun r => r.crawled = 0 ∧ r.uncrawled = 0) (fun _ => ⟨rfl, rfl⟩) _ []
    (fun _ _ _ hr => hr) (by simp)

/-- …and has a row only for a webentity with at least one reported link -/
theorem networkSlow_rows {s : State} {t : T} (h : Shape s t) (hp : ParOk s t 0) (out auto : Bool) (A : Nat) :
    A ∈ (s.networkSlow out auto).map (·.src) ↔ ∃ B, 0 < netW (s.networkSlow out auto) A B := by
  constructor
  · intro hA
    rw [networkSlow_eq h hp, netFold_mem_srcs (·.1) netAdd (fun _ _ => rfl)] at hA
    rcases hA with hA | ⟨e, he, rfl⟩
    · simp at hA
    · refine ⟨e.2.1, ?_⟩
      rw [networkSlow_eq h hp, netW_events]
      exact Nat.lt_of_lt_of_le (esum_pos (netEvents_pos s out auto) ⟨e, he, rfl, rfl⟩) (Nat.le_add_left ..)
  · rintro ⟨B, hB⟩
    obtain ⟨r, hr, rfl, _⟩ := (networkSlow_ok h hp out auto).mem_of_weight_pos hB
    exact List.mem_map.mpr ⟨r, hr, rfl⟩

theorem networkSlow_targets_ne_nil {s : State} {t : T} (h : Shape s t) (hp : ParOk s t 0) (out auto : Bool) :
    ∀ r ∈ s.networkSlow out auto, r.targets ≠ [] := by
  intro r hr e
  obtain ⟨B, hB⟩ := (networkSlow_rows h hp out auto r.src).mp (List.mem_map.mpr ⟨r, hr, rfl⟩)
  rw [((networkSlow_ok h hp out auto).targets_nil_iff hr).mp e B] at hB
  omega

end Traph

section
open Traph
#print axioms LinkView.C07_weight_dir
#print axioms LinkView.C07_transpose
#print axioms LinkView.C07_slow
#print axioms LinkView.network_rows
#print axioms LinkView.network_tally
#print axioms networkSlow_rows
end
