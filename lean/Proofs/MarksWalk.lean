import Proofs.Traverse
/-! C13: the pruned traversal (`dfs_iter` with `skip_childless_paths = True`; as a structural recursion over the ghost tree,
    `T.prePruned`, in Proofs/Traverse), the mark invariant `MarkOk` ("a node whose
    `noChild` flag is still set has no webentity anywhere in its child subtree"), and the consequence:
    the pruned walk from a prefix node meets exactly the webentity ids attached at the node or anywhere
    in its child subtree (`C13_children_exact`; what the marks give is `prePruned_complete`: pruning skips no
    block that carries a webentity). -/
namespace Traph
open State

/-- `dfs_iter(skip_childless_paths=True)` from a node -/
theorem dfsIter_pruned_from {s : State} {a : Nat} {l c r : T} (hr : Rep s (.node a l c r))
    (hnd : (T.node a l c r).addrs.Nodup) (hsz : (T.node a l c r).size ≤ s.trie.size) (lru : Bytes) :
    s.dfsGo false a true (s.trie.size + 1) [(a, lru)]
      = (a, lru ++ s.stemAt a) ::
          (if (s.cell a).flags.noChild then [] else c.prePruned s (lru ++ s.stemAt a)) := by
  rw [dfsGo_from hr hnd hsz true lru]
  by_cases hnc : (s.cell a).flags.noChild = true <;> simp [hnc, T.preSkip]

/-- the same through the entry point `dfsIter (some (a, lru)) true` (which starts at `lruDirname lru`) -/
theorem dfsIter_pruned_some {s : State} {a : Nat} {l c r : T} (hr : Rep s (.node a l c r))
    (hnd : (T.node a l c r).addrs.Nodup) (hsz : (T.node a l c r).size ≤ s.trie.size) (lru : Bytes) :
    s.dfsIter (some (a, lru)) true
      = (a, lruDirname lru ++ s.stemAt a) ::
          (if (s.cell a).flags.noChild then [] else c.prePruned s (lruDirname lru ++ s.stemAt a)) :=
  dfsIter_pruned_from hr hnd hsz (lruDirname lru)

theorem dfsIter_pruned_root {s : State} {t : T} (h : Shape s t) : s.dfsIter none true = t.prePruned s [] :=
  dfsIter_none h true

def MarkOk (s : State) : T → Prop
  | .nil => True
  | .node a l c r =>
    MarkOk s l ∧ MarkOk s r ∧ MarkOk s c ∧
      ((s.cell a).flags.noChild = true → ∀ b ∈ c.addrs, (s.cell b).we = 0)

@[simp] theorem MarkOk.nil (s : State) : MarkOk s .nil = True := rfl

theorem MarkOk.node_iff (s : State) (a : Nat) (l c r : T) :
    MarkOk s (.node a l c r) ↔ (MarkOk s l ∧ MarkOk s r ∧ MarkOk s c ∧
      ((s.cell a).flags.noChild = true → ∀ b ∈ c.addrs, (s.cell b).we = 0)) := Iff.rfl

theorem prePruned_sublist {s : State} : ∀ (t : T) (lru : Bytes), (t.prePruned s lru).Sublist (t.pre s lru) := by
  intro t
  induction t with
  | nil => intro _; exact List.Sublist.refl _
  | node a l c r ihl ihc ihr =>
    intro lru
    simp only [T.prePruned, T.pre]
    refine List.Sublist.cons_cons _ ?_
    refine List.Sublist.append (List.Sublist.append ?_ (ihl lru)) (ihr lru)
    split
    · exact List.nil_sublist _
    · exact ihc _

theorem prePruned_sub {s : State} (t : T) (lru : Bytes) :
    ∀ b ∈ (t.prePruned s lru).map (·.1), b ∈ t.addrs := by
  intro b hb
  have h1 : b ∈ (t.pre s lru).map (·.1) := ((prePruned_sublist t lru).map _).subset hb
  exact (pre_addrs_perm t lru).subset h1

theorem prePruned_mem_pre {s : State} (t : T) (lru : Bytes) :
    ∀ x ∈ t.prePruned s lru, x ∈ t.pre s lru :=
  fun _ hx => (prePruned_sublist t lru).subset hx

theorem prePruned_complete {s : State} : ∀ (t : T) (lru : Bytes), MarkOk s t →
    ∀ b ∈ t.addrs, (s.cell b).we ≠ 0 → b ∈ (t.prePruned s lru).map (·.1) := by
  intro t
  induction t with
  | nil => intro _ _ b hb; exact nomatch hb
  | node a l c r ihl ihc ihr =>
    intro lru hm b hb hw
    obtain ⟨ml, mr, mc, hmark⟩ := hm
    simp only [T.prePruned, List.map_cons, List.map_append, List.mem_cons, List.mem_append]
    rcases T.mem_addrs_node.mp hb with rfl | hb | hb | hb
    · exact Or.inl rfl
    · exact Or.inr (Or.inl (Or.inr (ihl lru ml b hb hw)))
    · by_cases hnc : (s.cell a).flags.noChild = true
      · exact absurd (hmark hnc b hb) hw
      · rw [if_neg hnc]
        exact Or.inr (Or.inl (Or.inl (ihc _ mc b hb hw)))
    · exact Or.inr (Or.inr (ihr lru mr b hb hw))

theorem dfsIter_pruned_root_complete {s : State} {t : T} (h : Shape s t) (hm : MarkOk s t) :
    ∀ b ∈ t.addrs, (s.cell b).we ≠ 0 → b ∈ (s.dfsIter none true).map (·.1) := by
  rw [dfsIter_pruned_root h]
  exact prePruned_complete t [] hm

/-- C13 (structural core): the set of ids met by the pruned DFS started from the prefix node `a` = the set
    of ids attached at `a` or anywhere in its child subtree (all proper extensions of the prefix, at any
    depth) -/
theorem C13_children_exact {s : State} {a : Nat} {l c r : T} (hr : Rep s (.node a l c r))
    (hnd : (T.node a l c r).addrs.Nodup) (hsz : (T.node a l c r).size ≤ s.trie.size)
    (hm : MarkOk s (.node a l c r)) (lru : Bytes) (w : Nat) :
    ∀ x, (x ≠ 0 ∧ x ≠ w ∧ ∃ b ∈ a :: c.addrs, (s.cell b).we = x) ↔
         (x ≠ 0 ∧ x ≠ w ∧ ∃ bl ∈ s.dfsIter (some (a, lru)) true, (s.cell bl.1).we = x) := by
  intro x
  rw [dfsIter_pruned_some hr hnd hsz lru]
  obtain ⟨_, _, mc, hmark⟩ := hm
  constructor
  · rintro ⟨h0, hw, b, hb, hx⟩
    refine ⟨h0, hw, ?_⟩
    rcases List.mem_cons.mp hb with rfl | hb
    · exact ⟨_, List.mem_cons_self, hx⟩
    · have hwb : (s.cell b).we ≠ 0 := by rw [hx]; exact h0
      by_cases hnc : (s.cell a).flags.noChild = true
      · exact absurd (hmark hnc b hb) hwb
      · rw [if_neg hnc]
        have := prePruned_complete c (lruDirname lru ++ s.stemAt a) mc b hb hwb
        obtain ⟨bl, hbl, e⟩ := List.mem_map.mp this
        exact ⟨bl, List.mem_cons_of_mem _ hbl, by rw [e]; exact hx⟩
  · rintro ⟨h0, hw, bl, hbl, hx⟩
    refine ⟨h0, hw, bl.1, ?_, hx⟩
    rcases List.mem_cons.mp hbl with rfl | hbl
    · exact List.mem_cons_self
    · refine List.mem_cons_of_mem _ ?_
      split at hbl
      · simp at hbl
      · exact prePruned_sub c _ bl.1 (List.mem_map.mpr ⟨bl, hbl, rfl⟩)

#print axioms dfsIter_pruned_from
#print axioms prePruned_complete
#print axioms C13_children_exact

end Traph
