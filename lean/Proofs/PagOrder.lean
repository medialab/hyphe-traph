import Proofs.TraverseInorder
import Proofs.Tokens
/-! Order facts about byte strings built from well-formed stems; with them the structural in-order traversals
    (`T.inorder`, `T.weInorder`) are strictly ascending in the byte order of the flattened LRUs, which is what
    pagination rests on. -/
namespace Traph
open State

/-- a well-formed stem: ends with the separator `|` (124) and contains no other one; the same predicate as `StemWf`
    (ShapeOps, where 124 is written `sep`) -/
def WfStem (x : Bytes) : Prop := ∃ body, x = body ++ [124] ∧ 124 ∉ body

theorem WfStem.ne_nil {x : Bytes} (h : WfStem x) : x ≠ [] := by
  obtain ⟨body, rfl, _⟩ := h
  simp

theorem lexLt_append_left (p a b : Bytes) : lexLt (p ++ a) (p ++ b) = lexLt a b := by
  induction p with
  | nil => rfl
  | cons x p ih => simp [lexLt, ih]

theorem lexLt_nil_left (u : Bytes) (hu : u ≠ []) : lexLt [] u = true := by
  cases u with
  | nil => exact absurd rfl hu
  | cons _ _ => rfl

theorem lexLt_nil_right (u : Bytes) : lexLt u [] = false := by
  cases u <;> rfl

theorem lexLt_self_extend (p u : Bytes) (hu : u ≠ []) : lexLt p (p ++ u) = true := by
  have := lexLt_append_left p [] u
  rw [List.append_nil] at this
  rw [this]; exact lexLt_nil_left u hu

/-- a stem ends at its first separator: a well-formed stem is not a proper prefix of another one -/
theorem WfStem.not_prefix {x y : Bytes} (hx : WfStem x) (hy : WfStem y) (u : Bytes) (h : y = x ++ u) :
    u = [] := by
  obtain ⟨bx, rfl, nx⟩ := hx
  obtain ⟨b, rfl, ny⟩ := hy
  induction bx generalizing b with
  | nil =>
    cases b with
    | nil => simpa using h
    | cons c cs =>
      simp only [List.nil_append, List.cons_append, List.cons.injEq] at h
      exact absurd (by simp [h.1]) ny
  | cons a as ih =>
    cases b with
    | nil =>
      simp only [List.nil_append, List.cons_append, List.cons.injEq] at h
      exact absurd (by simp [← h.1]) nx
    | cons c cs =>
      simp only [List.cons_append, List.cons.injEq] at h
      exact ih (fun m => nx (by simp [m])) cs (fun m => ny (by simp [m])) h.2

theorem lexLt_cons_cons (a b : Nat) (as bs : Bytes) :
    lexLt (a :: as) (b :: bs) = (decide (a < b) || (a == b && lexLt as bs)) := rfl

/-- `a < b` with `a` no prefix of `b` is decided where the two first differ: what follows them does not matter -/
theorem lt_append_of_not_prefix {α : Type} [LT α] : ∀ {a b : List α}, a < b → ¬ a <+: b → ∀ u v, a ++ u < b ++ v
  | [], _, _, hp, _, _ => absurd List.nil_prefix hp
  | _ :: _, [], h, _, _, _ => absurd h (List.not_lt_nil _)
  | x :: a, y :: b, h, hp, u, v => by
    rcases List.cons_lt_cons_iff.mp h with h' | ⟨rfl, h'⟩
    · exact List.cons_lt_cons_iff.mpr (.inl h')
    · exact List.cons_lt_cons_iff.mpr
        (.inr ⟨rfl, lt_append_of_not_prefix h' (fun hp' => hp (List.cons_prefix_cons.mpr ⟨rfl, hp'⟩)) u v⟩)

/-- the order of two different sibling stems decides the order of everything below them -/
theorem lexLt_stem_extend {x y : Bytes} (hx : WfStem x) (hy : WfStem y) (h : lexLt x y = true)
    (u v : Bytes) : lexLt (x ++ u) (y ++ v) = true := by
  rw [lexLt_iff] at h ⊢
  refine lt_append_of_not_prefix h (fun ⟨w, e⟩ => ?_) u v
  cases hx.not_prefix hy w e.symm
  rw [List.append_nil] at e
  exact List.lt_irrefl x (e ▸ h)

/-- every block of the subtree `t` stores a well-formed stem. The invariant has this as `WfStems` (ShapeOps, over the
    stored paths of the whole tree); `allWf_of_wfStems` (PagWalk) leads from there to here. -/
def AllWf (s : State) (t : T) : Prop := ∀ a ∈ t.addrs, WfStem (s.stemAt a)

theorem AllWf.left {s : State} {a : Nat} {l c r : T} (h : AllWf s (.node a l c r)) : AllWf s l :=
  (T.forall_mem_node h).2.1
theorem AllWf.child {s : State} {a : Nat} {l c r : T} (h : AllWf s (.node a l c r)) : AllWf s c :=
  (T.forall_mem_node h).2.2.1
theorem AllWf.right {s : State} {a : Nat} {l c r : T} (h : AllWf s (.node a l c r)) : AllWf s r :=
  (T.forall_mem_node h).2.2.2
theorem AllWf.self {s : State} {a : Nat} {l c r : T} (h : AllWf s (.node a l c r)) : WfStem (s.stemAt a) :=
  (T.forall_mem_node h).1
theorem AllWf.sibs {s : State} {t : T} (h : AllWf s t) : ∀ x ∈ t.sibs, WfStem (s.stemAt x) :=
  fun x hx => h x (T.sibs_subset_addrs t x hx)

/-- `e` extends the flattened LRU of one of the siblings `S` of the level with prefix `lru` (as the LRUs at or below it do) -/
def Under (s : State) (lru : Bytes) (S : List Nat) (e : Bytes) : Prop :=
  ∃ x ∈ S, ∃ rest, e = lru ++ s.stemAt x ++ rest

theorem Under.mono {s : State} {lru : Bytes} {S S' : List Nat} {e : Bytes} (h : Under s lru S e)
    (hs : ∀ x ∈ S, x ∈ S') : Under s lru S' e := by
  obtain ⟨x, hx, rest, he⟩ := h
  exact ⟨x, hs x hx, rest, he⟩

theorem Under.up {s : State} {lru : Bytes} {a : Nat} {S : List Nat} {e : Bytes}
    (h : Under s (lru ++ s.stemAt a) S e) : Under s lru [a] e := by
  obtain ⟨x, _, rest, he⟩ := h
  exact ⟨a, by simp, s.stemAt x ++ rest, by rw [he]; simp [List.append_assoc]⟩

theorem Under.lt {s : State} {lru : Bytes} {S₁ S₂ : List Nat} {e₁ e₂ : Bytes}
    (h₁ : Under s lru S₁ e₁) (h₂ : Under s lru S₂ e₂)
    (w₁ : ∀ x ∈ S₁, WfStem (s.stemAt x)) (w₂ : ∀ x ∈ S₂, WfStem (s.stemAt x))
    (hlt : ∀ x ∈ S₁, ∀ y ∈ S₂, lexLt (s.stemAt x) (s.stemAt y) = true) : lexLt e₁ e₂ = true := by
  obtain ⟨x, hx, u, rfl⟩ := h₁
  obtain ⟨y, hy, v, rfl⟩ := h₂
  rw [List.append_assoc, List.append_assoc, lexLt_append_left]
  exact lexLt_stem_extend (w₁ x hx) (w₂ y hy) (hlt x hx y hy) u v

theorem Under.self_lt {s : State} {lru : Bytes} {a : Nat} {S : List Nat} {e : Bytes}
    (h : Under s (lru ++ s.stemAt a) S e) (w : ∀ x ∈ S, WfStem (s.stemAt x)) :
    lexLt (lru ++ s.stemAt a) e = true := by
  obtain ⟨x, hx, rest, rfl⟩ := h
  rw [List.append_assoc (lru ++ s.stemAt a)]
  apply lexLt_self_extend
  have := (w x hx).ne_nil
  simp [this]

theorem inorder_under {s : State} : ∀ (t : T) (lru : Bytes), ∀ it ∈ t.inorder s lru, Under s lru t.sibs it.2 := by
  intro t
  induction t with
  | nil => intro _ it h; simp [T.inorder] at h
  | node a l c r ihl ihc ihr =>
    intro lru it h
    simp only [T.inorder, List.mem_append, List.mem_cons] at h
    rcases h with h | rfl | h | h
    · exact (ihl lru it h).mono (fun x => T.mem_sibs_left)
    · exact ⟨a, T.mem_sibs_self, [], by simp⟩
    · exact (ihc _ it h).up.mono (fun x hx => List.mem_singleton.mp hx ▸ T.mem_sibs_self)
    · exact (ihr lru it h).mono (fun x => T.mem_sibs_right)

/-- the cross facts at one node, stated for arbitrary lists lying under the three subtrees -/
theorem node_cross {s : State} {a : Nat} {l c r : T} {lo hi : Option Stem} {lru : Bytes}
    (ho : OrdT s (.node a l c r) lo hi) (hw : AllWf s (.node a l c r)) :
    (∀ e₁ e₂, Under s lru l.sibs e₁ → Under s lru (a :: r.sibs) e₂ → lexLt e₁ e₂ = true) ∧
    (∀ e, Under s (lru ++ s.stemAt a) c.sibs e → lexLt (lru ++ s.stemAt a) e = true) ∧
    (∀ e₁ e₂, Under s lru [a] e₁ → Under s lru r.sibs e₂ → lexLt e₁ e₂ = true) := by
  obtain ⟨_, _, ol, or_, _⟩ := ho
  have wl := hw.left.sibs
  have wc := hw.child.sibs
  have wr := hw.right.sibs
  have wa := hw.self
  have hbelow := OrdT.below l lo _ ol
  have habove := OrdT.above r hi _ or_
  refine ⟨?_, ?_, ?_⟩
  · intro e₁ e₂ h₁ h₂
    refine h₁.lt h₂ wl ?_ ?_
    · intro x hx; simp only [List.mem_cons] at hx
      rcases hx with rfl | hx
      · exact wa
      · exact wr x hx
    · intro x hx y hy; simp only [List.mem_cons] at hy
      rcases hy with rfl | hy
      · exact hbelow x hx
      · exact lexLt_trans (hbelow x hx) (habove y hy)
  · intro e h; exact h.self_lt wc
  · intro e₁ e₂ h₁ h₂
    refine h₁.lt h₂ ?_ wr ?_
    · intro x hx; simp only [List.mem_singleton] at hx; subst hx; exact wa
    · intro x hx y hy; simp only [List.mem_singleton] at hx; subst hx; exact habove y hy

theorem inorder_sorted {s : State} : ∀ (t : T) (lo hi : Option Stem) (lru : Bytes),
    OrdT s t lo hi → AllWf s t →
    ((t.inorder s lru).map (·.2)).Pairwise (fun a b => lexLt a b = true) := by
  intro t
  induction t with
  | nil => intro _ _ _ _ _; simp [T.inorder]
  | node a l c r ihl ihc ihr =>
    intro lo hi lru ho hw
    obtain ⟨x1, x2, x3⟩ := node_cross (lru := lru) ho hw
    obtain ⟨_, _, ol, or_, oc⟩ := ho
    have pl := ihl _ _ lru ol hw.left
    have pc := ihc _ _ (lru ++ s.stemAt a) oc hw.child
    have pr := ihr _ _ lru or_ hw.right
    have ul : ∀ e ∈ (l.inorder s lru).map (·.2), Under s lru l.sibs e := by
      intro e he; obtain ⟨it, hit, rfl⟩ := List.mem_map.mp he; exact inorder_under l lru it hit
    have uc : ∀ e ∈ (c.inorder s (lru ++ s.stemAt a)).map (·.2), Under s (lru ++ s.stemAt a) c.sibs e := by
      intro e he; obtain ⟨it, hit, rfl⟩ := List.mem_map.mp he; exact inorder_under c _ it hit
    have ur : ∀ e ∈ (r.inorder s lru).map (·.2), Under s lru r.sibs e := by
      intro e he; obtain ⟨it, hit, rfl⟩ := List.mem_map.mp he; exact inorder_under r lru it hit
    have uself : Under s lru [a] (lru ++ s.stemAt a) := ⟨a, by simp, [], by simp⟩
    simp only [T.inorder, List.map_append, List.map_cons]
    rw [List.pairwise_append]
    refine ⟨pl, ?_, ?_⟩
    · rw [List.pairwise_cons]
      refine ⟨?_, ?_⟩
      · intro e he
        rcases List.mem_append.mp he with he | he
        · exact x2 e (uc e he)
        · exact x3 _ e uself (ur e he)
      · rw [List.pairwise_append]
        exact ⟨pc, pr, fun e₁ h₁ e₂ h₂ => x3 e₁ e₂ (uc e₁ h₁).up (ur e₂ h₂)⟩
    · intro e₁ h₁ e₂ h₂
      apply x1 e₁ e₂ (ul e₁ h₁)
      simp only [List.mem_cons, List.mem_append] at h₂
      rcases h₂ with rfl | h₂ | h₂
      · exact uself.mono (by intro x hx; simp at hx; simp [hx])
      · exact (uc e₂ h₂).up.mono (by intro x hx; simp at hx; simp [hx])
      · exact (ur e₂ h₂).mono (by intro x hx; simp [hx])

theorem weInorder_sublist {s : State} (start : Nat) : ∀ (t : T) (lru : Bytes) (path : Nat),
    ((t.weInorder s start lru path).map (fun it => (it.1, it.2.1))).Sublist (t.inorder s lru) := by
  intro t
  induction t with
  | nil => intro _ _; simp [T.weInorder]
  | node a l c r ihl ihc ihr =>
    intro lru path
    simp only [T.weInorder, T.inorder, List.map_append]
    rw [List.append_assoc]
    apply List.Sublist.append
    · split
      · simp
      · exact ihl _ _
    · have h3 : (List.map (fun it => (it.1, it.2.1))
          (if a = start then [] else r.weInorder s start lru (base4Append path 3))).Sublist (r.inorder s lru) := by
        split
        · simp
        · exact ihr _ _
      split
      · simp only [List.map_cons, List.cons_append]
        exact List.Sublist.cons_cons _ ((ihc _ _).append h3)
      · simp only [List.map_nil, List.nil_append]
        exact List.Sublist.cons _ (List.Sublist.trans h3 (List.sublist_append_right _ _))

theorem weInorder_under {s : State} (start : Nat) (t : T) (lru : Bytes) (path : Nat) :
    ∀ it ∈ t.weInorder s start lru path, Under s lru t.sibs it.2.1 := by
  intro it hit
  have := (weInorder_sublist (s := s) start t lru path).subset (List.mem_map.mpr ⟨it, hit, rfl⟩)
  exact inorder_under t lru _ this

theorem weInorder_sorted {s : State} (start : Nat) (t : T) (lo hi : Option Stem) (lru : Bytes) (path : Nat)
    (ho : OrdT s t lo hi) (hw : AllWf s t) :
    ((t.weInorder s start lru path).map (·.2.1)).Pairwise (fun a b => lexLt a b = true) := by
  have h := (weInorder_sublist (s := s) start t lru path).map (·.2)
  rw [List.map_map] at h
  exact (inorder_sorted t lo hi lru ho hw).sublist h

end Traph

section
open Traph
#print axioms lexLt_append_left
#print axioms lexLt_stem_extend
#print axioms lexLt_self_extend
#print axioms inorder_sorted
#print axioms weInorder_sorted
end
