import Proofs.AutoHist
/-! Byte-level bounds for the fuel of the rule-installation walk: how long, and how many stems, the
    scheme / www variations of a rule proposal can be, relative to the LRU the proposal was cut from:
    a variation adds at most 7 bytes and one stem (`lruVariations_bounds`), the cut adds nothing (`StemCut.bounds`). -/
namespace Traph
open State Layout

/-- number of stems `lru_iter` cuts -/
def nsep (b : Bytes) : Nat := b.count sep

theorem nsep_append (a b : Bytes) : nsep (a ++ b) = nsep a + nsep b := List.count_append

theorem nsep_cons (x : Nat) (b : Bytes) : nsep (x :: b) = nsep b + if x = sep then 1 else 0 := by
  unfold nsep; rw [List.count_cons]; simp

theorem startsWith_split : ∀ (b p : Bytes), startsWith b p = true → ∃ tl, b = p ++ tl := by
  intro b p
  induction p generalizing b with
  | nil => exact fun _ => ⟨b, rfl⟩
  | cons p ps ih =>
    intro h
    cases b with
    | nil => simp [startsWith] at h
    | cons a as =>
      simp only [startsWith, Bool.and_eq_true, beq_iff_eq] at h
      obtain ⟨tl, e⟩ := ih as h.2
      exact ⟨tl, by rw [h.1, e]; rfl⟩

theorem replaceFirst_bounds (old new : Bytes) {dl dn : Nat} (hl : new.length ≤ old.length + dl)
    (hn : nsep new ≤ nsep old + dn) : ∀ (b : Bytes),
    (replaceFirst old new b).length ≤ b.length + dl ∧ nsep (replaceFirst old new b) ≤ nsep b + dn
  | [] => by simp [replaceFirst]
  | x :: xs => by
    simp only [replaceFirst]
    split
    · rename_i hs
      obtain ⟨tl, e⟩ := startsWith_split _ _ hs
      rw [e, List.drop_left' rfl, List.length_append, List.length_append, nsep_append, nsep_append]
      constructor <;> omega
    · obtain ⟨h1, h2⟩ := replaceFirst_bounds old new hl hn xs
      rw [List.length_cons, List.length_cons, nsep_cons, nsep_cons]
      constructor <;> omega

theorem httpsVariation_bounds (b v : Bytes) (h : httpsVariation b = some v) :
    v.length ≤ b.length + 1 ∧ nsep v ≤ nsep b := by
  unfold httpsVariation at h
  split at h
  · cases h
    exact replaceFirst_bounds sHttp sHttps (dl := 1) (dn := 0) (by decide) (by decide) b
  · split at h
    · cases h
      exact replaceFirst_bounds sHttps sHttp (dl := 1) (dn := 0) (by decide) (by decide) b
    · cases h

/-- `h:www|` is 6 bytes with one separator -/
theorem www_bounds (hosts hosts' : List Bytes) (hh : hosts' = hosts.dropLast ∨ hosts' = hosts ++ [hWww])
    (hl : 2 ≤ hosts.length) :
    (joinWith sep hosts' ++ [sep]).length ≤ (joinWith sep hosts ++ [sep]).length + 6 ∧
    nsep (joinWith sep hosts' ++ [sep]) ≤ nsep (joinWith sep hosts ++ [sep]) + 1 := by
  have hne : hosts ≠ [] := fun e => by rw [e] at hl; exact absurd hl (by decide)
  have hne' : hosts' ≠ [] := fun e => by
    rcases hh with rfl | rfl
    · have := congrArg List.length e
      rw [List.length_dropLast, List.length_nil] at this; omega
    · exact absurd e (by simp)
  rw [show sep = 124 from rfl, joinWith_sep _ hne, joinWith_sep _ hne']
  rcases hh with rfl | rfl
  · have e : sepJoin hosts = sepJoin hosts.dropLast ++ sepJoin [hosts.getLast hne] := by
      rw [← sepJoin_append, List.dropLast_concat_getLast]
    rw [e, List.length_append, nsep_append]
    constructor <;> omega
  · have e1 : (sepJoin [hWww]).length = 6 := rfl
    have e2 : nsep (sepJoin [hWww]) = 1 := by decide
    rw [sepJoin_append, List.length_append, nsep_append, e1, e2]
    constructor <;> omega

/-- 7 = 1 (`http` to `https`) + 6 (`h:www|`) -/
theorem lruVariations_bounds (b : Bytes) : ∀ v ∈ lruVariations b,
    v.length ≤ b.length + 7 ∧ nsep v ≤ nsep b + 1 := by
  have h0 : ∀ x ∈ b :: (httpsVariation b).toList, x.length ≤ b.length + 1 ∧ nsep x ≤ nsep b := by
    intro x hx
    rcases List.mem_cons.mp hx with rfl | hx
    · exact ⟨Nat.le_succ _, Nat.le_refl _⟩
    · exact httpsVariation_bounds b x (Option.mem_toList.mp hx)
  intro v hv
  rcases lruVariations_shape b with e | ⟨hosts, hosts', hl, hh, e⟩ <;> rw [e] at hv
  · have := h0 v hv
    omega
  · rcases List.mem_append.mp hv with hv | hv
    · have := h0 v hv
      omega
    · obtain ⟨x, hx, rfl⟩ := List.mem_map.mp hv
      have := h0 x hx
      have := replaceFirst_bounds _ _ (www_bounds hosts hosts' hh hl).1 (www_bounds hosts hosts' hh hl).2 x
      omega

theorem lruVariations_length_le (b : Bytes) : (lruVariations b).length ≤ 4 := by
  have h1 : (httpsVariation b).toList.length ≤ 1 := by cases httpsVariation b <;> simp
  rcases lruVariations_shape b with e | ⟨_, _, _, _, e⟩ <;> rw [e]
  · rw [List.length_cons]; omega
  · rw [List.length_append, List.length_map, List.length_cons]; omega

theorem lruIter_length (b : Bytes) : (lruIter b).length = nsep b := by
  induction b using bytes_sep_induction with
  | tail y hy => rw [lruIter_tail y hy]; exact (List.count_eq_zero.mpr hy).symm
  | stem y r hy ih =>
    rw [lruIter_stem y r hy, List.length_cons, ih, nsep_append, nsep_cons, if_pos rfl,
      show nsep y = 0 from List.count_eq_zero.mpr hy]
    omega

theorem nsep_flatten_wf : ∀ (p : LRU), (∀ x ∈ p, StemWf x) → nsep p.flatten = p.length := by
  intro p
  induction p with
  | nil => exact fun _ => rfl
  | cons x p ih =>
    intro h
    obtain ⟨y, rfl, hy⟩ := h x (by simp)
    rw [List.flatten_cons, nsep_append, nsep_append, ih (fun z hz => h z (by simp [hz]))]
    have h1 : nsep y = 0 := List.count_eq_zero.mpr hy
    have h2 : nsep [sep] = 1 := by decide
    rw [h1, h2, List.length_cons]; omega

theorem flatten_take_bounds (b : Bytes) (n : Nat) :
    ((lruIter b).take n).flatten.length ≤ b.length ∧ nsep ((lruIter b).take n).flatten ≤ nsep b := by
  obtain ⟨tl, e⟩ := lruIter_prefix b
  have e2 : (lruIter b).flatten = ((lruIter b).take n).flatten ++ ((lruIter b).drop n).flatten := by
    rw [← List.flatten_append, List.take_append_drop]
  constructor
  · have := congrArg List.length e
    rw [e2, List.length_append, List.length_append] at this
    omega
  · have := congrArg nsep e
    rw [e2, nsep_append, nsep_append] at this
    omega

theorem StemCut.bounds {lru K : Bytes} (h : StemCut lru K) : K.length ≤ lru.length ∧ nsep K ≤ nsep lru := by
  obtain ⟨b', n, hb, rfl⟩ := h
  obtain ⟨h1, h2⟩ := flatten_take_bounds b' n
  exact ⟨Nat.le_trans h1 hb.length_le, Nat.le_trans h2 (hb.sublist.count_le _)⟩

end Traph
