import Proofs.PagWalk
/-! C09 at the API level: `paginate_webentity_pages`, called again and again with the token of the
    previous answer, against `get_webentity_pages` / `get_webentity_crawled_pages`. The request is the generic loop
    `Pag.gRun` over the whole walk (`paginatePages_none`) or over the items behind the item a token denotes
    (`paginatePages_token`); `pageEpisode_from` gives the episode from every resume point. All in one statement:
    `C09_of_inv`. `GX`, `gItems`, `AllOk`, `PfxLoop` come from Proofs/PagWalk. -/
namespace Traph
open State Pag

/-- how `paginate_webentity_pages` reads an item: a page (crawled, when only crawled pages are asked for) is
    counted, records the resume point and contributes itself with its crawled mark -/
def pageCls (s : State) (crawledOnly : Bool) : Cls GX (Bytes × Bool) where
  idx x := x.1
  path x := x.2.2.2
  mark x := (s.cell x.2.1).flags.page && (!crawledOnly || (s.cell x.2.1).flags.crawled)
  bear x := (s.cell x.2.1).flags.page && (!crawledOnly || (s.cell x.2.1).flags.crawled)
  out x := [(x.2.2.1, (s.cell x.2.1).flags.crawled)]

def State.PagAcc.toG (a : PagAcc) : GAcc (Bytes × Bool) :=
  { n := a.n, out := a.pages, lastI := a.lastI, lastPath := a.lastPath }

/-- the `crawled` field of an answer: how many of its pages carry the crawled mark -/
def crawledCount (l : List (Bytes × Bool)) : Nat := (l.filter (·.2)).length

theorem crawledCount_append (l : List (Bytes × Bool)) (x : Bytes × Bool) :
    crawledCount (l ++ [x]) = if x.2 then crawledCount l + 1 else crawledCount l := by
  unfold crawledCount
  by_cases h : x.2 = true <;> simp [List.filter_append, h]

/-- the accumulators of the model are consistent: as many pages as counted, `c` of them crawled -/
def PInv (a : PagAcc) : Prop := a.pages.length = a.n ∧ a.c = crawledCount a.pages

/-- the answer built from the accumulator when the loop ends: stopped at `count` (a token, not done) or ran out of items (done) -/
def mkPage : Bool × GAcc (Bytes × Bool) → Except Err PageChunk
  | (true, a) =>
    (match tokenOf a.lastI a.lastPath with
     | .error e => .error e
     | .ok t => .ok { done := false, count := a.n, crawled := crawledCount a.out, pages := a.out, token := some t })
  | (false, a) => .ok { done := true, count := a.n, crawled := crawledCount a.out, pages := a.out, token := none }

theorem pagesItems_bridge (s : State) (crawledOnly : Bool) (k i : Nat) (items : List Item) (acc : PagAcc)
    (rest : List GX) (K : PagAcc → Except Err PageChunk) (hinv : PInv acc)
    (hK : ∀ a, PInv a → K a = mkPage (gRun (pageCls s crawledOnly) k rest a.toG)) :
    Sum.elim id K (s.paginatePagesItems (some (k + 1)) crawledOnly i items acc)
      = mkPage (gRun (pageCls s crawledOnly) k (items.map (fun it => (i, it)) ++ rest) acc.toG) := by
  induction items generalizing acc with
  | nil => simp [paginatePagesItems, hK acc hinv]
  | cons it items ih =>
    obtain ⟨b, lru, path⟩ := it
    rw [List.map_cons, List.cons_append]
    by_cases hp : (s.cell b).flags.page = true
    · by_cases hc : (crawledOnly && !(s.cell b).flags.crawled) = true
      · -- an uncrawled page when only crawled pages are asked for
        have hb : (pageCls s crawledOnly).bear (i, b, lru, path) = false := by
          simp only [Bool.and_eq_true, Bool.not_eq_true'] at hc
          simp [pageCls, hc.1, hc.2]
        have := ih acc hinv
        rw [gRun_cons_go _ _ _ _ _ (Or.inl hb), gStep_skip _ _ _ hb hb]
        simp only [paginatePagesItems, hp, hc, Bool.not_true, Bool.false_eq_true, if_false, if_true]
        exact this
      · -- a counted page
        have hc' : (crawledOnly && !(s.cell b).flags.crawled) = false := by simpa using hc
        have hb : (pageCls s crawledOnly).bear (i, b, lru, path) = true := by
          simp only [pageCls, hp, Bool.true_and]
          exact (by decide : ∀ a b : Bool, (a && !b) = false → (!a || b) = true) _ _ hc'
        by_cases hstop : acc.n + 1 > k
        · have hd : decide (acc.n + 1 ≥ k + 1) = true := by simp; omega
          rw [gRun_cons_stop _ _ _ _ _ hb (show acc.toG.n + 1 > k from hstop)]
          simp only [paginatePagesItems, hp, hc', Bool.not_true, Bool.false_eq_true, if_false, if_true, hd,
            Nat.add_sub_cancel, Sum.elim_inl, id]
          obtain ⟨h1, h2⟩ := hinv
          rw [List.take_of_length_le (by omega), h2]
          rfl
        · have hd : decide (acc.n + 1 ≥ k + 1) = false := by simp; omega
          have hinv' : PInv { n := acc.n + 1, c := (if (s.cell b).flags.crawled then acc.c + 1 else acc.c), pages := acc.pages ++ [(lru, (s.cell b).flags.crawled)], lastPath := some path, lastI := some i } := by
            obtain ⟨h1, h2⟩ := hinv
            refine ⟨by simp [h1], ?_⟩
            simp only [crawledCount_append, h2]
          have := ih _ hinv'
          rw [gRun_cons_go _ _ _ _ _ (Or.inr (show ¬ acc.toG.n + 1 > k from hstop)), gStep_bear _ _ _ hb]
          simp only [paginatePagesItems, hp, hc', Bool.not_true, Bool.false_eq_true, if_false, hd]
          exact this
    · -- not a page
      have hp' : (s.cell b).flags.page = false := by simpa using hp
      have hb : (pageCls s crawledOnly).bear (i, b, lru, path) = false := by simp [pageCls, hp']
      have := ih acc hinv
      rw [gRun_cons_go _ _ _ _ _ (Or.inl hb), gStep_skip _ _ _ hb hb]
      simp only [paginatePagesItems, hp', Bool.not_false, if_true]
      exact this

theorem pinv_init : PInv {} := ⟨rfl, rfl⟩

theorem pagesLoop (s : State) (crawledOnly : Bool) (k : Nat) :
    PfxLoop s (pageCls s crawledOnly) mkPage State.PagAcc.toG PInv k
      (s.paginatePagesItems (some (k + 1)) crawledOnly) (s.paginatePagesPrefixes (some (k + 1)) crawledOnly) where
  nil := fun _ acc hinv => by simp [paginatePagesPrefixes, mkPage, State.PagAcc.toG, hinv.2]
  cons := fun i p rest o acc n its hn hw => by
    simp only [paginatePagesPrefixes, hn, hw]
    cases s.paginatePagesItems (some (k + 1)) crawledOnly i its acc <;> rfl
  inner := fun i its acc rest K => pagesItems_bridge s crawledOnly k i its acc rest K

theorem paginatePages_none {s : State} {ps : List Bytes} (hok : AllOk s ps) (crawledOnly : Bool) (k : Nat) :
    s.paginatePages ps (some k) none crawledOnly
      = mkPage (gRun (pageCls s crawledOnly) k (gItems s (enumFrom 0 ps)) {}) := by
  simp only [paginatePages, Option.map, List.drop_zero]
  exact (pagesLoop s crawledOnly k).bridge _ {} pinv_init (pfxOk_of_allOk hok 0)

theorem paginatePages_token {s : State} {ps : List Bytes} (hok : AllOk s ps) (crawledOnly : Bool) (k : Nat)
    (pre : List GX) (x : GX) (post : List GX) (hG : gItems s (enumFrom 0 ps) = pre ++ x :: post) :
    s.paginatePages ps (some k) (some (buildToken x.1 x.2.2.2)) crawledOnly
      = mkPage (gRun (pageCls s crawledOnly) k post {}) := by
  simp only [paginatePages, buildToken_ne_nil, parseToken_buildToken, Option.map, Bool.false_eq_true, if_false]
  exact (pagesLoop s crawledOnly k).token hok {} pinv_init pre x post hG

/-- `PageEpisode s ps crawledOnly count tok chunks`: calling `paginate_webentity_pages` with `tok` and then
    with the token of every answer in turn never fails and yields `chunks`; the last answer, and only it,
    says done -/
def PageEpisode (s : State) (ps : List Bytes) (crawledOnly : Bool) (count : Nat) :
    Option Bytes → List PageChunk → Prop :=
  Episode (fun tok => s.paginatePages ps (some count) tok crawledOnly) (·.done) (·.token)

/-- `PageEpisode` as a computation: at most `fuel` calls, `none` on an error or when the fuel runs out -/
def episodePages (s : State) (ps : List Bytes) (crawledOnly : Bool) (count fuel : Nat)
    (tok : Option Bytes) : Option (List PageChunk) :=
  runEpisode (fun tok => s.paginatePages ps (some count) tok crawledOnly) (·.done) (·.token) fuel tok

theorem mkPage_ok : MkOk mkPage (fun ch : PageChunk => ch.done) (·.token) where
  stop := by
    intro acc i p h1 h2
    exact ⟨{ done := false, count := acc.n, crawled := crawledCount acc.out, pages := acc.out,
             token := some (buildToken i p) }, by simp [mkPage, h1, h2, tokenOf], rfl, rfl⟩
  fin := by
    intro acc
    exact ⟨{ done := true, count := acc.n, crawled := crawledCount acc.out, pages := acc.out, token := none },
      by simp [mkPage], rfl, rfl⟩
  tok := by
    intro st acc ch t h ht
    cases st with
    | false => simp only [mkPage, Except.ok.injEq] at h; subst h; cases ht
    | true =>
      cases hi : acc.lastI <;> cases hp : acc.lastPath <;> simp only [mkPage, tokenOf, hi, hp] at h <;> cases h
      exact ⟨_, _, rfl, rfl, (Option.some.inj ht).symm⟩

theorem mkPage_fields {st : Bool} {acc : GAcc (Bytes × Bool)} {ch : PageChunk} (h : mkPage (st, acc) = .ok ch) :
    ch.pages = acc.out ∧ ch.count = acc.n ∧ ch.crawled = crawledCount acc.out := by
  cases st with
  | false => simp only [mkPage, Except.ok.injEq] at h; subst h; exact ⟨rfl, rfl, rfl⟩
  | true =>
    simp only [mkPage] at h
    split at h
    · cases h
    · cases h; exact ⟨rfl, rfl, rfl⟩

/-- `ch` is the answer `mkPage` builds from the items `seg` read in one call -/
def PageAnswer (s : State) (crawledOnly : Bool) (ch : PageChunk) (seg : List GX) : Prop :=
  ∃ st, mkPage (st, gFold (pageCls s crawledOnly) seg {}) = .ok ch

theorem pageCls_outs_length (s : State) (crawledOnly : Bool) : ∀ (xs : List GX),
    ((pageCls s crawledOnly).outs xs).length = (pageCls s crawledOnly).cnt xs
  | [] => rfl
  | x :: xs => by
    rw [Cls.outs_cons, Cls.cnt_cons, List.length_append, pageCls_outs_length s crawledOnly xs]
    by_cases hb : (pageCls s crawledOnly).bear x = true
    · rw [if_pos hb, if_pos hb]; rfl
    · rw [if_neg hb, if_neg hb]; rfl

theorem PageAnswer.fields {s : State} {crawledOnly : Bool} {ch : PageChunk} {seg : List GX}
    (h : PageAnswer s crawledOnly ch seg) :
    ch.pages = (pageCls s crawledOnly).outs seg ∧ ch.count = ch.pages.length ∧
    ch.crawled = crawledCount ch.pages ∧ ch.pages.length = (pageCls s crawledOnly).cnt seg := by
  obtain ⟨st, hmk⟩ := h
  obtain ⟨h1, h2, h3⟩ := mkPage_fields hmk
  have e : ch.pages = (pageCls s crawledOnly).outs seg := by rw [h1, gFold_out]; simp
  refine ⟨e, ?_, by rw [h3, h1], by rw [e, pageCls_outs_length]⟩
  rw [h2, gFold_n, e, pageCls_outs_length]; simp

/-- EPISODE over a tail `xs` of the walk (the whole walk for no token, the items behind `x` for the token of `x`):
    `Pag.episode_summary` for `paginate_webentity_pages` -/
theorem pageEpisode_from {s : State} {ps : List Bytes} (hok : AllOk s ps) (crawledOnly : Bool)
    (count : Nat) (hc : 1 ≤ count) (tok : Option Bytes) (xs : List GX)
    (hcall : s.paginatePages ps (some count) tok crawledOnly = mkPage (gRun (pageCls s crawledOnly) count xs {}))
    (hpre : ∃ pre, gItems s (enumFrom 0 ps) = pre ++ xs) :
    ∃ chunks segs, PageEpisode s ps crawledOnly count tok chunks ∧
      Segs (pageCls s crawledOnly) count xs segs ∧ Forall2 (PageAnswer s crawledOnly) chunks segs ∧
      chunks.flatMap (·.pages) = (pageCls s crawledOnly).outs xs ∧
      (∀ ch ∈ chunks.dropLast, ch.done = false ∧ ch.pages.length = count ∧ ch.token.isSome = true) ∧
      (∃ l, chunks.getLast? = some l ∧ l.done = true ∧ l.token = none ∧ l.pages.length ≤ count) ∧
      chunks.length ≤ (pageCls s crawledOnly).cnt xs / count + 1 :=
  episode_summary (pageCls s crawledOnly) mkPage_ok (·.pages) (·.pages.length)
    (fun _ _ ha => ⟨(PageAnswer.fields ha).1, (PageAnswer.fields ha).2.2.2⟩) _ count hc
    (paginatePages_token hok crawledOnly count) tok xs hcall hpre

/-- what a (block, LRU) contributes to the answer: itself with its crawled mark if a page (a crawled one under `crawledOnly`), else nothing -/
def pgOut (s : State) (crawledOnly : Bool) (bl : Nat × Bytes) : List (Bytes × Bool) :=
  if (s.cell bl.1).flags.page && (!crawledOnly || (s.cell bl.1).flags.crawled)
  then [(bl.2, (s.cell bl.1).flags.crawled)] else []

theorem pageCls_outs_eq (s : State) (crawledOnly : Bool) (xs : List GX) :
    (pageCls s crawledOnly).outs xs = xs.flatMap (fun x => pgOut s crawledOnly (x.2.1, x.2.2.1)) :=
  Cls.outs_eq_flatMap _ _ (fun _ => rfl) xs

/-- the pages below one prefix in the order of its un-paginated in-order walk (`walkOf`) -/
def pagesOfPrefix (s : State) (crawledOnly : Bool) (p : Bytes) : List (Bytes × Bool) :=
  (walkOf s p).flatMap (fun it => pgOut s crawledOnly (it.1, it.2.1))

/-- the pages of the webentity in the order of the paginated request: prefix after prefix, each in order -/
def pageSeq (s : State) (ps : List Bytes) (crawledOnly : Bool) : List (Bytes × Bool) :=
  (pageCls s crawledOnly).outs (gItems s (enumFrom 0 ps))

theorem pageSeq_eq (s : State) (ps : List Bytes) (crawledOnly : Bool) :
    pageSeq s ps crawledOnly = ps.flatMap (pagesOfPrefix s crawledOnly) := by
  unfold pageSeq pagesOfPrefix
  rw [pageCls_outs_eq, gItems_flatMap s (fun it => pgOut s crawledOnly (it.1, it.2.1)) ps 0]

/-- within a prefix the pages come in strictly ascending byte order of their LRUs (hence without repetition) -/
theorem pagesOfPrefix_sorted {s : State} {ps : List Bytes} (hok : AllOk s ps) (crawledOnly : Bool)
    {p : Bytes} (hp : p ∈ ps) :
    ((pagesOfPrefix s crawledOnly p).map (·.1)).Pairwise (fun a b => lexLt a b = true) := by
  obtain ⟨n, _, hw⟩ := hok p hp
  have hsub : ∀ (l : List Item), ((l.flatMap (fun it => pgOut s crawledOnly (it.1, it.2.1))).map (·.1)).Sublist
      (l.map (·.2.1)) := by
    intro l
    induction l with
    | nil => simp
    | cons it l ih =>
      rw [List.flatMap_cons, List.map_append, List.map_cons]
      unfold pgOut
      split
      · exact List.Sublist.cons_cons _ ih
      · exact List.Sublist.cons _ ih
  exact List.Pairwise.sublist (hsub _) hw.sorted

/-- the un-paginated answer, all of it or its crawled pages, as what the visited pages contribute -/
theorem pages_filter_eq (s : State) (crawledOnly : Bool) (l : List (Nat × Bytes)) :
    (if crawledOnly then (l.map (fun bl => (bl.2, (s.cell bl.1).flags.crawled))).filter (·.2)
      else l.map (fun bl => (bl.2, (s.cell bl.1).flags.crawled)))
      = l.flatMap (fun bl => if !crawledOnly || (s.cell bl.1).flags.crawled then [(bl.2, (s.cell bl.1).flags.crawled)]
          else []) := by
  induction l with
  | nil => cases crawledOnly <;> rfl
  | cons bl l ih =>
    rw [List.flatMap_cons, ← ih]
    cases crawledOnly <;> cases hc : (s.cell bl.1).flags.crawled <;> simp [hc]

theorem walk_pages_perm {s : State} {ps : List Bytes} (hok : AllOk s ps) (crawledOnly : Bool)
    {all : List (Bytes × Bool)} (hall : s.webentityPages ps = .ok all) :
    (pageSeq s ps crawledOnly).Perm (if crawledOnly then all.filter (·.2) else all) := by
  rw [pageSeq_eq, webentityPages_visits hall, pages_filter_eq]
  refine List.Perm.trans (List.Perm.of_eq ?_) (walk_perm_visits hok _)
  refine congrArg (ps.flatMap ·) (funext fun p => congrArg ((walkOf s p).flatMap ·) (funext fun it => ?_))
  unfold pgOut
  cases (s.cell it.1).flags.page <;> rfl

/-- C09. In every state with the invariants, for every prefix list the un-paginated request answers,
    both settings of `crawled_only` and every page count ≥ 1: paging from the start, feeding every token back,
    never fails; the pages of the answers, concatenated, are the pages of the webentity prefix after prefix,
    each prefix in strictly ascending order (`pageSeq_eq`, `pagesOfPrefix_sorted`) — a rearrangement of the
    un-paginated answer; every answer reports its number of pages and of crawled pages; every answer but the
    last has exactly `count` pages, says not done and carries a token; the last says done; the number of
    calls is bounded. -/
theorem C09_episode {s : State} {t : T} (h : Shape s t) (hi : Inv s t) {ps : List Bytes}
    {all : List (Bytes × Bool)} (hall : s.webentityPages ps = .ok all) (crawledOnly : Bool)
    (count : Nat) (hc : 1 ≤ count) :
    ∃ chunks : List PageChunk,
      PageEpisode s ps crawledOnly count none chunks ∧
      chunks.flatMap (·.pages) = pageSeq s ps crawledOnly ∧
      (pageSeq s ps crawledOnly).Perm (if crawledOnly then all.filter (·.2) else all) ∧
      (∀ ch ∈ chunks, ch.count = ch.pages.length ∧ ch.crawled = crawledCount ch.pages) ∧
      (∀ ch ∈ chunks.dropLast, ch.done = false ∧ ch.pages.length = count ∧ ch.token.isSome = true) ∧
      (∃ l, chunks.getLast? = some l ∧ l.done = true ∧ l.token = none ∧ l.pages.length ≤ count) ∧
      chunks.length ≤ (pageSeq s ps crawledOnly).length / count + 1 := by
  have hok : AllOk s ps := allOk_of_answered h hi hall
  obtain ⟨chunks, segs, hep, _, hf, a1, a2, a3, a4⟩ :=
    pageEpisode_from hok crawledOnly count hc none _ (paginatePages_none hok crawledOnly count) ⟨[], rfl⟩
  refine ⟨chunks, hep, a1, ?_, fun ch hch => ?_, a2, a3, ?_⟩
  · exact walk_pages_perm hok crawledOnly hall
  · obtain ⟨seg, _, ha⟩ := hf.mem_left ch hch
    exact ⟨(PageAnswer.fields ha).2.1, (PageAnswer.fields ha).2.2.1⟩
  · unfold pageSeq
    rw [pageCls_outs_length]
    exact a4

/-- C09, termination: iterating the calls with fuel `(number of pages) / count + 1` completes the episode -/
theorem C09_terminates {s : State} {t : T} (h : Shape s t) (hi : Inv s t) {ps : List Bytes}
    {all : List (Bytes × Bool)} (hall : s.webentityPages ps = .ok all) (crawledOnly : Bool)
    (count : Nat) (hc : 1 ≤ count) :
    ∃ chunks, episodePages s ps crawledOnly count ((pageSeq s ps crawledOnly).length / count + 1) none
        = some chunks ∧ PageEpisode s ps crawledOnly count none chunks := by
  obtain ⟨chunks, hep, _, _, _, _, _, hlen⟩ := C09_episode h hi hall crawledOnly count hc
  exact ⟨chunks, hep.run _ hlen, hep⟩

/-- C09, every resume point: for every item `x` of the walk (page or not, in whichever prefix) and every
    count ≥ 1, the episode started with the token of `x` exists and returns exactly the pages behind `x`,
    in order: nothing repeated, nothing skipped -/
theorem C09_resume_anywhere {s : State} {t : T} (h : Shape s t) (hi : Inv s t) {ps : List Bytes}
    {all : List (Bytes × Bool)} (hall : s.webentityPages ps = .ok all) (crawledOnly : Bool)
    (count : Nat) (hc : 1 ≤ count)
    (pre : List GX) (x : GX) (post : List GX) (hG : gItems s (enumFrom 0 ps) = pre ++ x :: post) :
    ∃ chunks, PageEpisode s ps crawledOnly count (some (buildToken x.1 x.2.2.2)) chunks ∧
      chunks.flatMap (·.pages) = post.flatMap (fun y => pgOut s crawledOnly (y.2.1, y.2.2.1)) ∧
      (∀ ch ∈ chunks.dropLast, ch.pages.length = count) := by
  have hok : AllOk s ps := allOk_of_answered h hi hall
  obtain ⟨chunks, _, hep, _, _, a1, a2, _⟩ := pageEpisode_from hok crawledOnly count hc _ post
    (paginatePages_token hok crawledOnly count pre x post hG) ⟨pre ++ [x], by rw [hG]; simp⟩
  exact ⟨chunks, hep, by rw [a1, pageCls_outs_eq], fun ch hch => (a2 ch hch).2.1⟩

/-- C09, issued tokens: every token an episode issues is the token of a counted page of the walk; hence
    (`C09_resume_anywhere`) it can be resumed, with any count -/
theorem C09_issued_tokens {s : State} {t : T} (h : Shape s t) (hi : Inv s t) {ps : List Bytes}
    {all : List (Bytes × Bool)} (hall : s.webentityPages ps = .ok all) (crawledOnly : Bool)
    (count : Nat) (hc : 1 ≤ count)
    {chunks : List PageChunk} (hep : PageEpisode s ps crawledOnly count none chunks)
    {ch : PageChunk} (hch : ch ∈ chunks) {tk : Bytes} (htk : ch.token = some tk) :
    ∃ pre x post, gItems s (enumFrom 0 ps) = pre ++ x :: post ∧ (s.cell x.2.1).flags.page = true ∧
      tk = buildToken x.1 x.2.2.2 := by
  have hok : AllOk s ps := allOk_of_answered h hi hall
  obtain ⟨chunks', segs, hep', hsegs, hf, _⟩ :=
    pageEpisode_from hok crawledOnly count hc none _ (paginatePages_none hok crawledOnly count) ⟨[], rfl⟩
  cases Episode.det hep hep'
  obtain ⟨pre, x, post, e2, hpg, e⟩ := issued_token (pageCls s crawledOnly) mkPage_ok hsegs hf hch htk
  refine ⟨pre, x, post, e2, ?_, e⟩
  have : ((s.cell x.2.1).flags.page && (!crawledOnly || (s.cell x.2.1).flags.crawled)) = true := hpg.elim id id
  exact (Bool.and_eq_true _ _ ▸ this).1

/-- C09 in one statement, for an index state with its invariants: for every prefix list (one or several
    prefixes, any order) the un-paginated request answers, both settings of `crawled_only` and every page count
    ≥ 1, the conclusions of `C09_episode` hold, the pages come prefix after prefix, each prefix strictly
    ascending, every item of the walk is a resume point, and the iteration terminates within the stated
    number of calls -/
theorem C09_of_inv {s : State} {t : T} (h : Shape s t) (hi : Inv s t) {ps : List Bytes}
    {all : List (Bytes × Bool)} (hall : s.webentityPages ps = .ok all)
    (crawledOnly : Bool) (count : Nat) (hc : 1 ≤ count) :
    (∃ chunks : List PageChunk,
      PageEpisode s ps crawledOnly count none chunks ∧
      episodePages s ps crawledOnly count ((pageSeq s ps crawledOnly).length / count + 1) none = some chunks ∧
      chunks.flatMap (·.pages) = ps.flatMap (pagesOfPrefix s crawledOnly) ∧
      (ps.flatMap (pagesOfPrefix s crawledOnly)).Perm (if crawledOnly then all.filter (·.2) else all) ∧
      (∀ ch ∈ chunks, ch.count = ch.pages.length ∧ ch.crawled = crawledCount ch.pages) ∧
      (∀ ch ∈ chunks.dropLast, ch.done = false ∧ ch.pages.length = count ∧ ch.token.isSome = true) ∧
      (∃ l, chunks.getLast? = some l ∧ l.done = true ∧ l.token = none ∧ l.pages.length ≤ count)) ∧
    (∀ p ∈ ps, ((pagesOfPrefix s crawledOnly p).map (·.1)).Pairwise (fun a b => lexLt a b = true)) ∧
    (∀ pre x post, gItems s (enumFrom 0 ps) = pre ++ x :: post → ∀ count', 1 ≤ count' →
      ∃ chunks, PageEpisode s ps crawledOnly count' (some (buildToken x.1 x.2.2.2)) chunks ∧
        chunks.flatMap (·.pages) = post.flatMap (fun y => pgOut s crawledOnly (y.2.1, y.2.2.1))) := by
  obtain ⟨chunks, h1, h2, h3, h4, h5, h6, h7⟩ := C09_episode h hi hall crawledOnly count hc
  have hok' : AllOk _ ps := allOk_of_answered h hi hall
  rw [pageSeq_eq] at h2 h3
  refine ⟨⟨chunks, h1, h1.run _ h7, h2, h3, h4, h5, h6⟩, fun p hp => pagesOfPrefix_sorted hok' crawledOnly hp,
    fun pre x post hG count' hc' => ?_⟩
  obtain ⟨chunks', g1, g2, _⟩ := C09_resume_anywhere h hi hall crawledOnly count' hc' pre x post hG
  exact ⟨chunks', g1, g2⟩

/-! The model on a concrete index: webentity 1 with prefixes `x|`, `y|`. -/
section Examples

private def exX : Bytes := [120, 124]
private def exY : Bytes := [121, 124]
private def exPg (p : Bytes) (l : List Nat) : Bytes := p ++ l ++ [124]
private def exS : State :=
  (State.fresh {} .never [] []).1.run
    [.create [exX, exY], .addPage (exPg exX [50]) true, .addPage (exPg exX [49]) false,
     .addPage (exPg exY [109]) true, .addPage (exPg exY [109, 109]) false, .addPage (exPg exY [110]) true]

/-- the model run once; the examples below read the answers off -/
private theorem exS_eval :
    (exS.webentityPages [exX, exY]).toOption
      = some [(exPg exX [50], true), (exPg exX [49], false), (exPg exY [109], true), (exPg exY [109, 109], false),
              (exPg exY [110], true)] ∧
    (episodePages exS [exX, exY] false 2 4 none).map (fun cs => cs.map (·.pages))
      = some [[(exPg exX [49], false), (exPg exX [50], true)],
              [(exPg exY [109, 109], false), (exPg exY [109], true)],
              [(exPg exY [110], true)]] ∧
    (episodePages exS [exX, exY] false 2 4 none).map (fun cs => cs.map (fun c => (c.done, c.count, c.crawled)))
      = some ([(false, 2, 1), (false, 2, 1), (true, 1, 1)] : List (Bool × Nat × Nat)) ∧
    (episodePages exS [exX, exY] true 2 4 none).map (fun cs => cs.map (·.pages))
      = some [[(exPg exX [50], true), (exPg exY [109], true)], [(exPg exY [110], true)]] := by decide +kernel

/-- DFS order of the un-paginated request … -/
example : (exS.webentityPages [exX, exY]).toOption
    = some [(exPg exX [50], true), (exPg exX [49], false), (exPg exY [109], true), (exPg exY [109, 109], false),
            (exPg exY [110], true)] := exS_eval.1
/-- … ascending order, prefix after prefix, of the paginated one -/
example : (episodePages exS [exX, exY] false 2 4 none).map (fun cs => cs.map (·.pages))
    = some [[(exPg exX [49], false), (exPg exX [50], true)],
            [(exPg exY [109, 109], false), (exPg exY [109], true)],
            [(exPg exY [110], true)]] := exS_eval.2.1
example : (episodePages exS [exX, exY] false 2 4 none).map (fun cs => cs.map (fun c => (c.done, c.count, c.crawled)))
    = some ([(false, 2, 1), (false, 2, 1), (true, 1, 1)] : List (Bool × Nat × Nat)) := exS_eval.2.2.1
example : (episodePages exS [exX, exY] true 2 4 none).map (fun cs => cs.map (·.pages))
    = some [[(exPg exX [50], true), (exPg exY [109], true)], [(exPg exY [110], true)]] := exS_eval.2.2.2

end Examples

end Traph

section
open Traph
#print axioms pageEpisode_from
#print axioms C09_episode
#print axioms C09_terminates
#print axioms C09_resume_anywhere
#print axioms C09_issued_tokens
#print axioms C09_of_inv
end
