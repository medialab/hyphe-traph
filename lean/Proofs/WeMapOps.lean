import Proofs.WeMap
import Proofs.Ids
/-! What each webentity edit request does to the prefix map `s.weMap` and what it answers, as a
    function of the map before (and of the id counter for creations): a `_spec` lemma per request, and
    `addPrefixes_spec` for the shared `__add_prefixes`. Every byte-string prefix is assumed to cut into at least one stem
    (`lruIter p ≠ []`); see `addPrefix_root_alias` for what the code does otherwise. -/
namespace Traph
open State Layout

def mapAttach (M : LRU → Nat) (qs : List LRU) (id : Nat) : LRU → Nat :=
  fun q => if q ∈ qs ∧ M q = 0 then id else M q

def mapSetAll (M : LRU → Nat) (qs : List LRU) (v : Nat) : LRU → Nat :=
  fun q => if q ∈ qs then v else M q

theorem mapSetAll_nil (M : LRU → Nat) (v : Nat) : mapSetAll M [] v = M := by
  funext q; simp [mapSetAll]

theorem mapSetAll_cons (M : LRU → Nat) (q : LRU) (qs : List LRU) (v : Nat) :
    mapSetAll M (q :: qs) v = mapSetAll (mapSet M q v) qs v := by
  funext p
  unfold mapSetAll mapSet
  by_cases h1 : p ∈ qs <;> by_cases h2 : p = q <;> simp [h1, h2]

theorem mapSetAll_congr (M : LRU → Nat) {l l' : List LRU} (v : Nat) (h : ∀ q, q ∈ l ↔ q ∈ l') :
    mapSetAll M l v = mapSetAll M l' v := by
  funext q; unfold mapSetAll
  by_cases hq : q ∈ l
  · rw [if_pos hq, if_pos ((h q).mp hq)]
  · rw [if_neg hq, if_neg (fun hx => hq ((h q).mpr hx))]

theorem mapSet_mapSet (M : LRU → Nat) (q : LRU) (v w : Nat) : mapSet (mapSet M q v) q w = mapSet M q w := by
  funext p; unfold mapSet; split <;> rfl

/-- keys of a dict after `d[p] = …` for every `p` of a list, in insertion order -/
def keysAdd : List Bytes → List Bytes → List Bytes
  | acc, [] => acc
  | acc, p :: ps => keysAdd (if p ∈ acc then acc else acc ++ [p]) ps

theorem keysAdd_dictSet {β : Type} (d : List (Bytes × β)) (p : Bytes) (v : β) (ps : List Bytes) :
    keysAdd ((dictSet d p v).map (·.1)) ps = keysAdd (d.map (·.1)) (p :: ps) := by
  rw [keys_dictSet, keysAdd]; congr

theorem mem_keysAdd : ∀ (ps acc : List Bytes) (x : Bytes), x ∈ keysAdd acc ps ↔ x ∈ acc ∨ x ∈ ps := by
  intro ps
  induction ps with
  | nil => intro acc x; simp [keysAdd]
  | cons p ps ih =>
    intro acc x
    rw [keysAdd, ih, List.mem_cons]
    by_cases hp : p ∈ acc
    · rw [if_pos hp]
      constructor
      · exact Or.imp_right Or.inr
      · rintro (h | rfl | h)
        · exact Or.inl h
        · exact Or.inl hp
        · exact Or.inr h
    · rw [if_neg hp, List.mem_append, List.mem_singleton, or_assoc]

theorem weMap_foldl_setWe {t : T} (v : Nat) : ∀ (l : List (Bytes × Nat)) (s : State), Shape s t →
    (∀ pn ∈ l, (lruIter pn.1, pn.2) ∈ t.entries s []) →
    (l.foldl (fun st pn => st.modCell pn.2 (fun c => { c with we := v })) s).weMap
      = mapSetAll s.weMap ((l.map (·.1)).map lruIter) v := by
  intro l
  induction l with
  | nil => intro s _ _; rw [List.foldl_nil, List.map_nil, List.map_nil, mapSetAll_nil]
  | cons pn l ih =>
    intro s h hm
    rw [List.foldl_cons, List.map_cons, List.map_cons, mapSetAll_cons]
    have ns : NoStruct s (s.modCell pn.2 (fun c => { c with we := v })) :=
      noStruct_modCell s pn.2 _ (fun _ => ⟨rfl, rfl, rfl, rfl, rfl⟩)
    have e := ns.entries t []
    rw [ih _ (ns.shape h) (fun x hx => by rw [e]; exact hm x (by simp [hx])),
      weMap_setWe h (hm pn (by simp)) v]
    rfl

/-- attaching a prefix that is already attached is refused (the library's own error) and changes
    nothing in the map; otherwise the prefix is attached -/
theorem addPrefix_spec {s : State} {t : T} (h : Shape s t) (pfx : Bytes) (w : Nat) (hne : lruIter pfx ≠ []) :
    (s.weMap (lruIter pfx) ≠ 0 →
      (s.addPrefix pfx w).2 = .error .traph ∧ (s.addPrefix pfx w).1.weMap = s.weMap) ∧
    (s.weMap (lruIter pfx) = 0 →
      (s.addPrefix pfx w).2 = .ok () ∧ (s.addPrefix pfx w).1.weMap = mapSet s.weMap (lruIter pfx) w) := by
  obtain ⟨t1, k1, hent⟩ := keeps_addLruIter h pfx true
  have hw := weMap_addLru h (lruIter pfx) true
  rcases ha : s.addLru (lruIter pfx) true with ⟨s1, n, hh⟩
  rw [ha] at k1 hent hw
  simp only at k1 hent hw
  have hc : (s1.cell n).we = s.weMap (lruIter pfx) := by
    rw [← weMap_entry k1.shape (hent hne), hw]
  simp only [addPrefix, ha]
  constructor
  · intro hz
    rw [if_pos (by rw [hc]; exact hz)]
    exact ⟨rfl, hw⟩
  · intro hz
    rw [if_neg (by rw [hc]; simpa using hz)]
    refine ⟨rfl, ?_⟩
    rw [weMap_setWe k1.shape (hent hne) w, hw]; rfl

/-- ROOT ALIAS: a prefix argument that contains no separator cuts into no stem; `add_lru([])` then returns
    block 1, so the request reads and writes the webentity field of the FIRST node ever inserted (the root of
    the top-level sibling tree), whatever its stem is. This is why the specifications assume
    `lruIter pfx ≠ []`. -/
theorem addPrefix_root_alias (s : State) (pfx : Bytes) (w : Nat) (hnil : lruIter pfx = []) :
    s.addPrefix pfx w =
      if (s.cell 1).we ≠ 0 then (s, .error .traph)
      else (s.modCell 1 (fun c => { c with we := w }), .ok ()) := by
  unfold addPrefix
  rw [hnil, addLru_nil]

/-- the owner check of `remove_prefix_from_webentity` / `move_prefix_to_webentity` -/
def removeOk (M : LRU → Nat) (q : LRU) : Option Nat → Prop
  | none => True
  | some w => w = 0 ∨ M q = w

theorem removePrefix_spec {s : State} {t : T} (h : Shape s t) (pfx : Bytes) (weid : Option Nat)
    (hne : lruIter pfx ≠ []) :
    (removeOk s.weMap (lruIter pfx) weid →
      (s.removePrefix pfx weid).2 = .ok () ∧
      (s.removePrefix pfx weid).1.weMap = mapSet s.weMap (lruIter pfx) 0) ∧
    (¬ removeOk s.weMap (lruIter pfx) weid →
      (s.removePrefix pfx weid).2 = .error .traph ∧ (s.removePrefix pfx weid).1.weMap = s.weMap) := by
  obtain ⟨t1, k1, hent⟩ := keeps_addLruIter h pfx false
  have hw := weMap_addLru h (lruIter pfx) false
  rcases ha : s.addLru (lruIter pfx) false with ⟨s1, n, hh⟩
  rw [ha] at k1 hent hw
  simp only at k1 hent hw
  have hc : (s1.cell n).we = s.weMap (lruIter pfx) := by
    rw [← weMap_entry k1.shape (hent hne), hw]
  have hset : (s1.modCell n (fun c => { c with we := 0 })).weMap = mapSet s.weMap (lruIter pfx) 0 := by
    rw [weMap_setWe k1.shape (hent hne) 0, hw]; rfl
  simp only [removePrefix, ha]
  constructor
  · intro hy
    rw [if_pos (by
      cases weid with
      | none => rfl
      | some w => simpa [removeOk, hc] using hy)]
    exact ⟨rfl, hset⟩
  · intro hn
    rw [if_neg (by
      cases weid with
      | none => exact absurd trivial hn
      | some w => simpa [removeOk, hc] using hn)]
    exact ⟨rfl, hw⟩

theorem movePrefix_spec {s : State} {t : T} (h : Shape s t) (pfx : Bytes) (target : Nat) (source : Option Nat)
    (hne : lruIter pfx ≠ []) :
    (removeOk s.weMap (lruIter pfx) source →
      (s.movePrefix pfx target source).2 = .ok () ∧
      (s.movePrefix pfx target source).1.weMap = mapSet s.weMap (lruIter pfx) target) ∧
    (¬ removeOk s.weMap (lruIter pfx) source →
      (s.movePrefix pfx target source).2 = .error .traph ∧
      (s.movePrefix pfx target source).1.weMap = s.weMap) := by
  obtain ⟨r1, r2⟩ := removePrefix_spec h pfx source hne
  obtain ⟨t1, k1⟩ := keeps_removePrefix h pfx source
  unfold movePrefix
  rcases hr : s.removePrefix pfx source with ⟨s1, e | u⟩
  · rw [hr] at r1 r2
    simp only at r1 r2 ⊢
    constructor
    · intro hok; have := (r1 hok).1; cases this
    · intro hok
      obtain ⟨e1, e2⟩ := r2 hok
      simp only [Except.error.injEq] at e1
      rw [e1]; exact ⟨rfl, e2⟩
  · rw [hr] at r1 r2 k1
    simp only at r1 r2 k1 ⊢
    constructor
    · intro hok
      obtain ⟨_, e2⟩ := r1 hok
      obtain ⟨_, a2⟩ := addPrefix_spec k1.shape pfx target hne
      have hz : s1.weMap (lruIter pfx) = 0 := by rw [e2, mapSet_same]
      obtain ⟨b1, b2⟩ := a2 hz
      refine ⟨b1, ?_⟩
      rw [b2, e2, mapSet_mapSet]
    · intro hok; have := (r2 hok).1; cases this

/-- the corruption check of `delete_webentity`: every listed prefix is attached to that webentity, and the id is not 0 (`delete 0 [p]` is refused also for a free `p`) -/
def deleteOk (M : LRU → Nat) (w : Nat) (ps : List Bytes) : Prop :=
  ∀ p ∈ ps, M (lruIter p) = w ∧ w ≠ 0

theorem deleteScanChecked_spec {s : State} {t : T} (h : Shape s t) (w : Nat) :
    ∀ (ps : List Bytes) (idx : List (Bytes × Nat)), (∀ p ∈ ps, lruIter p ≠ []) →
      (∀ pn ∈ idx, (lruIter pn.1, pn.2) ∈ t.entries s []) →
      (deleteOk s.weMap w ps → ∃ idx', deleteScanChecked s w ps idx = .ok idx' ∧
        (∀ pn ∈ idx', (lruIter pn.1, pn.2) ∈ t.entries s []) ∧
        idx'.map (·.1) = keysAdd (idx.map (·.1)) ps) ∧
      (¬ deleteOk s.weMap w ps → deleteScanChecked s w ps idx = .error .traph) := by
  intro ps
  induction ps with
  | nil =>
    intro idx _ hidx
    simp only [deleteScanChecked]
    exact ⟨fun _ => ⟨idx, rfl, hidx, rfl⟩, fun hn => absurd (fun p hp => nomatch hp) hn⟩
  | cons p ps ih =>
    intro idx hne hidx
    have hp := hne p List.mem_cons_self
    have hcons : deleteOk s.weMap w (p :: ps) ↔ (s.weMap (lruIter p) = w ∧ w ≠ 0) ∧ deleteOk s.weMap w ps :=
      List.forall_mem_cons
    simp only [deleteScanChecked]
    cases hl : s.lruNode (lruIter p) with
    | none =>
      have hz : s.weMap (lruIter p) = 0 := by unfold State.weMap; rw [if_neg hp, hl]
      exact ⟨fun hok => absurd (hz ▸ (hcons.mp hok).1.1) (hcons.mp hok).1.2.symm, fun _ => rfl⟩
    | some n =>
      have hm := (lruNode_iff_entries h _ hp n).mp hl
      -- the test of the code, on the cell, is the negation of the check, on the map
      have hcond : (decide ((s.cell n).we = 0) || decide ((s.cell n).we ≠ w)) = true ↔
          ¬ (s.weMap (lruIter p) = w ∧ w ≠ 0) := by
        rw [weMap_entry h hm, Bool.or_eq_true, decide_eq_true_eq, decide_eq_true_eq]
        exact ⟨fun hx hg => hx.elim (fun h0 => hg.2 (hg.1 ▸ h0)) (fun h1 => h1 hg.1), fun hn =>
          (Nat.decEq (s.cell n).we w).byCases (fun e => Or.inl (Decidable.byContradiction fun h0 => hn ⟨e, e ▸ h0⟩)) Or.inr⟩
      simp only
      by_cases hgood : s.weMap (lruIter p) = w ∧ w ≠ 0
      · rw [if_neg fun hx => hcond.mp hx hgood]
        obtain ⟨i1, i2⟩ := ih (dictSet idx p n)
          (fun p' hp' => hne p' (List.mem_cons_of_mem _ hp')) fun pn hpn =>
            (mem_dictSet idx p n pn hpn).elim (· ▸ hm) (hidx pn)
        exact ⟨fun hok => have ⟨idx', e1, e2, e3⟩ := i1 (hcons.mp hok).2; ⟨idx', e1, e2, by rw [e3, keysAdd_dictSet]⟩,
          fun hn => i2 fun hok => hn (hcons.mpr ⟨hgood, hok⟩)⟩
      · rw [if_pos (hcond.mpr hgood)]
        exact ⟨fun hok => absurd (hcons.mp hok).1 hgood, fun _ => rfl⟩

/-- `delete_webentity(w, prefixes)`: when every listed prefix is attached to `w`, all of them are detached;
    otherwise the request is refused and the state is untouched -/
theorem deleteWebentity_spec {s : State} {t : T} (h : Shape s t) (w : Nat) (ps : List Bytes)
    (hne : ∀ p ∈ ps, lruIter p ≠ []) :
    (deleteOk s.weMap w ps →
      (s.deleteWebentity w ps).2 = .ok () ∧
      (s.deleteWebentity w ps).1.weMap = mapSetAll s.weMap (ps.map lruIter) 0) ∧
    (¬ deleteOk s.weMap w ps →
      (s.deleteWebentity w ps).2 = .error .traph ∧ (s.deleteWebentity w ps).1 = s) := by
  obtain ⟨i1, i2⟩ := deleteScanChecked_spec h w ps [] hne (fun pn hpn => by simp at hpn)
  unfold deleteWebentity
  constructor
  · intro hok
    obtain ⟨idx', e1, e2, e3⟩ := i1 hok
    rw [e1]
    refine ⟨rfl, ?_⟩
    simp only
    rw [weMap_foldl_setWe 0 idx' s h e2, e3]
    exact mapSetAll_congr _ _ (fun q => by simp only [List.mem_map, mem_keysAdd, List.map_nil, List.not_mem_nil, false_or])
  · intro hn
    rw [i2 hn]
    exact ⟨rfl, rfl⟩

theorem addPrefixesScan_spec (M : LRU → Nat) : ∀ (ps : List Bytes) (s : State) (t : T)
    (valid : List (Bytes × Nat)) (nInv : Nat),
    Shape s t → s.weMap = M → (∀ p ∈ ps, lruIter p ≠ []) →
    (∀ pn ∈ valid, (lruIter pn.1, pn.2) ∈ t.entries s []) →
    ∃ t', Ext s t (s.addPrefixesScan ps valid nInv).1 t' ∧
      (s.addPrefixesScan ps valid nInv).1.weMap = M ∧
      (∀ pn ∈ (s.addPrefixesScan ps valid nInv).2.1,
        (lruIter pn.1, pn.2) ∈ t'.entries (s.addPrefixesScan ps valid nInv).1 []) ∧
      (s.addPrefixesScan ps valid nInv).2.1.map (·.1)
        = keysAdd (valid.map (·.1)) (ps.filter (fun p => decide (M (lruIter p) = 0))) ∧
      (s.addPrefixesScan ps valid nInv).2.2
        = nInv + (ps.filter (fun p => decide (M (lruIter p) ≠ 0))).length := by
  intro ps
  induction ps with
  | nil =>
    intro s t valid nInv h hM _ hv
    simp only [addPrefixesScan]
    exact ⟨t, Ext.refl h, hM, hv, by simp [keysAdd], by simp⟩
  | cons p ps ih =>
    intro s t valid nInv h hM hne hv
    have hp := hne p (by simp)
    obtain ⟨t1, k1, hent⟩ := keeps_addLruIter h p true
    have hw := weMap_addLru h (lruIter p) true
    rcases ha : s.addLru (lruIter p) true with ⟨s1, n, hh⟩
    rw [ha] at k1 hent hw
    simp only at k1 hent hw
    have hM1 : s1.weMap = M := hw.trans hM
    have hc : (s1.cell n).we = M (lruIter p) := by
      rw [← weMap_entry k1.shape (hent hp), hM1]
    simp only [addPrefixesScan, ha]
    by_cases hz : M (lruIter p) = 0
    · rw [if_neg (by rw [hc]; simpa using hz)]
      obtain ⟨t2, x2, e1, e2, e3, e4⟩ := ih s1 t1 (dictSet valid p n) nInv k1.shape hM1
        (fun p' hp' => hne p' (by simp [hp'])) (fun pn hpn => by
          rcases mem_dictSet valid p n pn hpn with rfl | hpn
          · exact hent hp
          · exact k1.ext.keep _ _ (hv pn hpn))
      refine ⟨t2, k1.ext.trans x2, e1, e2, ?_, ?_⟩
      · rw [e3, keysAdd_dictSet, List.filter_cons_of_pos (by simpa using hz)]
      · rw [e4, List.filter_cons_of_neg (by simpa using hz)]
    · rw [if_pos (by rw [hc]; exact hz)]
      obtain ⟨t2, x2, e1, e2, e3, e4⟩ := ih s1 t1 valid (nInv + 1) k1.shape hM1
        (fun p' hp' => hne p' (by simp [hp'])) (fun pn hpn => k1.ext.keep _ _ (hv pn hpn))
      refine ⟨t2, k1.ext.trans x2, e1, e2, ?_, ?_⟩
      · rw [e3, List.filter_cons_of_neg (by simpa using hz)]
      · rw [e4, List.filter_cons_of_pos (by simpa using hz), List.length_cons]; omega

/-- the prefixes of a list that are free in `M`, in the order and with the de-duplication of the code -/
def freeOf (M : LRU → Nat) (ps : List Bytes) : List Bytes :=
  keysAdd [] (ps.filter (fun p => decide (M (lruIter p) = 0)))

def takenCount (M : LRU → Nat) (ps : List Bytes) : Nat :=
  (ps.filter (fun p => decide (M (lruIter p) ≠ 0))).length

theorem mem_freeOf (M : LRU → Nat) (ps : List Bytes) (p : Bytes) :
    p ∈ freeOf M ps ↔ p ∈ ps ∧ M (lruIter p) = 0 := by
  unfold freeOf
  rw [mem_keysAdd]
  simp

theorem takenCount_eq_zero (M : LRU → Nat) (ps : List Bytes) :
    takenCount M ps = 0 ↔ ∀ p ∈ ps, M (lruIter p) = 0 := by
  unfold takenCount
  rw [List.length_eq_zero_iff, List.filter_eq_nil_iff]
  simp

theorem takenCount_eq_length (M : LRU → Nat) (ps : List Bytes) :
    takenCount M ps = ps.length ↔ ∀ p ∈ ps, M (lruIter p) ≠ 0 := by
  unfold takenCount
  rw [List.length_filter_eq_length_iff]
  simp

theorem mapSetAll_freeOf (M : LRU → Nat) (ps : List Bytes) (id : Nat) :
    mapSetAll M ((freeOf M ps).map lruIter) id = mapAttach M (ps.map lruIter) id := by
  funext q
  unfold mapSetAll mapAttach
  have hmem : q ∈ (freeOf M ps).map lruIter ↔ q ∈ ps.map lruIter ∧ M q = 0 := by
    simp only [List.mem_map, mem_freeOf]
    constructor
    · rintro ⟨p, ⟨hp1, hp2⟩, rfl⟩; exact ⟨⟨p, hp1, rfl⟩, hp2⟩
    · rintro ⟨⟨p, hp1, rfl⟩, hp2⟩; exact ⟨p, ⟨hp1, hp2⟩, rfl⟩
  by_cases hq : q ∈ ps.map lruIter ∧ M q = 0
  · rw [if_pos (hmem.mpr hq), if_pos hq]
  · rw [if_neg (fun hx => hq (hmem.mp hx)), if_neg hq]

/-- `__add_prefixes(prefixes, use_best_case)`.
    * some listed prefix is taken and `best = false`: refused, map unchanged;
    * every listed prefix is taken (in particular the empty list): nothing created, no id drawn;
    * otherwise the next id is drawn and every listed prefix that is free gets it. -/
theorem addPrefixes_spec {s : State} {t : T} (h : Shape s t) (ps : List Bytes) (best : Bool)
    (hne : ∀ p ∈ ps, lruIter p ≠ []) :
    (∃ t', Ext s t (s.addPrefixes ps best).1 t') ∧
    ((0 < takenCount s.weMap ps ∧ best = false) →
      (s.addPrefixes ps best).2 = .error .traph ∧ (s.addPrefixes ps best).1.weMap = s.weMap ∧
      (s.addPrefixes ps best).1.hdrId = s.hdrId) ∧
    (¬ (0 < takenCount s.weMap ps ∧ best = false) → takenCount s.weMap ps = ps.length →
      (s.addPrefixes ps best).2 = .ok (none, []) ∧ (s.addPrefixes ps best).1.weMap = s.weMap ∧
      (s.addPrefixes ps best).1.hdrId = s.hdrId) ∧
    (¬ (0 < takenCount s.weMap ps ∧ best = false) → takenCount s.weMap ps ≠ ps.length →
      (s.addPrefixes ps best).2 = .ok (some (s.hdrId + 1), freeOf s.weMap ps) ∧
      (s.addPrefixes ps best).1.weMap = mapAttach s.weMap (ps.map lruIter) (s.hdrId + 1) ∧
      (s.addPrefixes ps best).1.hdrId = s.hdrId + 1) := by
  obtain ⟨t1, x1, e1, e2, e3, e4⟩ := addPrefixesScan_spec s.weMap ps s t [] 0 h rfl hne (fun pn hpn => by simp at hpn)
  have hid := hdrId_addPrefixesScan ps s [] 0
  rcases hs : s.addPrefixesScan ps [] 0 with ⟨s1, valid, nInv⟩
  rw [hs] at x1 e1 e2 e3 e4 hid
  simp only at x1 e1 e2 e3 e4 hid
  rw [Nat.zero_add] at e4
  have e4' : nInv = takenCount s.weMap ps := e4
  have e3' : valid.map (·.1) = freeOf s.weMap ps := e3
  have k2 := keeps_genId x1.shape
  have k3 := keeps_foldl_modCell (fun pn : Bytes × Nat => pn.2) (fun _ c => { c with we := s1.genId.2 })
        (fun _ _ => ⟨rfl, rfl, rfl, rfl, rfl⟩) (fun _ _ => rfl) (fun _ _ => rfl) valid _ t1 k2.shape
  have hrefuse : (decide (nInv > 0) && !best) = true ↔ 0 < takenCount s.weMap ps ∧ best = false := by
    rw [e4']; simp
  -- the request is named before it is unfolded: the statement mentions it ten times
  generalize hr : s.addPrefixes ps best = r
  simp only [addPrefixes, hs] at hr
  refine ⟨?_, ?_, ?_, ?_⟩
  · split at hr
    · subst hr; exact ⟨t1, x1⟩
    · split at hr <;> subst hr
      · exact ⟨t1, x1⟩
      · exact ⟨t1, x1.trans (k2.ext.trans k3.ext)⟩
  · intro h1
    rw [if_pos (hrefuse.mpr h1)] at hr; subst hr
    exact ⟨rfl, e1, hid⟩
  · intro h1 h2
    rw [if_neg (fun hc => h1 (hrefuse.mp hc)), if_pos (by rw [e4']; exact h2)] at hr; subst hr
    exact ⟨rfl, e1, hid⟩
  · intro h1 h2
    rw [if_neg (fun hc => h1 (hrefuse.mp hc)), if_neg (by rw [e4']; exact h2)] at hr; subst hr
    refine ⟨by rw [e3', snd_genId, hid], ?_, by rw [hdrId_foldl_modCell, hdrId_genId, hid]⟩
    have hg : s1.genId.1.weMap = s1.weMap := weMap_trie_eq rfl
    dsimp only
    rw [weMap_foldl_setWe _ valid _ k2.shape (fun pn hpn => k2.ext.keep _ _ (e2 pn hpn)), hg, e1, snd_genId, hid,
      e3', mapSetAll_freeOf]

theorem createWebentity_eq (s : State) (ps : List Bytes) : s.createWebentity ps =
    ((s.addPrefixes ps false).1, (s.addPrefixes ps false).2.map fun ip => ({ we := [ip] } : Report)) := by
  unfold createWebentity
  rcases s.addPrefixes ps false with ⟨s1, e | ⟨id, l⟩⟩ <;> rfl

theorem createWebentityAuto_eq (s : State) (pfx : Bytes) : s.createWebentityAuto pfx =
    ((s.addPrefixes (lruVariations pfx) true).1,
      match (s.addPrefixes (lruVariations pfx) true).2 with
      | .ok (some id, ps) => { we := [(some id, ps)] }
      | _ => {}) := by
  unfold createWebentityAuto
  rcases s.addPrefixes (lruVariations pfx) true with ⟨s1, e | ⟨_ | id, l⟩⟩ <;> rfl


/-- `create_webentity(prefixes)`: refused when some listed prefix is already attached; otherwise a new
    webentity with the next id owns all of them (an empty list creates nothing and reports `None`) -/
theorem createWebentity_spec {s : State} {t : T} (h : Shape s t) (ps : List Bytes)
    (hne : ∀ p ∈ ps, lruIter p ≠ []) :
    ((∃ p ∈ ps, s.weMap (lruIter p) ≠ 0) →
      (s.createWebentity ps).2 = .error .traph ∧ (s.createWebentity ps).1.weMap = s.weMap ∧
      (s.createWebentity ps).1.hdrId = s.hdrId) ∧
    ((∀ p ∈ ps, s.weMap (lruIter p) = 0) → ps = [] →
      (s.createWebentity ps).2 = .ok { we := [(none, [])] } ∧ (s.createWebentity ps).1.weMap = s.weMap ∧
      (s.createWebentity ps).1.hdrId = s.hdrId) ∧
    ((∀ p ∈ ps, s.weMap (lruIter p) = 0) → ps ≠ [] →
      (s.createWebentity ps).2 = .ok { we := [(some (s.hdrId + 1), keysAdd [] ps)] } ∧
      (s.createWebentity ps).1.weMap = mapSetAll s.weMap (ps.map lruIter) (s.hdrId + 1) ∧
      (s.createWebentity ps).1.hdrId = s.hdrId + 1) := by
  obtain ⟨_, a1, a2, a3⟩ := addPrefixes_spec h ps false hne
  rw [createWebentity_eq]
  refine ⟨?_, ?_, ?_⟩
  · rintro ⟨p, hp, hz⟩
    have hpos : 0 < takenCount s.weMap ps := by
      rcases Nat.eq_zero_or_pos (takenCount s.weMap ps) with h0 | h0
      · exact absurd ((takenCount_eq_zero _ _).mp h0 p hp) hz
      · exact h0
    obtain ⟨b1, b2, b3⟩ := a1 ⟨hpos, rfl⟩
    rw [b1]; exact ⟨rfl, b2, b3⟩
  · intro hall hnil
    have h0 := (takenCount_eq_zero _ _).mpr hall
    obtain ⟨b1, b2, b3⟩ := a2 (by rw [h0]; simp) (by rw [h0, hnil]; rfl)
    rw [b1]; exact ⟨rfl, b2, b3⟩
  · intro hall hnil
    have h0 := (takenCount_eq_zero _ _).mpr hall
    obtain ⟨b1, b2, b3⟩ := a3 (by rw [h0]; simp) (by
      rw [h0]; intro hc; exact hnil (List.eq_nil_of_length_eq_zero hc.symm))
    have hfree : freeOf s.weMap ps = keysAdd [] ps := by
      unfold freeOf
      rw [List.filter_eq_self.mpr (fun p hp => by simpa using hall p hp)]
    have hmap : mapAttach s.weMap (ps.map lruIter) (s.hdrId + 1) = mapSetAll s.weMap (ps.map lruIter) (s.hdrId + 1) := by
      funext q
      unfold mapAttach mapSetAll
      by_cases hq : q ∈ ps.map lruIter
      · obtain ⟨p, hp, rfl⟩ := List.mem_map.mp hq
        rw [if_pos ⟨hq, hall p hp⟩, if_pos hq]
      · rw [if_neg (fun hx => hq hx.1), if_neg hq]
    rw [b1]; exact ⟨by rw [hfree]; rfl, by rw [b2, hmap], b3⟩

/-- `__create_webentity(K, expand=True, use_best_case=True)`: when some variation of `K` is free, a new
    webentity (next id) owns exactly the free ones, and they are reported; when all are taken nothing
    happens and nothing is reported -/
theorem createWebentityAuto_spec {s : State} {t : T} (h : Shape s t) (pfx : Bytes)
    (hne : ∀ p ∈ lruVariations pfx, lruIter p ≠ []) :
    (∃ t', Ext s t (s.createWebentityAuto pfx).1 t') ∧
    ((∀ p ∈ lruVariations pfx, s.weMap (lruIter p) ≠ 0) →
      (s.createWebentityAuto pfx).2 = {} ∧ (s.createWebentityAuto pfx).1.weMap = s.weMap ∧
      (s.createWebentityAuto pfx).1.hdrId = s.hdrId) ∧
    ((∃ p ∈ lruVariations pfx, s.weMap (lruIter p) = 0) →
      (s.createWebentityAuto pfx).2 = { we := [(some (s.hdrId + 1), freeOf s.weMap (lruVariations pfx))] } ∧
      (s.createWebentityAuto pfx).1.weMap
        = mapAttach s.weMap ((lruVariations pfx).map lruIter) (s.hdrId + 1) ∧
      (s.createWebentityAuto pfx).1.hdrId = s.hdrId + 1) := by
  obtain ⟨x, _, a2, a3⟩ := addPrefixes_spec h (lruVariations pfx) true hne
  rw [createWebentityAuto_eq]
  refine ⟨x, ?_, ?_⟩
  · intro hall
    obtain ⟨b1, b2, b3⟩ := a2 (by simp) ((takenCount_eq_length _ _).mpr hall)
    rw [b1]; exact ⟨rfl, b2, b3⟩
  · rintro ⟨p, hp, hz⟩
    obtain ⟨b1, b2, b3⟩ := a3 (by simp) (fun hc => (takenCount_eq_length _ _).mp hc p hp hz)
    rw [b1]; exact ⟨rfl, b2, b3⟩

end Traph
