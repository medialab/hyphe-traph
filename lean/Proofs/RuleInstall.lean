import Proofs.ChainOps
import Proofs.TraverseDepth
/-! C06, last clause: installing a creation rule on a populated index has the same effect as re-inserting,
    in the order of the model's own DFS, every page stored beneath the anchor (`C06_rule_install`, under a fuel
    hypothesis that `Proofs/RuleFuel.lean` discharges). The walk runs over a trie that grows under it: its pending
    stack is kept as a family of represented trees, carried along the grafts of each visit (`WalkInv`,
    `addRuleLoop_walk`). -/
namespace Traph
open State Layout

/-- `for lru in lrus: report += self.__add_page(lru)` — the first `KeyError` aborts -/
def State.reinsert : State → List Bytes → Report → State × Except Err Report
  | s, [], rep => (s, .ok rep)
  | s, l :: ls, rep =>
    match s.addPageCore l false with
    | (s1, _, .error e) => (s1, .error e)
    | (s1, _, .ok r1) => State.reinsert s1 ls (rep.add r1)

theorem built_reinsert {k ru : Bool} {wf : Prop} {s0 : State} : ∀ (ls : List Bytes) {s : State} {N : List Answered}
    (rep : Report), Built k ru wf s0 N s → Built.To k ru wf s0 N (s.reinsert ls rep).1
  | [], _, _, _, h => .here h trivial
  | l :: ls, _, _, rep, h => by
    have h1 := (built_addPageCore h l false).weaken fun _ _ _ => trivial
    rw [State.reinsert]
    split
    · rename_i heq; exact h1.fst_of_eq heq
    · rename_i heq; exact (h1.fst_of_eq heq).bind fun _ b _ _ => built_reinsert ls _ b

theorem reinsert_size_le (ls : List Bytes) (s : State) (rep : Report) (h0 : 0 < s.trie.size) :
    s.trie.size ≤ (s.reinsert ls rep).1.trie.size :=
  ((built_reinsert (k := false) (ru := false) (wf := False) ls rep (.refl s)).le h0).size

/-- the pages the pending trees will yield, in the order of the walk -/
def pagesOf (s : State) (ds : List (T × Bytes)) : List Bytes :=
  (((ds.map (fun p => p.1.pre s p.2)).flatten).filter (fun e => (s.cell e.1).flags.page)).map (·.2)

theorem pagesOf_nil (s : State) : pagesOf s [] = [] := rfl

theorem pagesOf_cons (s : State) (u : T) (y : Bytes) (ds : List (T × Bytes)) :
    pagesOf s ((u, y) :: ds) =
      ((u.pre s y).filter (fun e => (s.cell e.1).flags.page)).map (·.2) ++ pagesOf s ds := by
  simp [pagesOf, List.filter_append]

theorem pagesOf_cons_node (s : State) (a : Nat) (l c r : T) (lru : Bytes) (rest : List (T × Bytes)) :
    pagesOf s ((T.node a l c r, lru) :: rest) =
      (if (s.cell a).flags.page then [lru ++ s.stemAt a] else []) ++
        pagesOf s ((c, lru ++ s.stemAt a) :: (l, lru) :: (r, lru) :: rest) := by
  rw [pagesOf_cons s c, pagesOf_cons s l, pagesOf_cons s r, pagesOf_cons]
  simp only [T.pre, List.filter_cons, List.filter_append, List.append_assoc]
  split <;> simp

theorem ruleNext_stackOf {s : State} {start a : Nat} {l c r : T} (hr : Rep s (.node a l c r)) (hne : a ≠ start)
    (lru : Bytes) (rest : List (T × Bytes)) :
    ruleNext start a (s.cell a) lru (lru ++ s.stemAt a) (stackOf rest) =
      stackOf ((c, lru ++ s.stemAt a) :: (l, lru) :: (r, lru) :: rest) := by
  obtain ⟨h1, h2, h3⟩ := hr.cell_eq
  obtain ⟨_, _, rl, rc, rr⟩ := hr
  unfold ruleNext
  simp only [h1, h2, h3]
  rw [if_pos hne, stackOf_cons rr, stackOf_cons rl, stackOf_cons rc]

theorem ruleNext_stackOf_start {s : State} {a : Nat} {l c r : T} (hr : Rep s (.node a l c r)) (lru : Bytes) :
    ruleNext a a (s.cell a) lru (lru ++ s.stemAt a) [] = stackOf [(c, lru ++ s.stemAt a)] := by
  obtain ⟨_, h2, _⟩ := hr.cell_eq
  obtain ⟨_, _, _, rc, _⟩ := hr
  unfold ruleNext
  simp only [h2, ne_eq, not_true_eq_false, if_false]
  exact stackOf_cons rc _ []

/-- carrying the pending trees along a chain that leaves the page marks alone does not change the pages
    they will yield: the grafted blocks are not pages -/
theorem pagesOf_mapFam {s s' : State} {gs : List (Nat × Slot × Nat)} (ch : Chain s s' gs) (ps : PageSame s s') :
    ∀ (ds : List (T × Bytes)), (∀ p ∈ ds, Rep s p.1) → pagesOf s' (mapFam gs ds) = pagesOf s ds := by
  intro ds
  induction ds with
  | nil => exact fun _ => (pagesOf_nil s').trans (pagesOf_nil s).symm
  | cons d ds ih =>
    intro hr
    obtain ⟨u, y⟩ := d
    have hp : ∀ e : Nat × Bytes,
        (s'.cell e.1).flags.page = ((s.cell e.1).flags.page && decide (e.1 < s.trie.size)) := by
      intro e
      rw [ps e.1]
      by_cases hlt : e.1 < s.trie.size
      · simp [hlt]
      · simp [hlt, cell_of_size_le s e.1 (Nat.le_of_not_lt hlt)]
    show pagesOf s' ((applyGrafts gs u, y) :: mapFam gs ds) = _
    rw [pagesOf_cons, pagesOf_cons, ih (fun p hp => hr p (by simp [hp])),
      ← ch.pre_old y (hr (u, y) (by simp))]
    unfold oldOnly
    rw [List.filter_filter]
    simp only [hp]

theorem reinsert_visit (s : State) (a : Nat) (lru : Bytes) (rep : Report) (P : List Bytes) :
    s.reinsert ((if (s.cell a).flags.page then [lru ++ s.stemAt a] else []) ++ P) rep =
      match ruleVisit s a lru rep with
      | (s1, .error e) => (s1, .error e)
      | (s1, .ok rep1) => s1.reinsert P rep1 := by
  unfold ruleVisit
  by_cases hpg : (s.cell a).flags.page = true
  · rw [if_pos hpg, if_pos hpg]
    simp only [List.singleton_append, State.reinsert]
    rcases s.addPageCore (lru ++ s.stemAt a) false with ⟨s1, n1, res⟩
    cases res <;> rfl
  · rw [if_neg hpg, if_neg hpg]
    rfl

/-- the invariant of the walk: the pending stack is a family of represented trees of the current trie (an empty one
    for a pointer that was 0), disjoint from one another and from the visited blocks `V` -/
structure WalkInv (start : Nat) (s : State) (t : T) (V : List Nat) (ds : List (T × Bytes)) : Prop where
  shape : Shape s t
  inv : Inv s t
  size : 1 < s.trie.size
  stack : StackOk s t (stackOf ds)
  fam : Fam s V ds
  start : start ∈ V

theorem ruleVisit_fst (s : State) (b : Nat) (lru : Bytes) (rep : Report) :
    (ruleVisit s b lru rep).1 =
      if (s.cell b).flags.page then (s.addPageCore (lru ++ s.stemAt b) false).1 else s := by
  unfold ruleVisit
  split
  · split <;> rename_i heq <;> rw [heq]
  · rfl

theorem visit_ok {start : Nat} {s : State} {t : T} {V : List Nat} {ds0 : List (T × Bytes)} {a : Nat}
    {lru : Bytes} {rep rep1 : Report} {s1 : State}
    (h : Shape s t) (hi : Inv s t) (hsz : 1 < s.trie.size)
    (hent : ∃ p, (p, a) ∈ t.entries s [] ∧ lru = p.dropLast.flatten)
    (hst : StackOk s t (stackOf ds0)) (hf : Fam s V ds0) (hstart : start ∈ V)
    (hR : ruleVisit s a lru rep = (s1, .ok rep1)) :
    ∃ t1 gs, WalkInv start s1 t1 V (mapFam gs ds0) ∧ pagesOf s1 (mapFam gs ds0) = pagesOf s ds0 := by
  -- the state is read off `ruleVisit_fst`: rewriting inside the `match` of `ruleVisit` makes Lean unfold `addPageCore`
  have hs1 : (if (s.cell a).flags.page then (s.addPageCore (lru ++ s.stemAt a) false).1 else s) = s1 := by
    rw [← ruleVisit_fst s a lru rep, hR]
  by_cases hpg : (s.cell a).flags.page = true
  · rw [if_pos hpg] at hs1
    obtain ⟨p, hm, e2⟩ := entry_cur h hi.wf hent
    have hpne : lruIter (lru ++ s.stemAt a) ≠ [] := by rw [e2]; exact entry_ne_nil hm
    obtain ⟨gs, ch, ps⟩ := addPageCore_chain_known h hsz (lru ++ s.stemAt a) hpne a (by rw [e2]; exact hm) hpg
    obtain ⟨t1, x1, f1⟩ := addPageCore_step h (lru ++ s.stemAt a) false
    have hi1 := ((f1 hpne).2.2 hi).1.inv
    rw [hs1] at ch ps x1 hi1
    exact ⟨t1, gs, ⟨x1.shape, hi1, Nat.lt_of_lt_of_le hsz ch.size_le, by rw [stackOf_mapFam]; exact hst.mono x1,
      ch.fam hf, hstart⟩, pagesOf_mapFam ch ps ds0 hf.rep⟩
  · rw [if_neg hpg] at hs1
    subst hs1
    exact ⟨t, [], by rw [mapFam_nil_grafts]; exact ⟨h, hi, hsz, hst, hf, hstart⟩, by rw [mapFam_nil_grafts]⟩

theorem WalkInv.round {start : Nat} {s : State} {t : T} {V : List Nat} {a : Nat} {l c r : T} {lru : Bytes}
    {rest : List (T × Bytes)} (w : WalkInv start s t V ((T.node a l c r, lru) :: rest)) :
    ∃ ds0, ruleNext start a (s.cell a) lru (lru ++ s.stemAt a) (stackOf rest) = stackOf ds0 ∧
      pagesOf s ((T.node a l c r, lru) :: rest) =
        (if (s.cell a).flags.page then [lru ++ s.stemAt a] else []) ++ pagesOf s ds0 ∧
      ∀ {rep rep1 : Report} {s1 : State}, ruleVisit s a lru rep = (s1, .ok rep1) →
        ∃ t1 gs, WalkInv start s1 t1 (a :: V) (mapFam gs ds0) ∧ pagesOf s1 (mapFam gs ds0) = pagesOf s ds0 := by
  have hr : Rep s (.node a l c r) := w.fam.rep (T.node a l c r, lru) (by simp)
  -- `a` is pending, hence not visited: in particular it is not `start`
  have hVa : V.count a = 0 := by
    have := w.fam.cnt a
    rw [famCount_cons, count_addrs_node, if_pos rfl] at this
    omega
  have hane : a ≠ start := fun e => List.count_eq_zero.mp hVa (e ▸ w.start)
  have hnext := ruleNext_stackOf hr hane lru rest
  refine ⟨_, hnext, pagesOf_cons_node s a l c r lru rest, fun hR => ?_⟩
  have hst0 := stackOk_next (start := start) (b := a) (lru := lru) (stack := stackOf rest) w.shape w.stack
  rw [hnext] at hst0
  refine visit_ok w.shape w.inv w.size (w.stack a lru List.mem_cons_self) hst0 ⟨?_, ?_, ?_⟩
    (List.mem_cons_of_mem _ w.start) hR
  · intro p hp
    simp only [List.mem_cons] at hp
    rcases hp with rfl | rfl | rfl | hp
    · exact hr.2.2.2.1
    · exact hr.2.2.1
    · exact hr.2.2.2.2
    · exact w.fam.rep p (List.mem_cons_of_mem _ hp)
  · intro x
    have := w.fam.cnt x
    rw [famCount_cons, count_addrs_node] at this
    rw [famCount_cons, famCount_cons, famCount_cons, List.count_cons]
    simp only [beq_iff_eq]
    omega
  · intro x hx
    rcases List.mem_cons.mp hx with rfl | hx
    · exact hr.lt_size x (by simp [T.addrs])
    · exact w.fam.vlt x hx

/-- the atomic walk empties its stack (or fails) before its fuel runs out. Not a consequence of what the walk
    returns: out of fuel it answers `.ok` like a finished walk, and a visit of a block that is no page leaves
    the state as it is, so the answer does not tell whether the stack was emptied -/
inductive LoopFin (start : Nat) : Nat → State → List (Nat × Bytes) → Report → Prop
  | nil (fuel : Nat) (s : State) (rep : Report) : LoopFin start fuel s [] rep
  | error {fuel : Nat} {s s1 : State} {b : Nat} {lru : Bytes} {stack : List (Nat × Bytes)} {rep : Report} {e : Err} :
      ruleVisit s b lru rep = (s1, .error e) → LoopFin start (fuel + 1) s ((b, lru) :: stack) rep
  | ok {fuel : Nat} {s s1 : State} {b : Nat} {lru : Bytes} {stack : List (Nat × Bytes)} {rep rep1 : Report} :
      ruleVisit s b lru rep = (s1, .ok rep1) →
      LoopFin start fuel s1 (ruleNext start b (s.cell b) lru (lru ++ s.stemAt b) stack) rep1 →
      LoopFin start (fuel + 1) s ((b, lru) :: stack) rep

/-- the fuel has to cover the blocks not yet visited of the trie as it will be at the END of the re-insertions -/
theorem addRuleLoop_walk (start : Nat) : ∀ (fuel : Nat) (s : State) (t : T) (V : List Nat)
    (ds : List (T × Bytes)) (rep : Report), WalkInv start s t V ds →
    (s.reinsert (pagesOf s ds) rep).1.trie.size < fuel + V.length →
    addRuleLoop start fuel s (stackOf ds) rep = s.reinsert (pagesOf s ds) rep ∧
      LoopFin start fuel s (stackOf ds) rep := by
  intro fuel
  induction fuel with
  | zero =>
    intro s t V ds rep w hf
    have h1 := w.fam.bound
    have h2 := reinsert_size_le (pagesOf s ds) s rep (by have := w.size; omega)
    omega
  | succ fuel ih =>
    intro s t V ds
    induction ds with
    | nil => intro rep _ _; exact ⟨by rw [stackOf, addRuleLoop_nil, pagesOf_nil]; rfl, .nil _ _ _⟩
    | cons d rest ihd =>
      intro rep w hf
      obtain ⟨u, lru⟩ := d
      cases u with
      | nil => exact ihd rep ⟨w.shape, w.inv, w.size, w.stack, w.fam.drop_nil, w.start⟩ hf
      | node a l c r =>
        obtain ⟨ds0, hnext, hpages, hvisit⟩ := w.round
        rw [hpages, reinsert_visit] at hf ⊢
        rw [stackOf, addRuleLoop_succ_cons]
        rcases hR : ruleVisit s a lru rep with ⟨s1, res⟩
        rw [hR] at hf
        cases res with
        | error e => exact ⟨rfl, .error hR⟩
        | ok rep1 =>
          obtain ⟨t1, gs, w1, hp1⟩ := hvisit hR
          simp only at hf ⊢
          rw [← hp1] at hf ⊢
          have ih1 := ih s1 t1 (a :: V) _ rep1 w1 (by rw [List.length_cons]; omega)
          rw [stackOf_mapFam, ← hnext] at ih1
          exact ⟨ih1.1, .ok hR ih1.2⟩

/-- the model's own `dfs_iter(node, anchor)` from block `n`, restricted to page blocks: the pages beneath
    the anchor, in the order of the walk -/
def State.pagesBelow (s : State) (n : Nat) (anchor : Bytes) : List Bytes :=
  ((s.dfsIter (some (n, anchor)) false).filter (fun e => (s.cell e.1).flags.page)).map (·.2)

theorem dfsIter_stored {s : State} {t : T} (h : Shape s t) {anchor : Bytes} {n : Nat}
    (hP : (lruIter anchor, n) ∈ t.entries s []) :
    ∃ l c r, Rep s (.node n l c r) ∧ (T.node n l c r).addrs.Nodup ∧
      s.dfsIter (some (n, anchor)) false =
        (n, lruDirname anchor ++ s.stemAt n) :: c.pre s (lruDirname anchor ++ s.stemAt n) ∧
      (∀ q b, (q, b) ∈ c.entries s (lruIter anchor) ↔
        ((q, b) ∈ t.entries s [] ∧ ∃ x rest, q = lruIter anchor ++ x :: rest)) := by
  obtain ⟨l, c, r, _, _, h1, _, h3, h4, hiff⟩ := h.subtree_at hP
  exact ⟨l, c, r, h1, h3, dfsIter_some h1 h3 h4 anchor, hiff⟩

/-- the first round, at the anchor's node `n`: only its child is pushed, and `n` is the one visited block -/
theorem walk_start {s : State} {t : T} (h : Shape s t) (hi : Inv s t) {anchor : Bytes} {n : Nat}
    (hP : (lruIter anchor, n) ∈ t.entries s []) :
    ∃ ds0, ruleNext n n (s.cell n) (lruDirname anchor) (lruDirname anchor ++ s.stemAt n) [] = stackOf ds0 ∧
      s.pagesBelow n anchor =
        (if (s.cell n).flags.page then [lruDirname anchor ++ s.stemAt n] else []) ++ pagesOf s ds0 ∧
      ∀ {rep rep1 : Report} {s1 : State}, ruleVisit s n (lruDirname anchor) rep = (s1, .ok rep1) →
        ∃ t1 gs, WalkInv n s1 t1 [n] (mapFam gs ds0) ∧ pagesOf s1 (mapFam gs ds0) = pagesOf s ds0 := by
  obtain ⟨l, c, r, hr, hnd, hd, _⟩ := dfsIter_stored h hP
  have hnext := ruleNext_stackOf_start hr (lruDirname anchor)
  have hpb : s.pagesBelow n anchor = (if (s.cell n).flags.page then [lruDirname anchor ++ s.stemAt n] else []) ++
      pagesOf s [(c, lruDirname anchor ++ s.stemAt n)] := by
    unfold State.pagesBelow
    rw [hd, pagesOf_cons, pagesOf_nil, List.append_nil]
    simp only [List.filter_cons]
    split <;> simp
  refine ⟨_, hnext, hpb, fun hR => ?_⟩
  have hst1 : StackOk s t [(n, lruDirname anchor)] := by
    intro b lru hm
    simp only [List.mem_singleton, Prod.mk.injEq] at hm
    obtain ⟨rfl, rfl⟩ := hm
    exact ⟨lruIter anchor, hP, rfl⟩
  have hst0 := stackOk_next (start := n) h hst1
  rw [hnext] at hst0
  refine visit_ok h hi (by have := hr.1; have := hr.lt_size n (by simp [T.addrs]); omega) (hst1 n _ (by simp)) hst0
    ⟨fun p hp => by rw [List.mem_singleton.mp hp]; exact hr.2.2.2.1, ?_, ?_⟩ (List.mem_singleton.mpr rfl) hR
  · intro x
    have := List.nodup_iff_count.mp hnd x
    rw [count_addrs_node] at this
    rw [famCount_cons, famCount_nil, List.count_cons, List.count_nil]
    simp only [beq_iff_eq]
    omega
  · intro x hx
    rw [List.mem_singleton.mp hx]
    exact hr.lt_size n (by simp [T.addrs])

theorem rule_walk {s : State} {t : T} (h : Shape s t) (hi : Inv s t) {anchor : Bytes} {n : Nat}
    (hP : (lruIter anchor, n) ∈ t.entries s []) (fuel : Nat)
    (hfuel : (s.reinsert (s.pagesBelow n anchor) {}).1.trie.size < fuel) :
    addRuleLoop n fuel s [(n, lruDirname anchor)] {} = s.reinsert (s.pagesBelow n anchor) {} ∧
      LoopFin n fuel s [(n, lruDirname anchor)] {} := by
  obtain ⟨ds0, hnext, hpb, hvisit⟩ := walk_start h hi hP
  -- the fuel as a successor, so that the loop can be unfolded once
  obtain ⟨F, rfl⟩ := Nat.exists_eq_succ_of_ne_zero (Nat.ne_zero_of_lt hfuel)
  rw [hpb, reinsert_visit] at hfuel ⊢
  rw [addRuleLoop_succ_cons]
  rcases hR : ruleVisit s n (lruDirname anchor) {} with ⟨s1, res⟩
  rw [hR] at hfuel
  cases res with
  | error e => exact ⟨rfl, .error hR⟩
  | ok rep1 =>
    obtain ⟨t1, gs, w1, hp1⟩ := hvisit hR
    simp only at hfuel ⊢
    rw [← hp1] at hfuel ⊢
    have w := addRuleLoop_walk n F s1 t1 [n] _ rep1 w1 (by simpa using hfuel)
    rw [stackOf_mapFam, ← hnext] at w
    exact ⟨w.1, .ok hR w.2⟩

/-- `add_webentity_creation_rule(anchor, rule)` on a populated index = its prologue, then the
    re-insertion (through `__add_page(lru)`, reports summed) of every page stored beneath the anchor, in the
    order of the model's DFS. Hypothesis `hfuel` says that the trie at the end of those re-insertions is
    smaller than the fuel the model gives its walk (see `Proofs/RuleFuel.lean`). -/
theorem C06_rule_install {s : State} {t : T} (h : Shape s t) (hi : Inv s t) (anchor : Bytes) (r : Rule)
    (hne : lruIter anchor ≠ [])
    (hfuel : ((s.rulePrologue anchor r).1.reinsert
        ((s.rulePrologue anchor r).1.pagesBelow (s.rulePrologue anchor r).2 anchor) {}).1.trie.size <
      8 * ((s.rulePrologue anchor r).1.trie.size + 2) * ((s.rulePrologue anchor r).1.trie.size + 2)) :
    s.addRule anchor r true =
      (s.rulePrologue anchor r).1.reinsert
        ((s.rulePrologue anchor r).1.pagesBelow (s.rulePrologue anchor r).2 anchor) {} := by
  obtain ⟨t2, k2, hent⟩ := rulePrologue_keeps h anchor r
  rw [addRule_true_eq]
  exact (rule_walk k2.shape (k2.adds hi).inv (hent hne) _ hfuel).1

theorem dfsIter_some_mem_iff {s : State} {t : T} (h : Shape s t) {anchor : Bytes} {n : Nat}
    (hP : (lruIter anchor, n) ∈ t.entries s []) (b : Nat) (lru : Bytes) :
    (b, lru) ∈ s.dfsIter (some (n, anchor)) false ↔
      ∃ X, (X, b) ∈ t.entries s [] ∧ lruIter anchor <+: X ∧ lru = X.flatten := by
  obtain ⟨l, c, r, _, _, hd, hiff⟩ := dfsIter_stored h hP
  rw [hd, pa_dirname_stem h hP, List.mem_cons, pre_mem_iff c (lruIter anchor)]
  constructor
  · rintro (e | ⟨p, hp, rfl⟩)
    · obtain ⟨rfl, rfl⟩ := Prod.mk.inj e
      exact ⟨lruIter anchor, hP, List.prefix_refl _, rfl⟩
    · obtain ⟨hm, x, rest, rfl⟩ := (hiff p b).mp hp
      exact ⟨_, hm, List.prefix_append _ _, rfl⟩
  · rintro ⟨X, hX, ⟨q, rfl⟩, rfl⟩
    cases q with
    | nil =>
      rw [List.append_nil] at hX ⊢
      have := entries_path_injective h.ord h.nodup hX hP
      subst this
      exact Or.inl rfl
    | cons x rest =>
      exact Or.inr ⟨_, (hiff _ b).mpr ⟨hX, x, rest, rfl⟩, rfl⟩

/-- the list the installation re-inserts is exactly the set of pages whose LRU has the anchor as a
    stem-prefix (the anchor itself included when it is a page) -/
theorem pagesBelow_mem_iff {s : State} {t : T} (h : Shape s t) {anchor : Bytes} {n : Nat}
    (hP : (lruIter anchor, n) ∈ t.entries s []) (lru : Bytes) :
    lru ∈ s.pagesBelow n anchor ↔ ∃ p, IsPage s t p ∧ lruIter anchor <+: p ∧ lru = p.flatten := by
  unfold State.pagesBelow
  simp only [List.mem_map, List.mem_filter]
  constructor
  · rintro ⟨⟨b, l⟩, ⟨hm, hp⟩, rfl⟩
    obtain ⟨X, hX, hpre, e⟩ := (dfsIter_some_mem_iff h hP b l).mp hm
    exact ⟨X, ⟨b, hX, hp⟩, hpre, e⟩
  · rintro ⟨p, ⟨b, hm, hp⟩, hpre, rfl⟩
    exact ⟨(b, p.flatten), ⟨(dfsIter_some_mem_iff h hP b _).mpr ⟨p, hm, hpre, rfl⟩, hp⟩, rfl⟩

theorem dfsIter_some_addrs_nodup {s : State} {t : T} (h : Shape s t) {anchor : Bytes} {n : Nat}
    (hP : (lruIter anchor, n) ∈ t.entries s []) : ((s.dfsIter (some (n, anchor)) false).map (·.1)).Nodup := by
  obtain ⟨l, c, r, _, h3, hd, _⟩ := dfsIter_stored h hP
  rw [hd, List.map_cons]
  have hperm := pre_addrs_perm (s := s) c (lruDirname anchor ++ s.stemAt n)
  have hnd : (n :: c.addrs).Nodup := by
    refine List.Nodup.sublist ?_ h3
    simp only [T.addrs]
    exact ((List.sublist_append_right _ _).trans (List.sublist_append_left _ _)).cons_cons _
  exact (hperm.cons n).nodup_iff.mpr hnd

theorem pagesBelow_nodup {s : State} {t : T} (h : Shape s t) (hw : WfStems s t) {anchor : Bytes} {n : Nat}
    (hP : (lruIter anchor, n) ∈ t.entries s []) : (s.pagesBelow n anchor).Nodup := by
  unfold State.pagesBelow
  exact walk_lrus_nodup h hw (dfsIter_some_addrs_nodup h hP)
    (fun x hx => have ⟨X, hX, _, ex⟩ := (dfsIter_some_mem_iff h hP x.1 x.2).mp hx; ⟨X, hX, ex⟩) _ _ fun _ _ e => e

/-- `pagesBelow_mem_iff` in terms of the index BEFORE the request: the prologue adds no page -/
theorem pagesBelow_prologue_iff {s : State} {t : T} (h : Shape s t) (hi : Inv s t) (anchor : Bytes) (r : Rule)
    (hne : lruIter anchor ≠ []) (lru : Bytes) :
    lru ∈ (s.rulePrologue anchor r).1.pagesBelow (s.rulePrologue anchor r).2 anchor ↔
      ∃ p, IsPage s t p ∧ lruIter anchor <+: p ∧ lru = p.flatten := by
  obtain ⟨t2, k2, hent⟩ := rulePrologue_keeps h anchor r
  rw [pagesBelow_mem_iff k2.shape (hent hne)]
  constructor
  · rintro ⟨p, hp, hpre, e⟩; exact ⟨p, (k2.page hi p).mp hp, hpre, e⟩
  · rintro ⟨p, hp, hpre, e⟩; exact ⟨p, (k2.page hi p).mpr hp, hpre, e⟩

theorem pagesBelow_prologue_nodup {s : State} {t : T} (h : Shape s t) (hi : Inv s t) (anchor : Bytes) (r : Rule)
    (hne : lruIter anchor ≠ []) :
    ((s.rulePrologue anchor r).1.pagesBelow (s.rulePrologue anchor r).2 anchor).Nodup := by
  obtain ⟨t2, k2, hent⟩ := rulePrologue_keeps h anchor r
  exact pagesBelow_nodup k2.shape (k2.adds hi).inv.wf (hent hne)

end Traph
