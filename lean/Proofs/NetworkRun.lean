import Proofs.Network
/-! C07 in one statement (`LinkView.C07`), and with it (`C07_reachable`) for every history of
    well-formed write requests (without `clear`, none answering `KeyError`) on a fresh index, both directions,
    self-links on and off, both variants.
    The statement is tree-free: the answers `s.network out auto` / `s.networkSlow out auto` are read with
    `netW` (= the dictionary reading `netGet` = membership of the rows' counters, by `NetOk`), the
    specification `s.specDir L out auto` counts the links `L = ops.flatMap Op.links` submitted by the
    history through `retrieve_webentity` (`State.weOf`), the tallies count the pages `pages_iter` lists. -/
namespace Traph
open State

/-- **C07**, for any state read through a `LinkView`. With `g` the answer of
    `get_webentities_links(out, include_auto)` and `g'` that of `get_webentities_links_slow(out, include_auto)`:
    * both are well formed (one row per webentity, one entry per target webentity, no zero entry), so that
      `graph[A][B]` (`netGet`) is `netW`;
    * `B ↦ w` is an entry of the row of `A` iff `w` is positive and is the number of submitted page links
      whose near end resolves to `A` and far end to `B`, both different from "no webentity", `A ≠ B`
      unless self-links are requested (`specDir`); same entries in `g'`;
    * the inbound answer is the transpose of the outbound one;
    * `g` has a row for exactly the webentities some listed page resolves to (possibly with an empty
      counter), with the numbers of such pages with / without the crawled mark as tallies; `g'` has a row
      for exactly the webentities with at least one reported link, and carries no tallies. -/
theorem LinkView.C07 {s : State} {t : T} {L : List (Bytes × Bytes)} (v : LinkView s t L) (out auto : Bool) :
    NetOk (s.network out auto) ∧ NetOk (s.networkSlow out auto) ∧
    (∀ A B, netGet (s.network out auto) A B = s.specDir L out auto A B) ∧
    (∀ A B, netGet (s.networkSlow out auto) A B = netGet (s.network out auto) A B) ∧
    (∀ A B, netGet (s.network false auto) B A = netGet (s.network true auto) A B) ∧
    (∀ A B, netGet (s.networkSlow false auto) B A = netGet (s.networkSlow true auto) A B) ∧
    (∀ A B w, (∃ r ∈ s.network out auto, r.src = A ∧ (B, w) ∈ r.targets) ↔
      0 < w ∧ w = s.specDir L out auto A B) ∧
    (∀ A B w, (∃ r ∈ s.networkSlow out auto, r.src = A ∧ (B, w) ∈ r.targets) ↔
      0 < w ∧ w = s.specDir L out auto A B) ∧
    (∀ A, A ∈ (s.network out auto).map (·.src) ↔ A ≠ 0 ∧ ∃ lc ∈ s.pagesIter, s.weOf lc.1 = A) ∧
    (∀ A, A ∈ (s.networkSlow out auto).map (·.src) ↔ ∃ B, 0 < s.specDir L out auto A B) ∧
    (∀ r ∈ s.network out auto,
      r.crawled = s.pageCount true r.src ∧ r.uncrawled = s.pageCount false r.src) ∧
    (∀ r ∈ s.networkSlow out auto, r.crawled = 0 ∧ r.uncrawled = 0 ∧ r.targets ≠ []) := by
  have ok := v.network_ok
  have ok' := networkSlow_ok v.shape v.par
  have hw : ∀ out A B, netW (s.networkSlow out auto) A B = s.specDir L out auto A B :=
    fun out A B => (v.C07_slow out auto A B).trans (v.C07_weight_dir out auto A B)
  refine ⟨ok out auto, ok' out auto, ?_, ?_, ?_, ?_, ?_, ?_, v.network_rows out auto, ?_,
    v.network_tally out auto, ?_⟩
  · intro A B
    rw [(ok out auto).netGet_eq]; exact v.C07_weight_dir out auto A B
  · intro A B
    rw [(ok out auto).netGet_eq, (ok' out auto).netGet_eq]; exact v.C07_slow out auto A B
  · intro A B
    rw [(ok false auto).netGet_eq, (ok true auto).netGet_eq]; exact v.C07_transpose auto A B
  · intro A B
    rw [(ok' false auto).netGet_eq, (ok' true auto).netGet_eq, v.C07_slow, v.C07_slow]
    exact v.C07_transpose auto A B
  · intro A B w
    rw [(ok out auto).edge_iff, v.C07_weight_dir]
  · intro A B w
    rw [(ok' out auto).edge_iff, hw]
  · intro A
    rw [networkSlow_rows v.shape v.par]
    constructor
    · rintro ⟨B, hB⟩; exact ⟨B, by rw [← hw]; exact hB⟩
    · rintro ⟨B, hB⟩; exact ⟨B, by rw [hw]; exact hB⟩
  · intro r hr
    obtain ⟨h1, h2⟩ := networkSlow_tally v.shape v.par out auto r hr
    exact ⟨h1, h2, networkSlow_targets_ne_nil v.shape v.par out auto r hr⟩

/-- block-level form (`LinkView.network_blocks`), for both variants -/
theorem LinkView.C07_blocks {s : State} {t : T} {L : List (Bytes × Bytes)} (v : LinkView s t L)
    (out auto : Bool) (A B : Nat) :
    netW (s.network out auto) A B = (if netCond auto A B then s.blockW out A B else 0) ∧
    netW (s.networkSlow out auto) A B = (if netCond auto A B then s.blockW out A B else 0) ∧
    s.blockW false B A = s.blockW true A B ∧
    s.blockW out A B = (if out then s.linkCount L A B else s.linkCount L B A) :=
  ⟨v.network_blocks out auto A B, networkSlow_blocks v.shape v.par out auto A B,
    v.blockW_transpose A B, v.blockW_eq out A B⟩

/-- **C07**, for every state reached from a fresh index (rule anchors of at least one stem) by a history of well-formed requests without `clear` and
    `KeyError`: `LinkView.C07` with the links the history submitted -/
theorem C07_reachable (cfg : Config) (dflt : Rule) (rules : List (Bytes × Rule)) (ops : List Op)
    (hrules : ∀ ar ∈ rules, lruIter ar.1 ≠ [])
    (hop : ∀ op ∈ ops, ∀ d rs, op ≠ .clear d rs) (hwf : ∀ op ∈ ops, OpWf op)
    (hok : NoKeyErr (State.fresh cfg dflt rules []).1 ops)
    (s : State) (hs : s = (State.fresh cfg dflt rules []).1.run ops) (out auto : Bool) :
    NetOk (s.network out auto) ∧ NetOk (s.networkSlow out auto) ∧
    (∀ A B, netGet (s.network out auto) A B = s.specDir (ops.flatMap Op.links) out auto A B) ∧
    (∀ A B, netGet (s.networkSlow out auto) A B = netGet (s.network out auto) A B) ∧
    (∀ A B, netGet (s.network false auto) B A = netGet (s.network true auto) A B) ∧
    (∀ A B, netGet (s.networkSlow false auto) B A = netGet (s.networkSlow true auto) A B) ∧
    (∀ A B w, (∃ r ∈ s.network out auto, r.src = A ∧ (B, w) ∈ r.targets) ↔
      0 < w ∧ w = s.specDir (ops.flatMap Op.links) out auto A B) ∧
    (∀ A B w, (∃ r ∈ s.networkSlow out auto, r.src = A ∧ (B, w) ∈ r.targets) ↔
      0 < w ∧ w = s.specDir (ops.flatMap Op.links) out auto A B) ∧
    (∀ A, A ∈ (s.network out auto).map (·.src) ↔ A ≠ 0 ∧ ∃ lc ∈ s.pagesIter, s.weOf lc.1 = A) ∧
    (∀ A, A ∈ (s.networkSlow out auto).map (·.src) ↔
      ∃ B, 0 < s.specDir (ops.flatMap Op.links) out auto A B) ∧
    (∀ r ∈ s.network out auto,
      r.crawled = s.pageCount true r.src ∧ r.uncrawled = s.pageCount false r.src) ∧
    (∀ r ∈ s.networkSlow out auto, r.crawled = 0 ∧ r.uncrawled = 0 ∧ r.targets ≠ []) := by
  subst hs
  obtain ⟨t, v, _⟩ := linkView_run cfg dflt rules ops hrules hop hwf hok
  exact v.C07 out auto

/-- the specification spelled out, outbound: `A → B` with `A`, `B` webentities (`≠ 0`), and `A ≠ B` or
    self-links requested, weighs the number of submitted pairs `(p, q)` with `retrieve_webentity p = A`
    and `retrieve_webentity q = B`; everything else weighs 0 -/
theorem specDir_out (s : State) (L : List (Bytes × Bytes)) (auto : Bool) (A B : Nat) :
    s.specDir L true auto A B =
      if A ≠ 0 ∧ B ≠ 0 ∧ (auto = true ∨ A ≠ B) then
        (L.filter (fun st => decide (s.weOf st.1 = A ∧ s.weOf st.2 = B))).length
      else 0 := rfl

/-- …and inbound: the row of `A` records under `B` the links from `B` to `A` -/
theorem specDir_in (s : State) (L : List (Bytes × Bytes)) (auto : Bool) (A B : Nat) :
    s.specDir L false auto A B =
      if B ≠ 0 ∧ A ≠ 0 ∧ (auto = true ∨ B ≠ A) then
        (L.filter (fun st => decide (s.weOf st.1 = B ∧ s.weOf st.2 = A))).length
      else 0 := rfl

theorem weOf_spec (s : State) (lru : Bytes) (w : Nat) :
    s.retrieveWebentity lru = .ok w ↔ (w ≠ 0 ∧ s.weOf lru = w) := by
  rw [weOf_eq]; exact retrieveWebentity_ok_iff_weOf s lru w

theorem C07_ask (s : State) (out auto slow : Bool) :
    s.ask (.network out auto slow) = .net (if slow then s.networkSlow out auto else s.network out auto) := rfl

theorem C07_reachable_blocks (cfg : Config) (dflt : Rule) (rules : List (Bytes × Rule)) (ops : List Op)
    (hrules : ∀ ar ∈ rules, lruIter ar.1 ≠ [])
    (hop : ∀ op ∈ ops, ∀ d rs, op ≠ .clear d rs) (hwf : ∀ op ∈ ops, OpWf op)
    (hok : NoKeyErr (State.fresh cfg dflt rules []).1 ops)
    (s : State) (hs : s = (State.fresh cfg dflt rules []).1.run ops) (out auto : Bool) (A B : Nat) :
    netW (s.network out auto) A B = (if netCond auto A B then s.blockW out A B else 0) ∧
    netW (s.networkSlow out auto) A B = (if netCond auto A B then s.blockW out A B else 0) ∧
    s.blockW false B A = s.blockW true A B ∧
    s.blockW out A B =
      (if out then s.linkCount (ops.flatMap Op.links) A B else s.linkCount (ops.flatMap Op.links) B A) := by
  subst hs
  obtain ⟨t, v, _⟩ := linkView_run cfg dflt rules ops hrules hop hwf hok
  exact v.C07_blocks out auto A B

end Traph

section
open Traph
#print axioms LinkView.C07
#print axioms C07_reachable
#print axioms C07_reachable_blocks
#print axioms weOf_spec
end
