import Proofs.AutoHist
import Proofs.Dict
/-! C16, "no request fails": the only failure of a writer is the `KeyError` that `__add_page` raises when a node
    flagged as the anchor of a creation rule lies on the page's path while the anchor's LRU is not a key of the
    RAM dictionary of rules. `RulesOk s` says that this never happens: the LRU of every rule-flagged node of the
    tree is a key of the dictionary (true of every index whose rules were installed through the API and
    re-supplied on reopening). Under `RulesOk`, `__add_page` cannot fail (`addPageCore_ok`), and every change the writers
    are built from preserves `RulesOk`, bar those that set a rule flag or the dictionary (`rulesOk_across`; a rule
    installation does, provided its anchor is a complete LRU, i.e. ends with `|`); the sections of the generators:
    Proofs/CoSections.lean. -/
namespace Traph
open State Layout

/-- the rule positions `follow_lru` records: the byte lengths of the stem-prefixes of the LRU whose node the look-up
    finds carrying the rule flag -/
theorem followLru_rules (s : State) (stems : LRU) : ∀ pos ∈ (s.followLru stems).2.rules,
    ∃ k b, 0 < k ∧ k ≤ stems.length ∧ s.lruNode (stems.take k) = some b ∧ (s.cell b).flags.rule = true ∧
      pos = (stems.take k).flatten.length := by
  induction stems using snoc_induction with
  | nil => rw [followLru_nil]; exact fun _ hp => nomatch hp
  | snoc p x ih =>
    have old : ∀ pos ∈ (s.followLru p).2.rules, ∃ k b, 0 < k ∧ k ≤ (p ++ [x]).length ∧
        s.lruNode ((p ++ [x]).take k) = some b ∧ (s.cell b).flags.rule = true ∧
        pos = ((p ++ [x]).take k).flatten.length := fun pos hp => by
      obtain ⟨k, b, h1, h2, h3⟩ := ih pos hp
      rw [← List.take_append_of_le_length (l₂ := [x]) h2] at h3
      exact ⟨k, b, h1, by rw [List.length_append]; omega, h3⟩
    rw [followLru_snoc, State.visitAt]
    cases hn : s.lruNode (p ++ [x]) with
    | none => exact old
    | some b =>
      intro pos hp
      rw [Hist.visit_rules] at hp
      by_cases hr : (s.cell b).flags.rule = true
      · rw [if_pos hr] at hp
        rcases List.mem_append.mp hp with hp | hp
        · exact old pos hp
        · exact ⟨(p ++ [x]).length, b, by simp, Nat.le_refl _, by rw [List.take_length]; exact hn, hr,
            by rw [List.take_length]; exact List.mem_singleton.mp hp⟩
      · rw [if_neg hr] at hp; exact old pos hp

/-- the rule positions of `add_lru` are those of `follow_lru` on the index before -/
theorem addLru_rules {s : State} {t : T} (h : Shape s t) (stems : LRU) (flag : Bool) :
    ∀ p ∈ (s.addLru stems flag).2.2.rules, ∃ k b, 0 < k ∧ k ≤ stems.length ∧
      s.lruNode (stems.take k) = some b ∧ (s.cell b).flags.rule = true ∧ p = (stems.take k).flatten.length := by
  by_cases hne : stems = []
  · subst hne; rw [addLru_nil]; exact fun _ hp => nomatch hp
  · rw [addLru_hist h stems flag hne]; exact followLru_rules s stems

theorem ramRules_addPageCore (s : State) (lru : Bytes) (crawled : Bool) :
    (s.addPageCore lru crawled).1.rules = s.rules :=
  (ramEq_addPageCore s lru crawled).1

theorem ramRules_addStubs (s : State) (page : Nat) (targets : List Nat) (out : Bool) :
    (s.addStubs page targets out).rules = s.rules := (ramEq_addStubs s page targets out).1

theorem longestCandidate_some (s : State) (lru : Bytes) (h : Hist)
    (hk : ∀ pos ∈ h.rules, (dictGet? s.rules (lru.take pos)).isSome) :
    ∃ c, s.longestCandidate lru h = some c := by
  rcases longestCandidate_cases s lru h with ⟨_, p, hp, hn⟩ | ⟨c, e, _⟩
  · have := hk p hp
    rw [hn] at this
    cases this
  · exact ⟨c, e⟩

def RulesOk (s : State) : Prop :=
  ∀ (p : LRU) (b : Nat), p ≠ [] → s.lruNode p = some b → (s.cell b).flags.rule = true →
    (dictGet? s.rules p.flatten).isSome

theorem autoDecision_of_candidate {s : State} {lru : Bytes} {h : Hist} {cand : Bytes}
    (hc : s.longestCandidate lru h = some cand) : ∃ d, s.autoDecision lru h = some d :=
  ⟨_, by rw [autoDecision_eq, hc]; rfl⟩

/-- **`__add_page` does not fail** in an index with the shape invariant whose flagged anchors are all in the
    dictionary -/
theorem addPageCore_ok {s : State} {t : T} (h : Shape s t) (hr : RulesOk s) (lru : Bytes) (c : Bool) :
    ∃ r, (s.addPageCore lru c).2.2 = .ok r := by
  have key : ∃ cand, (s.addPageTrie (lruIter lru) c).1.longestCandidate lru (s.addPageTrie (lruIter lru) c).2.2 = some cand := by
    apply longestCandidate_some
    intro pos hp
    rw [(addPageTrie_hist_eq s _ c).2.2] at hp
    obtain ⟨k, b, hk0, hk1, hnode, hrule, e⟩ := addLru_rules h (lruIter lru) false pos hp
    have hne : (lruIter lru).take k ≠ [] := by
      intro e0
      rcases List.take_eq_nil_iff.mp e0 with h0 | h0
      · omega
      · rw [h0] at hk1; simp at hk1; omega
    rw [(ramEq_addPageTrie s _ c).1, e, take_flatten_take]
    exact hr _ b hne hnode hrule
  obtain ⟨cand, hc⟩ := key
  obtain ⟨d, hd⟩ := autoDecision_of_candidate hc
  rw [addPageCore_eq, hd]
  cases d <;> exact ⟨_, rfl⟩

theorem RulesOk.of_frame {s s' : State} {t t' : T} (h : Shape s t) (h' : Shape s' t')
    (hnew : ∀ p b, (p, b) ∈ t'.entries s' [] → (p, b) ∈ t.entries s [] ∨ s.trie.size ≤ b)
    (hrule : ∀ p b, (p, b) ∈ t'.entries s' [] → (s'.cell b).flags.rule = true →
      (s.cell b).flags.rule = true ∨ (dictGet? s'.rules p.flatten).isSome)
    (hkeys : ∀ k, (dictGet? s.rules k).isSome → (dictGet? s'.rules k).isSome) (ok : RulesOk s) : RulesOk s' := by
  intro p b hne hnode hr
  have hent := (lruNode_iff_entries h' p hne b).mp hnode
  rcases hrule p b hent hr with hold | hkey
  · rcases hnew p b hent with hm | hfresh
    · exact hkeys _ (ok p b hne ((lruNode_iff_entries h p hne b).mpr hm) hold)
    · rw [cell_of_size_le s b hfresh] at hold
      simp at hold
  · exact hkey

theorem RulesOk.of_noStruct {s s' : State} {t : T} (h : Shape s t) (n : NoStruct s s')
    (hrule : ∀ a, (s'.cell a).flags.rule = (s.cell a).flags.rule) (hrules : s'.rules = s.rules)
    (ok : RulesOk s) : RulesOk s' :=
  RulesOk.of_frame h (n.shape h) (fun p b hm => Or.inl (by rw [← n.entries]; exact hm))
    (fun p b _ hr => Or.inl (by rw [← hrule]; exact hr)) (fun k hk => by rw [hrules]; exact hk) ok

theorem rulesOk_modCell {s : State} {t : T} (h : Shape s t) (i : Nat) (f : Cell → Cell)
    (hf : ∀ c, (f c).left = c.left ∧ (f c).right = c.right ∧ (f c).child = c.child ∧
      (f c).chunk = c.chunk ∧ (f c).flags.hasTail = c.flags.hasTail)
    (hrule : ∀ c, (f c).flags.rule = c.flags.rule) (ok : RulesOk s) : RulesOk (s.modCell i f) :=
  RulesOk.of_noStruct h (noStruct_modCell s i f hf)
    (fun a => by rw [cell_modCell]; split <;> simp [hrule]) (rules_modCell s i f) ok

theorem rulesOk_addLru {s : State} {t : T} (h : Shape s t) (stems : LRU) (flag : Bool) (ok : RulesOk s) :
    RulesOk (s.addLru stems flag).1 := by
  by_cases hne : stems = []
  · subst hne; rw [addLru_nil]; exact ok
  · obtain ⟨t', g, _⟩ := addLru_grow h stems flag hne
    have a := attrStep_addLru s stems flag
    refine RulesOk.of_frame h g.shape (fun p b hm => ?_) (fun p b _ hr => Or.inl ?_)
      (fun k hk => by rw [(ramEq_addLru s stems flag).1]; exact hk) ok
    · rcases g.new p b hm with h1 | ⟨h2, _⟩
      · exact Or.inl h1
      · exact Or.inr h2
    · by_cases hb : b < s.trie.size
      · rw [← (a.old b hb).rule]; exact hr
      · rw [(a.new b (Nat.le_of_not_lt hb)).rule] at hr; simp at hr

theorem co_rule_of_trie_eq {s s' : State} (h : s'.trie = s.trie) (a : Nat) :
    (s'.cell a).flags.rule = (s.cell a).flags.rule := by rw [cell_of_trie_eq h]

theorem rulesOk_addStubs {s : State} {t : T} (h : Shape s t) (page : Nat) (targets : List Nat) (out : Bool)
    (ok : RulesOk s) : RulesOk (s.addStubs page targets out) := by
  unfold addStubs
  split
  · exact ok
  · have k := keeps_addStubsGo targets s (if out then (s.cell page).out else (s.cell page).inn) t h
    have ht := addStubsGo_trie_eq targets s (if out then (s.cell page).out else (s.cell page).inn)
    have ok1 : RulesOk (s.addStubsGo (if out then (s.cell page).out else (s.cell page).inn) targets).1 :=
      RulesOk.of_noStruct h (noStruct_of_trie_eq ht) (co_rule_of_trie_eq ht)
        (Kept.addStubsGo (π := State.rules) (fun _ _ => rfl) _ _ _) ok
    exact rulesOk_modCell k.shape _ _ (fun c => by cases out <;> exact ⟨rfl, rfl, rfl, rfl, rfl⟩)
      (fun c => by cases out <;> rfl) ok1

theorem rulesOk_flagWrite {s : State} {t : T} (h : Shape s t) (i : Nat) (f : Cell → Cell)
    (hf : ∀ c, (f c).left = c.left ∧ (f c).right = c.right ∧ (f c).child = c.child ∧
      (f c).chunk = c.chunk ∧ (f c).flags.hasTail = c.flags.hasTail)
    (hrule : ∀ c, (f c).flags.rule = c.flags.rule) (ok : RulesOk s) :
    ∃ t', Shape (s.modCell i f) t' ∧ RulesOk (s.modCell i f) :=
  ⟨t, (ext_modCell h i f hf).shape, rulesOk_modCell h i f hf hrule ok⟩

theorem rulesOk_foldl_modCell {α : Type} (g : α → Nat) (f : α → Cell → Cell)
    (hf : ∀ a c, ((f a c).left = c.left ∧ (f a c).right = c.right ∧ (f a c).child = c.child ∧
      (f a c).chunk = c.chunk ∧ (f a c).flags.hasTail = c.flags.hasTail))
    (hp : ∀ a c, (f a c).flags.page = c.flags.page) (hc : ∀ a c, (f a c).flags.crawled = c.flags.crawled)
    (hrule : ∀ a c, (f a c).flags.rule = c.flags.rule) :
    ∀ (l : List α) (s : State) (t : T), Shape s t → RulesOk s →
      RulesOk (l.foldl (fun st a => st.modCell (g a) (f a)) s) := by
  intro l
  induction l with
  | nil => exact fun _ _ _ ok => ok
  | cons a l ih =>
    intro _ _ h ok
    exact have ⟨t', h', ok'⟩ := rulesOk_flagWrite h (g a) (f a) (hf a) (hrule a) ok
        ih _ t' h' ok'

theorem rulesOk_across (k : Bool) (wf : Prop) : Across k false wf (fun _ => True) (fun _ _ => True)
    (fun s s' => ∀ t, Shape s t → RulesOk s → ∃ t', Shape s' t' ∧ RulesOk s') where
  refl _ t h ok := ⟨t, h, ok⟩
  trans r1 r2 t h ok :=
    have ⟨t1, h1, ok1⟩ := r1 t h ok
    r2 t1 h1 ok1
  keep _ _ := trivial
  stable _ _ _ := trivial
  addLru s stems flag _ :=
    ⟨fun _ h ok => (ext_addLru h stems flag).imp fun _ x => ⟨x.shape, rulesOk_addLru h stems flag ok⟩, trivial⟩
  lookup _ _ _ _ _ := trivial
  setPage _ x _ _ _ :=
    ⟨fun _ h ok => rulesOk_flagWrite h x.node _ (fun _ => ⟨rfl, rfl, rfl, rfl, rfl⟩) (fun _ => rfl) ok, trivial⟩
  isPage _ _ _ _ _ := trivial
  setCrawled _ x _ _ _ h ok := rulesOk_flagWrite h x.node _ (fun _ => ⟨rfl, rfl, rfl, rfl, rfl⟩) (fun _ => rfl) ok
  setRule e := nomatch e
  setWe _ x _ _ _ _ _ h ok := rulesOk_flagWrite h x.node _ (fun _ => ⟨rfl, rfl, rfl, rfl, rfl⟩) (fun _ => rfl) ok
  genId _ _ t h ok :=
    ⟨t, (keeps_genId h).shape, RulesOk.of_noStruct h (noStruct_of_trie_eq rfl) (fun _ => rfl) rfl ok⟩
  addStubs _ _ p ts o _ _ t h ok := ⟨t, (keeps_addStubs h p ts o).shape, rulesOk_addStubs h p ts o ok⟩
  ram e := nomatch e

theorem Built.To.rulesOk {k : Bool} {wf : Prop} {s s' : State} {P : List Answered → Prop}
    (b : Built.To k false wf s [] s' P) {t : T} (h : Shape s t) (ok : RulesOk s) :
    ∃ t', Shape s' t' ∧ RulesOk s' := b.across (rulesOk_across k wf) trivial t h ok

theorem rulesOk_addPageCore {s : State} {t : T} (h : Shape s t) (lru : Bytes) (c : Bool) (ok : RulesOk s) :
    RulesOk (s.addPageCore lru c).1 :=
  have ⟨_, _, ok'⟩ := (built_addPageCore (.refl (k := false) (wf := False) s) lru c).rulesOk h ok
  ok'

theorem rulesOk_addPrefixes {s : State} {t : T} (h : Shape s t) (prefixes : List Bytes) (best : Bool)
    (ok : RulesOk s) : RulesOk (s.addPrefixes prefixes best).1 :=
  have ⟨_, _, ok'⟩ := (built_addPrefixes (.refl (k := false) (wf := False) s) prefixes best).rulesOk h ok
  ok'

theorem rulesOk_installAnchor {s : State} {t : T} (h : Shape s t) (anchor : Bytes) (r : Rule)
    (hne : lruIter anchor ≠ []) (hcanon : (lruIter anchor).flatten = anchor) (ok : RulesOk s) :
    RulesOk (s.rulePrologue anchor r).1 := by
  unfold State.rulePrologue
  have k0 : Keeps s t { s with rules := dictSet s.rules anchor r } t := Keeps.of_trie_eq h rfl
  have ok0 : RulesOk { s with rules := dictSet s.rules anchor r } :=
    RulesOk.of_frame h k0.shape (fun p b hm => Or.inl (by
        rw [← (noStruct_of_trie_eq (s := s) (s' := { s with rules := dictSet s.rules anchor r }) rfl).entries]
        exact hm))
      (fun p b _ hr => Or.inl hr) (fun k hk => Co.dictGet?_dictSet_isSome s.rules anchor r k hk) ok
  obtain ⟨t1, k1, hent⟩ := keeps_addLruIter k0.shape anchor false
  have ok1 := rulesOk_addLru k0.shape (lruIter anchor) false ok0
  have hr1 := (ramEq_addLru { s with rules := dictSet s.rules anchor r } (lruIter anchor) false).1
  rcases ha : State.addLru { s with rules := dictSet s.rules anchor r } (lruIter anchor) false with ⟨s1, n, hh⟩
  rw [ha] at k1 hent ok1 hr1
  simp only at k1 hent ok1 hr1 ⊢
  have ns := noStruct_modCell s1 n (fun c => { c with flags := { c.flags with rule := true } })
    (fun _ => ⟨rfl, rfl, rfl, rfl, rfl⟩)
  refine RulesOk.of_frame k1.shape (ns.shape k1.shape) (fun p b hm => Or.inl (by rw [← ns.entries]; exact hm))
    (fun p b hm hr => ?_) (fun k hk => by rw [rules_modCell]; exact hk) ok1
  rw [ns.entries] at hm
  by_cases hb : b = n
  · subst hb
    right
    have : p = lruIter anchor := entries_addr_injective k1.shape.nodup hm (hent hne)
    rw [this, hcanon, rules_modCell, hr1]
    show (dictGet? (dictSet s.rules anchor r) anchor).isSome
    rw [Co.dictGet?_dictSet_self]; rfl
  · left
    rw [cell_modCell, if_neg (fun hx => hb hx.1.symm)] at hr
    exact hr

end Traph
