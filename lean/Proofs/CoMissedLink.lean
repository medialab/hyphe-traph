import Proofs.CoSchedules
import Proofs.CoReadOnly
/-! C16, finding F16c as a theorem about the model: the clause "a query's answer contains every item that
    qualified at every moment of its execution" is **false** of `get_webentity_pagelinks_iter`.

    History: webentity 1 on `s:http|h:com|h:m|`; pages `…p:k|` and `…p:zzz|p:0|`; the link
    `…p:zzz|p:0|` → `…p:k|` (internal to webentity 1). Then two generators: the page-link query of
    webentity 1 with all three switches on (inbound, internal, outbound) and the installation of a creation
    rule (two path stems) anchored at the prefix.
    Schedule `[0, 1, 1, 1, 1, 1, 0]`: the query visits the page `…p:k|` and yields inside its in-list loop —
    the link is internal at that moment, so the inbound side of `…p:k|` leaves it to the out-list of its
    source; the rule installation runs to completion (five sections) and creates webentity 2 on
    `…p:zzz|p:0|`, leaving `…p:k|` (one path stem) where it is; resumed, the query finds `…p:zzz|p:0|` owned
    by another webentity and does not visit it. Its answer is `[]`. At every yield point the index lists the
    link for webentity 1 under the three switches: as an internal link before the rule's section that
    creates webentity 2, as an inbound link from then on. -/
namespace Traph.MissedLink
open Traph State

def bs (s : List Char) : Bytes := s.map (·.toNat)
def P : Bytes := bs "s:http|h:com|h:m|".toList
def b : Bytes := bs "s:http|h:com|h:m|p:k|".toList
def a : Bytes := bs "s:http|h:com|h:m|p:zzz|p:0|".toList

def before : State := (State.fresh {} .never [] []).1.run
  [.create [P], .addPage b false, .addPage a false, .addLinks [(a, b)]]

def reqs : List CoReq :=
  [.queryOther (.pagelinks { cur := { prefixes := [P] }, weid := 1, incIn := true, incInt := true, incOut := true }),
   .rule P (.path 2)]

def sched : List Nat := [0, 1, 1, 1, 1, 1, 0]

/-- the index once the rule installation is complete (the query never writes, so this is also the final index) -/
def after : State := (Sys.run (before, reqs.map CoReq.init) [0, 1, 1, 1, 1, 1]).1.1

/-- the forms the evaluations run on (why: `Phantom.bytes`, Proofs/CoPhantom) -/
theorem bytes :
    P = [115, 58, 104, 116, 116, 112, 124, 104, 58, 99, 111, 109, 124, 104, 58, 109, 124] ∧
    b = P ++ [112, 58, 107, 124] ∧ a = P ++ [112, 58, 122, 122, 122, 124, 112, 58, 48, 124] := by
  simp only [P, a, b, bs]
  iterate 3 rw [String.toList_ofList]
  decide +kernel

/-- what is evaluated, in one run of the kernel so that the history behind `before` and every section of the schedule
    are computed once: the five statements below, word for word -/
theorem facts :
    ((0, CoOut.done (.links [])) ∈ (Sys.run (before, reqs.map CoReq.init) [0, 1, 1, 1, 1, 1, 0]).2) ∧
    (((Sys.run (before, reqs.map CoReq.init) [0, 1, 1, 1, 1, 1, 0]).2.map
        (fun x => (x.1, decide (x.2 = CoOut.yielded)))) =
      [(0, true), (1, true), (1, true), (1, true), (1, true), (1, false), (0, false)]) ∧
    (before.ask (.pagelinks 1 [P] true true true) = .links [(a, b, 1)] ∧
      before.ask (.pagelinks 1 [P] false true false) = .links [(a, b, 1)] ∧
      before.ask (.retrieveWebentity a) = .nat 1 ∧ before.ask (.retrieveWebentity b) = .nat 1) ∧
    (after.ask (.pagelinks 1 [P] true true true) = .links [(a, b, 1)] ∧
      after.ask (.pagelinks 1 [P] true false false) = .links [(a, b, 1)] ∧
      after.ask (.retrieveWebentity a) = .nat 2 ∧ after.ask (.retrieveWebentity b) = .nat 1) ∧
    ((Sys.run (before, reqs.map CoReq.init) []).1.1.ask (.pagelinks 1 [P] true true true) = .links [(a, b, 1)] ∧
      (Sys.run (before, reqs.map CoReq.init) [0]).1.1.ask (.pagelinks 1 [P] true true true) = .links [(a, b, 1)] ∧
      (Sys.run (before, reqs.map CoReq.init) [0, 1]).1.1.ask (.pagelinks 1 [P] true true true) = .links [(a, b, 1)] ∧
      (Sys.run (before, reqs.map CoReq.init) [0, 1, 1]).1.1.ask (.pagelinks 1 [P] true true true) = .links [(a, b, 1)] ∧
      (Sys.run (before, reqs.map CoReq.init) [0, 1, 1, 1]).1.1.ask (.pagelinks 1 [P] true true true) = .links [(a, b, 1)] ∧
      (Sys.run (before, reqs.map CoReq.init) [0, 1, 1, 1, 1]).1.1.ask (.pagelinks 1 [P] true true true) = .links [(a, b, 1)] ∧
      (Sys.run (before, reqs.map CoReq.init) [0, 1, 1, 1, 1, 1]).1.1.ask (.pagelinks 1 [P] true true true) = .links [(a, b, 1)] ∧
      (Sys.run (before, reqs.map CoReq.init) [0, 1, 1, 1, 1, 1, 0]).1.1.ask (.pagelinks 1 [P] true true true) = .links [(a, b, 1)]) := by
  rw [after, before, reqs]
  simp only [bytes]
  decide +kernel

/-- the query's answer is empty: it misses the link `…p:zzz|p:0|` → `…p:k|` -/
theorem answer_misses_link :
    (0, CoOut.done (.links [])) ∈ (Sys.run (before, reqs.map CoReq.init) [0, 1, 1, 1, 1, 1, 0]).2 := facts.1

/-- the rule installation takes exactly five sections: four yields, the fifth answers done -/
theorem rule_sections :
    ((Sys.run (before, reqs.map CoReq.init) [0, 1, 1, 1, 1, 1, 0]).2.map
        (fun x => (x.1, decide (x.2 = CoOut.yielded)))) =
      [(0, true), (1, true), (1, true), (1, true), (1, true), (1, false), (0, false)] := facts.2.1

/-- before the rule installation the atomic query lists the link, and it is an INTERNAL link of webentity 1 -/
theorem before_lists_link :
    before.ask (.pagelinks 1 [P] true true true) = .links [(a, b, 1)] ∧
    before.ask (.pagelinks 1 [P] false true false) = .links [(a, b, 1)] ∧
    before.ask (.retrieveWebentity a) = .nat 1 ∧ before.ask (.retrieveWebentity b) = .nat 1 := facts.2.2.1

/-- after the rule installation the atomic query lists the link, and it is an INBOUND link of webentity 1:
    `…p:zzz|p:0|` belongs to the new webentity 2, `…p:k|` still to webentity 1 -/
theorem after_lists_link :
    after.ask (.pagelinks 1 [P] true true true) = .links [(a, b, 1)] ∧
    after.ask (.pagelinks 1 [P] true false false) = .links [(a, b, 1)] ∧
    after.ask (.retrieveWebentity a) = .nat 2 ∧ after.ask (.retrieveWebentity b) = .nat 1 := facts.2.2.2.1

/-- at every moment of the schedule (the index state after each of its prefixes) the atomic query of
    webentity 1 under the three switches lists the link -/
theorem every_moment :
    (Sys.run (before, reqs.map CoReq.init) []).1.1.ask (.pagelinks 1 [P] true true true) = .links [(a, b, 1)] ∧
    (Sys.run (before, reqs.map CoReq.init) [0]).1.1.ask (.pagelinks 1 [P] true true true) = .links [(a, b, 1)] ∧
    (Sys.run (before, reqs.map CoReq.init) [0, 1]).1.1.ask (.pagelinks 1 [P] true true true) = .links [(a, b, 1)] ∧
    (Sys.run (before, reqs.map CoReq.init) [0, 1, 1]).1.1.ask (.pagelinks 1 [P] true true true) = .links [(a, b, 1)] ∧
    (Sys.run (before, reqs.map CoReq.init) [0, 1, 1, 1]).1.1.ask (.pagelinks 1 [P] true true true) = .links [(a, b, 1)] ∧
    (Sys.run (before, reqs.map CoReq.init) [0, 1, 1, 1, 1]).1.1.ask (.pagelinks 1 [P] true true true) = .links [(a, b, 1)] ∧
    (Sys.run (before, reqs.map CoReq.init) [0, 1, 1, 1, 1, 1]).1.1.ask (.pagelinks 1 [P] true true true) = .links [(a, b, 1)] ∧
    (Sys.run (before, reqs.map CoReq.init) [0, 1, 1, 1, 1, 1, 0]).1.1.ask (.pagelinks 1 [P] true true true) = .links [(a, b, 1)] :=
  facts.2.2.2.2

/-- the schedule's prefixes are the eight lists above; the index is `before` until the rule installation's
    first section and `after` from its last section on (the query's turns do not touch it) -/
theorem index_states :
    (List.range 8).map sched.take =
      [[], [0], [0, 1], [0, 1, 1], [0, 1, 1, 1], [0, 1, 1, 1, 1], [0, 1, 1, 1, 1, 1], [0, 1, 1, 1, 1, 1, 0]] ∧
    (Sys.run (before, reqs.map CoReq.init) []).1.1 = before ∧
    (Sys.run (before, reqs.map CoReq.init) [0]).1.1 = before ∧
    (Sys.run (before, reqs.map CoReq.init) [0, 1, 1, 1, 1, 1]).1.1 = after ∧
    (Sys.run (before, reqs.map CoReq.init) [0, 1, 1, 1, 1, 1, 0]).1.1 = after := by
  -- generator 0 is the query: a schedule may drop a last turn of it
  have h := reader_last (before, reqs.map CoReq.init) 0 ⟨_, rfl, trivial⟩
  have h0 : (Sys.run (before, reqs.map CoReq.init) []).1.1 = before := by rw [Sys.run_nil]
  -- `after` unfolded first, as in `Phantom.index_states`
  rw [after]
  exact ⟨by decide, h0, (h []).trans h0, rfl, h [0, 1, 1, 1, 1, 1]⟩

#print axioms answer_misses_link
#print axioms rule_sections
#print axioms before_lists_link
#print axioms after_lists_link
#print axioms every_moment
#print axioms index_states

end Traph.MissedLink
