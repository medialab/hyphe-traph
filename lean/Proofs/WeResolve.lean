import Proofs.WeMap
/-! Longest-prefix resolution in terms of the prefix map `s.weMap` alone: what the walk of `follow_lru` ends with
    (`followLru_resolves`), hence the two public resolutions. It needs no invariant, the prefix map being read
    through `lru_node`. -/
namespace Traph
open State Layout

/-- the first `k` stems of `stems` are its longest stem-prefix carrying a webentity in `M` -/
def LongestAt (M : LRU → Nat) (stems : LRU) (k : Nat) : Prop :=
  0 < k ∧ k ≤ stems.length ∧ M (stems.take k) ≠ 0 ∧
    ∀ j, k < j → j ≤ stems.length → M (stems.take j) = 0

/-- no stem-prefix of `stems` carries a webentity in `M`: the case in which the resolutions raise -/
def NoneAt (M : LRU → Nat) (stems : LRU) : Prop :=
  ∀ j, 0 < j → j ≤ stems.length → M (stems.take j) = 0

theorem LongestAt.unique {M : LRU → Nat} {stems : LRU} {k k' : Nat}
    (h : LongestAt M stems k) (h' : LongestAt M stems k') : k = k' := by
  obtain ⟨_, h2, h3, h4⟩ := h
  obtain ⟨_, h2', h3', h4'⟩ := h'
  by_cases hlt : k < k'
  · exact absurd (h4 k' hlt h2') h3'
  · by_cases hgt : k' < k
    · exact absurd (h4' k hgt h2) h3
    · omega

theorem LongestAt.not_none {M : LRU → Nat} {stems : LRU} {k : Nat}
    (h : LongestAt M stems k) : ¬ NoneAt M stems := fun hn => h.2.2.1 (hn k h.1 h.2.1)

theorem LongestAt.congr_on {M M' : LRU → Nat} {stems : LRU}
    (e : ∀ j, 0 < j → j ≤ stems.length → M' (stems.take j) = M (stems.take j)) {k : Nat}
    (h : LongestAt M stems k) : LongestAt M' stems k := by
  obtain ⟨h1, h2, h3, h4⟩ := h
  exact ⟨h1, h2, by rw [e k h1 h2]; exact h3, fun j hj hjl => by rw [e j (by omega) hjl]; exact h4 j hj hjl⟩

theorem NoneAt.congr_on {M M' : LRU → Nat} {stems : LRU}
    (e : ∀ j, 0 < j → j ≤ stems.length → M' (stems.take j) = M (stems.take j))
    (h : NoneAt M stems) : NoneAt M' stems := fun j h1 h2 => by rw [e j h1 h2]; exact h j h1 h2

/-- search downwards from the whole of `stems` -/
theorem longest_or_none (M : LRU → Nat) (stems : LRU) :
    NoneAt M stems ∨ ∃ k, LongestAt M stems k := by
  suffices H : ∀ n, n ≤ stems.length → (∀ j, n < j → j ≤ stems.length → M (stems.take j) = 0) →
      NoneAt M stems ∨ ∃ k, LongestAt M stems k from
    H stems.length (Nat.le_refl _) (fun j h1 h2 => absurd h2 (Nat.not_le_of_lt h1))
  intro n
  induction n with
  | zero => intro _ hz; exact Or.inl hz
  | succ n ih =>
    intro hn hz
    by_cases h0 : M (stems.take (n + 1)) = 0
    · exact ih (Nat.le_of_succ_le hn) fun j hj hjl =>
        (Nat.eq_or_lt_of_le hj).elim (fun e => e ▸ h0) (fun hlt => hz j hlt hjl)
    · exact Or.inr ⟨n + 1, Nat.succ_pos n, hn, h0, hz⟩

theorem longest_ge {M : LRU → Nat} {stems : LRU} {k : Nat} (hk0 : 0 < k) (hkl : k ≤ stems.length)
    (hk : M (stems.take k) ≠ 0) : ∃ k', k ≤ k' ∧ LongestAt M stems k' := by
  rcases longest_or_none M stems with hn | ⟨k', hl⟩
  · exact absurd (hn k hk0 hkl) hk
  · exact ⟨k', Nat.le_of_not_lt fun hlt => hk (hl.2.2.2 k hlt hkl), hl⟩

theorem Hist.visit_wePos (h : Hist) (c : Cell) (pos : Nat) :
    (h.visit c pos).wePos = if c.we ≠ 0 then some pos else h.wePos := by
  unfold Hist.visit
  by_cases hw : c.we ≠ 0 <;> by_cases hr : c.flags.rule = true <;> simp [hw, hr]

theorem Hist.visit_rules (h : Hist) (c : Cell) (pos : Nat) :
    (h.visit c pos).rules = if c.flags.rule then h.rules ++ [pos] else h.rules := by
  unfold Hist.visit
  by_cases hw : c.we ≠ 0 <;> by_cases hr : c.flags.rule = true <;> simp [hw, hr]

theorem visitAt_we (s : State) (h : Hist) {q : LRU} (hq : q ≠ []) :
    (s.visitAt h q).we = (if s.weMap q ≠ 0 then s.weMap q else h.we) ∧
    (s.visitAt h q).wePos = if s.weMap q ≠ 0 then some q.flatten.length else h.wePos := by
  unfold State.visitAt State.weMap
  rw [if_neg hq]
  cases s.lruNode q with
  | none => exact ⟨rfl, rfl⟩
  | some b => exact ⟨Hist.visit_we .., Hist.visit_wePos ..⟩

/-- RESOLUTION, for every state: the walk of `follow_lru` ends with the id attached to the longest stem-prefix that
    carries one in the prefix map, and the byte position where that prefix ends; with neither if there is none -/
theorem followLru_resolves (s : State) (stems : LRU) :
    (NoneAt s.weMap stems ∧ (s.followLru stems).2.we = 0 ∧ (s.followLru stems).2.wePos = none) ∨
    ∃ k, LongestAt s.weMap stems k ∧ (s.followLru stems).2.we = s.weMap (stems.take k) ∧
      (s.followLru stems).2.wePos = some (stems.take k).flatten.length := by
  induction stems using snoc_induction with
  | nil => exact Or.inl ⟨fun j h1 h2 => absurd h2 (by simp; omega), by rw [followLru_nil]; exact ⟨rfl, rfl⟩⟩
  | snoc p x ih =>
    obtain ⟨e1, e2⟩ := visitAt_we s (s.followLru p).2 (q := p ++ [x]) (by simp)
    rw [followLru_snoc, e1, e2]
    have hlen : (p ++ [x]).length = p.length + 1 := by simp
    -- the stem-prefixes of `p ++ [x]` are those of `p`, and itself
    have old : ∀ j, j ≤ p.length → (p ++ [x]).take j = p.take j := fun j hj => List.take_append_of_le_length hj
    have top : (p ++ [x]).take (p.length + 1) = p ++ [x] := List.take_of_length_le (by rw [hlen]; exact Nat.le_refl _)
    by_cases hx : s.weMap (p ++ [x]) = 0
    · rw [if_neg (by simpa using hx), if_neg (by simpa using hx)]
      have ext : ∀ j, j ≤ (p ++ [x]).length → ¬ j ≤ p.length → s.weMap ((p ++ [x]).take j) = 0 := fun j hj hn => by
        have : j = p.length + 1 := by omega
        rw [this, top]; exact hx
      rcases ih with ⟨hn, e⟩ | ⟨k, ⟨h1, h2, h3, h4⟩, e⟩
      · refine Or.inl ⟨fun j hj hjl => ?_, e⟩
        by_cases hjp : j ≤ p.length
        · rw [old j hjp]; exact hn j hj hjp
        · exact ext j hjl hjp
      · refine Or.inr ⟨k, ⟨h1, by omega, by rw [old k h2]; exact h3, fun j hj hjl => ?_⟩, by rw [old k h2]; exact e⟩
        by_cases hjp : j ≤ p.length
        · rw [old j hjp]; exact h4 j hj hjp
        · exact ext j hjl hjp
    · rw [if_pos hx, if_pos hx]
      exact Or.inr ⟨p.length + 1, ⟨Nat.succ_pos _, by omega, by rw [top]; exact hx, fun j hj hjl => by omega⟩,
        by rw [top]; exact ⟨rfl, rfl⟩⟩

theorem followLru_longest (s : State) {stems : LRU} {k : Nat} (hl : LongestAt s.weMap stems k) :
    (s.followLru stems).2.we = s.weMap (stems.take k) ∧
    (s.followLru stems).2.wePos = some (stems.take k).flatten.length := by
  rcases followLru_resolves s stems with ⟨hn, _⟩ | ⟨k', hl', e⟩
  · exact absurd hn hl.not_none
  · rw [hl.unique hl']; exact e

theorem followLru_none (s : State) {stems : LRU} (hn : NoneAt s.weMap stems) :
    (s.followLru stems).2.we = 0 ∧ (s.followLru stems).2.wePos = none := by
  rcases followLru_resolves s stems with ⟨_, e⟩ | ⟨k, hl, _⟩
  · exact e
  · exact absurd hn hl.not_none

theorem lruIter_prefix (b : Bytes) : ∃ tl, b = (lruIter b).flatten ++ tl := by
  induction b using bytes_sep_induction with
  | tail y hy => exact ⟨y, by rw [lruIter_tail y hy]; rfl⟩
  | stem y r hy ih =>
    obtain ⟨tl, e⟩ := ih
    exact ⟨tl, by rw [lruIter_stem y r hy, List.flatten_cons, List.append_assoc, List.append_assoc, ← e]; rfl⟩

theorem take_flatten_take (b : Bytes) (k : Nat) :
    b.take ((lruIter b).take k).flatten.length = ((lruIter b).take k).flatten := by
  obtain ⟨tl, e⟩ := lruIter_prefix b
  have e2 : (lruIter b).flatten = ((lruIter b).take k).flatten ++ ((lruIter b).drop k).flatten := by
    rw [← List.flatten_append, List.take_append_drop]
  conv => lhs; arg 2; rw [e, e2, List.append_assoc]
  rw [List.take_left']
  rfl

theorem flatten_take_pos {stems : LRU} (hw : ∀ x ∈ stems, StemWf x) {k : Nat} (hk : 0 < k)
    (hkl : k ≤ stems.length) : 0 < (stems.take k).flatten.length := by
  cases stems with
  | nil => simp at hkl; omega
  | cons x xs =>
    cases k with
    | zero => omega
    | succ k =>
      obtain ⟨y, rfl, _⟩ := hw x (by simp)
      simp only [List.take_succ_cons, List.flatten_cons, List.length_append, List.length_cons, List.length_nil]
      omega

theorem resolution_iff {α : Type} {M : LRU → Nat} {stems : LRU} {ans : Except Err α} {v : Nat → α}
    (hn : NoneAt M stems → ans = .error .traph) (hl : ∀ k, LongestAt M stems k → ans = .ok (v k)) :
    (∀ w, ans = .ok w ↔ ∃ k, LongestAt M stems k ∧ w = v k) ∧
    (∀ e, ans = .error e ↔ e = .traph ∧ NoneAt M stems) := by
  rcases longest_or_none M stems with h0 | ⟨k, hk⟩
  · rw [hn h0]
    refine ⟨fun w => ⟨(fun hc => nomatch hc), fun ⟨k, hk, _⟩ => absurd h0 hk.not_none⟩,
      fun e => ⟨fun hc => ?_, fun ⟨e1, _⟩ => e1 ▸ rfl⟩⟩
    cases hc
    exact ⟨rfl, h0⟩
  · rw [hl k hk]
    refine ⟨fun w => ⟨fun hc => ?_, fun ⟨k', hk', e⟩ => by rw [e, hk.unique hk']⟩,
      fun e => ⟨(fun hc => nomatch hc), fun ⟨_, h0⟩ => absurd h0 hk.not_none⟩⟩
    cases hc
    exact ⟨k, hk, rfl⟩

theorem retrieveWebentity_resolution (s : State) (q : Bytes) :
    (NoneAt s.weMap (lruIter q) → s.retrieveWebentity q = .error .traph) ∧
    ∀ k, LongestAt s.weMap (lruIter q) k → s.retrieveWebentity q = .ok (s.weMap ((lruIter q).take k)) := by
  refine ⟨fun hn => ?_, fun k hl => ?_⟩
  · unfold State.retrieveWebentity
    simp only [(followLru_none s hn).1, if_true]
  · unfold State.retrieveWebentity
    simp only [(followLru_longest s hl).1, if_neg hl.2.2.1]

theorem retrievePrefix_resolution (s : State) (q : Bytes) :
    (NoneAt s.weMap (lruIter q) → s.retrievePrefix q = .error .traph) ∧
    ∀ k, LongestAt s.weMap (lruIter q) k → s.retrievePrefix q = .ok ((lruIter q).take k).flatten := by
  refine ⟨fun hn => ?_, fun k hl => ?_⟩
  · unfold State.retrievePrefix
    simp only [(followLru_none s hn).2]
  · have hpos := flatten_take_pos (lruIter_wf q) hl.1 hl.2.1
    unfold State.retrievePrefix
    simp only [(followLru_longest s hl).2]
    rw [if_neg (by omega), take_flatten_take]

/-- C04, one state: `retrieve_webentity` answers the id attached to the longest stem-prefix of the
    query that carries one -/
theorem retrieveWebentity_ok_iff {s : State} (q : Bytes) (w : Nat) :
    s.retrieveWebentity q = .ok w ↔
      ∃ k, LongestAt s.weMap (lruIter q) k ∧ w = s.weMap ((lruIter q).take k) :=
  (resolution_iff (retrieveWebentity_resolution s q).1 (retrieveWebentity_resolution s q).2).1 w

/-- …and fails, with the library's own error, iff no stem-prefix carries one -/
theorem retrieveWebentity_error_iff {s : State} (q : Bytes) (e : Err) :
    s.retrieveWebentity q = .error e ↔ e = .traph ∧ NoneAt s.weMap (lruIter q) :=
  (resolution_iff (retrieveWebentity_resolution s q).1 (retrieveWebentity_resolution s q).2).2 e

/-- C04, one state: `retrieve_prefix` answers that longest stem-prefix itself (as bytes) -/
theorem retrievePrefix_ok_iff {s : State} (q : Bytes) (p : Bytes) :
    s.retrievePrefix q = .ok p ↔
      ∃ k, LongestAt s.weMap (lruIter q) k ∧ p = ((lruIter q).take k).flatten :=
  (resolution_iff (retrievePrefix_resolution s q).1 (retrievePrefix_resolution s q).2).1 p

theorem retrievePrefix_error_iff {s : State} (q : Bytes) (e : Err) :
    s.retrievePrefix q = .error e ↔ e = .traph ∧ NoneAt s.weMap (lruIter q) :=
  (resolution_iff (retrievePrefix_resolution s q).1 (retrievePrefix_resolution s q).2).2 e

theorem retrieveWebentity_congr_on {s s' : State} (q : Bytes)
    (e : ∀ j, 0 < j → j ≤ (lruIter q).length → s'.weMap ((lruIter q).take j) = s.weMap ((lruIter q).take j)) :
    s'.retrieveWebentity q = s.retrieveWebentity q := by
  cases hr : s.retrieveWebentity q with
  | ok w =>
    obtain ⟨k, hl, rfl⟩ := (retrieveWebentity_ok_iff q w).mp hr
    exact (retrieveWebentity_ok_iff q _).mpr ⟨k, hl.congr_on e, (e k hl.1 hl.2.1).symm⟩
  | error er =>
    obtain ⟨rfl, hn⟩ := (retrieveWebentity_error_iff q er).mp hr
    exact (retrieveWebentity_error_iff q _).mpr ⟨rfl, hn.congr_on e⟩

theorem retrievePrefix_congr_on {s s' : State} (q : Bytes)
    (e : ∀ j, 0 < j → j ≤ (lruIter q).length → s'.weMap ((lruIter q).take j) = s.weMap ((lruIter q).take j)) :
    s'.retrievePrefix q = s.retrievePrefix q := by
  cases hr : s.retrievePrefix q with
  | ok w =>
    obtain ⟨k, hl, rfl⟩ := (retrievePrefix_ok_iff q w).mp hr
    exact (retrievePrefix_ok_iff q _).mpr ⟨k, hl.congr_on e, rfl⟩
  | error er =>
    obtain ⟨rfl, hn⟩ := (retrievePrefix_error_iff q er).mp hr
    exact (retrievePrefix_error_iff q _).mpr ⟨rfl, hn.congr_on e⟩

end Traph
