import Proofs.PagWalk
import Proofs.LeOps
/-! Pagination with writes between two calls, walk level.

    A token is a prefix index and the *route* (L / C / R steps) from the prefix node to a node. Nodes never
    move and pointers are only ever set once, so the route still leads to the same node, with the same LRU,
    in every later state (`routeLru_later`). Resuming at a route gives exactly the items of the *current*
    walk that sort after the LRU at the end of the route, whether or not that node is itself (still) an item
    of the walk (`weInorder_resume_route`, Proofs/Pagination); `walk_resume_later` is the cross-state
    statement. -/
namespace Traph
open State Layout

theorem routeLru_later {s s' : State} (hle : s ⊑ s') : ∀ (u u' : T) (D : List Nat) (lru cur : Bytes),
    Rep s u → Rep s' u' → u.root = u'.root → (∀ x ∈ u.addrs, s'.stemAt x = s.stemAt x) →
    u.routeLru s D lru = some cur → u'.routeLru s' D lru = some cur := by
  intro u
  induction u with
  | nil => intro _ _ _ _ _ _ _ _ h; cases h
  | node a l c r ihl ihc ihr =>
    intro u' D lru cur hu hu' e hst h
    cases u' with
    | nil => exact absurd e hu.1
    | node a' l' c' r' =>
      simp only [T.root_node] at e
      subst e
      have hsa : s'.stemAt a = s.stemAt a := hst a List.mem_cons_self
      obtain ⟨_, ⟨cell, hc, h1, h2, h3⟩, rl, rc, rr⟩ := hu
      obtain ⟨_, ⟨cell', hc', g1, g2, g3⟩, rl', rc', rr'⟩ := hu'
      obtain ⟨cell'', hc'', hcl⟩ := hle.cells a cell hc
      rw [hc'] at hc''
      cases hc''
      -- a pointer that is set stays what it is, and the subtree below it keeps its stems
      have sub : ∀ (v v' : T), Rep s v → v ≠ .nil → (∀ x ∈ v.addrs, x ∈ (T.node a l c r).addrs) →
          ∀ p p' : Nat, p = v.root → p' = v'.root → (p ≠ 0 → p' = p) →
          v.root = v'.root ∧ ∀ x ∈ v.addrs, s'.stemAt x = s.stemAt x :=
        fun v v' rv hv hsubs p p' ep ep' hkeep =>
          ⟨by rw [← ep, ← ep']; exact (hkeep (ep ▸ rv.root_ne_zero hv)).symm, fun x hx => hst x (hsubs x hx)⟩
      cases D with
      | nil => simp only [T.routeLru, Option.some.injEq] at h ⊢; rw [hsa]; exact h
      | cons d ds =>
        simp only [T.routeLru] at h ⊢
        rw [hsa]
        by_cases hd : d = 1
        · rw [if_pos hd] at h ⊢
          obtain ⟨e1, e2⟩ := sub l l' rl (routeLru_ne_nil h) (fun x => T.mem_addrs_left) _ _ h1 g1 hcl.left
          exact ihl l' ds lru cur rl rl' e1 e2 h
        · rw [if_neg hd] at h ⊢
          by_cases hd2 : d = 2
          · rw [if_pos hd2] at h ⊢
            obtain ⟨e1, e2⟩ := sub c c' rc (routeLru_ne_nil h) (fun x => T.mem_addrs_child) _ _ h2 g2 hcl.child
            exact ihc c' ds _ cur rc rc' e1 e2 h
          · rw [if_neg hd2] at h ⊢
            obtain ⟨e1, e2⟩ := sub r r' rr (routeLru_ne_nil h) (fun x => T.mem_addrs_right) _ _ h3 g3 hcl.right
            exact ihr r' ds lru cur rr rr' e1 e2 h

/-- `s'` is a later state than `s`: above it in the heap order, every stored path still stored at the same
    block, and itself with `Shape` and `WfStems` -/
structure Later (s : State) (t : T) (s' : State) (t' : T) : Prop where
  le : s ⊑ s'
  keep : ∀ p b, (p, b) ∈ t.entries s [] → (p, b) ∈ t'.entries s' []
  shape : Shape s' t'
  wf : WfStems s' t'

theorem stem_later {s s' : State} {t t' : T} (h : Shape s t) (hl : Later s t s' t') :
    ∀ x ∈ t.addrs, s'.stemAt x = s.stemAt x := by
  intro x hx
  obtain ⟨p, hm⟩ := t.addrs_mem_entries (s := s) [] hx
  obtain ⟨q, e, _⟩ := entries_last_and_ptrs t [] p x h.rep hm
  obtain ⟨q', e', _⟩ := entries_last_and_ptrs t' [] p x hl.shape.rep (hl.keep p x hm)
  rw [e] at e'
  have := List.append_inj_right' e' rfl
  simpa using this.symm

theorem lruNode_later {s s' : State} {t t' : T} (h : Shape s t) (hl : Later s t s' t') {p : Bytes} {n : Nat}
    (hn : s.lruNode (lruIter p) = some n) : s'.lruNode (lruIter p) = some n := by
  by_cases hne : lruIter p = []
  · rw [hne] at hn ⊢
    unfold State.lruNode at hn ⊢
    have := hl.le.size
    by_cases hsz : s.trie.size ≤ 1
    · rw [if_pos hsz] at hn; cases hn
    · rw [if_neg hsz] at hn
      rw [if_neg (by omega)]
      exact hn
  · exact (lruNode_iff_entries hl.shape _ hne n).mpr (hl.keep _ _ ((lruNode_iff_entries h _ hne n).mp hn))

theorem walkOf_eq_of_subtree {s : State} {n : Nat} {l c r : T} (hr : Rep s (.node n l c r))
    (hsz : (T.node n l c r).size ≤ s.trie.size) {p : Bytes} (hn : s.lruNode (lruIter p) = some n) :
    walkOf s p = (T.node n l c r).weInorder s n (lruDirname p) 0 := by
  unfold walkOf
  rw [hn]
  simp only
  rw [weInorder_eq hr hsz p]
  simp [T.weInorder]

/-- the path number of any item of the walk of `s` from a prefix, fed to
    `webentity_inorder_iter` in a later state `s'`, raises no exception and yields exactly the items of the
    walk of `s'` from that prefix that sort after the item -/
theorem walk_resume_later {s s' : State} {t t' : T} (h : Shape s t) (hw : WfStems s t) (hl : Later s t s' t')
    {p : Bytes} {n : Nat} (hn : s.lruNode (lruIter p) = some n) {it : Item} (hit : it ∈ walkOf s p) :
    s'.weInorder n p (some it.2.2) = some ((walkOf s' p).filter (fun y => lexLt it.2.1 y.2.1)) := by
  have hn' := lruNode_later h hl hn
  obtain ⟨l, c, r, lo, hi, h1, _, _, h4, h5⟩ := prefix_subtree h hw hn
  obtain ⟨l', c', r', lo', hi', g1, g2, g3, g4, _⟩ := prefix_subtree hl.shape hl.wf hn'
  rw [walkOf_eq_of_subtree h1 h4 hn] at hit
  rw [walkOf_eq_of_subtree g1 g4 hn']
  obtain ⟨D, hD, hp0, hroute⟩ := weInorder_routeLru n _ _ 0 it hit
  have hroute' := routeLru_later hl.le _ _ D _ _ h1 g1 rfl (fun x hx => stem_later h hl x (h5 x hx)) hroute
  rw [hp0]
  exact weInorder_resume_route g1 g2 g3 g4 p hD hroute'

/-- from a `Live` state with `Inv`, every history of well-formed write requests without `clear` and `KeyError`
    leads to a later state, with `Inv` again -/
theorem later_run {s : State} {t : T} (h : Shape s t) (hi : Inv s t) (hlive : Live s) (ops : List Op)
    (hop : ∀ op ∈ ops, ∀ d rs, op ≠ .clear d rs) (hwf : ∀ op ∈ ops, OpWf op) (hok : NoKeyErr s ops) :
    ∃ t', Later s t (s.run ops) t' ∧ Inv (s.run ops) t' := by
  obtain ⟨t', x, f⟩ := run_spec ops s t h hop
  have a := f hwf hi hok
  exact ⟨t', ⟨(run_le s ops hlive hop).1, x.keep, x.shape, a.inv.wf⟩, a.inv⟩

end Traph

section
open Traph
#print axioms walk_resume_later
#print axioms later_run
end
