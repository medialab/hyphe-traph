import Traph.Helpers
/-! Generic facts about the byte-string utilities of `Traph/Helpers.lean` (`startsWith`, `replaceFirst`, `splitOn`,
    `joinWith`), for C17 mostly on a string given by the bodies of its stems (`sepJoin`); `lruVariations` without its
    control flow (`lruVariations_eq`); the two equations of `lruIter` with their induction. -/
namespace Traph
open Layout

theorem flatMap_perm_left {α β} (l : List α) (f g : α → List β) (h : ∀ a ∈ l, (f a).Perm (g a)) :
    (l.flatMap f).Perm (l.flatMap g) := by
  induction l with
  | nil => exact List.Perm.refl _
  | cons a l ih =>
    simp only [List.flatMap_cons]
    exact (h a (by simp)).append (ih (fun b hb => h b (by simp [hb])))

@[simp] theorem startsWith_nil (b : Bytes) : startsWith b [] = true := by
  cases b <;> rfl

@[simp] theorem startsWith_cons_cons (a : Nat) (as : Bytes) (p : Nat) (ps : Bytes) :
    startsWith (a :: as) (p :: ps) = (a == p && startsWith as ps) := rfl

@[simp] theorem startsWith_nil_cons (p : Nat) (ps : Bytes) : startsWith [] (p :: ps) = false := rfl

theorem startsWith_append_self (p tl : Bytes) : startsWith (p ++ tl) p = true := by
  induction p with
  | nil => simp
  | cons a p ih => simp [ih]

theorem startsWith_append_append (p a b : Bytes) : startsWith (p ++ a) (p ++ b) = startsWith a b := by
  induction p with
  | nil => rfl
  | cons c p ih => simp [ih]

/-- `124` is the byte `|` that closes a stem: `Layout.sep`, an `abbrev` for it; this file writes the one or the other -/
theorem startsWith_body (a b tl : Bytes) (ha : 124 ∉ a) (hb : 124 ∉ b) :
    startsWith (a ++ 124 :: tl) (b ++ [124]) = true ↔ a = b := by
  induction a generalizing b with
  | nil =>
    cases b with
    | nil => simp
    | cons d b =>
      have : d ≠ 124 := by intro h; exact hb (by simp [h])
      simp [Ne.symm this]
  | cons c a ih =>
    cases b with
    | nil =>
      have : c ≠ 124 := by intro h; exact ha (by simp [h])
      simp [this]
    | cons d b =>
      have ha' : 124 ∉ a := fun h => ha (by simp [h])
      have hb' : 124 ∉ b := fun h => hb (by simp [h])
      simp [ih b ha' hb']

theorem replaceFirst_of_startsWith {old new b : Bytes} (h : startsWith b old = true) (hb : b ≠ []) :
    replaceFirst old new b = new ++ b.drop old.length := by
  cases b with
  | nil => exact absurd rfl hb
  | cons x xs => rw [replaceFirst, if_pos h]

theorem replaceFirst_prefix (old new tl : Bytes) (h : old ≠ []) :
    replaceFirst old new (old ++ tl) = new ++ tl := by
  rw [replaceFirst_of_startsWith (startsWith_append_self old tl) (mt List.append_eq_nil_iff.mp fun e => h e.1),
    List.drop_left]

/-- no byte 104 ('h') immediately followed by 58 (':'), and the last byte is not 104 -/
def NoHC : Bytes → Prop
  | [] => True
  | [c] => c ≠ 104
  | c :: d :: r => (c ≠ 104 ∨ d ≠ 58) ∧ NoHC (d :: r)

theorem NoHC_cons_ne (c : Nat) (r : Bytes) (hc : c ≠ 104) (hr : NoHC r) : NoHC (c :: r) := by
  cases r with
  | nil => exact hc
  | cons d r => exact ⟨Or.inl hc, hr⟩

theorem NoHC_no58 (l r : Bytes) (hl : ∀ c ∈ l, c ≠ 58) (hr : NoHC (124 :: r)) : NoHC (l ++ 124 :: r) := by
  induction l with
  | nil => exact hr
  | cons c l ih =>
    have ih' := ih (fun c hc => hl c (by simp [hc]))
    cases l with
    | nil => exact ⟨Or.inr (by decide), hr⟩
    | cons d l => exact ⟨Or.inr (hl d (by simp)), ih'⟩

/-- a prefix without "h:" is skipped by `replaceFirst` of anything that starts with "h:" -/
theorem replaceFirst_skip (pre o new tl : Bytes) (h : NoHC pre) :
    replaceFirst (104 :: 58 :: o) new (pre ++ tl) = pre ++ replaceFirst (104 :: 58 :: o) new tl := by
  induction pre with
  | nil => rfl
  | cons c pre ih =>
    cases pre with
    | nil =>
      have hc : c ≠ 104 := h
      show (if startsWith (c :: tl) (104 :: 58 :: o) then _ else _) = _
      rw [if_neg (by simp [hc])]
      rfl
    | cons d pre =>
      obtain ⟨h1, h2⟩ := h
      show (if startsWith (c :: d :: (pre ++ tl)) (104 :: 58 :: o) then _ else _) = _
      rw [if_neg (by rcases h1 with h1 | h1 <;> simp [h1])]
      show c :: replaceFirst _ _ ((d :: pre) ++ tl) = _
      rw [ih h2]
      rfl

theorem splitOnGo_no_sep (s : Nat) : ∀ (b cur : Bytes), s ∉ b → splitOnGo s b cur = [cur.reverse ++ b]
  | [], cur, _ => by simp [splitOnGo]
  | x :: xs, cur, h => by
    have hx : ¬ x = s := fun e => h (by simp [e])
    simp [splitOnGo, hx, splitOnGo_no_sep s xs (x :: cur) fun m => h (by simp [m])]

theorem splitOnGo_sep (s : Nat) (b : Bytes) : ∀ (a cur : Bytes), s ∉ a →
    splitOnGo s (a ++ s :: b) cur = (cur.reverse ++ a) :: splitOnGo s b []
  | [], cur, _ => by simp [splitOnGo]
  | x :: xs, cur, h => by
    have hx : ¬ x = s := fun e => h (by simp [e])
    simp [splitOnGo, hx, splitOnGo_sep s b xs (x :: cur) fun m => h (by simp [m])]

theorem splitOn_two (s : Nat) (a b : Bytes) (ha : s ∉ a) (hb : s ∉ b) :
    splitOn s (a ++ [s] ++ b) = [a, b] := by
  unfold splitOn
  rw [List.append_assoc, List.singleton_append, splitOnGo_sep s b a [] ha, splitOnGo_no_sep s b [] hb]
  rfl

/-- the byte string whose stems have the bodies `bs`: each body closed by the separator -/
def sepJoin (bs : List Bytes) : Bytes := (bs.map (· ++ [124])).flatten

theorem sepJoin_nil : sepJoin [] = [] := rfl

theorem sepJoin_cons (b : Bytes) (bs : List Bytes) : sepJoin (b :: bs) = b ++ 124 :: sepJoin bs := by
  simp [sepJoin]

theorem sepJoin_append (as bs : List Bytes) : sepJoin (as ++ bs) = sepJoin as ++ sepJoin bs := by
  simp [sepJoin]

theorem splitOn_sepJoin : ∀ bodies : List Bytes, (∀ b ∈ bodies, 124 ∉ b) →
    splitOn 124 (sepJoin bodies) = bodies ++ [[]]
  | [], _ => rfl
  | b :: bodies, h => by
    rw [sepJoin_cons, splitOn, splitOnGo_sep 124 _ b [] (h b List.mem_cons_self), ← splitOn,
      splitOn_sepJoin bodies fun x hx => h x (List.mem_cons_of_mem _ hx)]
    rfl

/-- `sep.join(parts) + sep` (non-empty list) -/
theorem joinWith_sep : ∀ l : List Bytes, l ≠ [] → joinWith 124 l ++ [124] = sepJoin l
  | [], h => absurd rfl h
  | [a], _ => by simp [joinWith, sepJoin]
  | a :: b :: l, _ => by
    rw [sepJoin_cons, ← joinWith_sep (b :: l) (List.cons_ne_nil _ _)]
    simp [joinWith]

theorem replaceFirst_sepJoin (pre post : Bytes) (h : Bytes) (hs new : List Bytes) (hp : NoHC pre) :
    replaceFirst (sepJoin ((104 :: 58 :: h) :: hs)) (sepJoin new) (pre ++ (sepJoin ((104 :: 58 :: h) :: hs) ++ post)) =
      pre ++ (sepJoin new ++ post) := by
  have e : sepJoin ((104 :: 58 :: h) :: hs) = 104 :: 58 :: (h ++ 124 :: sepJoin hs) := sepJoin_cons _ _
  rw [e, replaceFirst_skip _ _ _ _ hp, replaceFirst_prefix _ _ _ (List.cons_ne_nil _ _)]

/-- `lru_variations` without its control flow: the scheme alternatives, then, where the `www` toggle applies, each of
    them with the run of host stems replaced -/
theorem lruVariations_eq (lru : Bytes) :
    lruVariations lru =
      let vars := lru :: (httpsVariation lru).toList
      let hosts := (splitOn sep lru).filter fun s => startsWith s hPrefix
      let hosts' := if hosts.getLast? == some hWww then hosts.dropLast else hosts ++ [hWww]
      if hosts.length ≤ 1 ∨ hosts'.length = 1 then vars
      else vars ++ vars.map (replaceFirst (joinWith sep hosts ++ [sep]) (joinWith sep hosts' ++ [sep])) := by
  by_cases hl : lru = []
  · subst hl; rfl
  · have he : lru.isEmpty = false := by simpa using hl
    simp only [lruVariations, he, Bool.false_eq_true, if_false, beq_iff_eq]
    generalize (splitOn sep lru).filter (fun s => startsWith s hPrefix) = hosts
    generalize (if hosts.getLast? = some hWww then hosts.dropLast else hosts ++ [hWww]) = hosts'
    by_cases c1 : hosts.length ≤ 1
    · rw [if_pos c1, if_pos (Or.inl c1)]; cases httpsVariation lru <;> rfl
    · by_cases c2 : hosts'.length = 1
      · rw [if_neg c1, if_pos c2, if_pos (Or.inr c2)]; cases httpsVariation lru <;> rfl
      · rw [if_neg c1, if_neg c2, if_neg (not_or.mpr ⟨c1, c2⟩)]; cases httpsVariation lru <;> rfl

theorem lruIterGo_stem : ∀ (y cur r : Bytes), sep ∉ y →
    lruIterGo (y ++ sep :: r) cur = (cur.reverse ++ y ++ [sep]) :: lruIterGo r []
  | [], cur, r, _ => by simp [lruIterGo]
  | a :: y, cur, r, h => by
    have ha : (a == sep) = false := by simpa using fun e : a = sep => h (e ▸ List.mem_cons_self)
    simp only [List.cons_append, lruIterGo, ha]
    rw [lruIterGo_stem y (a :: cur) r fun hm => h (List.mem_cons_of_mem _ hm)]
    simp

theorem lruIterGo_tail : ∀ (y cur : Bytes), sep ∉ y → lruIterGo y cur = []
  | [], _, _ => rfl
  | a :: y, cur, h => by
    have ha : (a == sep) = false := by simpa using fun e : a = sep => h (e ▸ List.mem_cons_self)
    simp only [lruIterGo, ha]
    exact lruIterGo_tail y _ fun hm => h (List.mem_cons_of_mem _ hm)

theorem lruIter_stem (y r : Bytes) (hy : sep ∉ y) : lruIter (y ++ sep :: r) = (y ++ [sep]) :: lruIter r := by
  simpa [lruIter] using lruIterGo_stem y [] r hy

theorem lruIter_tail (y : Bytes) (hy : sep ∉ y) : lruIter y = [] := lruIterGo_tail y [] hy

theorem lruIter_sepJoin : ∀ bodies : List Bytes, (∀ b ∈ bodies, 124 ∉ b) →
    lruIter (sepJoin bodies) = bodies.map (· ++ [124])
  | [], _ => rfl
  | b :: bodies, h => by
    rw [sepJoin_cons, lruIter_stem b _ (h b List.mem_cons_self),
      lruIter_sepJoin bodies fun x hx => h x (List.mem_cons_of_mem _ hx)]
    rfl

theorem bytes_sep_cases : ∀ b : Bytes, sep ∉ b ∨ ∃ y r, b = y ++ sep :: r ∧ sep ∉ y
  | [] => Or.inl (by simp)
  | a :: b => by
    by_cases ha : a = sep
    · exact Or.inr ⟨[], b, by rw [ha]; rfl, by simp⟩
    · rcases bytes_sep_cases b with h | ⟨y, r, rfl, hy⟩
      · exact Or.inl fun hm => (List.mem_cons.mp hm).elim (fun e => ha e.symm) h
      · exact Or.inr ⟨a :: y, r, rfl, fun hm => (List.mem_cons.mp hm).elim (fun e => ha e.symm) hy⟩

theorem bytes_sep_induction {P : Bytes → Prop} (tail : ∀ y, sep ∉ y → P y)
    (stem : ∀ y r, sep ∉ y → P r → P (y ++ sep :: r)) (b : Bytes) : P b := by
  induction hn : b.length using Nat.strongRecOn generalizing b with
  | _ n ih =>
    rcases bytes_sep_cases b with h | ⟨y, r, rfl, hy⟩
    · exact tail b h
    · exact stem y r hy (ih r.length (by rw [← hn]; simp; omega) r rfl)

end Traph
