import Proofs.ClearCrash
import Proofs.PtrOkOps
import Proofs.Built
/-! C15, the bridge lemma that needs the model's code: NO CELL WRITE EVER TARGETS BLOCK 0 of the trie store.

    Block 0 of the trie file is the header (`encodeTrieHeader`); `encodeTrie` renders block 0 from `hdrId` and
    the cells from block 1 on. A `Write.trieSet 0 c` would overwrite the header with a cell image, and the
    storage image would no longer be `encodeTrie s`. The model totalises a failed sibling search
    (`findSib … = .corrupt`) to node `0`, so "never block 0" is not syntactic: it needs that the search never
    fails. It follows from a small pointer invariant, independent of the ghost tree:

    `sb_Fwd s` — every stored `left`/`right`/`child` pointer of block `b` is null or points FORWARD
    (`b < p`) and inside the file (`p < size`). Pointers are only ever set to the index of a freshly
    appended block, so this is preserved by every write; forward pointers make the sibling chain strictly
    increasing, so the fuel `size + 1` is never exhausted and no read falls outside the file.

    `sb_G s` = non-empty trie + `sb_Fwd s` + `sb_NZ s.log` (no `trieSet 0 _` in the ghost log). It holds for
    the fresh index of every configuration and is preserved by EVERY request (`sb_G_step`, no
    well-formedness or discipline hypothesis; `clear` and `reopen` included). Main theorem: `sb_history_nz`;
    `sb_badState` is the witness that `sb_Fwd` is needed (there `add_page` rewrites block 0). -/
namespace Traph
open State

def sb_NZ (log : List Write) : Prop := ∀ c, Write.trieSet 0 c ∉ log

theorem sb_NZ.cons {w : Write} {l : List Write} (h : sb_NZ l) (hw : ∀ c, w ≠ .trieSet 0 c) : sb_NZ (w :: l) := by
  intro c' hm
  simp only [List.mem_cons] at hm
  rcases hm with hm | hm
  · exact hw c' hm.symm
  · exact h c' hm

def sb_PtrFwd (b n p : Nat) : Prop := p = 0 ∨ (b < p ∧ p < n)

theorem sb_PtrFwd.mono {b n n' p : Nat} (h : sb_PtrFwd b n p) (hn : n ≤ n') : sb_PtrFwd b n' p :=
  h.imp id (fun ⟨h1, h2⟩ => ⟨h1, Nat.lt_of_lt_of_le h2 hn⟩)

def sb_CellFwd (b n : Nat) (c : Cell) : Prop :=
  sb_PtrFwd b n c.left ∧ sb_PtrFwd b n c.right ∧ sb_PtrFwd b n c.child

theorem sb_CellFwd.mono {b n n' : Nat} {c : Cell} (h : sb_CellFwd b n c) (hn : n ≤ n') : sb_CellFwd b n' c :=
  ⟨h.1.mono hn, h.2.1.mono hn, h.2.2.mono hn⟩

theorem sb_cellFwd_null (b n : Nat) (c : Cell) (h1 : c.left = 0) (h2 : c.right = 0) (h3 : c.child = 0) :
    sb_CellFwd b n c := ⟨Or.inl h1, Or.inl h2, Or.inl h3⟩

theorem sb_CellFwd.slot {b n : Nat} {c : Cell} (h : sb_CellFwd b n c) (sl : Slot) : sb_PtrFwd b n (c.slot sl) := by
  cases sl
  · exact h.1
  · exact h.2.2
  · exact h.2.1

def sb_Fwd (s : State) : Prop := ∀ b c, s.trie[b]? = some c → sb_CellFwd b s.trie.size c

structure sb_G (s : State) : Prop where
  pos : 0 < s.trie.size
  fwd : sb_Fwd s
  nz  : sb_NZ s.log

theorem sb_G.of_eq {s s' : State} (h : sb_G s) (ht : s'.trie = s.trie) (hl : s'.log = s.log) : sb_G s' :=
  ⟨by rw [ht]; exact h.pos, by intro b c hc; rw [ht] at hc ⊢; exact h.fwd b c hc, by rw [hl]; exact h.nz⟩

theorem sb_G.appendCell {s : State} (h : sb_G s) (c : Cell) (h1 : c.left = 0) (h2 : c.right = 0)
    (h3 : c.child = 0) : sb_G (s.appendCell c).1 := by
  refine ⟨by simp [State.appendCell], ?_, ?_⟩
  · intro b x hx
    simp only [State.appendCell, Array.getElem?_push, Array.size_push] at hx ⊢
    split at hx
    · cases hx; exact sb_cellFwd_null _ _ _ h1 h2 h3
    · exact (h.fwd b x hx).mono (Nat.le_succ _)
  · exact h.nz.cons fun _ => nofun

theorem sb_G.appendCells {s : State} (h : sb_G s) (cs : List Cell)
    (hcs : ∀ c ∈ cs, c.left = 0 ∧ c.right = 0 ∧ c.child = 0) : sb_G (s.appendCells cs) := by
  induction cs generalizing s with
  | nil => exact h
  | cons c cs ih =>
    rw [State.appendCells]
    obtain ⟨h1, h2, h3⟩ := hcs c (by simp)
    exact ih (h.appendCell c h1 h2 h3) (fun x hx => hcs x (by simp [hx]))

theorem sb_G.appendStub {s : State} (h : sb_G s) (b : Stub) : sb_G (s.appendStub b).1 :=
  ⟨h.pos, h.fwd, h.nz.cons fun _ => nofun⟩

theorem sb_G.setHdr {s : State} (h : sb_G s) (id : Nat) : sb_G (s.setHdr id) :=
  ⟨h.pos, h.fwd, h.nz.cons fun _ => nofun⟩

theorem sb_G.modCell {s : State} (h : sb_G s) (i : Nat) (f : Cell → Cell) (hi : i ≠ 0)
    (hf : ∀ c, s.trie[i]? = some c → sb_CellFwd i s.trie.size (f c)) : sb_G (s.modCell i f) := by
  refine ⟨by rw [trie_modCell_size]; exact h.pos, ?_, ?_⟩
  · intro b x hx
    rw [getElem?_modCell] at hx
    rw [trie_modCell_size]
    by_cases hib : i = b
    · subst hib
      rw [if_pos rfl] at hx
      cases hy : s.trie[i]? with
      | none => rw [hy] at hx; cases hx
      | some y =>
        rw [hy] at hx; simp only [Option.map_some] at hx; cases hx
        exact hf y hy
    · rw [if_neg hib] at hx
      exact h.fwd b x hx
  · cases hy : s.trie[i]? with
    | none => rw [log_modCell_none f hy]; exact h.nz
    | some y =>
      rw [log_modCell_some f hy]
      exact h.nz.cons fun _ e => hi (Write.trieSet.inj e).1

theorem sb_G.modCell_keep {s : State} (h : sb_G s) (i : Nat) (f : Cell → Cell) (hi : i ≠ 0)
    (hf : ∀ c, (f c).left = c.left ∧ (f c).right = c.right ∧ (f c).child = c.child) :
    sb_G (s.modCell i f) := by
  refine h.modCell i f hi (fun c hc => ?_)
  obtain ⟨e1, e2, e3⟩ := hf c
  obtain ⟨g1, g2, g3⟩ := h.fwd i c hc
  exact ⟨by rw [e1]; exact g1, by rw [e2]; exact g2, by rw [e3]; exact g3⟩

theorem sb_size_modCell_foldl {α : Type} (g : α → Nat) (f : α → Cell → Cell) :
    ∀ (l : List α) (s : State), (l.foldl (fun st a => st.modCell (g a) (f a)) s).trie.size = s.trie.size
  | [], _ => rfl
  | a :: l, s => by rw [List.foldl_cons, sb_size_modCell_foldl g f l, trie_modCell_size]

theorem sb_cell_some {s : State} {n : Nat} (h : (s.cell n).child ≠ 0) : s.trie[n]? = some (s.cell n) := by
  unfold State.cell at h ⊢
  cases hn : s.trie[n]? with
  | none => rw [hn] at h; exact absurd rfl h
  | some c => rfl

def sb_FindNZ : Find → Prop
  | .found i => i ≠ 0
  | .missing q _ => q ≠ 0
  | .corrupt => True

/-- every block the search answers is the start block or a non-null pointer -/
theorem sb_findSib_ne_zero (s : State) (stem : Stem) : ∀ (fuel p : Nat), p ≠ 0 →
    sb_FindNZ (s.findSib stem fuel p)
  | 0, p, _ => by rw [findSib]; trivial
  | k + 1, p, hp => by
    rcases findSib_succ s stem k p with ⟨_, e⟩ | ⟨c, _, e | ⟨sl, _, ⟨hne, e⟩ | ⟨_, e⟩⟩⟩ <;> rw [e]
    · trivial
    · exact hp
    · exact sb_findSib_ne_zero s stem k _ hne
    · exact hp

theorem sb_findSib_not_corrupt (s : State) (hf : sb_Fwd s) (stem : Stem) : ∀ (fuel p : Nat),
    p < s.trie.size → s.trie.size ≤ p + fuel → s.findSib stem fuel p ≠ .corrupt
  | 0, p, h1, h2 => absurd h1 (Nat.not_lt.mpr h2)
  | k + 1, p, h1, h2 => by
    rcases findSib_succ s stem k p with ⟨hn, _⟩ | ⟨c, hc, e | ⟨sl, _, ⟨hne, e⟩ | ⟨_, e⟩⟩⟩
    · exact absurd hn (by simp [h1])
    · rw [e]; nofun
    · rw [e]
      rcases (hf p c hc).slot sl with g | ⟨g, g'⟩
      · exact absurd g hne
      · exact sb_findSib_not_corrupt s hf stem k _ g' (by omega)
    · rw [e]; nofun

theorem sb_G.writeNew {s : State} (h : sb_G s) (stem : Bytes) (p : Nat) (c : Bool) :
    sb_G (s.writeNew stem p c).1 := by
  rw [writeNew_fst_ptr]
  refine (h.appendCell _ rfl rfl rfl).appendCells _ ?_
  intro x hx
  unfold tailsOf at hx
  split at hx
  · obtain ⟨_, _, rfl⟩ := mem_tailCells _ x hx
    exact ⟨rfl, rfl, rfl⟩
  · cases hx

theorem sb_ensureStem {s : State} (h : sb_G s) (start : Nat) (ex : Bool) (stem : Stem) (hs : start ≠ 0)
    (hlt : ex = true → start < s.trie.size) :
    sb_G (s.ensureStem start ex stem).1 ∧ (s.ensureStem start ex stem).2 ≠ 0 := by
  unfold ensureStem
  split
  · refine ⟨h.writeNew stem 0 false, ?_⟩
    rw [writeNew_idx]; have := h.pos; omega
  · rename_i hex
    have hex' : ex = true := by simpa using hex
    have hnz := sb_findSib_ne_zero s stem (s.trie.size + 1) start hs
    have hnc := sb_findSib_not_corrupt s h.fwd stem (s.trie.size + 1) start (hlt hex') (by omega)
    split
    · rename_i i hf; rw [hf] at hnz; exact ⟨h, hnz⟩
    · rename_i hf; exact absurd hf hnc
    · rename_i last sl hf
      obtain ⟨c, hc, _⟩ := findSib_missing s stem _ _ _ _ hf
      have hlast : last < s.trie.size := (Array.getElem?_eq_some_iff.mp hc).1
      have hl0 : last ≠ 0 := by rw [hf] at hnz; exact hnz
      have g1 := h.writeNew stem (s.cell last).parent false
      have hsz := size_lt_writeNew s stem (s.cell last).parent false
      refine ⟨g1.modCell last _ hl0 ?_, ?_⟩
      · intro c' hc'
        obtain ⟨f1, f2, f3⟩ := g1.fwd last c' hc'
        have hsib : sb_PtrFwd last (s.writeNew stem (s.cell last).parent false).1.trie.size
            (s.writeNew stem (s.cell last).parent false).2 := by
          right; rw [writeNew_idx]; exact ⟨hlast, hsz⟩
        cases sl
        · exact ⟨hsib, f2, f3⟩
        · exact ⟨f1, f2, hsib⟩
        · exact ⟨f1, hsib, f3⟩
      · show (s.writeNew stem (s.cell last).parent false).2 ≠ 0
        rw [writeNew_idx]; have := h.pos; omega

theorem sb_G.markCanHave {s : State} (h : sb_G s) (n : Nat) (b : Bool) (hn : n ≠ 0) :
    sb_G (s.markCanHave n b) := by
  unfold State.markCanHave; split
  · exact h.modCell_keep n _ hn (fun c => ⟨rfl, rfl, rfl⟩)
  · exact h

theorem sb_addLruDescend (flag : Bool) : ∀ (stems : List Stem) (s : State) (node : Nat) (ex : Bool)
    (pos : Nat) (h : Hist), sb_G s → node ≠ 0 → (ex = true → node < s.trie.size) →
    sb_G (addLruDescend flag s stems node ex pos h).1 ∧ (addLruDescend flag s stems node ex pos h).2.1 ≠ 0 := by
  intro stems
  induction stems with
  | nil => intro s node ex pos h hg hn _; simp only [addLruDescend]; exact ⟨hg, hn⟩
  | cons stem rest ih =>
    intro s node ex pos h hg hn hlt
    obtain ⟨g1, n1⟩ := sb_ensureStem hg node ex stem hn hlt
    rcases he : s.ensureStem node ex stem with ⟨s1, n⟩
    rw [he] at g1 n1
    simp only at g1 n1
    simp only [addLruDescend, he]
    split
    · rename_i hgo
      have hch : (s1.cell n).child ≠ 0 := by
        simp only [Bool.and_eq_true, decide_eq_true_eq] at hgo; exact hgo.2
      have hsome := sb_cell_some hch
      have hfw := (g1.fwd n _ hsome).2.2
      refine ih _ _ _ _ _ (g1.markCanHave n _ n1) hch (fun _ => ?_)
      rw [size_markCanHave]
      rcases hfw with hfw | hfw
      · exact absurd hfw hch
      · exact hfw.2
    · exact ⟨g1.markCanHave n _ n1, n1⟩

theorem sb_addLruCreate (flag : Bool) : ∀ (stems : List Stem) (s : State) (node : Nat),
    sb_G s → node ≠ 0 → node < s.trie.size →
    sb_G (addLruCreate flag s stems node).1 ∧ (addLruCreate flag s stems node).2 ≠ 0 := by
  intro stems
  induction stems with
  | nil => intro s node hg hn _; simp only [addLruCreate]; exact ⟨hg, hn⟩
  | cons stem rest ih =>
    intro s node hg hn hlt
    simp only [addLruCreate]
    have g1 := hg.writeNew stem node (!rest.isEmpty && flag)
    have hsz := size_lt_writeNew s stem node (!rest.isEmpty && flag)
    have hidx := writeNew_idx s stem node (!rest.isEmpty && flag)
    rcases hw : s.writeNew stem node (!rest.isEmpty && flag) with ⟨s1, ch⟩
    rw [hw] at g1 hsz hidx
    simp only at g1 hsz hidx
    simp only
    have g2 : sb_G (s1.modCell node (fun c => { c with child := ch })) := by
      refine g1.modCell node _ hn (fun c hc => ?_)
      obtain ⟨f1, f2, _⟩ := g1.fwd node c hc
      exact ⟨f1, f2, Or.inr ⟨by show node < ch; omega, by show ch < s1.trie.size; omega⟩⟩
    exact ih _ ch g2 (by have := hg.pos; omega) (by rw [trie_modCell_size]; omega)

theorem sb_addLru {s : State} (hg : sb_G s) (stems : LRU) (flag : Bool) :
    sb_G (s.addLru stems flag).1 ∧ (s.addLru stems flag).2.1 ≠ 0 := by
  cases stems with
  | nil => simp only [addLru, addLruDescend, addLruCreate]; exact ⟨hg, by decide⟩
  | cons a r =>
    have hne : a :: r ≠ [] := by simp
    unfold addLru
    have hlt := fun hne => (addLruDescend_stop flag (a :: r) s 1 (decide (s.trie.size > 1)) 0 {} (fun _ => hg.pos) hne).1
    obtain ⟨g1, n1⟩ := sb_addLruDescend flag (a :: r) s 1 (decide (s.trie.size > 1)) 0 {} hg (by decide)
      (fun h => by simpa using h)
    rcases hd : addLruDescend flag s (a :: r) 1 (decide (s.trie.size > 1)) 0 {} with ⟨s1, node, rest, h⟩
    rw [hd] at hlt g1 n1
    simp only at hlt g1 n1 ⊢
    exact sb_addLruCreate flag rest s1 node g1 n1 (hlt hne)

theorem sb_addStubs {s : State} (hg : sb_G s) (page : Nat) (targets : List Nat) (out : Bool) (hp : page ≠ 0) :
    sb_G (s.addStubs page targets out) :=
  addStubs_rel (R := fun s s' => sb_G s → sb_G s') (fun _ => id) (fun h1 h2 => h2 ∘ h1) (fun _ b h => h.appendStub b)
    page out (fun _ _ h => h.modCell_keep page _ hp (fun c => by cases out <;> exact ⟨rfl, rfl, rfl⟩)) s targets hg

theorem sb_lruNodeGo_ne_zero (s : State) : ∀ (stems : List Stem) (node n : Nat), node ≠ 0 →
    s.lruNodeGo stems node = some n → n ≠ 0
  | [], node, n, hn, h => by simp only [lruNodeGo, Option.some.injEq] at h; subst h; exact hn
  | stem :: rest, node, n, hn, h => by
    simp only [lruNodeGo] at h
    split at h
    · rename_i i hf
      have hi := sb_findSib_ne_zero s stem (s.trie.size + 1) node hn
      rw [hf] at hi
      split at h
      · cases h; exact hi
      · split at h
        · cases h
        · rename_i hc
          exact sb_lruNodeGo_ne_zero s rest _ n hc h
    · cases h

theorem sb_lruNode_ne_zero (s : State) (stems : LRU) (n : Nat) (h : s.lruNode stems = some n) : n ≠ 0 := by
  unfold lruNode at h
  split at h
  · cases h
  · exact sb_lruNodeGo_ne_zero s stems 1 n (by decide) h

/-- a request only rewrites blocks that `add_lru` or `lru_node` answered, and those are never block 0 -/
theorem sb_across (k ru : Bool) (wf : Prop) :
    Across k ru wf sb_G (fun x _ => x.node ≠ 0) (fun s s' => sb_G s → sb_G s') where
  refl _ := id
  trans h1 h2 := h2 ∘ h1
  keep hg h := h hg
  stable _ hx _ := hx
  addLru _ stems flag hg := ⟨fun _ => (sb_addLru hg stems flag).1, (sb_addLru hg stems flag).2⟩
  lookup s stems n _ h := sb_lruNode_ne_zero s stems n h
  setPage _ x _ hg hx := ⟨fun _ => hg.modCell_keep x.node _ hx (fun _ => ⟨rfl, rfl, rfl⟩), hx⟩
  isPage _ _ _ hx _ := hx
  setCrawled _ x hg hx _ := hg.modCell_keep x.node _ hx (fun _ => ⟨rfl, rfl, rfl⟩)
  setRule _ _ x _ hg hx _ := hg.modCell_keep x.node _ hx (fun _ => ⟨rfl, rfl, rfl⟩)
  setWe _ x _ hg hx _ _ := hg.modCell_keep x.node _ hx (fun _ => ⟨rfl, rfl, rfl⟩)
  genId _ hg _ := hg.setHdr _
  addStubs _ _ page targets out hg ht _ :=
    have ⟨_, hx, e, _⟩ := ht page (List.mem_cons_self ..)
    sb_addStubs hg page targets out (e ▸ hx)
  ram _ _ _ _ hg _ := hg.of_eq rfl rfl

theorem sb_installRules (rules : List (Bytes × Rule)) (s : State) (w : Bool) (hg : sb_G s) :
    sb_G (installRules s rules w).1 :=
  (built_installRules rules w (.refl (k := false) (wf := False) s)).across (sb_across _ _ _) hg hg

theorem sb_G_base (cfg : Config) (dflt : Rule) (rules : List (Bytes × Rule)) (log : List Write) (h : sb_NZ log) :
    sb_G ({ cfg := cfg, dflt := dflt, rules := rules, log := .linkHdr :: .hdr 0 :: log } : State) := by
  refine ⟨Nat.zero_lt_one, ?_, ?_⟩
  · intro b c hc
    have hb : b = 0 := by
      have := (Array.getElem?_eq_some_iff.mp hc).1
      simp at this; exact this
    subst hb
    have : c = {} := by simpa using hc.symm
    subst this
    exact sb_cellFwd_null _ _ _ rfl rfl rfl
  · exact sb_NZ.cons (h.cons fun _ => nofun) fun _ => nofun

theorem sb_G_fresh (cfg : Config) (dflt : Rule) (rules : List (Bytes × Rule)) (log : List Write) (h : sb_NZ log) :
    sb_G (State.fresh cfg dflt rules log).1 := by
  unfold fresh
  exact sb_installRules rules _ true (sb_G_base cfg dflt [] log h)

theorem sb_G_clear {s : State} (hg : sb_G s) (d : Option Rule) (rs : Option (List (Bytes × Rule))) :
    sb_G (s.clear d rs).1 := by
  rw [clear_eq_installRules]; exact sb_installRules _ _ true (sb_G_base _ _ _ _ hg.nz)

theorem sb_G_step {s : State} (hg : sb_G s) (op : Op) : sb_G (s.step op).1 := by
  cases op with
  | clear d rs => simp only [step_clear]; exact sb_G_clear hg d rs
  | _ => exact (sb_across _ _ _).step_any s _ (fun _ _ h => nomatch h) hg hg

theorem sb_G_run : ∀ (ops : List Op) (s : State), sb_G s → sb_G (s.run ops)
  | [], _, hg => hg
  | op :: ops, _, hg => sb_G_run ops _ (sb_G_step hg op)

/-- **no cell write to block 0, ever**: the ghost log of every history on a fresh index (any configuration,
    any constructor rules, any requests — `clear`, `reopen`, malformed arguments included) has no `trieSet 0` -/
theorem sb_history_nz (cfg : Config) (dflt : Rule) (rules : List (Bytes × Rule)) (ops : List Op) :
    sb_NZ ((State.fresh cfg dflt rules []).1.run ops).log :=
  (sb_G_run ops _ (sb_G_fresh cfg dflt rules [] (by intro c h; cases h))).nz

/-- WITNESS that "never block 0" is not a syntactic property of the code: in a corrupt (unreachable) state with a
    sibling cycle — block 1 is its own left sibling, which `sb_Fwd` excludes — the sibling search of `add_page`
    runs out of fuel, the model answers node 0, and the request then rewrites block 0 (the header block) -/
def sb_badState : State := { trie := #[{}, { chunk := [115, 58, 122, 124], left := 1 }] }

theorem sb_badState_writes_block0 :
    (sb_badState.addPage [115, 58, 97, 124] true).1.log.any
      (fun w => match w with | .trieSet 0 _ => true | _ => false) = true := by decide

theorem sb_badState_not_fwd : ¬ sb_Fwd sb_badState := by
  intro h
  have := (h 1 { chunk := [115, 58, 122, 124], left := 1 } rfl).1
  rcases this with h0 | ⟨h1, _⟩
  · cases h0
  · exact Nat.lt_irrefl _ h1

#print axioms sb_G_step
#print axioms sb_history_nz

end Traph
