import Proofs.CoSections
/-! C16 — the page query `get_webentity_pages_iter` as a generator interleaved with writers.

    Soundness (of what is true; the clause "no item that qualified at no moment" is false, finding
    F16): the local invariant `PagesOk` — the traversal stack holds blocks of the tree, the stale copy of
    the block visited last is below the block's current contents, and **every item already collected is a
    page of the current index** (crawled if it says so). It is stable under the sections of all other
    generators and re-established by every section of the query; hence every item of the final answer was a
    page when it was visited and is a page ever after.

    The loop of a section is taken one iteration at a time (`CoIt`, `coIt_induct`): `pagesIter_cases` lists the five
    things an iteration of the page query can do, `pages_section` is the induction over the iterations of a section;
    every walk over `pagesResume` (here, in `Proofs/CoFuel`, `Proofs/CoFuelDrain`) goes through them.

    Completeness: a page that is reachable from the prefix node through tree pointers present when
    the query is created, is a page from then on, and none of whose ancestors below the prefix (nor
    itself) carries a webentity at any moment of the query, is in the answer (`QCovers`).

    Per section: `pagesResume_ok` (sound), `pagesResume_cover` (complete); along a schedule, in `Proofs/CoSchedules`:
    `C16_pages_query_sound`, `C16_pages_query_complete(_entries)`. -/
namespace Traph
open State Layout

def WStackOk (s : State) (t : T) (stack : List (Nat × Bytes × Nat)) : Prop :=
  ∀ b lru lvl, (b, lru, lvl) ∈ stack → ∃ p, (p, b) ∈ t.entries s [] ∧ lru = p.dropLast.flatten

theorem WStackOk.mono {s s' : State} {t t' : T} {stack : List (Nat × Bytes × Nat)} (x : Ext s t s' t')
    (h : WStackOk s t stack) : WStackOk s' t' stack := fun b lru lvl hm => by
  obtain ⟨p, h1, h2⟩ := h b lru lvl hm
  exact ⟨p, x.keep _ _ h1, h2⟩

theorem mem_weDfsPush {start b : Nat} {lru cur : Bytes} {level : Nat} {c : Cell}
    {stack : List (Nat × Bytes × Nat)} {x : Nat × Bytes × Nat}
    (h : x ∈ weDfsPush start b lru cur level c stack) :
    x ∈ stack ∨ (x = (c.right, lru, level) ∧ c.right ≠ 0 ∧ b ≠ start) ∨
      (x = (c.left, lru, level) ∧ c.left ≠ 0 ∧ b ≠ start) ∨
      (x = (c.child, cur, level + 1) ∧ c.child ≠ 0 ∧ (b = start ∨ c.we = 0)) := by
  unfold weDfsPush at h
  rcases mem_ite_cons.mp h with ⟨hP, h⟩ | h
  · refine Or.inr (Or.inr (Or.inr ⟨h, ?_, ?_⟩))
    · simp only [Bool.and_eq_true, decide_eq_true_eq] at hP; exact hP.2
    · simp only [Bool.and_eq_true, Bool.or_eq_true, decide_eq_true_eq] at hP; exact hP.1
  · split at h
    · rename_i hb
      rcases mem_ite_cons.mp h with ⟨hP, h⟩ | h
      · exact Or.inr (Or.inr (Or.inl ⟨h, hP, hb⟩))
      · rcases mem_ite_cons.mp h with ⟨hP, h⟩ | h
        · exact Or.inr (Or.inl ⟨h, hP, hb⟩)
        · exact Or.inl h
    · exact Or.inl h

theorem weDfsPush_mem {start b : Nat} {lru cur : Bytes} {level : Nat} {c : Cell}
    {stack : List (Nat × Bytes × Nat)} :
    (∀ x ∈ stack, x ∈ weDfsPush start b lru cur level c stack) ∧
    (c.right ≠ 0 → b ≠ start → (c.right, lru, level) ∈ weDfsPush start b lru cur level c stack) ∧
    (c.left ≠ 0 → b ≠ start → (c.left, lru, level) ∈ weDfsPush start b lru cur level c stack) ∧
    (c.child ≠ 0 → (b = start ∨ c.we = 0) → (c.child, cur, level + 1) ∈ weDfsPush start b lru cur level c stack) := by
  unfold weDfsPush
  dsimp only
  refine ⟨fun x hx => mem_ite_cons.mpr (.inr ?_), fun hr hb => mem_ite_cons.mpr (.inr ?_),
    fun hl hb => mem_ite_cons.mpr (.inr ?_), fun hc hrel => ?_⟩
  · split
    · exact mem_ite_cons.mpr (.inr (mem_ite_cons.mpr (.inr hx)))
    · exact hx
  · rw [if_pos hb, if_pos hr]
    exact mem_ite_cons.mpr (.inr List.mem_cons_self)
  · rw [if_pos hb, if_pos hl]
    exact List.mem_cons_self
  · rw [if_pos (by simpa using ⟨hrel, hc⟩)]
    exact List.mem_cons_self

theorem wstackOk_push_stale {s : State} {t : T} (h : Shape s t) {start b : Nat} {lru cur : Bytes} {lvl : Nat}
    {c : Cell} {stack : List (Nat × Bytes × Nat)} (hs : WStackOk s t stack) (cl : CellLe c (s.cell b))
    {p : LRU} (hp : (p, b) ∈ t.entries s []) (e1 : lru = p.dropLast.flatten) (e2 : cur = p.flatten) :
    WStackOk s t (weDfsPush start b lru cur lvl c stack) := by
  intro b' lru' lvl' hm
  obtain ⟨fl, fr, fc⟩ := stale_ptrs h cl hp e1 e2
  rcases mem_weDfsPush hm with hm | ⟨hm, hne, _⟩ | ⟨hm, hne, _⟩ | ⟨hm, hne, _⟩
  · exact hs b' lru' lvl' hm
  · cases hm; exact fr hne
  · cases hm; exact fl hne
  · cases hm; exact fc hne

theorem IsPage.co_mono {s s' : State} {t t' : T} (h : Shape s t) (x : Ext s t s' t') (le : s ⊑ s') {p : LRU}
    (hp : IsPage s t p) : IsPage s' t' p := by
  obtain ⟨b, hm, hf⟩ := hp
  exact ⟨b, x.keep _ _ hm, (le.cell_le b (entry_lt h hm)).page hf⟩

theorem IsCrawled.co_mono {s s' : State} {t t' : T} (h : Shape s t) (x : Ext s t s' t') (le : s ⊑ s') {p : LRU}
    (hp : IsCrawled s t p) : IsCrawled s' t' p := by
  obtain ⟨b, hm, hf, hc⟩ := hp
  exact ⟨b, x.keep _ _ hm, (le.cell_le b (entry_lt h hm)).page hf, (le.cell_le b (entry_lt h hm)).crawled hc⟩

def ItemOk (s : State) (t : T) (x : Bytes × Bool) : Prop :=
  IsPage s t (lruIter x.1) ∧ (x.2 = true → IsCrawled s t (lruIter x.1))

theorem ItemOk.mono {s s' : State} {t t' : T} (h : Shape s t) (x : Ext s t s' t') (le : s ⊑ s')
    {i : Bytes × Bool} (hi : ItemOk s t i) : ItemOk s' t' i :=
  ⟨hi.1.co_mono h x le, fun hc => (hi.2 hc).co_mono h x le⟩

/-- the stack the next section starts from: the stale copy of the block visited last is expanded first -/
def PagesSt.pending (p : PagesSt) : List (Nat × Bytes × Nat) :=
  match p.pend with
  | some (b, lru, cur, level, c) => weDfsPush p.start b lru cur level c p.stack
  | none => p.stack

def PagesSt.norm (p : PagesSt) : PagesSt := { p with stack := p.pending, pend := none }

theorem pagesResume_norm (fuel : Nat) (s : State) (p : PagesSt) :
    pagesResume (fuel + 1) s p = pagesResume (fuel + 1) s p.norm := by
  rw [pagesResume, pagesResume]
  rfl

/-- what one iteration of the loop inside a section of a query does: go on with a new private state, or leave the
    section -/
inductive CoIt (σ : Type) where
  | cont (n : σ)
  | stop (n : σ) (o : CoOut)

def CoIt.All {σ : Type} (J : σ → Prop) (P : σ → CoOut → Prop) : CoIt σ → Prop
  | .cont n => J n
  | .stop n o => P n o

theorem CoIt.All.imp {σ : Type} {J J' : σ → Prop} {P P' : σ → CoOut → Prop} (hJ : ∀ n, J n → J' n)
    (hP : ∀ n o, P n o → P' n o) : ∀ {it : CoIt σ}, it.All J P → it.All J' P'
  | .cont n, h => hJ n h
  | .stop n o, h => hP n o h

theorem CoIt.All.and {σ : Type} {J J' : σ → Prop} {P P' : σ → CoOut → Prop} :
    ∀ {it : CoIt σ}, it.All J P → it.All J' P' → it.All (fun n => J n ∧ J' n) (fun n o => P n o ∧ P' n o)
  | .cont _, h, h' => ⟨h, h'⟩
  | .stop _ _, h, h' => ⟨h, h'⟩

def CoIt.run {σ : Type} (k : σ → σ × CoOut) : CoIt σ → σ × CoOut
  | .cont n => k n
  | .stop n o => (n, o)

/-- a loop that is given `F` iterations: an invariant `J F` of the iterations (it may count them) gives `P` of what
    the section leaves behind -/
theorem coIt_induct {σ : Type} {run : Nat → σ → σ × CoOut} {iter : σ → CoIt σ} (J : Nat → σ → Prop)
    (P : σ → CoOut → Prop) (h0 : ∀ n, run 0 n = (n, .failed (.other "fuel")))
    (hs : ∀ F n, J (F + 1) n → run (F + 1) n = (iter n).run (run F))
    (hfuel : ∀ n, J 0 n → P n (.failed (.other "fuel")))
    (hiter : ∀ F n, J (F + 1) n → (iter n).All (J F) P) :
    ∀ F n, J F n → P (run F n).1 (run F n).2
  | 0, n, hJ => by rw [h0]; exact hfuel n hJ
  | F + 1, n, hJ => by
    have := hiter F n hJ
    rw [hs F n hJ]
    cases hi : iter n with
    | cont n' => rw [hi] at this; exact coIt_induct J P h0 hs hfuel hiter F n' this
    | stop n' o => rw [hi] at this; exact this

/-- one iteration of the page query, on a state whose stale copy has been expanded (`PagesSt.norm`) -/
def pagesIter (s : State) (p : PagesSt) : CoIt PagesSt :=
  match p.stack with
  | [] =>
    (match p.prefixes with
     | [] => .stop p (.done (.pages p.pages))
     | pf :: more =>
       match s.lruNode (lruIter pf) with
       | none => .stop p (.failed .traph)
       | some n => .cont { p with prefixes := more, start := n, stack := [(n, lruDirname pf, 0)] })
  | (b, lru, level) :: rest =>
    if (b = p.start || (s.cell b).we = 0) && (s.cell b).flags.page then
      .stop { p with
        stack := rest, pend := some (b, lru, lru ++ s.stemAt b, level, s.cell b),
        pages := p.pages ++ [(lru ++ s.stemAt b, (s.cell b).flags.crawled)] } .yielded
    else .cont { p with stack := weDfsPush p.start b lru (lru ++ s.stemAt b) level (s.cell b) rest }

theorem pagesResume_succ (fuel : Nat) (s : State) (p : PagesSt) (hpe : p.pend = none) :
    pagesResume (fuel + 1) s p = (pagesIter s p).run (pagesResume fuel s) := by
  obtain ⟨prefixes, start, stack, pend, pages⟩ := p
  cases hpe
  rw [pagesResume]
  unfold pagesIter
  cases stack with
  | nil =>
    cases prefixes with
    | nil => rfl
    | cons pf more => simp only; cases s.lruNode (lruIter pf) <;> rfl
  | cons top rest => simp only; split <;> rfl

/-- **an iteration of the page query is one of five**: all prefixes are done and the query returns; the next prefix
    is not in the index; the next prefix is opened; the block on top belongs to the webentity and is a page, it is
    listed and the section ends; or the block is expanded -/
theorem pagesIter_cases {s : State} {J : PagesSt → Prop} {P : PagesSt → CoOut → Prop} {prefixes : List Bytes}
    {start : Nat} {stack : List (Nat × Bytes × Nat)} {pages : List (Bytes × Bool)}
    (hdone : stack = [] → prefixes = [] → P ⟨prefixes, start, stack, none, pages⟩ (.done (.pages pages)))
    (hmiss : ∀ pf more, stack = [] → prefixes = pf :: more → s.lruNode (lruIter pf) = none →
      P ⟨prefixes, start, stack, none, pages⟩ (.failed .traph))
    (hopen : ∀ pf more n, stack = [] → prefixes = pf :: more → s.lruNode (lruIter pf) = some n →
      J ⟨more, n, [(n, lruDirname pf, 0)], none, pages⟩)
    (hrec : ∀ b lru lvl rest, stack = (b, lru, lvl) :: rest → (b = start ∨ (s.cell b).we = 0) →
      (s.cell b).flags.page = true →
      P ⟨prefixes, start, rest, some (b, lru, lru ++ s.stemAt b, lvl, s.cell b),
        pages ++ [(lru ++ s.stemAt b, (s.cell b).flags.crawled)]⟩ .yielded)
    (hexp : ∀ b lru lvl rest, stack = (b, lru, lvl) :: rest →
      ¬ ((b = start ∨ (s.cell b).we = 0) ∧ (s.cell b).flags.page = true) →
      J ⟨prefixes, start, weDfsPush start b lru (lru ++ s.stemAt b) lvl (s.cell b) rest, none, pages⟩) :
    (pagesIter s ⟨prefixes, start, stack, none, pages⟩).All J P := by
  unfold pagesIter
  cases stack with
  | nil =>
    cases prefixes with
    | nil => exact hdone rfl rfl
    | cons pf more =>
      simp only
      cases hn : s.lruNode (lruIter pf) with
      | none => exact hmiss pf more rfl rfl hn
      | some n => exact hopen pf more n rfl rfl hn
  | cons top rest =>
    obtain ⟨b, lru, lvl⟩ := top
    simp only
    by_cases hc : ((b = start || (s.cell b).we = 0) && (s.cell b).flags.page) = true
    · rw [if_pos hc]
      simp only [Bool.and_eq_true, Bool.or_eq_true, decide_eq_true_eq] at hc
      exact hrec b lru lvl rest rfl hc.1 hc.2
    · rw [if_neg hc]
      simp only [Bool.and_eq_true, Bool.or_eq_true, decide_eq_true_eq] at hc
      exact hexp b lru lvl rest rfl hc

/-- **the induction over the iterations of a section of the page query**: `J F` of the state the section starts from
    once its stale copy is expanded (`F` the iterations granted; `J` may count them), kept by the iterations, gives `P`
    of what the section leaves behind -/
theorem pages_section {s : State} (J : Nat → PagesSt → Prop) (P : PagesSt → CoOut → Prop)
    (hfuel : ∀ p, J 0 p.norm → P p (.failed (.other "fuel")))
    (hiter : ∀ F prefixes start stack pages, J (F + 1) ⟨prefixes, start, stack, none, pages⟩ →
      (pagesIter s ⟨prefixes, start, stack, none, pages⟩).All (fun p' => p'.pend = none ∧ J F p') P)
    (fuel : Nat) (p : PagesSt) (hJ : J fuel p.norm) : P (pagesResume fuel s p).1 (pagesResume fuel s p).2 := by
  cases fuel with
  | zero => exact hfuel p hJ
  | succ fuel =>
    rw [pagesResume_norm]
    refine coIt_induct (run := fun F => pagesResume F s) (iter := pagesIter s) (fun F p => p.pend = none ∧ J F p) P
      (fun _ => rfl) (fun F p hJ => pagesResume_succ F s p hJ.1) ?_ ?_ _ p.norm ⟨rfl, hJ⟩
    · rintro ⟨prefixes, start, stack, pend, pages⟩ ⟨hpe, hJ⟩
      cases hpe
      exact hfuel _ hJ
    · rintro F ⟨prefixes, start, stack, pend, pages⟩ ⟨hpe, hJ⟩
      cases hpe
      exact hiter F prefixes start stack pages hJ

def CoOut.Case (Y : Prop) (D : Ans → Prop) (F : Err → Prop) : CoOut → Prop
  | .yielded => Y
  | .done a => D a
  | .failed e => F e

theorem CoOut.Case.elim {Y : Prop} {D : Ans → Prop} {F : Err → Prop} : ∀ {o : CoOut}, o.Case Y D F →
    (o = .yielded → Y) ∧ (∀ a, o = .done a → D a) ∧ (∀ e, o = .failed e → F e)
  | .yielded, h => ⟨fun _ => h, (fun _ e => nomatch e), (fun _ e => nomatch e)⟩
  | .done _, h => ⟨(fun e => nomatch e), (fun _ e => by cases e; exact h), (fun _ e => nomatch e)⟩
  | .failed _, h => ⟨(fun e => nomatch e), (fun _ e => nomatch e), (fun _ e => by cases e; exact h)⟩

structure PagesOk (s : State) (t : T) (p : PagesSt) : Prop where
  wf    : ∀ pf ∈ p.prefixes, lruIter pf ≠ []
  stack : WStackOk s t p.stack
  pend  : ∀ b lru cur lvl c, p.pend = some (b, lru, cur, lvl, c) →
            CellLe c (s.cell b) ∧ ∃ q, (q, b) ∈ t.entries s [] ∧ lru = q.dropLast.flatten ∧ cur = q.flatten
  pages : ∀ x ∈ p.pages, ItemOk s t x

theorem PagesOk.mono {s s' : State} {t t' : T} {p : PagesSt}
    (h : Shape s t) (x : Ext s t s' t') (le : s ⊑ s') (hp : PagesOk s t p) : PagesOk s' t' p where
  wf := hp.wf
  stack := hp.stack.mono x
  pend := fun b lru cur lvl c e => by
    obtain ⟨cl, q, hm, e1, e2⟩ := hp.pend b lru cur lvl c e
    exact ⟨cl.trans (le.cell_le b (entry_lt h hm)), q, x.keep _ _ hm, e1, e2⟩
  pages := fun i hi => (hp.pages i hi).mono h x le

theorem PagesOk.norm {s : State} {t : T} {p : PagesSt} (h : Shape s t) (hp : PagesOk s t p) :
    PagesOk s t p.norm where
  wf := hp.wf
  stack := by
    show WStackOk s t p.pending
    unfold PagesSt.pending
    split
    · rename_i b lru cur lvl c e
      obtain ⟨cl, q, hm, e1, e2⟩ := hp.pend b lru cur lvl c e
      exact wstackOk_push_stale h hp.stack cl hm e1 e2
    · exact hp.stack
  pend := fun b lru cur lvl c e => by simp [PagesSt.norm] at e
  pages := hp.pages

theorem PagesOk.init (s : State) (t : T) (prefixes : List Bytes) (hwf : ∀ pf ∈ prefixes, lruIter pf ≠ []) :
    PagesOk s t { prefixes := prefixes } :=
  ⟨hwf, fun _ _ _ hm => by simp at hm, fun _ _ _ _ _ e => by simp at e, fun _ hm => by simp at hm⟩

def AnswerOk (s : State) (t : T) (a : Ans) : Prop := ∃ l, a = .pages l ∧ ∀ x ∈ l, ItemOk s t x

theorem AnswerOk.mono {s s' : State} {t t' : T} (h : Shape s t) (x : Ext s t s' t') (le : s ⊑ s') {a : Ans}
    (ha : AnswerOk s t a) : AnswerOk s' t' a := by
  obtain ⟨l, e, hl⟩ := ha
  exact ⟨l, e, fun i hi => (hl i hi).mono h x le⟩

/-- **one section of the page query**: the local invariant is re-established (in particular every item
    collected so far is a page of the index); an answer only lists pages; the only failures are the
    `TraphException` of a prefix that is not in the trie, and running out of the section's fuel -/
theorem pagesResume_ok (fuel : Nat) (s : State) (t : T) (p : PagesSt) (h : Shape s t) (hi : Inv s t)
    (hp : PagesOk s t p) :
    ((pagesResume fuel s p).2 = .yielded → PagesOk s t (pagesResume fuel s p).1) ∧
    (∀ a, (pagesResume fuel s p).2 = .done a → AnswerOk s t a) ∧
    (∀ e, (pagesResume fuel s p).2 = .failed e → e = .traph ∨ e = .other "fuel") := by
  refine (pages_section (fun _ => PagesOk s t)
    (fun p o => o.Case (PagesOk s t p) (AnswerOk s t) (fun e => e = .traph ∨ e = .other "fuel"))
    (fun _ _ => .inr rfl) ?_ fuel p (hp.norm h)).elim
  intro _ prefixes start stack pages hp
  refine pagesIter_cases ?_ ?_ ?_ ?_ ?_
  · exact fun _ _ => ⟨pages, rfl, hp.pages⟩
  · exact fun _ _ _ _ _ => .inl rfl
  · rintro pf more n - rfl hn
    refine ⟨rfl, fun x hx => hp.wf x (List.mem_cons_of_mem _ hx), ?_, (fun _ _ _ _ _ e => nomatch e), hp.pages⟩
    intro b lru lvl hm
    simp only [List.mem_singleton, Prod.mk.injEq] at hm
    obtain ⟨rfl, rfl, _⟩ := hm
    exact ⟨lruIter pf, (lruNode_iff_entries h _ (hp.wf pf (by simp)) b).mp hn, rfl⟩
  all_goals
    rintro b lru lvl rest rfl
    obtain ⟨q, hm, e1⟩ := hp.stack b lru lvl (by simp)
    obtain ⟨q0, e, _⟩ := entries_last_and_ptrs t [] q b h.rep hm
    have hcur : lru ++ s.stemAt b = q.flatten := by rw [e1, e, List.dropLast_concat]; simp
    have hrest : WStackOk s t rest := fun b' lru' lvl' hm' => hp.stack b' lru' lvl' (List.mem_cons_of_mem _ hm')
  · intro _ hpg
    refine ⟨hp.wf, hrest, ?_, fun x hx => ?_⟩
    · rintro _ _ _ _ _ ⟨⟩
      exact ⟨CellLe.refl _, q, hm, e1, hcur⟩
    · rcases List.mem_append.mp hx with hx | hx
      · exact hp.pages x hx
      · cases List.mem_singleton.mp hx
        have hq : lruIter (lru ++ s.stemAt b) = q := by rw [hcur]; exact hi.wf.iter_flatten hm
        exact ⟨hq ▸ ⟨b, hm, hpg⟩, fun hcr => hq ▸ ⟨b, hm, hpg, hcr⟩⟩
  · exact fun _ => ⟨rfl, hp.wf, wstackOk_push_stale h hrest (CellLe.refl _) hm e1 hcur, (fun _ _ _ _ _ e => nomatch e), hp.pages⟩

/-- a path of tree pointers from block `b'` (whose parent has flattened LRU `lru'`) to block `b` (whose own
    flattened LRU is `cur`), never leaving block `start` sideways; `anc` lists the blocks at which the path
    descends to a child: the proper ancestors of `b` on the way -/
inductive HPath (s : State) (start : Nat) : Nat → Bytes → Nat → Bytes → List Nat → Prop
  | here (b : Nat) (lru : Bytes) : HPath s start b lru b (lru ++ s.stemAt b) []
  | left {b' : Nat} {lru' : Bytes} {b : Nat} {cur : Bytes} {anc : List Nat} :
      b' ≠ start → (s.cell b').left ≠ 0 → HPath s start (s.cell b').left lru' b cur anc →
      HPath s start b' lru' b cur anc
  | right {b' : Nat} {lru' : Bytes} {b : Nat} {cur : Bytes} {anc : List Nat} :
      b' ≠ start → (s.cell b').right ≠ 0 → HPath s start (s.cell b').right lru' b cur anc →
      HPath s start b' lru' b cur anc
  | child {b' : Nat} {lru' : Bytes} {b : Nat} {cur : Bytes} {anc : List Nat} :
      (s.cell b').child ≠ 0 → HPath s start (s.cell b').child (lru' ++ s.stemAt b') b cur anc →
      HPath s start b' lru' b cur (b' :: anc)

theorem co_stemAt_of_ext {s s' : State} {t t' : T} (h : Shape s t) (x : Ext s t s' t') {p : LRU} {b : Nat}
    (hm : (p, b) ∈ t.entries s []) : s'.stemAt b = s.stemAt b := by
  obtain ⟨q, e, _⟩ := entries_last_and_ptrs t [] p b h.rep hm
  obtain ⟨q', e', _⟩ := entries_last_and_ptrs t' [] p b x.shape.rep (x.keep _ _ hm)
  have := e.symm.trans e'
  have h2 := congrArg List.getLast? this
  simpa using h2.symm

/-- paths persist: pointers, once set, never change, and stems never change -/
theorem HPath.mono {s s' : State} {t t' : T} (h : Shape s t) (x : Ext s t s' t') (le : s ⊑ s') {start : Nat}
    {b' : Nat} {lru' : Bytes} {b : Nat} {cur : Bytes} {anc : List Nat} (hp : HPath s start b' lru' b cur anc) :
    (∃ p, (p, b') ∈ t.entries s [] ∧ lru' = p.dropLast.flatten) → HPath s' start b' lru' b cur anc := by
  induction hp with
  | here b lru =>
    rintro ⟨p, hm, _⟩
    rw [← co_stemAt_of_ext h x hm]
    exact HPath.here b lru
  | @left b' lru' b cur anc hne hl _ ih =>
    rintro ⟨p, hm, e1⟩
    have hptr := (le.cell_le b' (entry_lt h hm)).left hl
    have ih' := ih ((stale_ptrs h (CellLe.refl _) hm e1 rfl).1 hl)
    rw [← hptr] at ih'
    exact HPath.left hne (by rw [hptr]; exact hl) ih'
  | @right b' lru' b cur anc hne hl _ ih =>
    rintro ⟨p, hm, e1⟩
    have hptr := (le.cell_le b' (entry_lt h hm)).right hl
    have ih' := ih ((stale_ptrs h (CellLe.refl _) hm e1 rfl).2.1 hl)
    rw [← hptr] at ih'
    exact HPath.right hne (by rw [hptr]; exact hl) ih'
  | @child b' lru' b cur anc hl _ ih =>
    rintro ⟨p, hm, e1⟩
    obtain ⟨q, e, _, _, f3⟩ := entries_last_and_ptrs t [] p b' h.rep hm
    have hq : p.dropLast = q := by rw [e, List.dropLast_concat]
    have hptr := (le.cell_le b' (entry_lt h hm)).child hl
    have hcur : lru' ++ s.stemAt b' = p.flatten := by rw [e1, hq, e]; simp
    have ih' := ih ⟨_, f3 hl, by rw [List.dropLast_concat, hcur]⟩
    rw [← hptr, ← co_stemAt_of_ext h x hm] at ih'
    exact HPath.child (by rw [hptr]; exact hl) ih'

/-- what the completeness claim is about: a block `b` with flattened LRU `cur`, reached from the prefix node
    `root` through the ancestors `anc` -/
structure QTarget where
  root : Nat
  b    : Nat
  cur  : Bytes
  anc  : List Nat

/-- the target "qualifies" in state `s`: it is a page, and neither it nor any of its ancestors below the
    prefix node carries a webentity -/
def QClear (s : State) (g : QTarget) : Prop :=
  (∀ n ∈ g.anc, n = g.root ∨ (s.cell n).we = 0) ∧ (g.b = g.root ∨ (s.cell g.b).we = 0) ∧
    (s.cell g.b).flags.page = true

/-- the query has listed the target, or will still come across it: through an entry of its stack, or when
    it starts a prefix it has not started yet -/
def QCovers (s : State) (p : PagesSt) (g : QTarget) : Prop :=
  (∃ cr, (g.cur, cr) ∈ p.pages) ∨
  (p.start = g.root ∧ ∃ x ∈ p.pending, ∃ anc', (∀ a ∈ anc', a ∈ g.anc) ∧ HPath s g.root x.1 x.2.1 g.b g.cur anc') ∨
  (∃ pf ∈ p.prefixes, s.lruNode (lruIter pf) = some g.root ∧
    ∃ anc', (∀ a ∈ anc', a ∈ g.anc) ∧ HPath s g.root g.root (lruDirname pf) g.b g.cur anc')

theorem QCovers.mono {s s' : State} {t t' : T} {p : PagesSt} {g : QTarget} (h : Shape s t) (hp : PagesOk s t p)
    (x : Ext s t s' t') (le : s ⊑ s') (hc : QCovers s p g) : QCovers s' p g := by
  rcases hc with hc | ⟨hs, y, hy, anc', ha, hpath⟩ | ⟨pf, hpf, hn, anc', ha, hpath⟩
  · exact Or.inl hc
  · refine Or.inr (Or.inl ⟨hs, y, hy, anc', ha, hpath.mono h x le ?_⟩)
    obtain ⟨b', lru', lvl'⟩ := y
    exact (hp.norm h).stack b' lru' lvl' hy
  · have hne := hp.wf pf hpf
    have hent := (lruNode_iff_entries h _ hne g.root).mp hn
    refine Or.inr (Or.inr ⟨pf, hpf, (lruNode_iff_entries x.shape _ hne g.root).mpr (x.keep _ _ hent), anc', ha,
      hpath.mono h x le ⟨lruIter pf, hent, rfl⟩⟩)

theorem QCovers.norm {s : State} {p : PagesSt} {g : QTarget} (hc : QCovers s p g) : QCovers s p.norm g := by
  rcases hc with hc | ⟨hs, y, hy, rest⟩ | hc
  · exact Or.inl hc
  · exact Or.inr (Or.inl ⟨hs, y, hy, rest⟩)
  · exact Or.inr (Or.inr hc)

/-- **one section of the page query, completeness side**: a target that qualifies now and is covered stays
    covered when the section yields, and is in the answer when the section returns -/
theorem pagesResume_cover (fuel : Nat) (s : State) (p : PagesSt) (g : QTarget) (hcl : QClear s g)
    (hc : QCovers s p g) :
    ((pagesResume fuel s p).2 = .yielded → QCovers s (pagesResume fuel s p).1 g) ∧
    (∀ l, (pagesResume fuel s p).2 = .done (.pages l) → ∃ cr, (g.cur, cr) ∈ l) := by
  have key := (pages_section (s := s) (fun _ p => QCovers s p g)
    (fun p o => o.Case (QCovers s p g) (fun a => ∀ l, a = .pages l → ∃ cr, (g.cur, cr) ∈ l) (fun _ => True))
    (fun _ _ => trivial) ?_ fuel p hc.norm).elim
  · exact ⟨key.1, fun l e => key.2.1 _ e l rfl⟩
  obtain ⟨groot, gb, gcur, ganc⟩ := g
  intro _ prefixes start stack pages hc
  -- with an empty stack: listed, or below a prefix still to open
  have hnil : stack = [] → (∃ cr, (gcur, cr) ∈ pages) ∨ (∃ pf ∈ prefixes, s.lruNode (lruIter pf) = some groot ∧
      ∃ anc', (∀ a ∈ anc', a ∈ ganc) ∧ HPath s groot groot (lruDirname pf) gb gcur anc') := by
    rintro rfl
    rcases hc with hc | ⟨_, y, hy, _⟩ | hc
    · exact Or.inl hc
    · exact nomatch hy
    · exact Or.inr hc
  -- the top entry is popped: listed, or it is the target, or an entry of the expanded stack leads to it, or a prefix
  have hpush : ∀ b' lru' lvl rest, stack = (b', lru', lvl) :: rest →
      (∃ cr, (gcur, cr) ∈ pages) ∨ (b' = gb ∧ start = groot ∧ gcur = lru' ++ s.stemAt b') ∨
      (start = groot ∧ ∃ y ∈ weDfsPush start b' lru' (lru' ++ s.stemAt b') lvl (s.cell b') rest,
        ∃ anc', (∀ a ∈ anc', a ∈ ganc) ∧ HPath s groot y.1 y.2.1 gb gcur anc') ∨
      (∃ pf ∈ prefixes, s.lruNode (lruIter pf) = some groot ∧
        ∃ anc', (∀ a ∈ anc', a ∈ ganc) ∧ HPath s groot groot (lruDirname pf) gb gcur anc') := by
    rintro b' lru' lvl rest rfl
    rcases hc with hc | ⟨hs, y, hy, anc', ha, hpath⟩ | hc
    · exact Or.inl hc
    · simp only at hs
      obtain ⟨m1, m2, m3, m4⟩ := @weDfsPush_mem start b' lru' (lru' ++ s.stemAt b') lvl (s.cell b') rest
      rcases List.mem_cons.mp (hy : y ∈ (b', lru', lvl) :: rest) with rfl | hy
      · simp only at hpath hs
        subst hs
        cases hpath with
        | here => exact Or.inr (Or.inl ⟨rfl, rfl, rfl⟩)
        | left hne hl hrest => exact Or.inr (Or.inr (Or.inl ⟨rfl, _, m3 hl hne, anc', ha, hrest⟩))
        | right hne hl hrest => exact Or.inr (Or.inr (Or.inl ⟨rfl, _, m2 hl hne, anc', ha, hrest⟩))
        | @child _ _ _ _ anc'' hl hrest =>
          exact Or.inr (Or.inr (Or.inl ⟨rfl, _, m4 hl (hcl.1 b' (ha b' (by simp))), anc'',
            fun a haa => ha a (List.mem_cons_of_mem _ haa), hrest⟩))
      · exact Or.inr (Or.inr (Or.inl ⟨hs, y, m1 y hy, anc', ha, hpath⟩))
    · exact Or.inr (Or.inr (Or.inr hc))
  refine pagesIter_cases ?_ ?_ ?_ ?_ ?_
  · rintro hs rfl l ⟨⟩
    exact (hnil hs).resolve_right fun ⟨_, hpf, _⟩ => nomatch hpf
  · exact fun _ _ _ _ _ => trivial
  · rintro pf more n hs rfl hn
    refine ⟨rfl, ?_⟩
    rcases hnil hs with hc' | ⟨pf', hpf', hn', anc', ha, hpath⟩
    · exact Or.inl hc'
    · rcases List.mem_cons.mp hpf' with rfl | hpf'
      · cases hn.symm.trans hn'
        exact Or.inr (Or.inl ⟨rfl, (groot, lruDirname pf', 0), List.mem_singleton_self _, anc', ha, hpath⟩)
      · exact Or.inr (Or.inr ⟨pf', hpf', hn', anc', ha, hpath⟩)
  · intro b' lru' lvl rest hs _ _
    rcases hpush b' lru' lvl rest hs with ⟨cr, hcr⟩ | ⟨rfl, rfl, e⟩ | ⟨hs, y, hy, rest'⟩ | hp
    · exact Or.inl ⟨cr, List.mem_append_left _ hcr⟩
    · exact Or.inl ⟨_, by rw [e]; exact List.mem_append_right _ (List.mem_singleton.mpr rfl)⟩
    · exact Or.inr (Or.inl ⟨hs, y, hy, rest'⟩)
    · exact Or.inr (Or.inr hp)
  · intro b' lru' lvl rest hs hcond
    refine ⟨rfl, ?_⟩
    rcases hpush b' lru' lvl rest hs with hp | ⟨rfl, rfl, e⟩ | ⟨hs, y, hy, rest'⟩ | hp
    · exact Or.inl hp
    · exact absurd ⟨hcl.2.1, hcl.2.2⟩ hcond
    · exact Or.inr (Or.inl ⟨hs, y, hy, rest'⟩)
    · exact Or.inr (Or.inr hp)

end Traph
