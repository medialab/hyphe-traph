import Proofs.AutoCreate
/-! The prefix map through the page-submitting requests (`add_pages`, `add_links`, `index_batch_crawl`,
    `add_webentity_creation_rule`): the only writes to `we` fields are the automatic creations, and each of
    them is in the report: the current map is the initial one with the creations accumulated in the report
    replayed (`RepOk`), whatever the request answers, a `KeyError` in the middle included. One page is `RepOk.addPage`,
    any sequence of `__add_page` calls and silent writes (`Paged`) is `Paged.repOk`. -/
namespace Traph
open State Layout

/-- replay the `created_webentities` part of a write report on a prefix map -/
def applyCreated (M : LRU → Nat) (we : List (Option Nat × List Bytes)) : LRU → Nat :=
  we.foldl (fun M e => match e.1 with
    | some id => mapSetAll M (e.2.map lruIter) id
    | none => M) M

theorem applyCreated_nil (M : LRU → Nat) : applyCreated M [] = M := rfl

theorem applyCreated_append (M : LRU → Nat) (a b : List (Option Nat × List Bytes)) :
    applyCreated M (a ++ b) = applyCreated (applyCreated M a) b := by
  unfold applyCreated; rw [List.foldl_append]

theorem applyCreated_single (M : LRU → Nat) (id : Nat) (l : List Bytes) :
    applyCreated M [(some id, l)] = mapSetAll M (l.map lruIter) id := rfl

theorem applyCreated_single_none (M : LRU → Nat) (l : List Bytes) : applyCreated M [(none, l)] = M := rfl

/-- `__add_page` either fails with KeyError, or creates nothing, or creates one webentity with the next
    id that owns exactly the prefixes it reports; nothing else changes in the map -/
theorem addPageCore_weMap_cases {s : State} {t : T} (h : Shape s t) (lru : Bytes) (c : Bool) :
    ((s.addPageCore lru c).2.2 = .error (.other "KeyError") ∧ (s.addPageCore lru c).1.weMap = s.weMap ∧
      (s.addPageCore lru c).1.hdrId = s.hdrId) ∨
    (∃ r, (s.addPageCore lru c).2.2 = .ok r ∧ r.we = [] ∧ (s.addPageCore lru c).1.weMap = s.weMap ∧
      (s.addPageCore lru c).1.hdrId = s.hdrId) ∨
    (∃ r fl, (s.addPageCore lru c).2.2 = .ok r ∧ r.we = [(some (s.hdrId + 1), fl)] ∧
      (s.addPageCore lru c).1.weMap = mapSetAll s.weMap (fl.map lruIter) (s.hdrId + 1) ∧
      (∀ p ∈ fl, s.weMap (lruIter p) = 0) ∧
      (s.addPageCore lru c).1.hdrId = s.hdrId + 1) := by
  rcases hd : (s.addPageTrie (lruIter lru) c).1.autoDecision lru (s.addPageTrie (lruIter lru) c).2.2 with _ | _ | K
  · exact Or.inl (addPageCore_weMap_error h lru c hd)
  · obtain ⟨⟨r, h1, h2⟩, h3, h4⟩ := addPageCore_weMap_none h lru c hd
    exact Or.inr (Or.inl ⟨r, h1, h2, h3, h4⟩)
  · obtain ⟨a1, a2⟩ := addPageCore_weMap_some h lru c hd
    by_cases hall : ∀ p ∈ lruVariations K, s.weMap (lruIter p) ≠ 0
    · obtain ⟨⟨r, h1, h2⟩, h3, h4⟩ := a1 hall
      exact Or.inr (Or.inl ⟨r, h1, h2, h3, h4⟩)
    · obtain ⟨⟨r, h1, h2⟩, h3, h4⟩ := a2 (Classical.byContradiction fun hn => hall fun p hp hz => hn ⟨p, hp, hz⟩)
      refine Or.inr (Or.inr ⟨r, _, h1, h2, ?_, fun p hp => ((mem_freeOf _ _ _).mp hp).2, h4⟩)
      rw [h3, mapSetAll_freeOf]

/-- `M0`, `lo`: the map and the id counter when the request started; `rep`: the creations accumulated so far -/
structure RepOk (M0 : LRU → Nat) (lo : Nat) (s : State) (rep : Report) : Prop where
  map : s.weMap = applyCreated M0 rep.we
  ids : ∀ e ∈ rep.we, ∃ id, e.1 = some id ∧ id ≤ s.hdrId
  lo_le : lo ≤ s.hdrId
  old : ∀ p, M0 p ≠ 0 → s.weMap p = M0 p
  fresh : ∀ p, M0 p = 0 → s.weMap p ≠ 0 → lo < s.weMap p ∧ s.weMap p ≤ s.hdrId

theorem RepOk.init (s : State) : RepOk s.weMap s.hdrId s {} :=
  ⟨rfl, fun e he => by simp at he, Nat.le_refl _, fun _ _ => rfl, fun p h0 h1 => absurd h0 h1⟩

theorem RepOk.keep {M0 : LRU → Nat} {lo : Nat} {s s' : State} {rep : Report} (h : RepOk M0 lo s rep)
    (hw : s'.weMap = s.weMap) (hid : s.hdrId ≤ s'.hdrId) : RepOk M0 lo s' rep :=
  ⟨hw.trans h.map, fun e he => by
    obtain ⟨id, h1, h2⟩ := h.ids e he
    exact ⟨id, h1, Nat.le_trans h2 hid⟩, Nat.le_trans h.lo_le hid,
    fun p hp => by rw [hw]; exact h.old p hp,
    fun p h0 h1 => by
      rw [hw] at h1 ⊢
      obtain ⟨f1, f2⟩ := h.fresh p h0 h1
      exact ⟨f1, Nat.le_trans f2 hid⟩⟩

theorem RepOk.addPage {M0 : LRU → Nat} {lo : Nat} {s : State} {t : T} {rep : Report} (hr : RepOk M0 lo s rep)
    (h : Shape s t) (lru : Bytes) (c : Bool) :
    ∃ rep', RepOk M0 lo (s.addPageCore lru c).1 rep' ∧
      ∀ r, (s.addPageCore lru c).2.2 = .ok r → rep.add r = rep' := by
  rcases addPageCore_weMap_cases h lru c with ⟨e, h3, h4⟩ | ⟨r', e, h2, h3, h4⟩ | ⟨r', fl, e, h2, h3, hfl, h4⟩
  · exact ⟨rep, hr.keep h3 (by rw [h4]; exact Nat.le_refl _), fun r hok => by rw [e] at hok; cases hok⟩
  · have hk := hr.keep h3 (by rw [h4]; exact Nat.le_refl _)
    obtain ⟨hwe, keys⟩ := Report.add_one hr.ids (s1 := (s.addPageCore lru c).1) (.inl ⟨h2, h4⟩)
    refine ⟨rep.add r', ⟨?_, keys, hk.lo_le, hk.old, hk.fresh⟩, fun r hok => by rw [e] at hok; cases hok; rfl⟩
    rw [hwe, h2, List.append_nil, h3]; exact hr.map
  · obtain ⟨hwe, keys⟩ := Report.add_one hr.ids (s1 := (s.addPageCore lru c).1) (.inr ⟨fl, h2, h4⟩)
    have hlo := hr.lo_le
    refine ⟨rep.add r', ⟨?_, keys, by rw [h4]; omega, fun p hp => ?_, fun p h0 h1 => ?_⟩,
      fun r hok => by rw [e] at hok; cases hok; rfl⟩
    · rw [hwe, h2, applyCreated_append, applyCreated_single, ← hr.map, h3]
    · have hp' := hr.old p hp
      rw [h3]; unfold mapSetAll
      rw [if_neg, hp']
      intro hm
      obtain ⟨x, hx, rfl⟩ := List.mem_map.mp hm
      rw [hfl x hx] at hp'
      exact hp hp'.symm
    · rw [h3] at h1 ⊢
      unfold mapSetAll at h1 ⊢
      split
      · rw [h4]; omega
      · rename_i hm
        rw [if_neg hm] at h1
        obtain ⟨f1, f2⟩ := hr.fresh p h0 h1
        exact ⟨f1, by rw [h4]; omega⟩

theorem weMap_markCrawled {s : State} {t : T} (h : Shape s t) (n : Nat) :
    (s.modCell n (fun c => { c with flags := { c.flags with crawled := true } })).weMap = s.weMap :=
  weMap_modCell h n _ (fun _ => ⟨rfl, rfl, rfl, rfl, rfl⟩) (fun _ => rfl)

theorem weMap_addStubsGo : ∀ (targets : List Nat) (s : State) (tail : Nat),
    (s.addStubsGo tail targets).1.weMap = s.weMap := by
  intro ts
  induction ts with
  | nil => exact fun _ _ => rfl
  | cons x ts ih =>
    intro s tail
    simp only [addStubsGo]
    rw [ih]
    exact weMap_trie_eq rfl

theorem weMap_addStubs {s : State} {t : T} (h : Shape s t) (page : Nat) (targets : List Nat) (out : Bool) :
    (s.addStubs page targets out).weMap = s.weMap := by
  unfold addStubs
  split
  · rfl
  · have k := keeps_addStubsGo targets s (if out then (s.cell page).out else (s.cell page).inn) t h
    simp only
    refine Eq.trans (weMap_modCell k.shape page _ ?_ ?_) (weMap_addStubsGo targets s _)
    · intro c; cases out <;> exact ⟨rfl, rfl, rfl, rfl, rfl⟩
    · intro c; cases out <;> rfl

theorem Paged.repOk {M0 : LRU → Nat} {lo : Nat} {s s' : State} {rep : Report} {res : Except Err Report}
    (h : Paged s rep s' res) {t : T} (hs : Shape s t) (hr : RepOk M0 lo s rep) :
    (∃ t', Shape s' t') ∧ ∃ rep', RepOk M0 lo s' rep' ∧ ∀ r, res = .ok r → r = rep' := by
  induction h with
  | refl => exact ⟨⟨t, hs⟩, rep, hr, fun r he => by cases he; rfl⟩
  | @page a rep1 l c _ ih =>
    obtain ⟨⟨t1, h1⟩, _, hr1, e1⟩ := ih
    cases e1 rep1 rfl
    obtain ⟨t2, x2, _⟩ := addPageCore_step h1 l c
    obtain ⟨rep2, hr2, e2⟩ := hr1.addPage h1 l c
    refine ⟨⟨t2, x2.shape⟩, rep2, hr2, fun r he => ?_⟩
    obtain ⟨r1, he1, rfl⟩ := Except.map_eq_ok he
    exact e2 r1 he1
  | crawl n _ ih =>
    obtain ⟨⟨t1, h1⟩, rep1, hr1, e1⟩ := ih
    exact ⟨⟨t1, (ext_markCrawled h1 n).shape⟩, rep1,
      hr1.keep (weMap_markCrawled h1 n) (by rw [hdrId_modCell]; exact Nat.le_refl _), e1⟩
  | stubs p ts o _ ih =>
    obtain ⟨⟨t1, h1⟩, rep1, hr1, e1⟩ := ih
    exact ⟨⟨t1, (keeps_addStubs h1 p ts o).shape⟩, rep1,
      hr1.keep (weMap_addStubs h1 p ts o) (by rw [hdrId_addStubs]; exact Nat.le_refl _), e1⟩

theorem addPagesGo_rep (M0 : LRU → Nat) (lo : Nat) (always : Bool) (ls : List Bytes) (s : State) (t : T) (c : Bool)
    (rep : Report) (h : Shape s t) (hr : RepOk M0 lo s rep) :
    ∃ rep', RepOk M0 lo (addPagesGo always s ls c rep).1 rep' ∧
      ∀ r, (addPagesGo always s ls c rep).2 = .ok r → r = rep' :=
  ((paged_addPagesGo always ls s c rep).repOk h hr).2

theorem addLinks_rep (M0 : LRU → Nat) (lo : Nat) {s : State} {t : T} (h : Shape s t) (links : List (Bytes × Bytes))
    (hr : RepOk M0 lo s {}) :
    ∃ rep', RepOk M0 lo (s.addLinks links).1 rep' ∧ ∀ r, (s.addLinks links).2 = .ok r → r = rep' :=
  ((paged_addLinks s links).repOk h hr).2

theorem batch_rep (M0 : LRU → Nat) (lo : Nat) {s : State} {t : T} (h : Shape s t) (data : List (Bytes × List Bytes))
    (hr : RepOk M0 lo s {}) :
    ∃ rep', RepOk M0 lo (s.batch data).1 rep' ∧ ∀ r, (s.batch data).2 = .ok r → r = rep' :=
  ((paged_batch s data).repOk h hr).2

theorem addRule_rep {s : State} {t : T} (h : Shape s t) (anchor : Bytes) (r : Rule) (w : Bool) :
    ∃ rep', RepOk s.weMap s.hdrId (s.addRule anchor r w).1 rep' ∧ ∀ rp, (s.addRule anchor r w).2 = .ok rp → rp = rep' := by
  cases w with
  | false =>
    rw [addRule_false_eq]
    exact ⟨{}, (RepOk.init s).keep (weMap_trie_eq rfl) (Nat.le_refl _), fun rp he => by cases he; rfl⟩
  | true =>
    obtain ⟨t2, k2, _⟩ := rulePrologue_keeps h anchor r
    exact ((paged_addRule s anchor r).repOk k2.shape ((RepOk.init s).keep (weMap_rulePrologue h anchor r)
      (by rw [hdrId_rulePrologue]; exact Nat.le_refl _))).2

end Traph
