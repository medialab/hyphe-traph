import Proofs.Kept
/-! C12: the header counter `hdrId` is written by `genId` (and reset by `State.clear`, Proofs/Ids.lean) only. Every
    other model function — the whole trie layer, the link layer, and every `foldl` of `modCell` — leaves it unchanged. -/
namespace Traph
open State

@[simp] theorem hdrId_appendStub (s : State) (b : Stub) : (s.appendStub b).1.hdrId = s.hdrId := rfl

@[simp] theorem hdrId_setCell (s : State) (i : Nat) (c : Cell) : (s.setCell i c).hdrId = s.hdrId := rfl

@[simp] theorem hdrId_setHdr (s : State) (id : Nat) : (s.setHdr id).hdrId = id := rfl

@[simp] theorem hdrId_genId (s : State) : s.genId.1.hdrId = s.hdrId + 1 := rfl

@[simp] theorem snd_genId (s : State) : s.genId.2 = s.hdrId + 1 := rfl

@[simp] theorem hdrId_appendCells (cs : List Cell) (s : State) : (s.appendCells cs).hdrId = s.hdrId :=
  kept_hdrId.appendCells cs s

/-- any `foldl` of `modCell`s (the shape used by `addPrefixes` and `deleteWebentity`) -/
@[simp] theorem hdrId_foldl_modCell {α : Type} (idx : α → Nat) (f : α → Cell → Cell) :
    ∀ (l : List α) (s : State), (l.foldl (fun st a => st.modCell (idx a) (f a)) s).hdrId = s.hdrId := by
  intro l
  induction l with
  | nil => exact fun _ => rfl
  | cons a l ih =>
    intro s
    rw [List.foldl_cons, ih, hdrId_modCell]

@[simp] theorem hdrId_addLru (s : State) (stems : LRU) (flag : Bool) : (s.addLru stems flag).1.hdrId = s.hdrId :=
  kept_hdrId.addLru s stems flag

@[simp] theorem hdrId_addPageTrie (s : State) (stems : LRU) (crawled : Bool) :
    (s.addPageTrie stems crawled).1.hdrId = s.hdrId := by
  obtain ⟨_, e | e | e⟩ := addPageTrie_cases s stems crawled <;> rw [e]
  · rw [hdrId_modCell, hdrId_addLru]
  · rw [hdrId_modCell, hdrId_addLru]
  · exact hdrId_addLru _ _ _

@[simp] theorem hdrId_addStubs (s : State) (page : Nat) (targets : List Nat) (out : Bool) :
    (s.addStubs page targets out).hdrId = s.hdrId := kept_hdrId.addStubs (fun _ _ => rfl) s page targets out

end Traph
