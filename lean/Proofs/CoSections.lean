import Proofs.PageSet
import Proofs.Dict
import Proofs.CoLinksOps
import Proofs.CoRules
import Proofs.CoSys
import Proofs.CoBuilt
/-! C16 — every *section* of the two writing generator state machines (crawl batch, rule installation) of `Traph/Co.lean`
    is a `Step` in the sense of `Proofs/ShapeOps.lean` (the readers: `resume_sec`, Proofs/CoMachines.lean).

    For each machine a *local invariant* says that what the generator remembers across a `yield` (cached
    block numbers, traversal stacks, the stale node copy of the block visited last) still denotes
    entries of the ghost tree of the *current* index. Local invariants are stable under the sections of
    all other machines (`….mono`: they only need `Ext` + the heap order `⊑`), and one section of the
    machine itself re-establishes it while the index moves by a `Step` whose added pages are a prefix of
    the machine's own `todo` list. Under `RulesOk` a section of a writer keeps it; a batch section then fails only by
    fuel (`batchResume_rules`), a section of a rule installation with a complete anchor not at all (`ruleResume_rules`). -/
namespace Traph
open State Layout


/-- the batch's dictionary of the pages it has inserted (field `pages` of `BatchSt`: LRU ↦ block and crawled bit, kept
    across `yield`s) is not stale: each block is still the page node of its LRU in the ghost tree, a remembered bit set -/
def PCacheOk (s : State) (t : T) (pages : List (Bytes × Nat × Bool)) : Prop :=
  ∀ l n c, (l, n, c) ∈ pages → (lruIter l, n) ∈ t.entries s [] ∧ (s.cell n).flags.page = true ∧
    (c = true → (s.cell n).flags.crawled = true)

theorem PCacheOk.mono {s s' : State} {t t' : T} {pages : List (Bytes × Nat × Bool)}
    (h : Shape s t) (x : Ext s t s' t') (le : s ⊑ s') (hc : PCacheOk s t pages) : PCacheOk s' t' pages := by
  intro l n c hm
  obtain ⟨h1, h2, h3⟩ := hc l n c hm
  have hlt := entry_lt h h1
  have cl := le.cell_le n hlt
  exact ⟨x.keep _ _ h1, cl.page h2, fun hc => cl.crawled (h3 hc)⟩

theorem PCacheOk.set {s : State} {t : T} {pages : List (Bytes × Nat × Bool)} (hc : PCacheOk s t pages)
    {l : Bytes} {n : Nat} {c : Bool} (h1 : (lruIter l, n) ∈ t.entries s []) (h2 : (s.cell n).flags.page = true)
    (h3 : c = true → (s.cell n).flags.crawled = true) : PCacheOk s t (pagesSet pages l (n, c)) := by
  intro l' n' c' hm
  rcases Co.mem_dictSet pages l (n, c) (l', n', c') hm with e | hm
  · simp only [Prod.mk.injEq] at e
    obtain ⟨rfl, rfl, rfl⟩ := e
    exact ⟨h1, h2, h3⟩
  · exact hc l' n' c' hm

theorem co_pagesGet_mem {pages : List (Bytes × Nat × Bool)} {l : Bytes} {n : Nat} {c : Bool}
    (h : pagesGet pages l = some (n, c)) : (l, n, c) ∈ pages := dictGet?_mem pages l (n, c) h

theorem co_pageBlock_of_get {pages : List (Bytes × Nat × Bool)} {l : Bytes} {n : Nat} {c : Bool}
    (h : pagesGet pages l = some (n, c)) : pageBlock pages l = n := by
  unfold pageBlock; rw [h]; rfl

/-- the LRUs the generator has still to submit as pages, in the order in which it will submit them -/
def BatchSt.todo (b : BatchSt) : List (LRU × Bool × Bool) :=
  (match b.cur with
   | some (_, tgts, _) => tgts.map (fun x => (lruIter x, false, false))
   | none => []) ++ batchPages b.data

/-- an upper bound on the number of loop iterations the generator has still to run in its first phase
    (the second phase yields at every iteration) -/
def batchWork (b : BatchSt) : Nat :=
  match b.flush with
  | some _ => 0
  | none =>
    1 + (match b.cur with | some (_, tgts, _) => tgts.length + 1 | none => 0) +
      (b.data.map (fun d => d.2.length + 2)).sum

/-- local invariant of a crawl-batch generator (`index_batch_crawl_iter`) at a `yield`: valid page cache, a stem in each LRU
    still to submit, the source in progress cached, and the second pass (`flush`) only once the data are used up -/
structure BatchOk (s : State) (t : T) (b : BatchSt) : Prop where
  cache  : PCacheOk s t b.pages
  wfData : ∀ d ∈ b.data, lruIter d.1 ≠ [] ∧ ∀ x ∈ d.2, lruIter x ≠ []
  wfCur  : ∀ src tgts tb, b.cur = some (src, tgts, tb) →
             (pagesGet b.pages src).isSome ∧ ∀ x ∈ tgts, lruIter x ≠ []
  phase  : ∀ l, b.flush = some l → b.data = [] ∧ b.cur = none

theorem BatchOk.mono {s s' : State} {t t' : T} {b : BatchSt}
    (h : Shape s t) (x : Ext s t s' t') (le : s ⊑ s') (hb : BatchOk s t b) : BatchOk s' t' b :=
  ⟨hb.cache.mono h x le, hb.wfData, hb.wfCur, hb.phase⟩

def BatchSt.init (data : List (Bytes × List Bytes)) : BatchSt := { data := data }

theorem BatchOk.init (s : State) (t : T) (data : List (Bytes × List Bytes))
    (hwf : ∀ d ∈ data, lruIter d.1 ≠ [] ∧ ∀ x ∈ d.2, lruIter x ≠ []) : BatchOk s t (BatchSt.init data) :=
  ⟨fun _ _ _ hm => by simp [BatchSt.init] at hm, hwf, fun _ _ _ h => by simp [BatchSt.init] at h,
   fun _ h => by simp [BatchSt.init] at h⟩

theorem BatchSt.todo_init (data : List (Bytes × List Bytes)) : (BatchSt.init data).todo = batchPages data := rfl

/-- what ONE iteration of the loop of `batchResume` does (`r.2.2 = none`: the section goes on, with less `batchWork`);
    `BatchSec` is what the iterations of a section compose to -/
structure BatchIt (s : State) (t : T) (b : BatchSt) (r : State × BatchSt × Option CoOut) (t' : T) : Prop where
  ext  : Ext s t r.1 t'
  spec : Inv s t → BatchOk s t b → ∃ A rest, Adds s t r.1 t' A ∧ b.todo = A ++ rest ∧
    ((∀ e, r.2.2 ≠ some (.failed e)) → BatchOk r.1 t' r.2.1 ∧ r.2.1.todo = rest ∧ batchWork r.2.1 ≤ batchWork b) ∧
    (r.2.2 = none → batchWork r.2.1 < batchWork b) ∧
    (∀ a, r.2.2 = some (.done a) → rest = []) ∧
    (∀ e, r.2.2 = some (.failed e) → e = .other "KeyError")

theorem BatchIt.go {s s1 : State} {t t1 : T} {b b1 : BatchSt} {o : Option CoOut} (ho : o = none ∨ o = some .yielded)
    (x1 : Ext s t s1 t1)
    (h1 : Inv s t → BatchOk s t b → ∃ A1, Adds s t s1 t1 A1 ∧ b.todo = A1 ++ b1.todo ∧ BatchOk s1 t1 b1 ∧
      batchWork b1 ≤ batchWork b ∧ (o = none → batchWork b1 < batchWork b)) : BatchIt s t b (s1, b1, o) t1 where
  ext := x1
  spec := fun hi hb => by
    obtain ⟨A1, a1, e1, ok1, w1, w2⟩ := h1 hi hb
    exact ⟨A1, b1.todo, a1, e1, fun _ => ⟨ok1, rfl, w1⟩, w2, fun _ hd => (by rcases ho with rfl | rfl <;> cases hd),
      fun _ hf => (by rcases ho with rfl | rfl <;> cases hf)⟩

theorem BatchIt.fail {s s1 : State} {t t1 : T} {b b1 : BatchSt} {e : Err} (x1 : Ext s t s1 t1)
    (he : e = .other "KeyError") {p : LRU × Bool × Bool} {rest : List (LRU × Bool × Bool)}
    (h1 : Inv s t → BatchOk s t b → Adds s t s1 t1 [p] ∧ b.todo = p :: rest) :
    BatchIt s t b (s1, b1, some (.failed e)) t1 where
  ext := x1
  spec := fun hi hb =>
    ⟨[p], rest, (h1 hi hb).1, (h1 hi hb).2, fun hnf => absurd rfl (hnf e), fun ho => (by cases ho), fun _ ho => (by cases ho),
      fun _ ho => (by cases ho; exact he)⟩

/-- what one section of the crawl batch does (`r` is the result of `batchResume fuel s b`) -/
structure BatchSec (fuel : Nat) (s : State) (t : T) (b : BatchSt) (r : State × BatchSt × CoOut) (t' : T) :
    Prop where
  ext  : Ext s t r.1 t'
  spec : Inv s t → BatchOk s t b → ∃ A rest, Adds s t r.1 t' A ∧ b.todo = A ++ rest ∧
    (r.2.2 = .yielded → BatchOk r.1 t' r.2.1 ∧ r.2.1.todo = rest ∧ batchWork r.2.1 ≤ batchWork b) ∧
    (∀ a, r.2.2 = .done a → rest = []) ∧
    (∀ e, r.2.2 = .failed e → e = .other "KeyError" ∨ (e = .other "fuel" ∧ fuel ≤ batchWork b))

theorem BatchIt.stop {fuel : Nat} {s s1 : State} {t t' : T} {b b1 : BatchSt} {o : CoOut}
    (it : BatchIt s t b (s1, b1, some o) t') : BatchSec (fuel + 1) s t b (s1, b1, o) t' where
  ext := it.ext
  spec := fun hi hb => by
    obtain ⟨A, rest, a, e, hy, _, hd, hf⟩ := it.spec hi hb
    exact ⟨A, rest, a, e, fun hy' => hy fun e he => (by cases hy'.symm.trans (Option.some.inj he)),
      fun a ha => hd a (congrArg some ha), fun e he => .inl (hf e (congrArg some he))⟩

theorem BatchIt.compose {fuel : Nat} {s s1 : State} {t t1 t' : T} {b b1 : BatchSt}
    {r : State × BatchSt × CoOut} (it : BatchIt s t b (s1, b1, none) t1)
    (h2 : BatchSec fuel s1 t1 b1 r t') : BatchSec (fuel + 1) s t b r t' where
  ext := it.ext.trans h2.ext
  spec := fun hi hb => by
    obtain ⟨A1, rest1, a1, e1, hy1, w1, _⟩ := it.spec hi hb
    obtain ⟨ok1, rfl, _⟩ := hy1 fun _ e => nomatch e
    obtain ⟨A2, rest, a2, e2, hy, hd, hf⟩ := h2.spec a1.inv ok1
    have w := w1 rfl
    refine ⟨A1 ++ A2, rest, a1.trans a2, by rw [e1, e2, List.append_assoc], fun ho => ?_, hd, fun e he => ?_⟩
    · obtain ⟨g1, g2, g3⟩ := hy ho
      exact ⟨g1, g2, Nat.le_trans g3 (Nat.le_of_lt w)⟩
    · exact (hf e he).imp_right fun ⟨h, hw⟩ => ⟨h, Nat.succ_le_of_lt (Nat.lt_of_le_of_lt hw w)⟩

theorem co_batchPages_cons (src : Bytes) (tgts : List Bytes) (more : List (Bytes × List Bytes)) :
    batchPages ((src, tgts) :: more) =
      (lruIter src, true, true) :: (tgts.map (fun x => (lruIter x, false, false)) ++ batchPages more) := by
  simp [batchPages, List.flatMap_cons]

theorem co_adds_present {s : State} {t : T} (h : Shape s t) (hi : Inv s t) {p : LRU} {n : Nat}
    (hm : (p, n) ∈ t.entries s []) (hp : (s.cell n).flags.page = true) (hc : (s.cell n).flags.crawled = true) :
    Adds s t s t [(p, true, true)] :=
  adds_flagWrite h hi (NoStruct.refl s) hm true (fun _ _ => ⟨rfl, rfl⟩) hp (by rw [hc]; rfl)

theorem CacheStep.sec {s s1 : State} {t : T} {P P1 : cw_Pg} {R R1 : Report} {l : Bytes} {crawl new : Bool} {n : Nat}
    (c : CacheStep s P R l crawl s1 P1 R1 n new) (h : Shape s t) :
    ∃ t1, Ext s t s1 t1 ∧ (Inv s t → PCacheOk s t P → lruIter l ≠ [] →
      Adds s t s1 t1 [(lruIter l, crawl, crawl)] ∧ PCacheOk s1 t1 P1 ∧ (pagesGet P1 l).isSome ∧
        ∀ l', (pagesGet P l').isSome → (pagesGet P1 l').isSome) := by
  cases c with
  | new hg ha =>
    obtain ⟨t1, x1, f1⟩ := addPageCore_step h l crawl
    have l1 := le_addPageCore s l crawl h.live
    rw [ha] at x1 f1 l1
    refine ⟨t1, x1, fun hi hc hne => ?_⟩
    obtain ⟨g1, g2, g3⟩ := f1 hne
    exact ⟨(g3 hi).1, (hc.mono h x1 l1).set g1 g2 (fun hc => hc), by rw [pagesGet, pagesSet, Co.dictGet?_dictSet_self]; rfl,
      fun l' => Co.dictGet?_dictSet_isSome P l _ l'⟩
  | mark hcr hg =>
    subst hcr
    have x1 := ext_markCrawled h n
    have l1 : s ⊑ s.modCell n (fun c => { c with flags := { c.flags with crawled := true } }) :=
      le_modCell _ _ _ (fun c _ => cellLe_flags_crawled c)
    refine ⟨t, x1, fun hi hc _ => ?_⟩
    obtain ⟨c1, c2, _⟩ := hc l n false (co_pagesGet_mem hg)
    have hlt := entry_lt h c1
    refine ⟨adds_markCrawled h hi c1 c2, (hc.mono h x1 l1).set (x1.keep _ _ c1) ((l1.cell_le n hlt).page c2) (fun _ => ?_),
      by rw [pagesGet, pagesSet, Co.dictGet?_dictSet_self]; rfl, fun l' => Co.dictGet?_dictSet_isSome P l _ l'⟩
    rw [cell_modCell, if_pos ⟨rfl, hlt⟩]
  | @hit _ cc hg hcr =>
    refine ⟨t, Ext.refl h, fun hi hc _ => ⟨?_, hc, by rw [hg]; rfl, fun _ hl => hl⟩⟩
    obtain ⟨c1, c2, c3⟩ := hc l n cc (co_pagesGet_mem hg)
    cases crawl with
    | true => exact co_adds_present h hi c1 c2 (c3 (hcr rfl))
    | false => exact Adds.of_isPage hi ⟨n, c1, c2⟩ false

/-- **every iteration of the crawl-batch generator is a `Step`** whose added pages are the next items of its
    `todo` list; the local invariant is re-established; the only possible failure is the `KeyError` of `__add_page` -/
theorem BatchStep.sec {s s1 : State} {b b1 : BatchSt} {o : Option CoOut} (st : BatchStep s b s1 b1 o) {t : T}
    (h : Shape s t) : ∃ t', BatchIt s t b (s1, b1, o) t' := by
  cases st with
  | done data cur pendIn P I R =>
    refine ⟨t, Ext.refl h, fun hi hb => ⟨[], _, Adds.refl hi, rfl, fun _ => ⟨hb, rfl, Nat.le_refl _⟩,
      (fun ho => nomatch ho), fun _ _ => ?_, fun _ ho => nomatch ho⟩⟩
    obtain ⟨e1, e2⟩ := hb.phase [] rfl
    simp only at e1 e2
    subst e1 e2
    rfl
  | flush data cur pendIn P I R tg srcs rest =>
    have k := keeps_addStubs h (pageBlock P tg) (srcs.map (pageBlock P)) false
    exact ⟨t, .go (.inr rfl) k.ext fun hi hb => ⟨[], k.adds hi, rfl,
      ⟨hb.cache.mono h k.ext (le_addStubs s _ _ false), hb.wfData, hb.wfCur, fun _ _ => hb.phase _ rfl⟩, Nat.le_refl _, fun ho => nomatch ho⟩⟩
  | toFlush pendIn P I R =>
    exact ⟨t, .go (.inl rfl) (Ext.refl h) fun hi hb => ⟨[], Adds.refl hi, rfl,
      ⟨hb.cache, hb.wfData, hb.wfCur, fun _ _ => ⟨rfl, rfl⟩⟩, Nat.zero_le _, fun _ => Nat.succ_pos _⟩⟩
  | @src src _ _ _ _ _ _ _ tgts more pendIn I c =>
    obtain ⟨t1, x1, f1⟩ := c.sec h
    refine ⟨t1, .go (.inl rfl) x1 fun hi hb => ?_⟩
    obtain ⟨hne, hnt⟩ := hb.wfData (src, tgts) (List.mem_cons_self ..)
    obtain ⟨a1, c1, g1, _⟩ := f1 hi hb.cache hne
    refine ⟨_, a1, co_batchPages_cons src tgts more,
      ⟨c1, fun d hd => hb.wfData d (List.mem_cons_of_mem _ hd), ?_, fun _ e => nomatch e⟩, ?_, fun _ => ?_⟩
    · intro src' tgts' tb' e
      cases e
      exact ⟨g1, hnt⟩
    all_goals simp only [batchWork, List.map_cons, List.sum_cons]; omega
  | @srcErr src _ _ _ e tgts more pendIn I R hg ha =>
    obtain ⟨t1, x1, f1⟩ := addPageCore_step h src true
    rw [ha] at x1 f1
    exact ⟨t1, .fail x1 (addPageCore_err s src true e (by rw [ha])) fun hi hb =>
      ⟨((f1 (hb.wfData (src, tgts) (List.mem_cons_self ..)).1).2.2 hi).1, co_batchPages_cons src tgts more⟩⟩
  | tgtEnd data src tb pendIn P I R =>
    have k := keeps_addStubs h (pageBlock P src) tb true
    have l := le_addStubs s (pageBlock P src) tb true
    refine ⟨t, .go (.inl rfl) k.ext fun hi hb => ?_⟩
    obtain ⟨hsome, _⟩ := hb.wfCur src [] tb rfl
    obtain ⟨⟨n, cc⟩, hg⟩ := Option.isSome_iff_exists.mp hsome
    obtain ⟨c1, c2, c3⟩ := hb.cache src n cc (co_pagesGet_mem hg)
    have hlt := entry_lt h c1
    have hpb := co_pageBlock_of_get hg
    subst hpb
    refine ⟨[], k.adds hi, rfl, ⟨?_, hb.wfData, (fun _ _ _ e => nomatch e), fun _ e => nomatch e⟩, ?_, fun _ => ?_⟩
    · exact (hb.cache.mono h k.ext l).set (k.ext.keep _ _ c1) ((l.cell_le _ hlt).page c2)
        (fun hc => (l.cell_le _ hlt).crawled hc)
    all_goals simp only [batchWork, List.length_nil]; omega
  | @tgt tg _ _ _ _ _ _ new data src ts tb pendIn I c =>
    obtain ⟨t1, x1, f1⟩ := c.sec h
    have ho : (bif new then some CoOut.yielded else none) = none ∨ (bif new then some CoOut.yielded else none) = some .yielded :=
      match new with | false => .inl rfl | true => .inr rfl
    refine ⟨t1, .go ho x1 fun hi hb => ?_⟩
    obtain ⟨hsome, hnt⟩ := hb.wfCur src (tg :: ts) tb rfl
    obtain ⟨a1, c1, _, g2⟩ := f1 hi hb.cache (hnt tg (List.mem_cons_self ..))
    refine ⟨_, a1, rfl, ⟨c1, hb.wfData, ?_, fun _ e => nomatch e⟩, ?_, fun _ => ?_⟩
    · intro src' tgts' tb' e
      cases e
      exact ⟨g2 _ hsome, fun x hx => hnt x (List.mem_cons_of_mem _ hx)⟩
    all_goals simp only [batchWork, List.length_cons]; omega
  | @tgtErr tg _ _ _ e data src ts tb pendIn I R hg ha =>
    obtain ⟨t1, x1, f1⟩ := addPageCore_step h tg false
    rw [ha] at x1 f1
    exact ⟨t1, .fail x1 (addPageCore_err s tg false e (by rw [ha])) fun hi hb =>
      ⟨((f1 ((hb.wfCur src (tg :: ts) tb rfl).2 tg (List.mem_cons_self ..))).2.2 hi).1, rfl⟩⟩

theorem BatchRun.sec {fuel : Nat} {s : State} {b : BatchSt} {r : State × BatchSt × CoOut} (run : BatchRun fuel s b r) :
    ∀ {t : T}, Shape s t → ∃ t', BatchSec fuel s t b r t' := by
  induction run with
  | fuel s b =>
    exact fun {t} h => ⟨t, Ext.refl h, fun hi hb => ⟨[], b.todo, Adds.refl hi, rfl, (fun ho => nomatch ho), (fun _ ho => nomatch ho),
      fun e he => (by cases he; exact .inr ⟨rfl, Nat.zero_le _⟩)⟩⟩
  | stop st => exact fun h => (st.sec h).imp fun _ it => it.stop
  | loop st _ ih =>
    intro t h
    obtain ⟨t1, it⟩ := st.sec h
    exact (ih it.ext.shape).imp fun _ sec => it.compose sec

/-- **every section of the crawl-batch generator is a `Step`**, as every iteration is (`BatchStep.sec`); a section
    can also fail by exhausting its fuel -/
theorem batchResume_sec (fuel : Nat) (s : State) (t : T) (b : BatchSt) (h : Shape s t) :
    ∃ t', BatchSec fuel s t b (batchResume fuel s b) t' :=
  (batchResume_run fuel s b).sec h

theorem BatchStep.rules {s s1 : State} {b b1 : BatchSt} {o : Option CoOut} (st : BatchStep s b s1 b1 o) {t : T}
    (h : Shape s t) (ok : RulesOk s) : (∃ t', Shape s1 t' ∧ RulesOk s1) ∧ ∀ e, o ≠ some (.failed e) := by
  refine ⟨across_batchStep (rulesOk_across true False) st trivial t h ok, ?_⟩
  have core : ∀ {l c s1 n e}, s.addPageCore l c ≠ (s1, n, .error e) := fun {l c _ _ _} ha => by
    obtain ⟨r, hr⟩ := addPageCore_ok h ok l c
    rw [ha] at hr
    cases hr
  cases st with
  | srcErr _ _ _ _ _ _ ha | tgtErr _ _ _ _ _ _ _ _ ha => exact absurd ha core
  | @tgt _ _ _ _ _ _ _ new => cases new <;> exact fun _ e => nomatch e
  | _ => exact fun _ e => nomatch e

theorem BatchRun.rules {fuel : Nat} {s : State} {b : BatchSt} {r : State × BatchSt × CoOut} (run : BatchRun fuel s b r) :
    ∀ {t : T}, Shape s t → RulesOk s → RulesOk r.1 ∧ ∀ e, r.2.2 = .failed e → e = .other "fuel" := by
  induction run with
  | fuel s b => exact fun _ ok => ⟨ok, fun e he => (by cases he; rfl)⟩
  | stop st =>
    intro t h ok
    obtain ⟨⟨_, _, ok1⟩, nf⟩ := st.rules h ok
    exact ⟨ok1, fun e he => absurd (congrArg some he) (nf e)⟩
  | loop st _ ih =>
    intro t h ok
    obtain ⟨⟨t1, h1, ok1⟩, _⟩ := st.rules h ok
    exact ih h1 ok1

theorem batchResume_rules (fuel : Nat) {s : State} {t : T} (b : BatchSt) (h : Shape s t) (ok : RulesOk s) :
    RulesOk (batchResume fuel s b).1 ∧ ∀ e, (batchResume fuel s b).2.2 = .failed e → e = .other "fuel" :=
  (batchResume_run fuel s b).rules h ok

/-- local invariant of a rule-installation generator: before its first section the anchor is a
    well-formed LRU; afterwards the stack holds blocks of the tree with the flattened paths of their
    parents, and the stale copy of the block visited last is below the block's current contents in the
    heap order (so the pointers it holds are still the block's pointers) -/
structure RuleOk (s : State) (t : T) (r : RuleSt) : Prop where
  fresh : r.started = false → r.pend = none ∧ lruIter r.anchor ≠ []
  stack : r.started = true → StackOk s t r.stack
  pend  : r.started = true → ∀ b lru cur c, r.pend = some (b, lru, cur, c) →
            CellLe c (s.cell b) ∧ ∃ p, (p, b) ∈ t.entries s [] ∧ lru = p.dropLast.flatten ∧ cur = p.flatten

theorem RuleOk.mono {s s' : State} {t t' : T} {r : RuleSt}
    (h : Shape s t) (x : Ext s t s' t') (le : s ⊑ s') (hr : RuleOk s t r) : RuleOk s' t' r where
  fresh := hr.fresh
  stack := fun hs => (hr.stack hs).mono x
  pend := fun hs b lru cur c hp => by
    obtain ⟨cl, p, hm, e1, e2⟩ := hr.pend hs b lru cur c hp
    exact ⟨cl.trans (le.cell_le b (entry_lt h hm)), p, x.keep _ _ hm, e1, e2⟩

def RuleSt.init (anchor : Bytes) (rule : Rule) : RuleSt := { anchor := anchor, rule := rule }

theorem RuleOk.init (s : State) (t : T) (anchor : Bytes) (rule : Rule) (hwf : lruIter anchor ≠ []) :
    RuleOk s t (RuleSt.init anchor rule) :=
  ⟨fun _ => ⟨rfl, hwf⟩, fun h => by simp [RuleSt.init] at h, fun h => by simp [RuleSt.init] at h⟩

/-- the pointers of a *stale* copy `c` of the block of the entry `p`: one that was set when the copy was read is still
    the block's pointer, hence the entry of a sibling (same parent path) or of a child -/
theorem stale_entries {s : State} {t : T} (h : Shape s t) {b : Nat} {c : Cell} (cl : CellLe c (s.cell b)) {p : LRU}
    (hp : (p, b) ∈ t.entries s []) :
    (c.left ≠ 0 → ∃ z, (p.dropLast ++ [z], c.left) ∈ t.entries s []) ∧
    (c.right ≠ 0 → ∃ z, (p.dropLast ++ [z], c.right) ∈ t.entries s []) ∧
    (c.child ≠ 0 → ∃ z, (p ++ [z], c.child) ∈ t.entries s []) := by
  obtain ⟨q, e, f1, f2, f3⟩ := entries_last_and_ptrs t [] p b h.rep hp
  rw [show p.dropLast = q by rw [e, List.dropLast_concat]]
  refine ⟨fun hne => ?_, fun hne => ?_, fun hne => ?_⟩
  · have e' := cl.left hne
    exact ⟨_, e' ▸ f1 (e' ▸ hne)⟩
  · have e' := cl.right hne
    exact ⟨_, e' ▸ f2 (e' ▸ hne)⟩
  · have e' := cl.child hne
    exact ⟨_, e' ▸ f3 (e' ▸ hne)⟩

/-- the same for a traversal that carries the flattened path of a block's parent (`lru`) and of the block (`cur`) -/
theorem stale_ptrs {s : State} {t : T} (h : Shape s t) {b : Nat} {c : Cell} (cl : CellLe c (s.cell b)) {p : LRU}
    (hp : (p, b) ∈ t.entries s []) {lru cur : Bytes} (e1 : lru = p.dropLast.flatten) (e2 : cur = p.flatten) :
    (c.left ≠ 0 → ∃ q, (q, c.left) ∈ t.entries s [] ∧ lru = q.dropLast.flatten) ∧
    (c.right ≠ 0 → ∃ q, (q, c.right) ∈ t.entries s [] ∧ lru = q.dropLast.flatten) ∧
    (c.child ≠ 0 → ∃ q, (q, c.child) ∈ t.entries s [] ∧ cur = q.dropLast.flatten) :=
  have ⟨fl, fr, fc⟩ := stale_entries h cl hp
  ⟨fun hne => (fl hne).elim fun _ hz => ⟨_, hz, by rw [List.dropLast_concat, e1]⟩,
   fun hne => (fr hne).elim fun _ hz => ⟨_, hz, by rw [List.dropLast_concat, e1]⟩,
   fun hne => (fc hne).elim fun _ hz => ⟨_, hz, by rw [List.dropLast_concat, e2]⟩⟩

theorem stackOk_push_stale {s : State} {t : T} (h : Shape s t) {start b : Nat} {lru cur : Bytes} {c : Cell}
    {stack : List (Nat × Bytes)} (hs : StackOk s t stack) (cl : CellLe c (s.cell b))
    {p : LRU} (hp : (p, b) ∈ t.entries s []) (e1 : lru = p.dropLast.flatten) (e2 : cur = p.flatten) :
    StackOk s t (ruleNext start b c lru cur stack) := by
  intro b' lru' hm
  obtain ⟨fl, fr, fc⟩ := stale_ptrs h cl hp e1 e2
  rcases mem_ruleNext hm with hm | ⟨hm, hne⟩ | ⟨hm, hne⟩ | ⟨hm, hne⟩
  · exact hs b' lru' hm
  · cases hm; exact fr hne
  · cases hm; exact fl hne
  · cases hm; exact fc hne

structure RuleSec (s : State) (t : T) (r : RuleSt) (res : State × RuleSt × CoOut) (t' : T) : Prop where
  ext  : Ext s t res.1 t'
  spec : Inv s t → RuleOk s t r → Adds s t res.1 t' [] ∧
    (res.2.2 = .yielded → RuleOk res.1 t' res.2.1) ∧
    (∀ e, res.2.2 = .failed e → e = .other "KeyError")

theorem ruleStart_rules {s : State} {t : T} (h : Shape s t) (r : RuleSt)
    (hcanon : r.started = false → lruIter r.anchor ≠ [] ∧ (lruIter r.anchor).flatten = r.anchor)
    (ok : RulesOk s) : RulesOk (ruleStart s r).1 := by
  unfold ruleStart
  by_cases hs : r.started = true
  · rw [if_pos hs]; exact ok
  · rw [if_neg hs]
    have hsf : r.started = false := by simpa using hs
    obtain ⟨hne, hc⟩ := hcanon hsf
    dsimp only
    exact rulesOk_installAnchor h r.anchor r.rule hne hc ok

theorem ruleBody_rules {s : State} {t : T} (h : Shape s t) (r : RuleSt) (ok : RulesOk s) :
    RulesOk (ruleBody s r).1 ∧ ∀ e, (ruleBody s r).2.2 ≠ .failed e := by
  unfold ruleBody
  split
  · exact ⟨ok, fun e he => by simp at he⟩
  · rename_i b lru rest _
    split
    · have q1 := rulesOk_addPageCore h (lru ++ s.stemAt b) false ok
      obtain ⟨r1, hr1⟩ := addPageCore_ok h ok (lru ++ s.stemAt b) false
      rcases ha : s.addPageCore (lru ++ s.stemAt b) false with ⟨s1, n, res⟩
      rw [ha] at q1 hr1
      simp only at q1 hr1
      subst hr1
      exact ⟨q1, fun e he => by simp at he⟩
    · exact ⟨ok, fun e he => by simp at he⟩

theorem ruleStart_sec {s : State} {t : T} (h : Shape s t) (r : RuleSt) :
    ∃ t', Ext s t (ruleStart s r).1 t' ∧
      (Inv s t → RuleOk s t r → Adds s t (ruleStart s r).1 t' [] ∧ RuleOk (ruleStart s r).1 t' (ruleStart s r).2 ∧
        (ruleStart s r).2.started = true) := by
  unfold ruleStart
  by_cases hs : r.started = true
  · rw [if_pos hs]
    exact ⟨t, Ext.refl h, fun hi hr => ⟨Adds.refl hi, hr, hs⟩⟩
  · rw [if_neg hs]
    obtain ⟨t2, k2, hent⟩ := rulePrologue_keeps h r.anchor r.rule
    dsimp only
    refine ⟨t2, k2.ext, fun hi hr => ?_⟩
    have hsf : r.started = false := by simpa using hs
    obtain ⟨hpn, hne⟩ := hr.fresh hsf
    refine ⟨k2.adds hi, ⟨fun hx => by simp at hx, fun _ => ?_, fun _ b lru cur c hp => ?_⟩, rfl⟩
    · intro b lru hm
      simp only [List.mem_singleton, Prod.mk.injEq] at hm
      obtain ⟨rfl, rfl⟩ := hm
      exact ⟨lruIter r.anchor, hent hne, rfl⟩
    · simp only at hp
      rw [hpn] at hp
      cases hp

theorem ruleBody_sec {s : State} {t : T} (h : Shape s t) (r : RuleSt) :
    ∃ t', Ext s t (ruleBody s r).1 t' ∧
      (Inv s t → RuleOk s t r → r.started = true → Adds s t (ruleBody s r).1 t' [] ∧
        ((ruleBody s r).2.2 = .yielded → RuleOk (ruleBody s r).1 t' (ruleBody s r).2.1) ∧
        (∀ e, (ruleBody s r).2.2 = .failed e → e = .other "KeyError")) := by
  unfold ruleBody
  have hstack : RuleOk s t r → r.started = true → StackOk s t r.pending := by
    intro hr hs
    unfold RuleSt.pending
    split
    · rename_i b lru cur c hp
      obtain ⟨cl, p, hm, e1, e2⟩ := hr.pend hs b lru cur c hp
      exact stackOk_push_stale h (hr.stack hs) cl hm e1 e2
    · exact hr.stack hs
  generalize r.pending = stack at hstack
  cases stack with
  | nil =>
    simp only
    exact ⟨t, Ext.refl h, fun hi hr hs => ⟨Adds.refl hi, fun ho => (by cases ho), fun e he => (by cases he)⟩⟩
  | cons top rest =>
    obtain ⟨b, lru⟩ := top
    simp only
    have hrest : ∀ {s' : State} {t' : T}, Ext s t s' t' → s ⊑ s' → RuleOk s t r → r.started = true →
        ∀ rep, RuleOk s' t' { r with stack := rest, pend := some (b, lru, lru ++ s.stemAt b, s.cell b), rep := rep } := by
      intro s' t' x le hr hs rep
      have so := hstack hr hs
      refine ⟨fun hx => by simp [hs] at hx, fun _ => ?_, fun _ b' lru' cur' c' hp => ?_⟩
      · exact StackOk.mono x (fun b' lru' hm => so b' lru' (List.mem_cons_of_mem _ hm))
      · simp only [Option.some.injEq, Prod.mk.injEq] at hp
        obtain ⟨rfl, rfl, rfl, rfl⟩ := hp
        obtain ⟨p, hm, e1⟩ := so b lru (by simp)
        obtain ⟨q, e, _⟩ := entries_last_and_ptrs t [] p b h.rep hm
        refine ⟨le.cell_le b (entry_lt h hm), p, x.keep _ _ hm, e1, ?_⟩
        rw [e1, e, List.dropLast_concat]; simp
    by_cases hpg : (s.cell b).flags.page = true
    · rw [if_pos hpg]
      obtain ⟨t1, x1, f1⟩ := addPageCore_stored h b lru
      have l1 := le_addPageCore s (lru ++ s.stemAt b) false h.live
      rcases ha : s.addPageCore (lru ++ s.stemAt b) false with ⟨s1, n, res⟩
      rw [ha] at x1 f1 l1
      cases res with
      | error e =>
        simp only at x1 f1 l1 ⊢
        refine ⟨t1, x1, fun hi hr hs => ⟨(f1 hi ((hstack hr hs) b lru (by simp)) hpg).1, fun ho => by simp at ho, fun e' he => ?_⟩⟩
        simp only [CoOut.failed.injEq] at he
        subst he
        exact addPageCore_err s _ false e (by rw [ha])
      | ok r1 =>
        simp only at x1 f1 l1 ⊢
        refine ⟨t1, x1, fun hi hr hs => ⟨(f1 hi ((hstack hr hs) b lru (by simp)) hpg).1, fun _ => ?_, fun e' he => (by cases he)⟩⟩
        exact hrest x1 l1 hr hs _
    · rw [if_neg hpg]
      refine ⟨t, Ext.refl h, fun hi hr hs => ⟨Adds.refl hi, fun _ => ?_, fun e' he => (by cases he)⟩⟩
      exact hrest (Ext.refl h) (Le.refl s) hr hs r.rep

/-- **every section of the rule-installation generator is a `Keeps`**: shape kept, no page added or lost,
    local invariant re-established; the only possible failure is the `KeyError` of `__add_page` -/
theorem ruleResume_sec {s : State} {t : T} (h : Shape s t) (r : RuleSt) :
    ∃ t', RuleSec s t r (ruleResume s r) t' := by
  rw [ruleResume_eq]
  obtain ⟨t1, x1, f1⟩ := ruleStart_sec h r
  obtain ⟨t2, x2, f2⟩ := ruleBody_sec x1.shape (ruleStart s r).2
  refine ⟨t2, x1.trans x2, fun hi hr => ?_⟩
  obtain ⟨a1, ok1, hs1⟩ := f1 hi hr
  obtain ⟨a2, hy, hf⟩ := f2 a1.inv ok1 hs1
  exact ⟨a1.trans a2, hy, hf⟩

theorem ruleResume_rules {s : State} {t : T} (h : Shape s t) (r : RuleSt) (ok : RulesOk s)
    (hcanon : r.started = false → lruIter r.anchor ≠ [] ∧ (lruIter r.anchor).flatten = r.anchor) :
    RulesOk (ruleResume s r).1 ∧ ∀ e, (ruleResume s r).2.2 ≠ .failed e := by
  rw [ruleResume_eq]
  obtain ⟨t1, x1, _⟩ := ruleStart_sec h r
  exact ruleBody_rules x1.shape _ (ruleStart_rules h r hcanon ok)

end Traph
