import Proofs.WeMapBulk
/-! C04 at the level of whole request histories. `specOp M op ans` is the abstract edit of the prefix map performed
    by request `op` that answered `ans` (explicit edits: a point update / a detach-all; every report: replay of the
    reported creations); after any history the map is the fold of these edits over the transcript (`weMap_run`). For
    the five explicit webentity requests the edit AND the answer are a pure function of the map and the id counter
    (`pureStep`). -/
namespace Traph
open State Layout

/-- every prefix handed to one of the five webentity requests cuts into at least one stem (`OpWf` is about the page requests and `addRule`) -/
def OpWfWe : Op → Prop
  | .create ps => ∀ p ∈ ps, lruIter p ≠ []
  | .delete _ ps => ∀ p ∈ ps, lruIter p ≠ []
  | .addPrefix p _ => lruIter p ≠ []
  | .removePrefix p _ => lruIter p ≠ []
  | .movePrefix p _ _ => lruIter p ≠ []
  | _ => True

def specOp (M : LRU → Nat) : Op → Ans → (LRU → Nat)
  | .addPrefix p w, .unit => mapSet M (lruIter p) w
  | .removePrefix p _, .unit => mapSet M (lruIter p) 0
  | .movePrefix p tg _, .unit => mapSet M (lruIter p) tg
  | .delete _ ps, .unit => mapSetAll M (ps.map lruIter) 0
  | _, .report r => applyCreated M r.we
  | _, _ => M

def removeOkB (M : LRU → Nat) (q : LRU) : Option Nat → Bool
  | none => true
  | some w => w == 0 || M q == w

def deleteOkB (M : LRU → Nat) (w : Nat) (ps : List Bytes) : Bool :=
  ps.all (fun p => M (lruIter p) == w && w != 0)

theorem removeOkB_iff (M : LRU → Nat) (q : LRU) (w : Option Nat) : removeOkB M q w = true ↔ removeOk M q w := by
  cases w with
  | none => simp [removeOkB, removeOk]
  | some w => simp [removeOkB, removeOk]

theorem deleteOkB_iff (M : LRU → Nat) (w : Nat) (ps : List Bytes) : deleteOkB M w ps = true ↔ deleteOk M w ps := by
  simp [deleteOkB, deleteOk]

/-- the five explicit webentity requests, those `pureStep` specifies -/
def IsEdit : Op → Prop
  | .create _ | .delete _ _ | .addPrefix _ _ | .removePrefix _ _ | .movePrefix _ _ _ => True
  | _ => False

/-- specification of the explicit webentity requests on (prefix map, id counter): new pair and answer -/
def pureStep (Mc : (LRU → Nat) × Nat) : Op → ((LRU → Nat) × Nat) × Ans
  | .addPrefix p w =>
    if Mc.1 (lruIter p) ≠ 0 then (Mc, .err .traph) else ((mapSet Mc.1 (lruIter p) w, Mc.2), .unit)
  | .removePrefix p w =>
    if removeOkB Mc.1 (lruIter p) w then ((mapSet Mc.1 (lruIter p) 0, Mc.2), .unit) else (Mc, .err .traph)
  | .movePrefix p tg src =>
    if removeOkB Mc.1 (lruIter p) src then ((mapSet Mc.1 (lruIter p) tg, Mc.2), .unit) else (Mc, .err .traph)
  | .delete w ps =>
    if deleteOkB Mc.1 w ps then ((mapSetAll Mc.1 (ps.map lruIter) 0, Mc.2), .unit) else (Mc, .err .traph)
  | .create ps =>
    if ps.any (fun p => Mc.1 (lruIter p) != 0) then (Mc, .err .traph)
    else if ps.isEmpty then (Mc, .report { we := [(none, [])] })
    else ((mapSetAll Mc.1 (ps.map lruIter) (Mc.2 + 1), Mc.2 + 1),
          .report { we := [(some (Mc.2 + 1), keysAdd [] ps)] })
  | _ => (Mc, .unit)

theorem edit_step {s : State} {t : T} (h : Shape s t) (op : Op) (he : IsEdit op) (hwf : OpWfWe op) :
    (((s.step op).1.weMap, (s.step op).1.hdrId), (s.step op).2) = pureStep (s.weMap, s.hdrId) op := by
  cases op with
  | addPrefix p w =>
    simp only [step_addPrefix, pureStep]
    obtain ⟨a1, a2⟩ := addPrefix_spec h p w hwf
    by_cases hz : s.weMap (lruIter p) = 0
    · obtain ⟨e1, e2⟩ := a2 hz
      rw [if_neg (by simpa using hz), e1, e2, hdrId_addPrefix]; rfl
    · obtain ⟨e1, e2⟩ := a1 hz
      rw [if_pos hz, e1, e2, hdrId_addPrefix]; rfl
  | removePrefix p w =>
    simp only [step_removePrefix, pureStep]
    obtain ⟨a1, a2⟩ := removePrefix_spec h p w hwf
    by_cases hgood : removeOk s.weMap (lruIter p) w
    · obtain ⟨e1, e2⟩ := a1 hgood
      rw [if_pos ((removeOkB_iff _ _ _).mpr hgood), e1, e2, hdrId_removePrefix]; rfl
    · obtain ⟨e1, e2⟩ := a2 hgood
      rw [if_neg (fun hx => hgood ((removeOkB_iff _ _ _).mp hx)), e1, e2, hdrId_removePrefix]; rfl
  | movePrefix p tg src =>
    simp only [step_movePrefix, pureStep]
    obtain ⟨a1, a2⟩ := movePrefix_spec h p tg src hwf
    by_cases hgood : removeOk s.weMap (lruIter p) src
    · obtain ⟨e1, e2⟩ := a1 hgood
      rw [if_pos ((removeOkB_iff _ _ _).mpr hgood), e1, e2, hdrId_movePrefix]; rfl
    · obtain ⟨e1, e2⟩ := a2 hgood
      rw [if_neg (fun hx => hgood ((removeOkB_iff _ _ _).mp hx)), e1, e2, hdrId_movePrefix]; rfl
  | delete w ps =>
    simp only [step_delete, pureStep]
    obtain ⟨d1, d2⟩ := deleteWebentity_spec h w ps hwf
    by_cases hgood : deleteOk s.weMap w ps
    · obtain ⟨e1, e2⟩ := d1 hgood
      rw [if_pos ((deleteOkB_iff _ _ _).mpr hgood), e1, e2, hdrId_deleteWebentity]; rfl
    · obtain ⟨e1, e2⟩ := d2 hgood
      rw [if_neg (fun hx => hgood ((deleteOkB_iff _ _ _).mp hx)), e1, e2]; rfl
  | create ps =>
    simp only [step_create, pureStep]
    obtain ⟨c1, c2, c3⟩ := createWebentity_spec h ps hwf
    have hany : ps.any (fun p => s.weMap (lruIter p) != 0) = true ↔ ∃ p ∈ ps, s.weMap (lruIter p) ≠ 0 := by
      simp only [List.any_eq_true, bne_iff_ne]
    by_cases htaken : ∃ p ∈ ps, s.weMap (lruIter p) ≠ 0
    · obtain ⟨e1, e2, e3⟩ := c1 htaken
      rw [if_pos (hany.mpr htaken), e1, e2, e3]; rfl
    · have hall : ∀ p ∈ ps, s.weMap (lruIter p) = 0 := fun p hp =>
        Classical.byContradiction (fun hz => htaken ⟨p, hp, hz⟩)
      rw [if_neg (fun hx => htaken (hany.mp hx))]
      by_cases hnil : ps = []
      · obtain ⟨e1, e2, e3⟩ := c2 hall hnil
        rw [if_pos (by rw [hnil]; rfl), e1, e2, e3]; rfl
      · obtain ⟨e1, e2, e3⟩ := c3 hall hnil
        rw [if_neg fun e => hnil (List.isEmpty_iff.mp e), e1, e2, e3]; rfl
  | _ => exact he.elim

theorem specOp_pureStep (Mc : (LRU → Nat) × Nat) (op : Op) (he : IsEdit op) :
    specOp Mc.1 op (pureStep Mc op).2 = (pureStep Mc op).1.1 := by
  cases op with
  | addPrefix p w => simp only [pureStep]; split <;> rfl
  | removePrefix p w => simp only [pureStep]; split <;> rfl
  | movePrefix p tg src => simp only [pureStep]; split <;> rfl
  | delete w ps => simp only [pureStep]; split <;> rfl
  | create ps =>
    simp only [pureStep]
    split
    · rfl
    · split
      · rfl
      · simp only [specOp, applyCreated_single]
        exact mapSetAll_congr _ _ (fun q => by
          simp only [List.mem_map, mem_keysAdd, List.not_mem_nil, false_or])
  | _ => exact he.elim

theorem applyCreated_of_rep {M0 : LRU → Nat} {s' : State} {x : Except Err Report}
    {lo : Nat} (hrep : ∃ rep', RepOk M0 lo s' rep' ∧ ∀ r, x = .ok r → r = rep')
    (herr : ∀ e, x = .error e → e = .other "KeyError")
    (hok : Ans.ofExcept .report x ≠ .err (.other "KeyError")) :
    ∃ r, x = .ok r ∧ s'.weMap = applyCreated M0 r.we := by
  obtain ⟨r, hr⟩ := ofExcept_ok_of_noKeyErr herr hok
  obtain ⟨rep', h1, h2⟩ := hrep
  have := h2 r hr
  subst this
  exact ⟨r, hr, h1.map⟩

theorem weMap_step {s : State} {t : T} (h : Shape s t) (op : Op) (hop : ∀ d rs, op ≠ .clear d rs)
    (hwf : OpWfWe op) (hok : (s.step op).2 ≠ .err (.other "KeyError")) :
    (s.step op).1.weMap = specOp s.weMap op (s.step op).2 := by
  have edit : IsEdit op → (s.step op).1.weMap = specOp s.weMap op (s.step op).2 := fun he => by
    have e := edit_step h op he hwf
    have e1 : (s.step op).1.weMap = (pureStep (s.weMap, s.hdrId) op).1.1 := congrArg (·.1.1) e
    have e2 : (s.step op).2 = (pureStep (s.weMap, s.hdrId) op).2 := congrArg (·.2) e
    rw [e1, e2]
    exact (specOp_pureStep (s.weMap, s.hdrId) op he).symm
  cases op with
  | addPage l c =>
    simp only [step_addPage, addPage_fst, addPage_snd] at hok ⊢
    rcases addPageCore_weMap_cases h l c with ⟨e, _⟩ | ⟨r, e, h2, h3, _⟩ | ⟨r, fl, e, h2, h3, _⟩
    · rw [e] at hok; exact absurd rfl hok
    · rw [e, h3]; simp only [Ans.ofExcept, specOp, h2, applyCreated_nil]
    · rw [e, h3]; simp only [Ans.ofExcept, specOp, h2, applyCreated_single]
  | addPages ls c =>
    simp only [step_addPages, State.addPages] at hok ⊢
    obtain ⟨r, hr, hm⟩ := applyCreated_of_rep
      (addPagesGo_rep s.weMap s.hdrId _ ls s t c {} h (RepOk.init s)) (addPagesGo_err _ ls s c {}) hok
    rw [hr, hm]; rfl
  | addLinks links =>
    simp only [step_addLinks] at hok ⊢
    obtain ⟨r, hr, hm⟩ := applyCreated_of_rep (addLinks_rep s.weMap s.hdrId h links (RepOk.init s)) (addLinks_err s links) hok
    rw [hr, hm]; rfl
  | batch data =>
    simp only [step_batch] at hok ⊢
    obtain ⟨r, hr, hm⟩ := applyCreated_of_rep (batch_rep s.weMap s.hdrId h data (RepOk.init s)) (batch_err s data) hok
    rw [hr, hm]; rfl
  | addRule a r =>
    simp only [step_addRule] at hok ⊢
    obtain ⟨rp, hr, hm⟩ := applyCreated_of_rep (addRule_rep h a r true) (addRule_err s a r true) hok
    rw [hr, hm]; rfl
  | create ps => exact edit trivial
  | delete w ps => exact edit trivial
  | addPrefix p w => exact edit trivial
  | removePrefix p w => exact edit trivial
  | movePrefix p tg src => exact edit trivial
  | removeRule a =>
    simp only [step_removeRule]
    rw [weMap_noStruct h (noStruct_removeRule s a).1 (noStruct_removeRule s a).2]
    cases (s.removeRule a).2 <;> rfl
  | reopen d rs =>
    simp only [step_reopen]
    exact weMap_trie_eq rfl
  | clear d rs => exact absurd rfl (hop d rs)

/-- attachments present before are untouched; every new one carries an id drawn in between -/
def WeGrows (s s' : State) : Prop :=
  s.hdrId ≤ s'.hdrId ∧ (∀ p, s.weMap p ≠ 0 → s'.weMap p = s.weMap p) ∧
  (∀ p, s.weMap p = 0 → s'.weMap p ≠ 0 → s.hdrId < s'.weMap p ∧ s'.weMap p ≤ s'.hdrId)

theorem RepOk.grows {s s' : State} {rep : Report} (h : RepOk s.weMap s.hdrId s' rep) : WeGrows s s' :=
  ⟨h.lo_le, h.old, h.fresh⟩

/-- the requests that submit pages (and may therefore create webentities automatically) -/
def IsPageOp : Op → Prop
  | .addPage _ _ | .addPages _ _ | .addLinks _ | .batch _ | .addRule _ _ => True
  | _ => False

/-- a page-submitting request never detaches or re-attaches an existing prefix, whatever it answers — in
    particular when it stops on a KeyError half-way; what it adds are automatic creations with fresh ids -/
theorem weMap_step_grows {s : State} {t : T} (h : Shape s t) (op : Op) (hp : IsPageOp op) :
    WeGrows s (s.step op).1 := by
  cases op with
  | addPage l c =>
    obtain ⟨rep', hr, _⟩ := (RepOk.init s).addPage h l c
    simp only [step_addPage, addPage_fst]; exact hr.grows
  | addPages ls c =>
    obtain ⟨rep', hr, _⟩ := addPagesGo_rep s.weMap s.hdrId s.cfg.addPagesAlwaysCrawled ls s t c {} h (RepOk.init s)
    simp only [step_addPages]; exact hr.grows
  | addLinks links =>
    obtain ⟨rep', hr, _⟩ := addLinks_rep s.weMap s.hdrId h links (RepOk.init s)
    simp only [step_addLinks]; exact hr.grows
  | batch data =>
    obtain ⟨rep', hr, _⟩ := batch_rep s.weMap s.hdrId h data (RepOk.init s)
    simp only [step_batch]; exact hr.grows
  | addRule a r =>
    obtain ⟨rep', hr, _⟩ := addRule_rep h a r true
    simp only [step_addRule]; exact hr.grows
  | _ => exact hp.elim

def specFold (M : LRU → Nat) (tr : List (Op × Ans)) : LRU → Nat :=
  tr.foldl (fun M oa => specOp M oa.1 oa.2) M

/-- NET EFFECT: after any history (no `clear`, no request answering KeyError) the prefix map of the index is
    the fold of the abstract edits over the transcript of the history -/
theorem weMap_run : ∀ (ops : List Op) (s : State) (t : T), Shape s t →
    (∀ op ∈ ops, ∀ d rs, op ≠ .clear d rs) → (∀ op ∈ ops, OpWfWe op) → NoKeyErr s ops →
    (s.run ops).weMap = specFold s.weMap (s.transcript ops) := by
  intro ops
  induction ops with
  | nil => exact fun _ _ _ _ _ _ => rfl
  | cons op ops ih =>
    intro s t h hop hwf hok
    obtain ⟨t1, h1, _⟩ := shape_step_any s t h op (hop op (by simp))
    have e1 := weMap_step h op (hop op (by simp)) (hwf op (by simp)) hok.1
    have e2 := ih (s.step op).1 t1 h1 (fun o ho => hop o (by simp [ho]))
      (fun o ho => hwf o (by simp [ho])) hok.2
    rw [run_cons, e2, e1]
    rfl

def pureRun (Mc : (LRU → Nat) × Nat) : List Op → ((LRU → Nat) × Nat) × List Ans
  | [] => (Mc, [])
  | op :: ops => ((pureRun (pureStep Mc op).1 ops).1, (pureStep Mc op).2 :: (pureRun (pureStep Mc op).1 ops).2)

theorem isEdit_not_clear {op : Op} (he : IsEdit op) : ∀ d rs, op ≠ .clear d rs := by
  intro d rs e; subst e; exact he

/-- histories made of explicit webentity requests only: the final map, the final counter and every answer
    are computed by the pure specification from the initial map and counter -/
theorem edits_run : ∀ (ops : List Op) (s : State) (t : T), Shape s t →
    (∀ op ∈ ops, IsEdit op) → (∀ op ∈ ops, OpWfWe op) →
    (((s.run ops).weMap, (s.run ops).hdrId), (s.transcript ops).map (·.2)) = pureRun (s.weMap, s.hdrId) ops := by
  intro ops
  induction ops with
  | nil => exact fun _ _ _ _ _ => rfl
  | cons op ops ih =>
    intro s t h he hwf
    obtain ⟨t1, h1, _⟩ := shape_step_any s t h op (isEdit_not_clear (he op (by simp)))
    have e1 := edit_step h op (he op (by simp)) (hwf op (by simp))
    have e2 := ih (s.step op).1 t1 h1 (fun o ho => he o (by simp [ho]))
      (fun o ho => hwf o (by simp [ho]))
    have e11 : ((s.step op).1.weMap, (s.step op).1.hdrId) = (pureStep (s.weMap, s.hdrId) op).1 := by rw [← e1]
    have e12 : (s.step op).2 = (pureStep (s.weMap, s.hdrId) op).2 := by rw [← e1]
    rw [run_cons]
    simp only [State.transcript, List.map_cons, pureRun]
    rw [← e11, ← e2, e12]

theorem addRule_nopage {s : State} {t : T} (h : Shape s t) (hn : NoPages s) (anchor : Bytes) (r : Rule)
    (w : Bool) :
    NoPages (s.addRule anchor r w).1 ∧ (s.addRule anchor r w).1.weMap = s.weMap := by
  cases w with
  | false => rw [addRule_false_eq]; exact ⟨hn, weMap_trie_eq rfl⟩
  | true =>
    obtain ⟨n2, e⟩ := addRule_of_noPages hn anchor r
    rw [e]
    dsimp only
    exact ⟨n2, weMap_rulePrologue h anchor r⟩

theorem installRules_nopage (rules : List (Bytes × Rule)) (s : State) (t : T) (w : Bool) (h : Shape s t)
    (hn : NoPages s) : (installRules s rules w).1.weMap = s.weMap :=
  (installRules_ind (P := fun s' => (∃ t, Shape s' t) ∧ NoPages s' ∧ s'.weMap = s.weMap) w rules s
    (fun _ ar _ ⟨⟨_, h⟩, hn, e⟩ =>
      have ⟨t1, x1, _⟩ := addRule_step h ar.1 ar.2 w
      have ⟨n1, w1⟩ := addRule_nopage h hn ar.1 ar.2 w
      ⟨⟨t1, x1.shape⟩, n1, w1.trans e⟩) ⟨⟨t, h⟩, hn, rfl⟩).2.2

theorem weMap_of_trie_init (s : State) (h : s.trie = #[{}]) : s.weMap = fun _ => 0 := by
  funext p
  unfold State.weMap State.lruNode
  rw [h]
  simp

theorem fresh_weMap (cfg : Config) (dflt : Rule) (rules : List (Bytes × Rule)) (log : List Write) :
    (State.fresh cfg dflt rules log).1.weMap = fun _ => 0 := by
  have h0 : Shape ({ cfg := cfg, dflt := dflt, log := .linkHdr :: .hdr 0 :: log } : State) .nil :=
    shape_of_trie_init _ rfl
  unfold State.fresh
  rw [installRules_nopage rules _ .nil true h0 (noPages_of_trie_init _ rfl)]
  exact weMap_of_trie_init _ rfl

theorem resolve_of_weMap {s : State} {t : T} (h : Shape s t) {M : LRU → Nat} (hM : s.weMap = M) (q : Bytes) :
    (∀ w, s.retrieveWebentity q = .ok w ↔ ∃ k, LongestAt M (lruIter q) k ∧ w = M ((lruIter q).take k)) ∧
    (∀ e, s.retrieveWebentity q = .error e ↔ e = .traph ∧ NoneAt M (lruIter q)) ∧
    (∀ p, s.retrievePrefix q = .ok p ↔ ∃ k, LongestAt M (lruIter q) k ∧ p = ((lruIter q).take k).flatten) ∧
    (∀ e, s.retrievePrefix q = .error e ↔ e = .traph ∧ NoneAt M (lruIter q)) := by
  subst hM
  exact ⟨retrieveWebentity_ok_iff q, retrieveWebentity_error_iff q, retrievePrefix_ok_iff q,
    retrievePrefix_error_iff q⟩

/-- C04 over histories, from any state satisfying the shape invariant: after the history, every LRU `q`
    (indexed or not) resolves to the webentity attached — in the NET map `specFold …`, i.e. after all
    creations, deletions, prefix additions / removals / moves and automatic creations so far — to the
    longest stem-prefix of `q` that carries one; both resolutions fail, with the library's own error,
    iff no stem-prefix carries one -/
theorem C04_history {s : State} {t : T} (h : Shape s t) (ops : List Op)
    (hop : ∀ op ∈ ops, ∀ d rs, op ≠ .clear d rs) (hwf : ∀ op ∈ ops, OpWfWe op) (hok : NoKeyErr s ops)
    (q : Bytes) :
    (∀ w, (s.run ops).retrieveWebentity q = .ok w ↔
      ∃ k, LongestAt (specFold s.weMap (s.transcript ops)) (lruIter q) k ∧
        w = specFold s.weMap (s.transcript ops) ((lruIter q).take k)) ∧
    (∀ e, (s.run ops).retrieveWebentity q = .error e ↔
      e = .traph ∧ NoneAt (specFold s.weMap (s.transcript ops)) (lruIter q)) ∧
    (∀ p, (s.run ops).retrievePrefix q = .ok p ↔
      ∃ k, LongestAt (specFold s.weMap (s.transcript ops)) (lruIter q) k ∧ p = ((lruIter q).take k).flatten) ∧
    (∀ e, (s.run ops).retrievePrefix q = .error e ↔
      e = .traph ∧ NoneAt (specFold s.weMap (s.transcript ops)) (lruIter q)) := by
  obtain ⟨t', h', _⟩ := shape_run_from s t h ops hop
  exact resolve_of_weMap h' (weMap_run ops s t h hop hwf hok) q

/-- C04 for histories on a fresh index: the net map starts empty -/
theorem C04_history_fresh (cfg : Config) (dflt : Rule) (rules : List (Bytes × Rule)) (ops : List Op)
    (hop : ∀ op ∈ ops, ∀ d rs, op ≠ .clear d rs) (hwf : ∀ op ∈ ops, OpWfWe op)
    (hok : NoKeyErr (State.fresh cfg dflt rules []).1 ops) (q : Bytes) :
    let s0 := (State.fresh cfg dflt rules []).1
    let M := specFold (fun _ => 0) (s0.transcript ops)
    (∀ w, (s0.run ops).retrieveWebentity q = .ok w ↔
      ∃ k, LongestAt M (lruIter q) k ∧ w = M ((lruIter q).take k)) ∧
    (∀ e, (s0.run ops).retrieveWebentity q = .error e ↔ e = .traph ∧ NoneAt M (lruIter q)) ∧
    (∀ p, (s0.run ops).retrievePrefix q = .ok p ↔
      ∃ k, LongestAt M (lruIter q) k ∧ p = ((lruIter q).take k).flatten) ∧
    (∀ e, (s0.run ops).retrievePrefix q = .error e ↔ e = .traph ∧ NoneAt M (lruIter q)) := by
  intro s0 M
  obtain ⟨t0, h0, _⟩ := fresh_spec cfg dflt rules []
  have := C04_history h0 ops hop hwf hok q
  rw [fresh_weMap] at this
  exact this

/-- C04 for histories of explicit webentity requests: the net map is computed by the pure specification
    `pureRun` from the initial map and id counter alone -/
theorem C04_history_edits {s : State} {t : T} (h : Shape s t) (ops : List Op)
    (he : ∀ op ∈ ops, IsEdit op) (hwf : ∀ op ∈ ops, OpWfWe op) (q : Bytes) :
    let M := (pureRun (s.weMap, s.hdrId) ops).1.1
    (∀ w, (s.run ops).retrieveWebentity q = .ok w ↔
      ∃ k, LongestAt M (lruIter q) k ∧ w = M ((lruIter q).take k)) ∧
    (∀ e, (s.run ops).retrieveWebentity q = .error e ↔ e = .traph ∧ NoneAt M (lruIter q)) ∧
    (∀ p, (s.run ops).retrievePrefix q = .ok p ↔
      ∃ k, LongestAt M (lruIter q) k ∧ p = ((lruIter q).take k).flatten) ∧
    (∀ e, (s.run ops).retrievePrefix q = .error e ↔ e = .traph ∧ NoneAt M (lruIter q)) := by
  intro M
  obtain ⟨t', h', _⟩ := shape_run_from s t h ops (fun op ho => isEdit_not_clear (he op ho))
  have e := edits_run ops s t h he hwf
  have hM : (s.run ops).weMap = M := by
    show _ = (pureRun (s.weMap, s.hdrId) ops).1.1
    rw [← e]
  exact resolve_of_weMap h' hM q

end Traph

section
open Traph
#print axioms weMap_step
#print axioms weMap_run
#print axioms weMap_step_grows
#print axioms edits_run
#print axioms fresh_weMap
#print axioms C04_history
#print axioms C04_history_fresh
#print axioms C04_history_edits
end
