import Proofs.Small
import Proofs.Dict
/-! C07, the aggregation layer (no index state involved before `cdSlowStep` at the end). An answer of `get_webentities_links` is a list of
    rows (`NetRow`: source webentity, a `Counter` of target webentities in insertion order, two page
    tallies). Everything the two variants do to such an answer is `netTouch` (find the row of a source,
    creating it at the end if missing, and update it). An answer is read by sums (`netSum`, `netW`, `ctr`), which
    need no well-formedness; `NetOk` (one row per source, one entry per target, positive weights) is kept by every
    update and turns them into look-ups. -/
namespace Traph
open State

/-- total recorded under key `B` (for a well-formed counter: the value of the single entry, else 0) -/
def ctr (d : List (Nat × Nat)) (B : Nat) : Nat := ((d.filter (fun kw => decide (kw.1 = B))).map (·.2)).sum

@[simp] theorem ctr_nil (B : Nat) : ctr [] B = 0 := rfl

theorem ctr_counterAdd (d : List (Nat × Nat)) (k w B : Nat) :
    ctr (counterAdd d k w) B = ctr d B + (if k = B then w else 0) := by
  rw [counterAdd_eq_upsert]
  exact ksum_upsert (·.1) (fun p => (p.1, p.2 + w)) (k, 0) k (fun _ => rfl) rfl (·.2) w rfl (fun _ => rfl) B d

theorem ctr_of_not_mem (d : List (Nat × Nat)) (B : Nat) (h : B ∉ d.map (·.1)) : ctr d B = 0 :=
  ksum_of_not_mem (fun kw : Nat × Nat => kw.1) (fun kw => kw.2) d B h

theorem ctr_of_mem (d : List (Nat × Nat)) (B w : Nat) (hnd : (d.map (·.1)).Nodup) (h : (B, w) ∈ d) : ctr d B = w :=
  ksum_of_mem (fun kw : Nat × Nat => kw.1) (fun kw => kw.2) d (B, w) hnd h

/-- the row `netTouch` creates for a source met for the first time -/
def NetRow.fresh (A : Nat) : NetRow := { src := A, targets := [] }

/-- sum of a reading `φ` over the rows of source `A` (for a well-formed answer: `φ` of the single row, else 0) -/
def netSum (φ : NetRow → Nat) (g : List NetRow) (A : Nat) : Nat :=
  ((g.filter (fun r => decide (r.src = A))).map φ).sum

/-- the weight an answer records from webentity `A` to webentity `B` -/
def netW (g : List NetRow) (A B : Nat) : Nat := netSum (fun r => ctr r.targets B) g A

@[simp] theorem netSum_nil (φ : NetRow → Nat) (A : Nat) : netSum φ [] A = 0 := rfl

theorem netTouch_nil (A : Nat) (f : NetRow → NetRow) : netTouch [] A f = [f (NetRow.fresh A)] := rfl

theorem netTouch_cons (r : NetRow) (g : List NetRow) (A : Nat) (f : NetRow → NetRow) :
    netTouch (r :: g) A f = if r.src = A then f r :: g else r :: netTouch g A f := rfl

theorem netTouch_eq_upsert (g : List NetRow) (A : Nat) (f : NetRow → NetRow) :
    netTouch g A f = upsert (·.src) f (NetRow.fresh A) A g := by
  induction g with
  | nil => rfl
  | cons r g ih => rw [netTouch_cons, ih]; rfl

theorem netSum_netTouch (φ : NetRow → Nat) (f : NetRow → NetRow) (δ : Nat)
    (hsrc : ∀ r, (f r).src = r.src) (h0 : ∀ A, φ (NetRow.fresh A) = 0) (hφ : ∀ r, φ (f r) = φ r + δ)
    (g : List NetRow) (A A' : Nat) :
    netSum φ (netTouch g A f) A' = netSum φ g A' + (if A = A' then δ else 0) := by
  rw [netTouch_eq_upsert]
  exact ksum_upsert (·.src) f (NetRow.fresh A) A hsrc rfl φ δ (h0 A) hφ A' g

theorem netTouch_mem_srcs (f : NetRow → NetRow) (hsrc : ∀ r, (f r).src = r.src) (g : List NetRow) (A x : Nat) :
    x ∈ (netTouch g A f).map (·.src) ↔ x ∈ g.map (·.src) ∨ x = A := by
  rw [netTouch_eq_upsert]
  exact mem_upsert_keys (·.src) f (NetRow.fresh A) A hsrc rfl g x

theorem netTouch_srcs_nodup (f : NetRow → NetRow) (hsrc : ∀ r, (f r).src = r.src) (g : List NetRow) (A : Nat)
    (h : (g.map (·.src)).Nodup) : ((netTouch g A f).map (·.src)).Nodup := by
  rw [netTouch_eq_upsert]
  exact upsert_keys_nodup (·.src) f (NetRow.fresh A) A hsrc rfl g h

theorem netTouch_all (Good : NetRow → Prop) (f : NetRow → NetRow) (hfresh : ∀ A, Good (NetRow.fresh A))
    (hf : ∀ r, Good r → Good (f r)) (g : List NetRow) (A : Nat) (h : ∀ r ∈ g, Good r) :
    ∀ r ∈ netTouch g A f, Good r := by
  rw [netTouch_eq_upsert]
  exact upsert_all (·.src) f (NetRow.fresh A) A Good (hf _ (hfresh A)) hf g h

/-- what both variants are: a left fold of `netTouch` over a list of update requests -/
def netFold {α : Type} (key : α → Nat) (f : α → NetRow → NetRow) (g : List NetRow) (l : List α) : List NetRow :=
  l.foldl (fun g x => netTouch g (key x) (f x)) g

theorem netFold_nil {α : Type} (key : α → Nat) (f : α → NetRow → NetRow) (g : List NetRow) :
    netFold key f g [] = g := rfl

theorem netFold_cons {α : Type} (key : α → Nat) (f : α → NetRow → NetRow) (g : List NetRow) (x : α) (l : List α) :
    netFold key f g (x :: l) = netFold key f (netTouch g (key x) (f x)) l := rfl

theorem netFold_sum {α : Type} (key : α → Nat) (f : α → NetRow → NetRow) (φ : NetRow → Nat) (δ : α → Nat)
    (hsrc : ∀ x r, (f x r).src = r.src) (h0 : ∀ A, φ (NetRow.fresh A) = 0)
    (hφ : ∀ x r, φ (f x r) = φ r + δ x) (A : Nat) : ∀ (l : List α) (g : List NetRow),
    netSum φ (netFold key f g l) A = netSum φ g A + ((l.filter (fun x => decide (key x = A))).map δ).sum
  | [], g => by simp [netFold_nil]
  | x :: l, g => by
    rw [netFold_cons, netFold_sum key f φ δ hsrc h0 hφ A l, netSum_netTouch φ (f x) (δ x) (hsrc x) h0 (hφ x)]
    by_cases hk : key x = A
    · rw [if_pos hk, List.filter_cons_of_pos (by simpa using hk)]
      simp only [List.map_cons, List.sum_cons]; omega
    · rw [if_neg hk, List.filter_cons_of_neg (by simpa using hk)]; omega

theorem netFold_mem_srcs {α : Type} (key : α → Nat) (f : α → NetRow → NetRow)
    (hsrc : ∀ x r, (f x r).src = r.src) (A : Nat) : ∀ (l : List α) (g : List NetRow),
    A ∈ (netFold key f g l).map (·.src) ↔ A ∈ g.map (·.src) ∨ ∃ x ∈ l, key x = A
  | [], g => by simp [netFold_nil]
  | x :: l, g => by
    rw [netFold_cons, netFold_mem_srcs key f hsrc A l, netTouch_mem_srcs (f x) (hsrc x)]
    simp only [List.mem_cons, exists_eq_or_imp]
    constructor
    · rintro ((h | h) | h)
      · exact Or.inl h
      · exact Or.inr (Or.inl h.symm)
      · exact Or.inr (Or.inr h)
    · rintro (h | h | h)
      · exact Or.inl (Or.inl h)
      · exact Or.inl (Or.inr h.symm)
      · exact Or.inr h

theorem netFold_srcs_nodup {α : Type} (key : α → Nat) (f : α → NetRow → NetRow)
    (hsrc : ∀ x r, (f x r).src = r.src) : ∀ (l : List α) (g : List NetRow),
    (g.map (·.src)).Nodup → ((netFold key f g l).map (·.src)).Nodup
  | [], _, h => h
  | x :: l, g, h => by
    rw [netFold_cons]
    exact netFold_srcs_nodup key f hsrc l _ (netTouch_srcs_nodup (f x) (hsrc x) g (key x) h)

theorem netFold_all {α : Type} (key : α → Nat) (f : α → NetRow → NetRow) (Good : NetRow → Prop)
    (hfresh : ∀ A, Good (NetRow.fresh A)) : ∀ (l : List α) (g : List NetRow),
    (∀ x ∈ l, ∀ r, Good r → Good (f x r)) → (∀ r ∈ g, Good r) → ∀ r ∈ netFold key f g l, Good r
  | [], _, _, h => h
  | x :: l, g, hf, h => by
    rw [netFold_cons]
    exact netFold_all key f Good hfresh l _ (fun y hy => hf y (List.mem_cons_of_mem _ hy))
      (netTouch_all Good (f x) hfresh (hf x (List.mem_cons_self ..)) g (key x) h)

structure NetOk (g : List NetRow) : Prop where
  rows : (g.map (·.src)).Nodup
  keys : ∀ r ∈ g, (r.targets.map (·.1)).Nodup
  pos  : ∀ r ∈ g, ∀ kw ∈ r.targets, 0 < kw.2

theorem netSum_of_not_mem (φ : NetRow → Nat) (g : List NetRow) (A : Nat) (h : A ∉ g.map (·.src)) : netSum φ g A = 0 :=
  ksum_of_not_mem (fun r : NetRow => r.src) φ g A h

theorem netSum_of_mem (φ : NetRow → Nat) (g : List NetRow) (r : NetRow) (hnd : (g.map (·.src)).Nodup) (h : r ∈ g) :
    netSum φ g r.src = φ r :=
  ksum_of_mem (fun r : NetRow => r.src) φ g r hnd h

theorem NetOk.weight_of_mem {g : List NetRow} (ok : NetOk g) {r : NetRow} (hr : r ∈ g) {B w : Nat}
    (hB : (B, w) ∈ r.targets) : netW g r.src B = w := by
  unfold netW
  rw [netSum_of_mem _ g r ok.rows hr]
  exact ctr_of_mem _ _ _ (ok.keys r hr) hB

theorem NetOk.mem_of_weight_pos {g : List NetRow} (ok : NetOk g) {A B : Nat} (h : 0 < netW g A B) :
    ∃ r ∈ g, r.src = A ∧ (B, netW g A B) ∈ r.targets := by
  by_cases hA : A ∈ g.map (·.src)
  · obtain ⟨r, hr, rfl⟩ := List.mem_map.mp hA
    refine ⟨r, hr, rfl, ?_⟩
    unfold netW at h ⊢
    rw [netSum_of_mem _ g r ok.rows hr] at h ⊢
    by_cases hB : B ∈ r.targets.map (·.1)
    · obtain ⟨⟨k, w⟩, hkw, rfl⟩ := List.mem_map.mp hB
      rw [ctr_of_mem _ _ _ (ok.keys r hr) hkw]; exact hkw
    · rw [ctr_of_not_mem _ _ hB] at h; omega
  · unfold netW at h
    rw [netSum_of_not_mem _ g A hA] at h; omega

theorem NetOk.edge_iff {g : List NetRow} (ok : NetOk g) (A B w : Nat) :
    (∃ r ∈ g, r.src = A ∧ (B, w) ∈ r.targets) ↔ 0 < w ∧ w = netW g A B := by
  constructor
  · rintro ⟨r, hr, rfl, hB⟩
    exact ⟨ok.pos r hr _ hB, (ok.weight_of_mem hr hB).symm⟩
  · rintro ⟨hpos, rfl⟩
    exact ok.mem_of_weight_pos hpos

/-- `graph.get(A)` -/
def netRow? (g : List NetRow) (A : Nat) : Option NetRow := g.find? (fun r => decide (r.src = A))

/-- `graph[A][B]` with both defaults (missing row, missing entry) read as 0 -/
def netGet (g : List NetRow) (A B : Nat) : Nat :=
  match netRow? g A with
  | none => 0
  | some r => (dictGet? r.targets B).getD 0

theorem NetOk.netGet_eq {g : List NetRow} (ok : NetOk g) (A B : Nat) : netGet g A B = netW g A B := by
  unfold netGet netRow?
  cases hf : g.find? (fun r => decide (r.src = A)) with
  | none =>
    have hA : A ∉ g.map (·.src) := by
      intro hm
      obtain ⟨r, hr, e⟩ := List.mem_map.mp hm
      exact absurd (List.find?_eq_none.mp hf r hr) (by simpa using e)
    unfold netW
    rw [netSum_of_not_mem _ g A hA]
  | some r =>
    have hr := List.mem_of_find?_eq_some hf
    have hs : r.src = A := by simpa using List.find?_some hf
    subst hs
    unfold netW
    rw [netSum_of_mem _ g r ok.rows hr]
    simp only
    cases hd : dictGet? r.targets B with
    | none =>
      rw [ctr_of_not_mem _ _ fun hm => by obtain ⟨w, hw⟩ := dictGet?_of_key hm; rw [hd] at hw; cases hw]
      rfl
    | some w => rw [ctr_of_mem _ _ _ (ok.keys r hr) (dictGet?_mem _ _ _ hd)]; rfl

theorem NetOk.targets_nil_iff {g : List NetRow} (ok : NetOk g) {r : NetRow} (hr : r ∈ g) :
    r.targets = [] ↔ ∀ B, netW g r.src B = 0 := by
  constructor
  · intro e B
    unfold netW
    rw [netSum_of_mem _ g r ok.rows hr]
    simp only [e]; rfl
  · intro h
    cases ht : r.targets with
    | nil => rfl
    | cons kw rest =>
      have hm : (kw.1, kw.2) ∈ r.targets := by rw [ht]; exact List.mem_cons_self ..
      have := ok.weight_of_mem hr hm
      have hpos := ok.pos r hr _ hm
      rw [h kw.1] at this
      simp only at hpos
      omega

theorem netOk_nil : NetOk [] := ⟨by simp, by simp, by simp⟩

theorem netFold_ok {α : Type} (key : α → Nat) (f : α → NetRow → NetRow)
    (hsrc : ∀ x r, (f x r).src = r.src) (l : List α)
    (hf : ∀ x ∈ l, ∀ r : NetRow, ((r.targets.map (·.1)).Nodup ∧ ∀ kw ∈ r.targets, 0 < kw.2) →
      (((f x r).targets.map (·.1)).Nodup ∧ ∀ kw ∈ (f x r).targets, 0 < kw.2))
    (g : List NetRow) (ok : NetOk g) : NetOk (netFold key f g l) := by
  have hall := netFold_all key f (fun r => (r.targets.map (·.1)).Nodup ∧ ∀ kw ∈ r.targets, 0 < kw.2)
    (fun A => by simp [NetRow.fresh]) l g hf (fun r hr => ⟨ok.keys r hr, ok.pos r hr⟩)
  exact ⟨netFold_srcs_nodup key f hsrc l g ok.rows, fun r hr => (hall r hr).1, fun r hr => (hall r hr).2⟩

/-- `graph[A][B] += w` on the row `r` of `A`; an event `e` is (source webentity `A`, target webentity `B`, weight `w`) -/
def netAdd (e : Nat × Nat × Nat) (r : NetRow) : NetRow := { r with targets := counterAdd r.targets e.2.1 e.2.2 }

/-- total weight of the events of `es` from webentity `A` to webentity `B` -/
def esum (A B : Nat) (es : List (Nat × Nat × Nat)) : Nat :=
  ((es.filter (fun e => decide (e.1 = A ∧ e.2.1 = B))).map (·.2.2)).sum

@[simp] theorem esum_nil (A B : Nat) : esum A B [] = 0 := rfl

theorem esum_cons (A B : Nat) (e : Nat × Nat × Nat) (es : List (Nat × Nat × Nat)) :
    esum A B (e :: es) = (if e.1 = A ∧ e.2.1 = B then e.2.2 else 0) + esum A B es := by
  unfold esum
  by_cases h : e.1 = A ∧ e.2.1 = B
  · rw [List.filter_cons_of_pos (by simpa using h), if_pos h]; simp
  · rw [List.filter_cons_of_neg (by simpa using h), if_neg h]; simp

theorem esum_append (A B : Nat) (l₁ l₂ : List (Nat × Nat × Nat)) :
    esum A B (l₁ ++ l₂) = esum A B l₁ + esum A B l₂ := by
  unfold esum; rw [List.filter_append, List.map_append, List.sum_append]

theorem esum_flatMap {α : Type} (A B : Nat) (F : α → List (Nat × Nat × Nat)) : ∀ (l : List α),
    esum A B (l.flatMap F) = (l.map (fun x => esum A B (F x))).sum
  | [] => rfl
  | x :: l => by rw [List.flatMap_cons, esum_append, esum_flatMap A B F l]; simp

theorem netW_events (g : List NetRow) (es : List (Nat × Nat × Nat)) (A B : Nat) :
    netW (netFold (·.1) netAdd g es) A B = netW g A B + esum A B es := by
  have hsum : ∀ (l : List (Nat × Nat × Nat)),
      ((l.filter (fun e => decide (e.1 = A))).map (fun e => if e.2.1 = B then e.2.2 else 0)).sum = esum A B l := by
    intro l
    induction l with
    | nil => rfl
    | cons e l ih =>
      rw [esum_cons, ← ih]
      by_cases h1 : e.1 = A
      · rw [List.filter_cons_of_pos (by simpa using h1)]
        simp only [List.map_cons, List.sum_cons, h1, true_and]
      · rw [List.filter_cons_of_neg (by simpa using h1)]
        simp [h1]
  unfold netW
  rw [netFold_sum (·.1) netAdd (fun r => ctr r.targets B) (fun e => if e.2.1 = B then e.2.2 else 0)
    (fun _ _ => rfl) (fun _ => rfl) (fun e r => ctr_counterAdd r.targets e.2.1 e.2.2 B) A es g, hsum]

theorem netSum_events (φ : NetRow → Nat) (hφ : ∀ e r, φ (netAdd e r) = φ r) (h0 : ∀ A, φ (NetRow.fresh A) = 0)
    (g : List NetRow) (es : List (Nat × Nat × Nat)) (A : Nat) :
    netSum φ (netFold (·.1) netAdd g es) A = netSum φ g A := by
  rw [netFold_sum (·.1) netAdd φ (fun _ => 0) (fun _ _ => rfl) h0 (fun e _ => by rw [hφ]; rfl) A es g]
  rw [List.map_const', List.sum_replicate_nat]; rfl

theorem netOk_events (g : List NetRow) (es : List (Nat × Nat × Nat)) (hpos : ∀ e ∈ es, 0 < e.2.2) (ok : NetOk g) :
    NetOk (netFold (·.1) netAdd g es) :=
  netFold_ok (·.1) netAdd (fun _ _ => rfl) es
    (fun e he _ hr => ⟨counterAdd_keys_nodup _ _ _ hr.1, counterAdd_pos _ _ _ (hpos e he) hr.2⟩) g ok

/-! `get_webentities_links_slow` as a fold over the walk. -/

section SL
variable (s : State) (out auto : Bool)

/-- one Counter entry of the page of webentity `src` -/
def cdSlowInner (src : Nat) (acc : List NetRow × List (Nat × Nat)) (tw : Nat × Nat) : List NetRow × List (Nat × Nat) :=
  let (tWe, cache) := match dictGet? acc.2 tw.1 with
    | some w => (w, acc.2)
    | none => let w := s.windupWe tw.1; (w, if w = 0 then acc.2 else dictSet acc.2 tw.1 w)
  if tWe = 0 then (acc.1, cache)
  else if !auto && src = tWe then (acc.1, cache)
  else (netTouch acc.1 src (fun r => { r with targets := counterAdd r.targets tWe tw.2 }), cache)

/-- one node of the walk -/
def cdSlowStep (acc : List NetRow × List (Nat × Nat)) (bw : Nat × Nat) : List NetRow × List (Nat × Nat) :=
  let c := s.cell bw.1
  let head := if out then c.out else c.inn
  if !c.flags.page || head = 0 || bw.2 = 0 then acc else
  (s.weighted head).foldl (cdSlowInner s auto bw.2) (acc.1, dictSet acc.2 bw.1 bw.2)

theorem cd_networkSlow_eq : s.networkSlow out auto = (s.dfsWe.foldl (cdSlowStep s out auto) ([], [])).1 := rfl

end SL

end Traph
