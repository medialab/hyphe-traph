import Proofs.ParentInv
import Proofs.InsertAttrs
/-! `add_lru` preserves the parent invariant `ParOk`: a new sibling is written with the parent of the
    sibling it is hooked to, a new child with the block of its parent node, the first node of an empty trie
    with 0; old blocks keep their `parent` field. This is what `addLru_grow_inv` asks of a property that is to
    survive the insertion. -/
namespace Traph
open State

theorem parent_write_old (s : State) (q : Nat) (sl : Slot) (x : Stem) (par : Nat) (ch : Bool) (v : Nat)
    (a : Nat) (ha : a < s.trie.size) :
    (((s.writeNew x par ch).1.modCell q (fun c => c.setSlot sl v)).cell a).parent = (s.cell a).parent := by
  rw [parent_modCell _ _ _ (fun c => parent_setSlot c _ _), cell_writeNew_old s x par ch a ha]

theorem parent_write_new (s : State) (q : Nat) (sl : Slot) (x : Stem) (par : Nat) (ch : Bool) (v : Nat) :
    (((s.writeNew x par ch).1.modCell q (fun c => c.setSlot sl v)).cell s.trie.size).parent = par := by
  rw [parent_modCell _ _ _ (fun c => parent_setSlot c _ _), cell_writeNew_head]; rfl

theorem parOk_insInv : InsInv (fun s t => ParOk s t 0) where
  first := fun s stem hsz _ => ParOk.leaf (by rw [← hsz, cell_writeNew_head]; rfl)
  mark := fun n b hp => hp.markCanHave n b
  write := fun x ch h _ hp =>
    hp.graft (fun a ha => parent_write_old _ _ _ x _ ch _ a (h.rep.lt_size a ha)) (parent_write_new ..)

theorem addLru_parOk {s : State} {t : T} (h : Shape s t) (hp : ParOk s t 0) (stems : LRU) (hne : stems ≠ [])
    (flag : Bool) :
    ∃ t', Grow stems s t (s.addLru stems flag).1 t' ∧ ParOk (s.addLru stems flag).1 t' 0 ∧
      (stems, (s.addLru stems flag).2.1) ∈ t'.entries (s.addLru stems flag).1 [] :=
  addLru_grow_inv parOk_insInv h hp stems flag hne

theorem parOk_nil (s : State) : ParOk s .nil 0 := trivial

#print axioms addLru_parOk

end Traph
