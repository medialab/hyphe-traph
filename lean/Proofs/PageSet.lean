import Proofs.ShapeOps
import Proofs.Traverse
import Proofs.NewCount
import Proofs.Paged
/-! C01, the page-set refinement: what every write request does to the set of pages / crawled pages
    denoted by the tree, and what it reports. Also `NoPages` (on an index without pages a new rule re-inserts
    nothing) and what `pages_iter` lists (`pagesIter_iff`, `C01_pagesIter`). -/
namespace Traph
open State Layout

/-- no block is a page: the index right after creation or `clear`, and after the rules are installed -/
def NoPages (s : State) : Prop := ∀ b, (s.cell b).flags.page = false

theorem noPages_of_trie_init (s : State) (h : s.trie = #[{}]) : NoPages s := by
  intro b
  rw [cell_of_trie_init h]

theorem NoPages.attrStep {s s' : State} (h : NoPages s) (a : AttrStep s s') : NoPages s' := by
  intro b
  by_cases hb : b < s.trie.size
  · rw [(a.old b hb).page]; exact h b
  · exact (a.new b (Nat.le_of_not_lt hb)).page

theorem NoPages.setRule {s : State} (h : NoPages s) (n : Nat) (v : Bool) :
    NoPages (s.modCell n (fun c => { c with flags := { c.flags with rule := v } })) := by
  intro b
  rw [cell_modCell]
  split
  · exact h b
  · exact h b

theorem addRuleLoop_noPages (start fuel : Nat) (s : State) (stack : List (Nat × Bytes)) (rep : Report)
    (h : NoPages s) : addRuleLoop start fuel s stack rep = (s, .ok rep) := by
  have r := addRuleLoop_run start fuel s stack rep
  generalize addRuleLoop start fuel s stack rep = out at r ⊢
  induction r with
  | stop => rfl
  | skip _ _ ih => exact ih h
  | @fail s b _ _ _ _ _ _ hp => rw [h b] at hp; cases hp
  | @page s b _ _ _ _ _ _ _ hp => rw [h b] at hp; cases hp

/-- on an index without pages a rule installation is its prologue: the walk meets no page -/
theorem addRule_of_noPages {s : State} (h : NoPages s) (a : Bytes) (r : Rule) :
    NoPages (s.rulePrologue a r).1 ∧ s.addRule a r true = ((s.rulePrologue a r).1, .ok {}) := by
  have n2 : NoPages (s.rulePrologue a r).1 :=
    (NoPages.attrStep (s := { s with rules := dictSet s.rules a r }) h (attrStep_addLru _ _ _)).setRule _ true
  exact ⟨n2, by rw [addRule_true_eq, addRuleLoop_noPages _ _ _ _ _ n2]⟩

theorem adds_flagWrite {s s' : State} {t : T} (h : Shape s t) (hi : Inv s t) (n : NoStruct s s')
    {stems : LRU} {b0 : Nat} (hm : (stems, b0) ∈ t.entries s []) (cr : Bool)
    (hother : ∀ b, b ≠ b0 → (s'.cell b).flags.page = (s.cell b).flags.page ∧
      (s'.cell b).flags.crawled = (s.cell b).flags.crawled)
    (hpage : (s'.cell b0).flags.page = true)
    (hcr : (s'.cell b0).flags.crawled = ((s.cell b0).flags.crawled || cr)) :
    Adds s t s' t [(stems, cr, cr)] := by
  have e := n.entries t []
  have uniq : ∀ p, (p, b0) ∈ t.entries s [] → stems = p := fun p hp => entries_addr_injective h.nodup hm hp
  refine ⟨⟨?_, ?_⟩, ?_, ?_, ?_⟩
  · intro p b hm'; rw [e] at hm'; exact hi.wf p b hm'
  · intro p b hm' hc
    rw [e] at hm'
    by_cases hb : b = b0
    · subst hb; exact hpage
    · rw [(hother b hb).1]; rw [(hother b hb).2] at hc; exact hi.flags p b hm' hc
  · intro p
    simp only [List.mem_singleton, exists_eq_left]
    constructor
    · rintro ⟨b, hm', hp⟩
      rw [e] at hm'
      by_cases hb : b = b0
      · subst hb; exact Or.inr (uniq p hm')
      · exact Or.inl ⟨b, hm', by rw [← (hother b hb).1]; exact hp⟩
    · rintro (⟨b, hm', hp⟩ | rfl)
      · refine ⟨b, by rw [e]; exact hm', ?_⟩
        by_cases hb : b = b0
        · subst hb; exact hpage
        · rw [(hother b hb).1]; exact hp
      · exact ⟨b0, by rw [e]; exact hm, hpage⟩
  · rintro p ⟨b, hm', hp, hc⟩
    rw [e] at hm'
    simp only [List.mem_singleton, exists_eq_left]
    by_cases hb : b = b0
    · subst hb
      have hu := uniq p hm'
      rw [hcr] at hc
      cases cr with
      | true => exact Or.inr ⟨hu, rfl⟩
      | false =>
        simp only [Bool.or_false] at hc
        exact Or.inl ⟨b, hm', hi.flags p b hm' hc, hc⟩
    · exact Or.inl ⟨b, hm', by rw [← (hother b hb).1]; exact hp, by rw [← (hother b hb).2]; exact hc⟩
  · rintro p (⟨b, hm', hp, hc⟩ | h2)
    · refine ⟨b, by rw [e]; exact hm', ?_, ?_⟩
      · by_cases hb : b = b0
        · subst hb; exact hpage
        · rw [(hother b hb).1]; exact hp
      · by_cases hb : b = b0
        · subst hb; rw [hcr, hc]; rfl
        · rw [(hother b hb).2]; exact hc
    · simp only [List.mem_singleton, exists_eq_left] at h2
      obtain ⟨rfl, rfl⟩ := h2
      exact ⟨b0, by rw [e]; exact hm, hpage, by rw [hcr]; simp⟩

theorem page_iff_isPage {s : State} {t : T} (h : Shape s t) {stems : LRU} {n : Nat}
    (hm : (stems, n) ∈ t.entries s []) : (s.cell n).flags.page = true ↔ IsPage s t stems :=
  ⟨fun hp => ⟨n, hm, hp⟩, fun ⟨b, hb, hp⟩ => by
    rw [entries_path_injective h.ord h.nodup hm hb]; exact hp⟩

theorem addPageTrie_finish {s s1 s2 : State} {t t1 : T} {stems : LRU} {n : Nat} {c : Bool}
    (k1 : Keeps s t s1 t1) (hent : stems ≠ [] → (stems, n) ∈ t1.entries s1 [])
    (ns : NoStruct s1 s2)
    (hother : ∀ b, b ≠ n → (s2.cell b).flags.page = (s1.cell b).flags.page ∧
      (s2.cell b).flags.crawled = (s1.cell b).flags.crawled)
    (hpage : n < s1.trie.size → (s2.cell n).flags.page = true)
    (hcr : n < s1.trie.size → (s2.cell n).flags.crawled = ((s1.cell n).flags.crawled || c)) :
    Ext s t s2 t1 ∧ (stems ≠ [] → (stems, n) ∈ t1.entries s2 [] ∧ (s2.cell n).flags.page = true ∧
      (Inv s t → Adds s t s2 t1 [(stems, c, c)])) := by
  refine ⟨k1.ext.trans (ns.ext k1.shape), fun hne => ?_⟩
  have hm := hent hne
  have hlt := entry_lt k1.shape hm
  refine ⟨by rw [ns.entries]; exact hm, hpage hlt, fun hi => ?_⟩
  have a1 := k1.adds hi
  exact a1.trans (adds_flagWrite k1.shape a1.inv ns hm c hother (hpage hlt) (hcr hlt))

theorem addPageTrie_step {s : State} {t : T} (h : Shape s t) (stems : LRU) (c : Bool)
    (hst : ∀ x ∈ stems, StemWf x) :
    ∃ t', Ext s t (s.addPageTrie stems c).1 t' ∧ (stems ≠ [] →
      (stems, (s.addPageTrie stems c).2.1) ∈ t'.entries (s.addPageTrie stems c).1 [] ∧
      ((s.addPageTrie stems c).1.cell (s.addPageTrie stems c).2.1).flags.page = true ∧
      (Inv s t → Adds s t (s.addPageTrie stems c).1 t' [(stems, c, c)] ∧
        ((s.addPageTrie stems c).2.2.created = true ↔ ¬ IsPage s t stems))) := by
  obtain ⟨t1, k1, hent⟩ := keeps_addLru h stems false hst
  have hcre := addLru_created s stems false
  rcases ha : s.addLru stems false with ⟨s1, n, hh⟩
  rw [ha] at k1 hent hcre
  simp only at hent hcre k1
  have hpi : stems ≠ [] → Inv s t → ((s1.cell n).flags.page = true ↔ IsPage s t stems) := fun hne hi => by
    rw [page_iff_isPage k1.shape (hent hne), k1.page hi]
  unfold addPageTrie
  rw [ha]
  simp only
  by_cases hpg : (s1.cell n).flags.page = true
  · by_cases hcr : (c && !(s1.cell n).flags.crawled) = true
    · rw [if_neg (by simp [hpg]), if_pos hcr]
      simp only [Bool.and_eq_true, Bool.not_eq_true'] at hcr
      obtain ⟨f1, f2⟩ := addPageTrie_finish (c := c) k1 hent
        (noStruct_markCrawled s1 n)
        (fun b hb => by rw [cell_modCell, if_neg (fun hx => hb hx.1.symm)]; exact ⟨rfl, rfl⟩)
        (fun hlt => by rw [cell_modCell, if_pos ⟨rfl, hlt⟩]; exact hpg)
        (fun hlt => by rw [cell_modCell, if_pos ⟨rfl, hlt⟩]; simp [hcr.1])
      refine ⟨t1, f1, fun hne => ?_⟩
      obtain ⟨g1, g2, g3⟩ := f2 hne
      refine ⟨g1, g2, fun hi => ⟨g3 hi, ?_⟩⟩
      rw [hcre, ← hpi hne hi]; simp [hpg]
    · rw [if_neg (by simp [hpg]), if_neg hcr]
      obtain ⟨f1, f2⟩ := addPageTrie_finish (c := c) k1 hent (NoStruct.refl s1)
        (fun b hb => ⟨rfl, rfl⟩) (fun _ => hpg)
        (fun _ => by cases c <;> cases hx : (s1.cell n).flags.crawled <;> simp_all)
      refine ⟨t1, f1, fun hne => ?_⟩
      obtain ⟨g1, g2, g3⟩ := f2 hne
      refine ⟨g1, g2, fun hi => ⟨g3 hi, ?_⟩⟩
      rw [hcre, ← hpi hne hi]; simp [hpg]
  · have hpf : (s1.cell n).flags.page = false := by simpa using hpg
    rw [if_pos (by simp [hpf])]
    obtain ⟨f1, f2⟩ := addPageTrie_finish (c := c) k1 hent
      (noStruct_modCell s1 n (fun c' => { c' with flags := { c'.flags with page := true, crawled := c'.flags.crawled || c } })
        (fun _ => ⟨rfl, rfl, rfl, rfl, rfl⟩))
      (fun b hb => by rw [cell_modCell, if_neg (fun hx => hb hx.1.symm)]; exact ⟨rfl, rfl⟩)
      (fun hlt => by rw [cell_modCell, if_pos ⟨rfl, hlt⟩])
      (fun hlt => by rw [cell_modCell, if_pos ⟨rfl, hlt⟩])
    refine ⟨t1, f1, fun hne => ?_⟩
    obtain ⟨g1, g2, g3⟩ := f2 hne
    refine ⟨g1, g2, fun hi => ⟨g3 hi, ?_⟩⟩
    rw [← hpi hne hi]; simp [hpf]


theorem createWebentityAuto_pages (s : State) (x : Bytes) : (s.createWebentityAuto x).2.pages = 0 := by
  unfold createWebentityAuto; split <;> rfl

theorem Report.add_pages (r o : Report) : (r.add o).pages = r.pages + o.pages := rfl

/-- the shape of `__add_page`: the trie insertion, possibly followed by one automatic webentity creation;
    the only error is the `KeyError` of a flagged anchor that is missing from the RAM dict -/
theorem addPageCore_cases (s : State) (lru : Bytes) (c : Bool) :
    ∃ s2 res, s.addPageCore lru c = (s2, (s.addPageTrie (lruIter lru) c).2.1, res) ∧
      (s2 = (s.addPageTrie (lruIter lru) c).1 ∨
        ∃ x, s2 = ((s.addPageTrie (lruIter lru) c).1.createWebentityAuto x).1) ∧
      (∀ r, res = .ok r → r.pages = if (s.addPageTrie (lruIter lru) c).2.2.created then 1 else 0) ∧
      (∀ e, res = .error e → e = .other "KeyError") := by
  rw [addPageCore_eq]
  split
  · exact ⟨_, _, rfl, Or.inl rfl, fun r hr => (by cases hr), fun e he => (by cases he; rfl)⟩
  · exact ⟨_, _, rfl, Or.inl rfl, fun r hr => (by cases hr; rfl), fun e he => (by cases he)⟩
  · refine ⟨_, _, rfl, Or.inr ⟨_, rfl⟩, fun r hr => ?_, fun e he => (by cases he)⟩
    cases hr
    rw [Report.add_pages, createWebentityAuto_pages]; rfl

theorem Adds.trans_nil {s0 s1 s2 : State} {t0 t1 t2 : T} {A : List (LRU × Bool × Bool)}
    (h1 : Adds s0 t0 s1 t1 A) (h2 : Adds s1 t1 s2 t2 []) : Adds s0 t0 s2 t2 A := by
  have := h1.trans h2
  rwa [List.append_nil] at this

theorem Adds.nil_trans {s0 s1 s2 : State} {t0 t1 t2 : T} {A : List (LRU × Bool × Bool)}
    (h1 : Adds s0 t0 s1 t1 []) (h2 : Adds s1 t1 s2 t2 A) : Adds s0 t0 s2 t2 A := h1.trans h2

theorem addPageCore_err (s : State) (lru : Bytes) (c : Bool) (e : Err)
    (h : (s.addPageCore lru c).2.2 = .error e) : e = .other "KeyError" := by
  obtain ⟨s2, res, e1, _, _, h4⟩ := addPageCore_cases s lru c
  rw [e1] at h
  exact h4 e h

theorem addPageCore_step {s : State} {t : T} (h : Shape s t) (lru : Bytes) (c : Bool) :
    ∃ t', Ext s t (s.addPageCore lru c).1 t' ∧ (lruIter lru ≠ [] →
      (lruIter lru, (s.addPageCore lru c).2.1) ∈ t'.entries (s.addPageCore lru c).1 [] ∧
      ((s.addPageCore lru c).1.cell (s.addPageCore lru c).2.1).flags.page = true ∧
      (Inv s t → Adds s t (s.addPageCore lru c).1 t' [(lruIter lru, c, c)] ∧
        ∀ r, (s.addPageCore lru c).2.2 = .ok r →
          (IsPage s t (lruIter lru) → r.pages = 0) ∧ (¬ IsPage s t (lruIter lru) → r.pages = 1))) := by
  obtain ⟨s2, res, e, hs2, hrep, _⟩ := addPageCore_cases s lru c
  obtain ⟨t1, x1, f1⟩ := addPageTrie_step h (lruIter lru) c (lruIter_wf lru)
  rw [e]
  simp only
  have hr' : ((s.addPageTrie (lruIter lru) c).2.2.created = true ↔ ¬ IsPage s t (lruIter lru)) →
      ∀ r, res = .ok r → (IsPage s t (lruIter lru) → r.pages = 0) ∧ (¬ IsPage s t (lruIter lru) → r.pages = 1) := by
    intro hc r hr
    have := hrep r hr
    constructor
    · intro hp; rw [this, if_neg]; intro hcr; exact (hc.mp hcr) hp
    · intro hp; rw [this, if_pos (hc.mpr hp)]
  rcases hs2 with rfl | ⟨x, rfl⟩
  · refine ⟨t1, x1, fun hne => ?_⟩
    obtain ⟨g1, g2, g3⟩ := f1 hne
    exact ⟨g1, g2, fun hi => ⟨(g3 hi).1, hr' (g3 hi).2⟩⟩
  · obtain ⟨t2, k2⟩ := keeps_createWebentityAuto x1.shape x
    refine ⟨t2, x1.trans k2.ext, fun hne => ?_⟩
    obtain ⟨g1, g2, g3⟩ := f1 hne
    refine ⟨k2.ext.keep _ _ g1, ?_, fun hi => ⟨(g3 hi).1.trans_nil (k2.adds (g3 hi).1.inv), hr' (g3 hi).2⟩⟩
    exact ((le_createWebentityAuto _ x x1.shape.live).cell_le _ (entry_lt x1.shape g1)).page g2

theorem shape_addPageCore {s : State} {t : T} (h : Shape s t) (lru : Bytes) (c : Bool) :
    ∃ t', Shape (s.addPageCore lru c).1 t' :=
  have ⟨t', x, _⟩ := addPageCore_step h lru c
  ⟨t', x.shape⟩

/-- `Adds` together with the page count `k` the request reports: the distinct LRUs of `A` that were not pages before -/
structure AddsR (s : State) (t : T) (s' : State) (t' : T) (A : List (LRU × Bool × Bool)) (k : Nat) : Prop where
  adds : Adds s t s' t' A
  count : k = newCount (IsPage s t) (A.map (·.1))

theorem AddsR.trans {s0 s1 s2 : State} {t0 t1 t2 : T} {A B : List (LRU × Bool × Bool)} {k1 k2 : Nat}
    (h1 : AddsR s0 t0 s1 t1 A k1) (h2 : AddsR s1 t1 s2 t2 B k2) : AddsR s0 t0 s2 t2 (A ++ B) (k1 + k2) :=
  ⟨h1.adds.trans h2.adds, by
    rw [List.map_append, newCount_append, ← h1.count, h2.count]
    congr 1
    apply newCount_congr
    intro q
    rw [h1.adds.page, List.mem_map]⟩

theorem AddsR.nil {s s' : State} {t t' : T} (h : Adds s t s' t' []) : AddsR s t s' t' [] 0 :=
  ⟨h, by rw [List.map_nil, newCount_nil]⟩

theorem AddsR.nil_trans {s0 s1 s2 : State} {t0 t1 t2 : T} {A : List (LRU × Bool × Bool)} {k : Nat}
    (h1 : Adds s0 t0 s1 t1 []) (h2 : AddsR s1 t1 s2 t2 A k) : AddsR s0 t0 s2 t2 A k := by
  have := (AddsR.nil h1).trans h2
  rwa [List.nil_append, Nat.zero_add] at this

theorem AddsR.single {s s' : State} {t t' : T} {p : LRU} {m1 m2 : Bool} {k : Nat}
    (a : Adds s t s' t' [(p, m1, m2)]) (hk : (IsPage s t p → k = 0) ∧ (¬ IsPage s t p → k = 1)) :
    AddsR s t s' t' [(p, m1, m2)] k :=
  ⟨a, by
    have := newCount_single (IsPage s t) p
    by_cases hp : IsPage s t p
    · rw [hk.1 hp]; exact (this.1 hp).symm
    · rw [hk.2 hp]; exact (this.2 hp).symm⟩


theorem adds_markCrawled {s : State} {t : T} (h : Shape s t) (hi : Inv s t) {p : LRU} {n : Nat}
    (hm : (p, n) ∈ t.entries s []) (hp : (s.cell n).flags.page = true) :
    Adds s t (s.modCell n (fun c => { c with flags := { c.flags with crawled := true } })) t [(p, true, true)] := by
  have hlt := entry_lt h hm
  exact adds_flagWrite h hi (noStruct_markCrawled s n) hm true
    (fun b hb => by rw [cell_modCell, if_neg (fun hx => hb hx.1.symm)]; exact ⟨rfl, rfl⟩)
    (by rw [cell_modCell, if_pos ⟨rfl, hlt⟩]; exact hp)
    (by rw [cell_modCell, if_pos ⟨rfl, hlt⟩]; simp)

theorem ext_markCrawled {s : State} {t : T} (h : Shape s t) (n : Nat) :
    Ext s t (s.modCell n (fun c => { c with flags := { c.flags with crawled := true } })) t :=
  (noStruct_markCrawled s n).ext h

theorem adds_always {s s1 : State} {t t1 : T} {p : LRU} {n : Nat} {c : Bool} (always : Bool)
    (a : Adds s t s1 t1 [(p, c, c)]) (h1 : Shape s1 t1) (hm : (p, n) ∈ t1.entries s1 [])
    (hp : (s1.cell n).flags.page = true) :
    Adds s t (if always then s1.modCell n (fun c => { c with flags := { c.flags with crawled := true } }) else s1)
      t1 [(p, c || always, true)] := by
  cases always with
  | false =>
    simp only [Bool.or_false]
    refine a.weaken (fun q => by simp) ?_ ?_
    · intro x hx _
      simp only [List.mem_singleton] at hx; subst hx
      exact ⟨_, List.mem_singleton.mpr rfl, rfl, rfl⟩
    · intro y hy hmu
      simp only [List.mem_singleton] at hy; subst hy
      exact ⟨_, List.mem_singleton.mpr rfl, rfl, hmu⟩
  | true =>
    simp only [Bool.or_true]
    have a2 := a.trans (adds_markCrawled h1 a.inv hm hp)
    refine a2.weaken (fun q => by simp) ?_ ?_
    · intro x hx _
      simp only [List.cons_append, List.nil_append, List.mem_cons, List.not_mem_nil, or_false] at hx
      rcases hx with rfl | rfl <;> exact ⟨_, List.mem_singleton.mpr rfl, rfl, rfl⟩
    · intro y hy _
      simp only [List.mem_singleton] at hy; subst hy
      exact ⟨(p, true, true), by simp, rfl, rfl⟩

/-- the request's page cache is right: every cached (LRU, block) is an entry of the tree and a page -/
def CacheOk (s : State) (t : T) (pages : List (Bytes × Nat)) : Prop :=
  ∀ l n, (l, n) ∈ pages → (lruIter l, n) ∈ t.entries s [] ∧ (s.cell n).flags.page = true

theorem CacheOk.mono {s s' : State} {t t' : T} {A : List (LRU × Bool × Bool)} {pages : List (Bytes × Nat)}
    (x : Ext s t s' t') (a : Adds s t s' t' A) (hc : CacheOk s t pages) : CacheOk s' t' pages := by
  intro l n hm
  obtain ⟨h1, h2⟩ := hc l n hm
  have h1' := x.keep _ _ h1
  refine ⟨h1', ?_⟩
  exact (page_iff_isPage x.shape h1').mpr ((a.page _).mpr (Or.inl ⟨n, h1, h2⟩))

theorem Adds.of_isPage {s : State} {t : T} (hi : Inv s t) {p : LRU} (hp : IsPage s t p) (c : Bool) :
    Adds s t s t [(p, false, c)] where
  inv := hi
  page := fun q => by
    simp only [List.mem_singleton, exists_eq_left]
    exact ⟨Or.inl, fun h => h.elim id (fun e => e ▸ hp)⟩
  may := fun q h => Or.inl h
  must := fun q h => by
    rcases h with h | ⟨x, hx, _, hf⟩
    · exact h
    · simp only [List.mem_singleton] at hx; subst hx; simp at hf

/-- the LRU an instruction submits as a page, with its (mustCrawl, mayCrawl) marks -/
def Instr.marks : Instr → List (LRU × Bool × Bool)
  | .add l c always => [(lruIter l, c || always, true)]
  | .ensure l c => [(lruIter l, c, c)]
  | .stubs _ _ _ => []

theorem Paged.ext {s s' : State} {rep : Report} {res : Except Err Report} (h : Paged s rep s' res) {t : T}
    (hs : Shape s t) : ∃ t', Ext s t s' t' := by
  induction h with
  | refl => exact ⟨t, Ext.refl hs⟩
  | page l c _ ih =>
    obtain ⟨t1, x1⟩ := ih
    obtain ⟨t2, x2, _⟩ := addPageCore_step x1.shape l c
    exact ⟨t2, x1.trans x2⟩
  | crawl n _ ih => obtain ⟨t1, x1⟩ := ih; exact ⟨t1, x1.trans (ext_markCrawled x1.shape n)⟩
  | stubs p ts o _ ih => obtain ⟨t1, x1⟩ := ih; exact ⟨t1, x1.trans (keeps_addStubs x1.shape p ts o).ext⟩

/-- one instruction that succeeds: the cached blocks stay pages of their LRUs, the page set and the crawled set
    move by the instruction's marks, and the report counts the page if it is new -/
theorem ran_step {s s1 : State} {t : T} {a a1 : Run} {i : Instr} (r : Ran s a i s1 a1) (h : Shape s t)
    (hi : Inv s t) (hc : CacheOk s t a.pages) (hne : ∀ l ∈ i.lrus, lruIter l ≠ []) :
    ∃ t1, Ext s t s1 t1 ∧ CacheOk s1 t1 a1.pages ∧
      ∃ k, a1.rep.pages = a.rep.pages + k ∧ AddsR s t s1 t1 i.marks k := by
  cases r with
  | @add l c always s' n r1 hp =>
    obtain ⟨t1, x1, f1⟩ := addPageCore_step h l c
    rw [hp] at x1 f1
    obtain ⟨g1, g2, g3⟩ := f1 (hne l (List.mem_singleton.mpr rfl))
    obtain ⟨ad, hrep⟩ := g3 hi
    have x2 : Ext s' t1 (if always = true then s'.modCell n (fun c => { c with flags := { c.flags with crawled := true } }) else s') t1 := by
      split
      · exact ext_markCrawled x1.shape n
      · exact Ext.refl x1.shape
    have a2 := adds_always always ad x1.shape g1 g2
    exact ⟨t1, x1.trans x2, hc.mono (x1.trans x2) a2, r1.pages, Report.add_pages _ _, AddsR.single a2 (hrep r1 rfl)⟩
  | @miss l c s' n r1 hn hp =>
    obtain ⟨t1, x1, f1⟩ := addPageCore_step h l c
    rw [hp] at x1 f1
    obtain ⟨g1, g2, g3⟩ := f1 (hne l (List.mem_singleton.mpr rfl))
    obtain ⟨ad, hrep⟩ := g3 hi
    refine ⟨t1, x1, fun l' n' hm => ?_, r1.pages, Report.add_pages _ _, AddsR.single ad (hrep r1 rfl)⟩
    rcases List.mem_append.mp hm with hm | hm
    · exact hc.mono x1 ad l' n' hm
    · simp only [List.mem_singleton, Prod.mk.injEq] at hm
      obtain ⟨rfl, rfl⟩ := hm
      exact ⟨g1, g2⟩
  | @hit l c n hn =>
    -- a byte string in the cache is a page: nothing is added, and `c` only says whether it is flagged now
    obtain ⟨h1, h2⟩ := hc l n (dictGet?_mem _ _ _ hn)
    have fin : ∀ s' : State, Ext s t s' t → Adds s t s' t [(lruIter l, c, c)] →
        ∃ t1, Ext s t s' t1 ∧ CacheOk s' t1 a.pages ∧
          ∃ k, a.rep.pages = a.rep.pages + k ∧ AddsR s t s' t1 [(lruIter l, c, c)] k := fun s' x ad =>
      ⟨t, x, hc.mono x ad, 0, rfl, AddsR.single ad ⟨fun _ => rfl, fun hn' => absurd ⟨n, h1, h2⟩ hn'⟩⟩
    split
    · rename_i hcr
      have hc1 : c = true := by cases c <;> simp_all
      subst hc1
      exact fin _ (ext_markCrawled h n) (adds_markCrawled h hi h1 h2)
    · rename_i hcr
      refine fin s (Ext.refl h) ?_
      cases c with
      | false => exact Adds.of_isPage hi ⟨n, h1, h2⟩ false
      | true =>
        have hcr' : (s.cell n).flags.crawled = true := by simpa using hcr
        exact adds_flagWrite h hi (NoStruct.refl s) h1 true (fun _ _ => ⟨rfl, rfl⟩) h2 (by rw [hcr']; rfl)
  | @stubs p ts out =>
    have k := keeps_addStubs h ((dictGet? a.pages p).getD 0) (blocksOf a.pages ts) out
    exact ⟨t, k.ext, hc.mono k.ext (k.adds hi), 0, rfl, AddsR.nil (k.adds hi)⟩

theorem exec_step : ∀ (is : List Instr) {s s' : State} {t : T} {a a' : Run}, Shape s t → Inv s t →
    CacheOk s t a.pages → (∀ l ∈ is.flatMap Instr.lrus, lruIter l ≠ []) → exec s a is = (s', .ok a') →
    ∃ t', Ext s t s' t' ∧ CacheOk s' t' a'.pages ∧
      ∃ k, a'.rep.pages = a.rep.pages + k ∧ AddsR s t s' t' (is.flatMap Instr.marks) k
  | [], _, _, t, _, _, h, hi, hc, _, he => by cases he; exact ⟨t, Ext.refl h, hc, 0, rfl, AddsR.nil (Adds.refl hi)⟩
  | i :: is, _, _, _, _, _, h, hi, hc, hne, he => by
    obtain ⟨s1, a1, h1, h2⟩ := exec_cons_ok he
    rw [List.flatMap_cons] at hne
    obtain ⟨t1, x1, c1, k1, e1, ar1⟩ := ran_step (Instr.ran h1) h hi hc fun l hl => hne l (List.mem_append_left _ hl)
    obtain ⟨t2, x2, c2, k2, e2, ar2⟩ := exec_step is x1.shape ar1.adds.inv c1
      (fun l hl => hne l (List.mem_append_right _ hl)) h2
    exact ⟨t2, x1.trans x2, c2, k1 + k2, by omega, ar1.trans ar2⟩

/-- a request that is a program, run from the empty cache: the shape part whatever the outcome; on success (well-formed LRUs, `Inv`) also `AddsR` with the reported page count -/
theorem prog_step {s : State} {t : T} (h : Shape s t) (is : List Instr) :
    ∃ t', Ext s t (exec s {} is).1 t' ∧
      ((∀ l ∈ is.flatMap Instr.lrus, lruIter l ≠ []) → Inv s t → ∀ r, (exec s {} is).2.map Run.rep = .ok r →
        AddsR s t (exec s {} is).1 t' (is.flatMap Instr.marks) r.pages) := by
  obtain ⟨t', x⟩ := (paged_exec is s {}).ext h
  refine ⟨t', x, fun hne hi r hr => ?_⟩
  obtain ⟨a', ha, rfl⟩ := exec_of_lift_ok (f := Run.rep) hr
  obtain ⟨t2, x2, _, k, hk, ar⟩ := exec_step is h hi (fun _ _ hm => absurd hm List.not_mem_nil) hne ha
  cases Shape.unique x.shape x2.shape
  have : a'.rep.pages = k := by rw [hk]; show 0 + k = k; omega
  rw [this]; exact ar

def linkPages (links : List (Bytes × Bytes)) : List (LRU × Bool × Bool) :=
  links.flatMap (fun st => [(lruIter st.1, false, false), (lruIter st.2, false, false)])

def batchPages (data : List (Bytes × List Bytes)) : List (LRU × Bool × Bool) :=
  data.flatMap (fun d => (lruIter d.1, true, true) :: d.2.map (fun x => (lruIter x, false, false)))

theorem marks_flushProg (out : Bool) (d : List (Bytes × List Bytes)) : (flushProg out d).flatMap Instr.marks = [] := by
  induction d with
  | nil => rfl
  | cons kv d ih => exact ih

theorem marks_pagesProg (ls : List Bytes) (c always : Bool) :
    (pagesProg ls c always).flatMap Instr.marks = ls.map fun l => (lruIter l, c || always, true) := by
  induction ls with
  | nil => rfl
  | cons l ls ih => exact congrArg (_ :: ·) ih

theorem marks_linksProg (links : List (Bytes × Bytes)) : (linksProg links).flatMap Instr.marks = linkPages links := by
  rw [linksProg, List.flatMap_append, List.flatMap_append, marks_flushProg, marks_flushProg, List.append_nil,
    List.append_nil, scanProg, List.flatMap_assoc]
  rfl

theorem marks_batchProg (data : List (Bytes × List Bytes)) : (batchProg data).flatMap Instr.marks = batchPages data := by
  rw [batchProg, List.flatMap_append, marks_flushProg, List.append_nil, List.flatMap_assoc]
  congr 1
  funext d
  show (lruIter d.1, true, true) :: (endsProg d.2 ++ [Instr.stubs d.1 d.2 true]).flatMap Instr.marks = _
  rw [List.flatMap_append, endsProg, List.flatMap_map, List.map_eq_flatMap]
  exact congrArg (_ :: ·) (List.append_nil _)

theorem addPages_step {s : State} {t : T} (h : Shape s t) (lrus : List Bytes) (c : Bool) :
    ∃ t', Ext s t (s.addPages lrus c).1 t' ∧
      ((∀ l ∈ lrus, lruIter l ≠ []) → Inv s t → ∀ r, (s.addPages lrus c).2 = .ok r →
        AddsR s t (s.addPages lrus c).1 t'
          (lrus.map (fun l => (lruIter l, c || s.cfg.addPagesAlwaysCrawled, true))) r.pages) := by
  have := prog_step h (pagesProg lrus c s.cfg.addPagesAlwaysCrawled)
  rw [lrus_pagesProg, marks_pagesProg] at this
  rw [addPages, addPagesGo_eq _ _ _ _ {}]
  exact this

theorem addLinks_step {s : State} {t : T} (h : Shape s t) (links : List (Bytes × Bytes)) :
    ∃ t', Ext s t (s.addLinks links).1 t' ∧
      ((∀ st ∈ links, lruIter st.1 ≠ [] ∧ lruIter st.2 ≠ []) → Inv s t →
        ∀ r, (s.addLinks links).2 = .ok r → AddsR s t (s.addLinks links).1 t' (linkPages links) r.pages) := by
  obtain ⟨t', x, f⟩ := prog_step h (linksProg links)
  rw [marks_linksProg] at f
  rw [addLinks_eq]
  exact ⟨t', x, fun hne => f (linksProg_lrus_ne hne)⟩

theorem batch_step {s : State} {t : T} (h : Shape s t) (data : List (Bytes × List Bytes)) :
    ∃ t', Ext s t (s.batch data).1 t' ∧
      ((∀ d ∈ data, lruIter d.1 ≠ [] ∧ ∀ x ∈ d.2, lruIter x ≠ []) → Inv s t →
        ∀ r, (s.batch data).2 = .ok r → AddsR s t (s.batch data).1 t' (batchPages data) r.pages) := by
  obtain ⟨t', x, f⟩ := prog_step h (batchProg data)
  rw [marks_batchProg] at f
  rw [batch_eq]
  exact ⟨t', x, fun hne => f (batchProg_lrus_ne hne)⟩


/-- a stack entry of the walk: a block of the tree together with the flattened path of its parent -/
def StackOk (s : State) (t : T) (stack : List (Nat × Bytes)) : Prop :=
  ∀ b lru, (b, lru) ∈ stack → ∃ p, (p, b) ∈ t.entries s [] ∧ lru = p.dropLast.flatten

theorem StackOk.mono {s s' : State} {t t' : T} {stack : List (Nat × Bytes)} (x : Ext s t s' t')
    (h : StackOk s t stack) : StackOk s' t' stack := fun b lru hm => by
  obtain ⟨p, h1, h2⟩ := h b lru hm
  exact ⟨p, x.keep _ _ h1, h2⟩

theorem Adds.absorb {s s' : State} {t t' : T} {p : LRU} (a : Adds s t s' t' [(p, false, false)])
    (hp : IsPage s t p) : Adds s t s' t' [] where
  inv := a.inv
  page := fun q => by
    rw [a.page]
    simp only [List.mem_singleton, exists_eq_left, List.not_mem_nil, false_and, exists_false, or_false]
    exact ⟨fun h => h.elim id (fun e => e ▸ hp), Or.inl⟩
  may := fun q h => by
    rcases a.may q h with h | ⟨x, hx, _, hf⟩
    · exact Or.inl h
    · simp only [List.mem_singleton] at hx; subst hx; simp at hf
  must := fun q h => by
    rcases h with h | ⟨x, hx, _⟩
    · exact a.must q (Or.inl h)
    · simp at hx

/-- what the walk of a rule installation submits at a stack entry: the path of the entry -/
theorem entry_cur {s : State} {t : T} (h : Shape s t) (hw : WfStems s t) {b : Nat} {lru : Bytes}
    (hs : ∃ p, (p, b) ∈ t.entries s [] ∧ lru = p.dropLast.flatten) :
    ∃ p, (p, b) ∈ t.entries s [] ∧ lruIter (lru ++ s.stemAt b) = p := by
  obtain ⟨p, hm, hl⟩ := hs
  obtain ⟨q, e, _⟩ := entries_last_and_ptrs t [] p b h.rep hm
  have hcur : lru ++ s.stemAt b = p.flatten := by rw [hl, e, List.dropLast_concat]; simp
  exact ⟨p, hm, by rw [hcur]; exact hw.iter_flatten hm⟩

/-- `__add_page` of the page stored at block `b`, as the walk of a rule installation submits it: nothing is added,
    and the report counts no page -/
theorem addPageCore_stored {s : State} {t : T} (h : Shape s t) (b : Nat) (lru : Bytes) :
    ∃ t', Ext s t (s.addPageCore (lru ++ s.stemAt b) false).1 t' ∧
      (Inv s t → (∃ p, (p, b) ∈ t.entries s [] ∧ lru = p.dropLast.flatten) → (s.cell b).flags.page = true →
        Adds s t (s.addPageCore (lru ++ s.stemAt b) false).1 t' [] ∧
        ∀ r, (s.addPageCore (lru ++ s.stemAt b) false).2.2 = .ok r → r.pages = 0) := by
  obtain ⟨t1, x1, f1⟩ := addPageCore_step h (lru ++ s.stemAt b) false
  refine ⟨t1, x1, fun hi hs hpg => ?_⟩
  obtain ⟨p, hm, e2⟩ := entry_cur h hi.wf hs
  rw [e2] at f1
  obtain ⟨a1, hrep⟩ := (f1 (entry_ne_nil hm)).2.2 hi
  have hp : IsPage s t p := ⟨b, hm, hpg⟩
  exact ⟨a1.absorb hp, fun r hr => (hrep r hr).1 hp⟩

theorem mem_ruleNext {start b : Nat} {c : Cell} {lru cur : Bytes} {stack : List (Nat × Bytes)} {x : Nat × Bytes}
    (h : x ∈ ruleNext start b c lru cur stack) :
    x ∈ stack ∨ (x = (c.right, lru) ∧ c.right ≠ 0) ∨ (x = (c.left, lru) ∧ c.left ≠ 0) ∨
      (x = (c.child, cur) ∧ c.child ≠ 0) := by
  unfold ruleNext at h
  rcases mem_ite_cons.mp h with h | h
  · exact Or.inr (Or.inr (Or.inr h.symm))
  · split at h
    · rcases mem_ite_cons.mp h with h | h
      · exact Or.inr (Or.inr (Or.inl h.symm))
      · rcases mem_ite_cons.mp h with h | h
        · exact Or.inr (Or.inl h.symm)
        · exact Or.inl h
    · exact Or.inl h

theorem stackOk_next {s : State} {t : T} (h : Shape s t) {start b : Nat} {lru : Bytes}
    {stack : List (Nat × Bytes)} (hs : StackOk s t ((b, lru) :: stack)) :
    StackOk s t (ruleNext start b (s.cell b) lru (lru ++ s.stemAt b) stack) := by
  intro b' lru' hm
  obtain ⟨p, hp, rfl⟩ := hs b lru (by simp)
  obtain ⟨q, e, f1, f2, f3⟩ := entries_last_and_ptrs t [] p b h.rep hp
  have hq : p.dropLast = q := by rw [e, List.dropLast_concat]
  rcases mem_ruleNext hm with hm | ⟨hm, hne⟩ | ⟨hm, hne⟩ | ⟨hm, hne⟩
  · exact hs b' lru' (by simp [hm])
  · obtain ⟨rfl, rfl⟩ := Prod.mk.inj hm
    exact ⟨_, f2 hne, by rw [List.dropLast_concat, hq]⟩
  · obtain ⟨rfl, rfl⟩ := Prod.mk.inj hm
    exact ⟨_, f1 hne, by rw [List.dropLast_concat, hq]⟩
  · obtain ⟨rfl, rfl⟩ := Prod.mk.inj hm
    refine ⟨_, f3 hne, ?_⟩
    rw [List.dropLast_concat, hq, e]; simp

/-- the walk of a rule installation over a stack of stored blocks: nothing is added, and the report counts no page -/
theorem RuleRun.step {start : Nat} {s : State} {stack : List (Nat × Bytes)} {rep : Report}
    {out : State × Except Err Report} (r : RuleRun start s stack rep out) {t : T} (h : Shape s t) :
    ∃ t', Ext s t out.1 t' ∧
      (Inv s t → StackOk s t stack → Adds s t out.1 t' [] ∧ ∀ r, out.2 = .ok r → r.pages = rep.pages) := by
  induction r generalizing t with
  | stop => exact ⟨t, Ext.refl h, fun hi _ => ⟨Adds.refl hi, fun r hr => by cases hr; rfl⟩⟩
  | skip _ _ ih =>
    obtain ⟨t1, x1, f1⟩ := ih h
    exact ⟨t1, x1, fun hi hs => f1 hi (stackOk_next h hs)⟩
  | @fail s b lru _ _ _ _ _ hp ha =>
    obtain ⟨t1, x1, f1⟩ := addPageCore_stored h b lru
    rw [ha] at x1 f1
    exact ⟨t1, x1, fun hi hs => ⟨(f1 hi (hs b lru List.mem_cons_self) hp).1, fun r hr => by cases hr⟩⟩
  | @page s b lru _ _ _ _ r1 _ hp ha _ ih =>
    obtain ⟨t1, x1, f1⟩ := addPageCore_stored h b lru
    rw [ha] at x1 f1
    obtain ⟨t2, x2, f2⟩ := ih x1.shape
    refine ⟨t2, x1.trans x2, fun hi hs => ?_⟩
    obtain ⟨a1, hr1⟩ := f1 hi (hs b lru List.mem_cons_self) hp
    obtain ⟨a2, hr2⟩ := f2 a1.inv ((stackOk_next h hs).mono x1)
    exact ⟨a1.trans a2, fun r hr => by rw [hr2 r hr, Report.add_pages, hr1 r1 rfl, Nat.add_zero]⟩

theorem addRule_step {s : State} {t : T} (h : Shape s t) (anchor : Bytes) (r : Rule) (w : Bool) :
    ∃ t', Ext s t (s.addRule anchor r w).1 t' ∧
      (lruIter anchor ≠ [] → Inv s t → Adds s t (s.addRule anchor r w).1 t' [] ∧
        ∀ rp, (s.addRule anchor r w).2 = .ok rp → rp.pages = 0) := by
  cases w with
  | false =>
    have k0 : Keeps s t { s with rules := dictSet s.rules anchor r } t := Keeps.of_trie_eq h rfl
    exact ⟨t, k0.ext, fun _ hi => ⟨k0.adds hi, fun rp hr => by cases hr; rfl⟩⟩
  | true =>
    obtain ⟨t2, k2, hent⟩ := rulePrologue_keeps h anchor r
    rw [addRule_true_eq]
    obtain ⟨t3, x3, f3⟩ := (addRuleLoop_run (s.rulePrologue anchor r).2
      (8 * ((s.rulePrologue anchor r).1.trie.size + 2) * ((s.rulePrologue anchor r).1.trie.size + 2)) _
      [((s.rulePrologue anchor r).2, lruDirname anchor)] {}).step k2.shape
    refine ⟨t3, k2.ext.trans x3, fun hne hi => ?_⟩
    have a2 := k2.adds hi
    obtain ⟨a3, hr3⟩ := f3 a2.inv (by
      intro b lru hm
      simp only [List.mem_singleton, Prod.mk.injEq] at hm
      obtain ⟨rfl, rfl⟩ := hm
      exact ⟨lruIter anchor, hent hne, rfl⟩)
    exact ⟨a2.trans a3, fun rp hr => hr3 rp hr⟩


theorem Paged.keyErr {s s' : State} {rep : Report} {res : Except Err Report} (h : Paged s rep s' res) (e : Err)
    (he : res = .error e) : e = .other "KeyError" := by
  induction h with
  | refl => cases he
  | @page a _ l c _ _ => exact addPageCore_err a l c e (Except.map_eq_error he)
  | crawl _ _ ih => exact ih he
  | stubs _ _ _ _ ih => exact ih he

theorem addPagesGo_err (always : Bool) (ls : List Bytes) (s : State) (c : Bool) (rep : Report) (e : Err) :
    (addPagesGo always s ls c rep).2 = .error e → e = .other "KeyError" :=
  (paged_addPagesGo always ls s c rep).keyErr e

theorem addLinks_err (s : State) (links : List (Bytes × Bytes)) (e : Err)
    (h : (s.addLinks links).2 = .error e) : e = .other "KeyError" := (paged_addLinks s links).keyErr e h

theorem batch_err (s : State) (data : List (Bytes × List Bytes)) (e : Err)
    (h : (s.batch data).2 = .error e) : e = .other "KeyError" := (paged_batch s data).keyErr e h

theorem addRule_err (s : State) (anchor : Bytes) (r : Rule) (w : Bool) (e : Err)
    (h : (s.addRule anchor r w).2 = .error e) : e = .other "KeyError" := by
  cases w with
  | false => cases h
  | true => exact (paged_addRule s anchor r).keyErr e h

theorem installRules_step (rules : List (Bytes × Rule)) (s : State) (t : T) (w : Bool) (h : Shape s t) :
    ∃ t', Ext s t (installRules s rules w).1 t' ∧
      ((∀ ar ∈ rules, lruIter ar.1 ≠ []) → Inv s t → Adds s t (installRules s rules w).1 t' []) :=
  installRules_ind (P := fun s' => ∃ t', Ext s t s' t' ∧ ((∀ ar ∈ rules, lruIter ar.1 ≠ []) → Inv s t → Adds s t s' t' []))
    w rules s (fun s' ar har ⟨t1, x1, f1⟩ =>
      have ⟨t2, x2, f2⟩ := addRule_step x1.shape ar.1 ar.2 w
      ⟨t2, x1.trans x2, fun hne hi => (f1 hne hi).trans_nil (f2 (hne ar har) (f1 hne hi).inv).1⟩)
    ⟨t, Ext.refl h, fun _ hi => Adds.refl hi⟩

theorem inv_nil (s : State) : Inv s .nil :=
  ⟨fun p b hm => by simp [T.entries] at hm, fun p b hm => by simp [T.entries] at hm⟩

theorem not_isPage_nil (s : State) (p : LRU) : ¬ IsPage s .nil p := by
  rintro ⟨b, hm, _⟩; simp [T.entries] at hm

theorem fresh_spec (cfg : Config) (dflt : Rule) (rules : List (Bytes × Rule)) (log : List Write) :
    ∃ t, Shape (State.fresh cfg dflt rules log).1 t ∧
      ((∀ ar ∈ rules, lruIter ar.1 ≠ []) →
        Inv (State.fresh cfg dflt rules log).1 t ∧ ∀ p, ¬ IsPage (State.fresh cfg dflt rules log).1 t p) := by
  have h0 : Shape ({ cfg := cfg, dflt := dflt, log := .linkHdr :: .hdr 0 :: log } : State) .nil :=
    shape_of_trie_init _ rfl
  obtain ⟨t, x, f⟩ := installRules_step rules _ .nil true h0
  refine ⟨t, x.shape, fun hne => ?_⟩
  have a := f hne (inv_nil _)
  refine ⟨a.inv, fun p hp => ?_⟩
  rcases (a.page p).mp hp with hp | ⟨_, hx, _⟩
  · exact not_isPage_nil _ p hp
  · simp at hx


/-- the byte strings a request submits as pages cut into at least one stem (the property's
    "well-formed LRU" hypothesis); for `addRule` the anchor, whose subtree is re-inserted -/
def OpWf : Op → Prop
  | .addPage l _ => lruIter l ≠ []
  | .addPages ls _ => ∀ l ∈ ls, lruIter l ≠ []
  | .addLinks links => ∀ st ∈ links, lruIter st.1 ≠ [] ∧ lruIter st.2 ≠ []
  | .batch data => ∀ d ∈ data, lruIter d.1 ≠ [] ∧ ∀ x ∈ d.2, lruIter x ≠ []
  | .addRule a _ => lruIter a ≠ []
  | _ => True

/-- the LRUs a request submits as pages, each with its (mustCrawl, mayCrawl) marks -/
def Op.pages : Op → List (LRU × Bool × Bool)
  | .addPage l c => [(lruIter l, c, c)]
  | .addPages ls c => ls.map (fun l => (lruIter l, c, true))
  | .addLinks links => linkPages links
  | .batch data => batchPages data
  | _ => []

theorem ofExcept_unit_ne_report {x : Except Err Unit} {r : Report} :
    Ans.ofExcept (fun _ => Ans.unit) x ≠ .report r := by
  cases x <;> simp [Ans.ofExcept]

theorem createWebentity_pages (s : State) (ps : List Bytes) (r : Report)
    (h : (s.createWebentity ps).2 = .ok r) : r.pages = 0 := by
  unfold createWebentity at h
  split at h
  · cases h
  · cases h; rfl

theorem Keeps.spec {s s' : State} {t t' : T} (k : Keeps s t s' t') {ans : Ans} (P : Prop)
    (hrep : ∀ r, ans = .report r → r.pages = 0) :
    ∃ t', Ext s t s' t' ∧ (P → Inv s t →
      (ans ≠ .err (.other "KeyError") → Adds s t s' t' []) ∧
      (∀ r, ans = .report r → r.pages = newCount (IsPage s t) (([] : List (LRU × Bool × Bool)).map (·.1)))) :=
  ⟨t', k.ext, fun _ hi => ⟨fun _ => k.adds hi, fun r hr => by rw [hrep r hr]; exact (newCount_nil _).symm⟩⟩

/-- what one write request does: the shape part unconditionally; for states satisfying `Inv` and
    well-formed requests the page set / crawled set move by exactly `op.pages` and the report counts
    the distinct new pages -/
theorem step_spec {s : State} {t : T} (h : Shape s t) (op : Op) (hop : ∀ d rs, op ≠ .clear d rs) :
    ∃ t', Ext s t (s.step op).1 t' ∧
      (OpWf op → Inv s t →
        ((s.step op).2 ≠ .err (.other "KeyError") → Adds s t (s.step op).1 t' op.pages) ∧
        (∀ r, (s.step op).2 = .report r → r.pages = newCount (IsPage s t) (op.pages.map (·.1)))) := by
  have unit : ∀ (x : Except Err Unit) (r : Report), Ans.ofExcept (fun _ => Ans.unit) x = .report r → r.pages = 0 :=
    fun x r hr => absurd hr ofExcept_unit_ne_report
  cases op with
  | addPage l c =>
    obtain ⟨t1, x1, f1⟩ := addPageCore_step h l c
    simp only [step_addPage, addPage_fst, addPage_snd]
    refine ⟨t1, x1, fun hwf hi => ?_⟩
    obtain ⟨_, _, g3⟩ := f1 hwf
    obtain ⟨a1, hrep⟩ := g3 hi
    exact ⟨fun _ => a1, fun r hr => (AddsR.single a1 (hrep r (ofExcept_report hr))).count⟩
  | addPages ls c =>
    obtain ⟨t1, x1, f1⟩ := addPages_step h ls c
    simp only [step_addPages]
    refine ⟨t1, x1, fun hwf hi => ⟨fun hne => ?_, fun r hr => ?_⟩⟩
    · obtain ⟨r, hr⟩ := ofExcept_ok_of_noKeyErr (addPagesGo_err _ ls s c {}) hne
      -- the must-mark `c || always` of the code is weakened to the `c` of `Op.pages`
      refine (f1 hwf hi r hr).adds.weaken (fun q => ?_) ?_ ?_
      · constructor
        · rintro ⟨x, hx, e⟩
          obtain ⟨l, hl, rfl⟩ := List.mem_map.mp hx
          exact ⟨_, List.mem_map.mpr ⟨l, hl, rfl⟩, e⟩
        · rintro ⟨x, hx, e⟩
          obtain ⟨l, hl, rfl⟩ := List.mem_map.mp hx
          exact ⟨_, List.mem_map.mpr ⟨l, hl, rfl⟩, e⟩
      · intro x hx hm
        obtain ⟨l, hl, rfl⟩ := List.mem_map.mp hx
        exact ⟨_, List.mem_map.mpr ⟨l, hl, rfl⟩, rfl, rfl⟩
      · intro y hy hm
        obtain ⟨l, hl, rfl⟩ := List.mem_map.mp hy
        refine ⟨_, List.mem_map.mpr ⟨l, hl, rfl⟩, rfl, ?_⟩
        simp only at hm ⊢
        rw [hm]; rfl
    · have := (f1 hwf hi r (ofExcept_report hr)).count
      show r.pages = newCount _ ((ls.map _).map _)
      rw [List.map_map] at this ⊢
      exact this
  | addLinks links =>
    obtain ⟨t1, x1, f1⟩ := addLinks_step h links
    simp only [step_addLinks]
    refine ⟨t1, x1, fun hwf hi => ⟨fun hne => ?_, fun r hr => (f1 hwf hi r (ofExcept_report hr)).count⟩⟩
    obtain ⟨r, hr⟩ := ofExcept_ok_of_noKeyErr (addLinks_err s links) hne
    exact (f1 hwf hi r hr).adds
  | batch data =>
    obtain ⟨t1, x1, f1⟩ := batch_step h data
    simp only [step_batch]
    refine ⟨t1, x1, fun hwf hi => ⟨fun hne => ?_, fun r hr => (f1 hwf hi r (ofExcept_report hr)).count⟩⟩
    obtain ⟨r, hr⟩ := ofExcept_ok_of_noKeyErr (batch_err s data) hne
    exact (f1 hwf hi r hr).adds
  | addRule a r =>
    obtain ⟨t1, x1, f1⟩ := addRule_step h a r true
    simp only [step_addRule]
    refine ⟨t1, x1, fun hwf hi => ⟨fun _ => (f1 hwf hi).1, fun rp hr => ?_⟩⟩
    rw [(f1 hwf hi).2 rp (ofExcept_report hr)]
    exact (newCount_nil _).symm
  | create ps =>
    obtain ⟨t1, k1⟩ := keeps_createWebentity h ps
    simp only [step_create]
    exact k1.spec _ (fun r hr => createWebentity_pages s ps r (ofExcept_report hr))
  | delete w ps => simp only [step_delete]; exact (keeps_deleteWebentity h w ps).spec _ (unit _)
  | addPrefix p w =>
    obtain ⟨t1, k1⟩ := keeps_addPrefix h p w
    simp only [step_addPrefix]; exact k1.spec _ (unit _)
  | removePrefix p w =>
    obtain ⟨t1, k1⟩ := keeps_removePrefix h p w
    simp only [step_removePrefix]; exact k1.spec _ (unit _)
  | movePrefix p tg f =>
    obtain ⟨t1, k1⟩ := keeps_movePrefix h p tg f
    simp only [step_movePrefix]; exact k1.spec _ (unit _)
  | removeRule a => simp only [step_removeRule]; exact (keeps_removeRule h a).spec _ (unit _)
  | reopen d rs => simp only [step_reopen]; exact (keeps_reopen h d rs).spec _ (fun r hr => by cases hr)
  | clear d rs => exact absurd rfl (hop d rs)


/-- the well-formedness hypothesis (`OpWf`) is not needed for the shape part -/
theorem shape_step_any (s : State) (t : T) (h : Shape s t) (op : Op) (hop : ∀ d rs, op ≠ .clear d rs) :
    ∃ t', Shape (s.step op).1 t' ∧
      (∀ p b, (p, b) ∈ t.entries s [] → (p, b) ∈ t'.entries (s.step op).1 []) := by
  obtain ⟨t', x, _⟩ := step_spec h op hop
  exact ⟨t', x.shape, x.keep⟩

theorem shape_step (s : State) (t : T) (h : Shape s t) (op : Op) (hop : ∀ d rs, op ≠ .clear d rs)
    (_hwf : OpWf op) :
    ∃ t', Shape (s.step op).1 t' ∧
      (∀ p b, (p, b) ∈ t.entries s [] → (p, b) ∈ t'.entries (s.step op).1 []) :=
  shape_step_any s t h op hop

/-- no request of the history answers `KeyError` (rules are re-supplied on reopening, as the API requires) -/
def NoKeyErr : State → List Op → Prop
  | _, [] => True
  | s, op :: ops => (s.step op).2 ≠ .err (.other "KeyError") ∧ NoKeyErr (s.step op).1 ops

theorem run_spec : ∀ (ops : List Op) (s : State) (t : T), Shape s t →
    (∀ op ∈ ops, ∀ d rs, op ≠ .clear d rs) →
    ∃ t', Ext s t (s.run ops) t' ∧
      ((∀ op ∈ ops, OpWf op) → Inv s t → NoKeyErr s ops → Adds s t (s.run ops) t' (ops.flatMap Op.pages))
  | [], s, t, h, _ => ⟨t, Ext.refl h, fun _ hi _ => Adds.refl hi⟩
  | op :: ops, s, t, h, hop => by
    obtain ⟨t1, x1, f1⟩ := step_spec h op (hop op (by simp))
    obtain ⟨t2, x2, f2⟩ := run_spec ops (s.step op).1 t1 x1.shape (fun o ho => hop o (by simp [ho]))
    rw [run_cons]
    refine ⟨t2, x1.trans x2, fun hwf hi hok => ?_⟩
    have a1 := (f1 (hwf op (by simp)) hi).1 hok.1
    have a2 := f2 (fun o ho => hwf o (by simp [ho])) a1.inv hok.2
    rw [List.flatMap_cons]
    exact a1.trans a2

theorem shape_run_from (s : State) (t : T) (h : Shape s t) (ops : List Op)
    (hop : ∀ op ∈ ops, ∀ d rs, op ≠ .clear d rs) :
    ∃ t', Shape (s.run ops) t' ∧ (∀ p b, (p, b) ∈ t.entries s [] → (p, b) ∈ t'.entries (s.run ops) []) := by
  obtain ⟨t', x, _⟩ := run_spec ops s t h hop
  exact ⟨t', x.shape, x.keep⟩

theorem shape_run (cfg : Config) (dflt : Rule) (rules : List (Bytes × Rule)) (ops : List Op)
    (hop : ∀ op ∈ ops, ∀ d rs, op ≠ .clear d rs) :
    ∃ t, Shape ((State.fresh cfg dflt rules []).1.run ops) t := by
  obtain ⟨t0, h0, _⟩ := fresh_spec cfg dflt rules []
  obtain ⟨t, h, _⟩ := shape_run_from _ t0 h0 ops hop
  exact ⟨t, h⟩

theorem C01_adds (cfg : Config) (dflt : Rule) (rules : List (Bytes × Rule)) (ops : List Op)
    (hrules : ∀ ar ∈ rules, lruIter ar.1 ≠ [])
    (hop : ∀ op ∈ ops, ∀ d rs, op ≠ .clear d rs) (hwf : ∀ op ∈ ops, OpWf op)
    (hok : NoKeyErr (State.fresh cfg dflt rules []).1 ops) :
    ∃ t0 t, Shape ((State.fresh cfg dflt rules []).1.run ops) t ∧
      (∀ p, ¬ IsPage (State.fresh cfg dflt rules []).1 t0 p) ∧
      Adds (State.fresh cfg dflt rules []).1 t0 ((State.fresh cfg dflt rules []).1.run ops) t
        (ops.flatMap Op.pages) := by
  obtain ⟨t0, h0, f0⟩ := fresh_spec cfg dflt rules []
  obtain ⟨hi0, hnp⟩ := f0 hrules
  obtain ⟨t, x, f⟩ := run_spec ops _ t0 h0 hop
  exact ⟨t0, t, x.shape, hnp, f hwf hi0 hok⟩

theorem Adds.submitted {s s' : State} {t t' : T} {ops : List Op} (hnp : ∀ p, ¬ IsPage s t p)
    (a : Adds s t s' t' (ops.flatMap Op.pages)) :
    (∀ p, IsPage s' t' p ↔ ∃ op ∈ ops, ∃ x ∈ op.pages, x.1 = p) ∧
    (∀ p, (IsCrawled s' t' p → ∃ op ∈ ops, ∃ x ∈ op.pages, x.1 = p ∧ x.2.2 = true) ∧
          ((∃ op ∈ ops, ∃ x ∈ op.pages, x.1 = p ∧ x.2.1 = true) → IsCrawled s' t' p)) := by
  refine ⟨fun p => ?_, fun p => ⟨fun hcr => ?_, ?_⟩⟩
  · rw [a.page]
    constructor
    · rintro (hp | ⟨y, hy, e⟩)
      · exact absurd hp (hnp p)
      · obtain ⟨op, ho, hy⟩ := List.mem_flatMap.mp hy
        exact ⟨op, ho, y, hy, e⟩
    · rintro ⟨op, ho, y, hy, e⟩
      exact Or.inr ⟨y, List.mem_flatMap.mpr ⟨op, ho, hy⟩, e⟩
  · rcases a.may p hcr with hcr | ⟨y, hy, e⟩
    · exact absurd hcr.isPage (hnp p)
    · obtain ⟨op, ho, hy⟩ := List.mem_flatMap.mp hy
      exact ⟨op, ho, y, hy, e⟩
  · rintro ⟨op, ho, y, hy, e⟩
    exact a.must p (Or.inr ⟨y, List.mem_flatMap.mpr ⟨op, ho, hy⟩, e⟩)

/-- C01, pages: after any history of well-formed write requests the pages of the index are exactly
    the LRUs submitted as pages -/
theorem C01_pages (cfg : Config) (dflt : Rule) (rules : List (Bytes × Rule)) (ops : List Op)
    (hrules : ∀ ar ∈ rules, lruIter ar.1 ≠ [])
    (hop : ∀ op ∈ ops, ∀ d rs, op ≠ .clear d rs) (hwf : ∀ op ∈ ops, OpWf op)
    (hok : NoKeyErr (State.fresh cfg dflt rules []).1 ops) :
    ∃ t, Shape ((State.fresh cfg dflt rules []).1.run ops) t ∧
      ∀ p, IsPage ((State.fresh cfg dflt rules []).1.run ops) t p ↔ ∃ op ∈ ops, ∃ x ∈ op.pages, x.1 = p := by
  obtain ⟨t0, t, h, hnp, a⟩ := C01_adds cfg dflt rules ops hrules hop hwf hok
  exact ⟨t, h, (a.submitted hnp).1⟩

/-- C01, crawled marks: a page reported crawled was submitted by a request that may mark it; a page
    submitted by a request that must mark it is reported crawled -/
theorem C01_crawled (cfg : Config) (dflt : Rule) (rules : List (Bytes × Rule)) (ops : List Op)
    (hrules : ∀ ar ∈ rules, lruIter ar.1 ≠ [])
    (hop : ∀ op ∈ ops, ∀ d rs, op ≠ .clear d rs) (hwf : ∀ op ∈ ops, OpWf op)
    (hok : NoKeyErr (State.fresh cfg dflt rules []).1 ops) :
    ∃ t, Shape ((State.fresh cfg dflt rules []).1.run ops) t ∧
      ∀ p, (IsCrawled ((State.fresh cfg dflt rules []).1.run ops) t p →
              ∃ op ∈ ops, ∃ x ∈ op.pages, x.1 = p ∧ x.2.2 = true) ∧
           ((∃ op ∈ ops, ∃ x ∈ op.pages, x.1 = p ∧ x.2.1 = true) →
              IsCrawled ((State.fresh cfg dflt rules []).1.run ops) t p) := by
  obtain ⟨t0, t, h, hnp, a⟩ := C01_adds cfg dflt rules ops hrules hop hwf hok
  exact ⟨t, h, (a.submitted hnp).2⟩

open Classical in
/-- C01, reports: every write report counts exactly the distinct LRUs of the request that were not
    pages before it -/
theorem C01_report {s : State} {t : T} (h : Shape s t) (hi : Inv s t) (op : Op)
    (hop : ∀ d rs, op ≠ .clear d rs) (hwf : OpWf op) (r : Report) (hr : (s.step op).2 = .report r) :
    r.pages = ((op.pages.map (·.1)).eraseDups.filter (fun p => decide (¬ IsPage s t p))).length := by
  obtain ⟨_, _, f⟩ := step_spec h op hop
  exact (f hwf hi).2 r hr


theorem pre_mem_iff {s : State} : ∀ (u : T) (pre : LRU) (a : Nat) (lru : Bytes),
    (a, lru) ∈ u.pre s pre.flatten ↔ ∃ p, (p, a) ∈ u.entries s pre ∧ lru = p.flatten
  | .nil, _, _, _ => by simp [T.pre, T.entries]
  | .node d l c r, pre, a, lru => by
    have e : pre.flatten ++ s.stemAt d = (pre ++ [s.stemAt d]).flatten := by simp
    simp only [T.pre, T.entries, List.mem_cons, List.mem_append, Prod.mk.injEq]
    rw [e, pre_mem_iff c (pre ++ [s.stemAt d]), pre_mem_iff l pre, pre_mem_iff r pre]
    constructor
    · rintro (⟨rfl, rfl⟩ | (⟨p, hp, rfl⟩ | ⟨p, hp, rfl⟩) | ⟨p, hp, rfl⟩)
      · exact ⟨_, Or.inr (Or.inl ⟨rfl, rfl⟩), rfl⟩
      · exact ⟨p, Or.inr (Or.inr (Or.inl hp)), rfl⟩
      · exact ⟨p, Or.inl hp, rfl⟩
      · exact ⟨p, Or.inr (Or.inr (Or.inr hp)), rfl⟩
    · rintro ⟨p, hp | ⟨rfl, rfl⟩ | hp | hp, rfl⟩
      · exact Or.inr (Or.inl (Or.inr ⟨p, hp, rfl⟩))
      · exact Or.inl ⟨rfl, rfl⟩
      · exact Or.inr (Or.inl (Or.inl ⟨p, hp, rfl⟩))
      · exact Or.inr (Or.inr ⟨p, hp, rfl⟩)

theorem dfsIter_mem_iff {s : State} {t : T} (h : Shape s t) (a : Nat) (lru : Bytes) :
    (a, lru) ∈ s.dfsIter none false ↔ ∃ p, (p, a) ∈ t.entries s [] ∧ lru = p.flatten := by
  rw [dfsIter_root h]
  exact pre_mem_iff t [] a lru

/-- `pages_iter` lists exactly the entries flagged as pages, with their crawled marks -/
theorem pagesIter_iff {s : State} {t : T} (h : Shape s t) (lru : Bytes) (c : Bool) :
    (lru, c) ∈ s.pagesIter ↔
      ∃ p b, (p, b) ∈ t.entries s [] ∧ lru = p.flatten ∧ (s.cell b).flags.page = true ∧
        c = (s.cell b).flags.crawled := by
  unfold pagesIter
  simp only [List.mem_map, List.mem_filter, Prod.mk.injEq]
  constructor
  · rintro ⟨⟨b, l⟩, ⟨hm, hp⟩, rfl, rfl⟩
    obtain ⟨p, hp', e⟩ := (dfsIter_mem_iff h b l).mp hm
    exact ⟨p, b, hp', e, hp, rfl⟩
  · rintro ⟨p, b, hm, rfl, hp, rfl⟩
    exact ⟨(b, p.flatten), ⟨(dfsIter_mem_iff h b _).mpr ⟨p, hm, rfl⟩, hp⟩, rfl, rfl⟩

theorem pagesIter_isPage {s : State} {t : T} (h : Shape s t) (lru : Bytes) :
    (∃ c, (lru, c) ∈ s.pagesIter) ↔ ∃ p, IsPage s t p ∧ lru = p.flatten := by
  constructor
  · rintro ⟨c, hc⟩
    obtain ⟨p, b, hm, e, hp, _⟩ := (pagesIter_iff h lru c).mp hc
    exact ⟨p, ⟨b, hm, hp⟩, e⟩
  · rintro ⟨p, ⟨b, hm, hp⟩, e⟩
    exact ⟨_, (pagesIter_iff h lru _).mpr ⟨p, b, hm, e, hp, rfl⟩⟩

/-- A walk that meets no block twice and lists each block with the bytes of its path lists no byte string twice,
    whatever is filtered out of it and whatever `g` makes of an item, as long as `g` keeps the bytes apart. -/
theorem walk_lrus_nodup {β : Type} {s : State} {t : T} (h : Shape s t) (hw : WfStems s t) {W : List (Nat × Bytes)}
    (hnd : (W.map (·.1)).Nodup) (hmem : ∀ x ∈ W, ∃ X, (X, x.1) ∈ t.entries s [] ∧ x.2 = X.flatten)
    (q : Nat × Bytes → Bool) (g : Nat × Bytes → β) (hg : ∀ x y, g x = g y → x.2 = y.2) :
    ((W.filter q).map g).Nodup := by
  refine nodup_map_on (f := (·.1)) (hnd.sublist (List.filter_sublist.map _)) fun x hx y hy e => ?_
  obtain ⟨X, hX, ex⟩ := hmem x (List.mem_filter.mp hx).1
  obtain ⟨Y, hY, ey⟩ := hmem y (List.mem_filter.mp hy).1
  cases hw.flatten_inj hX hY (by rw [← ex, ← ey, hg x y e])
  exact entries_path_injective h.ord h.nodup hX hY

theorem pagesIter_nodup {s : State} {t : T} (h : Shape s t) (hw : WfStems s t) :
    (s.pagesIter.map (·.1)).Nodup := by
  unfold pagesIter
  rw [List.map_map]
  exact walk_lrus_nodup h hw (dfsIter_nodup h) (fun x hx => (dfsIter_mem_iff h x.1 x.2).mp hx) _ _ fun _ _ e => e

theorem Adds.single_iff {s s' : State} {t t' : T} {q : LRU} {c : Bool} (a : Adds s t s' t' [(q, c, c)]) :
    (∀ p, IsPage s' t' p ↔ IsPage s t p ∨ p = q) ∧
    (∀ p, IsCrawled s' t' p ↔ IsCrawled s t p ∨ (p = q ∧ c = true)) := by
  refine ⟨fun p => ?_, fun p => ⟨fun h => ?_, fun h => ?_⟩⟩
  · rw [a.page]
    simp only [List.mem_singleton, exists_eq_left]
    exact ⟨fun h => h.imp id Eq.symm, fun h => h.imp id Eq.symm⟩
  · rcases a.may p h with h | ⟨x, hx, e, hm⟩
    · exact Or.inl h
    · simp only [List.mem_singleton] at hx; subst hx
      exact Or.inr ⟨e.symm, hm⟩
  · rcases h with h | ⟨rfl, hc⟩
    · exact a.must p (Or.inl h)
    · exact a.must p (Or.inr ⟨_, List.mem_singleton.mpr rfl, rfl, hc⟩)

/-- `IsPage` through the model's own look-up: it does not depend on the ghost tree -/
theorem isPage_iff_lruNode {s : State} {t : T} (h : Shape s t) (p : LRU) (hne : p ≠ []) :
    IsPage s t p ↔ ∃ b, s.lruNode p = some b ∧ (s.cell b).flags.page = true := by
  constructor
  · rintro ⟨b, hm, hp⟩; exact ⟨b, (lruNode_iff_entries h p hne b).mpr hm, hp⟩
  · rintro ⟨b, hm, hp⟩; exact ⟨b, (lruNode_iff_entries h p hne b).mp hm, hp⟩

theorem isCrawled_iff_lruNode {s : State} {t : T} (h : Shape s t) (p : LRU) (hne : p ≠ []) :
    IsCrawled s t p ↔ ∃ b, s.lruNode p = some b ∧ (s.cell b).flags.page = true ∧ (s.cell b).flags.crawled = true := by
  constructor
  · rintro ⟨b, hm, hp⟩; exact ⟨b, (lruNode_iff_entries h p hne b).mpr hm, hp⟩
  · rintro ⟨b, hm, hp⟩; exact ⟨b, (lruNode_iff_entries h p hne b).mp hm, hp⟩

/-- `LRUTrie.add_page(stems, c)` -/
theorem addPageTrie_spec {s : State} {t : T} (h : Shape s t) (hi : Inv s t) (stems : LRU) (c : Bool)
    (hne : stems ≠ []) (hst : ∀ x ∈ stems, StemWf x) :
    ∃ t', Shape (s.addPageTrie stems c).1 t' ∧ Inv (s.addPageTrie stems c).1 t' ∧
      (∀ p b, (p, b) ∈ t.entries s [] → (p, b) ∈ t'.entries (s.addPageTrie stems c).1 []) ∧
      (stems, (s.addPageTrie stems c).2.1) ∈ t'.entries (s.addPageTrie stems c).1 [] ∧
      (∀ p, IsPage (s.addPageTrie stems c).1 t' p ↔ IsPage s t p ∨ p = stems) ∧
      (∀ p, IsCrawled (s.addPageTrie stems c).1 t' p ↔ IsCrawled s t p ∨ (p = stems ∧ c = true)) ∧
      ((s.addPageTrie stems c).2.2.created = true ↔ ¬ IsPage s t stems) := by
  obtain ⟨t', x, f⟩ := addPageTrie_step h stems c hst
  obtain ⟨g1, _, g3⟩ := f hne
  obtain ⟨a, hc⟩ := g3 hi
  exact ⟨t', x.shape, a.inv, x.keep, g1, a.single_iff.1, a.single_iff.2, hc⟩

open Classical in
/-- `Traph.__add_page(lru, c)`: the page is added whatever the answer; an `.ok` report counts it iff new -/
theorem addPageCore_spec {s : State} {t : T} (h : Shape s t) (hi : Inv s t) (lru : Bytes) (c : Bool)
    (hne : lruIter lru ≠ []) :
    ∃ t', Shape (s.addPageCore lru c).1 t' ∧ Inv (s.addPageCore lru c).1 t' ∧
      (∀ p b, (p, b) ∈ t.entries s [] → (p, b) ∈ t'.entries (s.addPageCore lru c).1 []) ∧
      (lruIter lru, (s.addPageCore lru c).2.1) ∈ t'.entries (s.addPageCore lru c).1 [] ∧
      (∀ p, IsPage (s.addPageCore lru c).1 t' p ↔ IsPage s t p ∨ p = lruIter lru) ∧
      (∀ p, IsCrawled (s.addPageCore lru c).1 t' p ↔ IsCrawled s t p ∨ (p = lruIter lru ∧ c = true)) ∧
      (∀ r, (s.addPageCore lru c).2.2 = .ok r → r.pages = if IsPage s t (lruIter lru) then 0 else 1) ∧
      (∀ e, (s.addPageCore lru c).2.2 = .error e → e = .other "KeyError") := by
  obtain ⟨t', x, f⟩ := addPageCore_step h lru c
  obtain ⟨g1, _, g3⟩ := f hne
  obtain ⟨a, hr⟩ := g3 hi
  refine ⟨t', x.shape, a.inv, x.keep, g1, a.single_iff.1, a.single_iff.2, fun r hrr => ?_,
    addPageCore_err s lru c⟩
  by_cases hp : IsPage s t (lruIter lru)
  · rw [if_pos hp]; exact (hr r hrr).1 hp
  · rw [if_neg hp]; exact (hr r hrr).2 hp

/-- the code's behaviour (DESIGN §5.3 switch on): `add_pages` marks every listed page as crawled,
    whatever its `crawled` argument -/
theorem addPages_always {s : State} {t : T} (h : Shape s t) (hi : Inv s t) (lrus : List Bytes) (c : Bool)
    (hne : ∀ l ∈ lrus, lruIter l ≠ []) (hsw : s.cfg.addPagesAlwaysCrawled = true)
    (r : Report) (hr : (s.addPages lrus c).2 = .ok r) :
    ∃ t', Shape (s.addPages lrus c).1 t' ∧ ∀ l ∈ lrus, IsCrawled (s.addPages lrus c).1 t' (lruIter l) := by
  obtain ⟨t', x, f⟩ := addPages_step h lrus c
  refine ⟨t', x.shape, fun l hl => ?_⟩
  refine (f hne hi r hr).adds.must _ (Or.inr ⟨_, List.mem_map.mpr ⟨l, hl, rfl⟩, rfl, ?_⟩)
  simp [hsw]

theorem C01_pagesIter (cfg : Config) (dflt : Rule) (rules : List (Bytes × Rule)) (ops : List Op)
    (hrules : ∀ ar ∈ rules, lruIter ar.1 ≠ [])
    (hop : ∀ op ∈ ops, ∀ d rs, op ≠ .clear d rs) (hwf : ∀ op ∈ ops, OpWf op)
    (hok : NoKeyErr (State.fresh cfg dflt rules []).1 ops) :
    (∀ lru, (∃ c, (lru, c) ∈ ((State.fresh cfg dflt rules []).1.run ops).pagesIter) ↔
        ∃ op ∈ ops, ∃ x ∈ op.pages, lru = x.1.flatten) ∧
    ((((State.fresh cfg dflt rules []).1.run ops).pagesIter).map (·.1)).Nodup := by
  obtain ⟨t0, t, h, hnp, a⟩ := C01_adds cfg dflt rules ops hrules hop hwf hok
  refine ⟨fun lru => ?_, pagesIter_nodup h a.inv.wf⟩
  rw [pagesIter_isPage h]
  constructor
  · rintro ⟨p, hp, rfl⟩
    rcases (a.page p).mp hp with hp | ⟨x, hx, rfl⟩
    · exact absurd hp (hnp p)
    · obtain ⟨op, ho, hx⟩ := List.mem_flatMap.mp hx
      exact ⟨op, ho, x, hx, rfl⟩
  · rintro ⟨op, ho, x, hx, rfl⟩
    exact ⟨x.1, (a.page _).mpr (Or.inr ⟨x, List.mem_flatMap.mpr ⟨op, ho, hx⟩, rfl⟩), rfl⟩

#print axioms shape_step
#print axioms shape_run
#print axioms step_spec
#print axioms C01_pages
#print axioms C01_crawled
#print axioms C01_report
#print axioms pagesIter_iff
#print axioms pagesIter_nodup
#print axioms C01_pagesIter
#print axioms addPageTrie_spec
#print axioms addPageCore_spec
#print axioms addPages_always


open Classical in
/-- C01, reports, along a history: the report of the next request counts exactly the distinct LRUs it
    submits that were not pages of the index reached so far -/
theorem C01_report_run (cfg : Config) (dflt : Rule) (rules : List (Bytes × Rule)) (ops : List Op)
    (hrules : ∀ ar ∈ rules, lruIter ar.1 ≠ [])
    (hop : ∀ op ∈ ops, ∀ d rs, op ≠ .clear d rs) (hwf : ∀ op ∈ ops, OpWf op)
    (hok : NoKeyErr (State.fresh cfg dflt rules []).1 ops)
    (op : Op) (hop' : ∀ d rs, op ≠ .clear d rs) (hwf' : OpWf op) (r : Report)
    (hr : (((State.fresh cfg dflt rules []).1.run ops).step op).2 = .report r) :
    ∃ t, Shape ((State.fresh cfg dflt rules []).1.run ops) t ∧
      r.pages = ((op.pages.map (·.1)).eraseDups.filter
        (fun p => decide (¬ IsPage ((State.fresh cfg dflt rules []).1.run ops) t p))).length := by
  obtain ⟨_, t, h, _, a⟩ := C01_adds cfg dflt rules ops hrules hop hwf hok
  exact ⟨t, h, C01_report h a.inv op hop' hwf' r hr⟩

#print axioms C01_report_run

end Traph
