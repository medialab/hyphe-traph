import Proofs.Small
/-! `forPrefixes`: the per-prefix loop shared by the webentity queries, and the queries that return its
    collected answers as a sorted set. The loop raises iff some prefix is not in the trie and else concatenates the
    answers (`forPrefixes_eq`); sorted, the result is strictly ascending with exactly their members
    (`forPrefixes_sortDedup_ok`). -/
namespace Traph
open State

theorem forPrefixes_go (s : State) {α} (f : Nat → Bytes → List α) :
    ∀ (ps : List Bytes) (acc : Except Err (List α)),
      ps.foldl (s.forPrefixesStep f) acc =
      match acc with
      | .error e => .error e
      | .ok xs =>
        if ps.all (fun p => (s.lruNode (lruIter p)).isSome) then
          .ok (xs ++ ps.flatMap (fun p => match s.lruNode (lruIter p) with | some n => f n p | none => []))
        else .error .traph := by
  intro ps
  induction ps with
  | nil => intro acc; cases acc <;> simp
  | cons p ps ih =>
    intro acc
    rw [List.foldl_cons, ih]
    cases acc with
    | error e => simp [forPrefixesStep]
    | ok xs =>
      cases hn : s.lruNode (lruIter p) with
      | none => simp [forPrefixesStep, hn]
      | some n => simp [forPrefixesStep, hn, List.append_assoc]

theorem foldl_forPrefixesStep_error (s : State) {α} (f : Nat → Bytes → List α) (e : Err) (ps : List Bytes) :
    ps.foldl (s.forPrefixesStep f) (.error e) = .error e :=
  forPrefixes_go s f ps (.error e)

theorem forPrefixes_eq (s : State) {α} (ps : List Bytes) (f : Nat → Bytes → List α) :
    s.forPrefixes ps f =
      if ps.all (fun p => (s.lruNode (lruIter p)).isSome) then
        .ok (ps.flatMap (fun p => match s.lruNode (lruIter p) with | some n => f n p | none => []))
      else .error .traph := by
  unfold forPrefixes
  rw [forPrefixes_go]
  simp

theorem cd_forPrefixes_cons (s : State) {α} (p : Bytes) (ps : List Bytes) (f : Nat → Bytes → List α) :
    s.forPrefixes (p :: ps) f =
      match s.lruNode (lruIter p) with
      | none => .error .traph
      | some n => (match s.forPrefixes ps f with | .ok l => .ok (f n p ++ l) | .error e => .error e) := by
  rw [forPrefixes_eq, forPrefixes_eq]
  cases hn : s.lruNode (lruIter p) with
  | none => simp [hn]
  | some n =>
    by_cases hall : (ps.all fun p => (s.lruNode (lruIter p)).isSome) = true
    · simp [hn, hall]
    · simp [hn, hall]

theorem forPrefixes_mem (s : State) {α} (ps : List Bytes) (f : Nat → Bytes → List α) (xs : List α)
    (h : s.forPrefixes ps f = .ok xs) (x : α) :
    x ∈ xs ↔ ∃ p ∈ ps, ∃ n, s.lruNode (lruIter p) = some n ∧ x ∈ f n p := by
  rw [forPrefixes_eq] at h
  split at h
  · cases h
    simp only [List.mem_flatMap]
    constructor
    · rintro ⟨p, hp, hx⟩
      cases hn : s.lruNode (lruIter p) with
      | none => simp [hn] at hx
      | some n => exact ⟨p, hp, n, hn, by simpa [hn] using hx⟩
    · rintro ⟨p, hp, n, hn, hx⟩
      exact ⟨p, hp, by simpa [hn] using hx⟩
  · cases h

theorem forPrefixes_err (s : State) {α} (ps : List Bytes) (f : Nat → Bytes → List α) (e : Err)
    (h : s.forPrefixes ps f = .error e) : e = .traph ∧ ∃ p ∈ ps, s.lruNode (lruIter p) = none := by
  rw [forPrefixes_eq] at h
  split at h
  · cases h
  · rename_i hall
    cases h
    refine ⟨rfl, ?_⟩
    apply Classical.byContradiction
    intro hno
    apply hall
    rw [List.all_eq_true]
    intro p hp
    cases hh : s.lruNode (lruIter p) with
    | none => exact absurd ⟨p, hp, hh⟩ hno
    | some n => rfl

/-- an answered request knows every prefix it was given -/
theorem forPrefixes_nodes (s : State) {α} (ps : List Bytes) (f : Nat → Bytes → List α) (xs : List α)
    (h : s.forPrefixes ps f = .ok xs) : ∀ p ∈ ps, (s.lruNode (lruIter p)).isSome = true := by
  rw [forPrefixes_eq] at h
  split at h
  · exact List.all_eq_true.mp ‹_›
  · cases h

theorem forPrefixes_map_ok (s : State) {α β} (ps : List Bytes) (f : Nat → Bytes → List α) (g : List α → β) (y : β) :
    (s.forPrefixes ps f).map g = .ok y ↔ ∃ xs, s.forPrefixes ps f = .ok xs ∧ y = g xs := by
  cases s.forPrefixes ps f with
  | error e => exact ⟨nofun, fun ⟨_, h, _⟩ => nomatch h⟩
  | ok xs => exact ⟨fun h => ⟨xs, rfl, (Except.ok.inj h).symm⟩, fun ⟨_, h, e⟩ => Except.ok.inj h ▸ e ▸ rfl⟩

theorem forPrefixes_sortDedup_ok (s : State) (ps : List Bytes) (f : Nat → Bytes → List Nat) (l : List Nat)
    (h : (s.forPrefixes ps f).map sortDedup = .ok l) :
    StrictAsc l ∧ ∀ x, x ∈ l ↔ ∃ p ∈ ps, ∃ n, s.lruNode (lruIter p) = some n ∧ x ∈ f n p := by
  obtain ⟨xs, hf, rfl⟩ := (forPrefixes_map_ok s ps f sortDedup l).mp h
  exact ⟨sortDedup_sorted xs, fun x => by rw [mem_sortDedup, forPrefixes_mem s ps f xs hf]⟩

theorem forPrefixes_map_err (s : State) {α β} (ps : List Bytes) (f : Nat → Bytes → List α) (g : List α → β) (e : Err)
    (h : (s.forPrefixes ps f).map g = .error e) : e = .traph ∧ ∃ p ∈ ps, s.lruNode (lruIter p) = none := by
  cases hf : s.forPrefixes ps f with
  | error e' => rw [hf] at h; cases h; exact forPrefixes_err s ps f _ hf
  | ok xs => rw [hf] at h; cases h

end Traph
