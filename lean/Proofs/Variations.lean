import Proofs.VariationsBridge
/-! C17: scheme / www variations of an LRU prefix (`helpers.lru_variations`). The prefixes are those of a grammar
    (`Lru17`: scheme, port, hosts, remaining stems). On their bytes the function computes a stem-level
    specification (`Lru17.variations`, `lruVariations_bytes`); closure and locality are proved on stems. The one
    excluded shape, hosts ending in two `www`, breaks closure (last example). -/
namespace Traph
open Layout

def Body (b : Bytes) : Prop := 124 ∉ b

def http  : Bytes := [104, 116, 116, 112]
def https : Bytes := [104, 116, 116, 112, 115]
def www   : Bytes := [119, 119, 119]

structure Lru17 where
  scheme : Bytes            -- body of the scheme stem after "s:"
  port   : Option Bytes     -- body after "t:"
  hosts  : List Bytes       -- bodies after "h:"
  rest   : List Bytes       -- full bodies (with their "p:"/"q:"/"f:" prefix) of the remaining stems
  deriving DecidableEq, Repr

/-- six conjuncts: scheme non-empty, `Alpha x.scheme`, port non-empty with `PortOk x.port`, hosts without `|`, `RestOk x.rest`, `NoWW x.hosts`
    (the named predicates, defined below, speak of the fields alone) -/
def Lru17.Wf (x : Lru17) : Prop :=
  x.scheme ≠ [] ∧ (∀ c ∈ x.scheme, (65 ≤ c ∧ c ≤ 90) ∨ (97 ≤ c ∧ c ≤ 122)) ∧
  (∀ p, x.port = some p → p ≠ [] ∧ ∀ c ∈ p, 48 ≤ c ∧ c ≤ 57) ∧
  (∀ h ∈ x.hosts, Body h) ∧ (∀ r ∈ x.rest, Body r ∧ ¬ startsWith r hPrefix = true) ∧
  ¬ (∃ pre, x.hosts = pre ++ [www, www])

def Lru17.portStems (x : Lru17) : List Bytes :=
  match x.port with
  | none => []
  | some p => [[116, 58] ++ p ++ [124]]

def Lru17.stems (x : Lru17) : List Bytes :=
  ([115, 58] ++ x.scheme ++ [124]) ::
    (x.portStems ++ x.hosts.map (fun h => [104, 58] ++ h ++ [124]) ++ x.rest.map (· ++ [124]))

def Lru17.bytes (x : Lru17) : Bytes := x.stems.flatten

def portBodies : Option Bytes → List Bytes
  | none => []
  | some p => [116 :: 58 :: p]

def hostBodies (hs : List Bytes) : List Bytes := hs.map (fun h => 104 :: 58 :: h)

/-- `x.bytes` with the fields as arguments (`Lru17.bytes_eq`), so that scheme and hosts can vary on their own -/
def bodiesOf (sc : Bytes) (p : Option Bytes) (hs r : List Bytes) : List Bytes :=
  (115 :: 58 :: sc) :: (portBodies p ++ (hostBodies hs ++ r))

def mkBytes (sc : Bytes) (p : Option Bytes) (hs r : List Bytes) : Bytes := sepJoin (bodiesOf sc p hs r)

theorem Lru17.stems_eq (x : Lru17) :
    x.stems = (bodiesOf x.scheme x.port x.hosts x.rest).map (· ++ [124]) := by
  obtain ⟨sc, p, hs, r⟩ := x
  cases p <;> simp [Lru17.stems, Lru17.portStems, bodiesOf, portBodies, hostBodies]

theorem Lru17.bytes_eq (x : Lru17) : x.bytes = mkBytes x.scheme x.port x.hosts x.rest := by
  rw [Lru17.bytes, x.stems_eq]; rfl

theorem mkBytes_scheme (sc : Bytes) (p : Option Bytes) (hs r : List Bytes) :
    mkBytes sc p hs r = (115 :: 58 :: sc ++ [124]) ++ sepJoin (portBodies p ++ (hostBodies hs ++ r)) := by
  simp [mkBytes, bodiesOf, sepJoin_cons]

theorem mkBytes_hosts (sc : Bytes) (p : Option Bytes) (hs r : List Bytes) :
    mkBytes sc p hs r = sepJoin ((115 :: 58 :: sc) :: portBodies p) ++ (sepJoin (hostBodies hs) ++ sepJoin r) := by
  rw [mkBytes, bodiesOf, ← List.cons_append, sepJoin_append, sepJoin_append]

theorem httpsVariation_mk (sc : Bytes) (p : Option Bytes) (hs r : List Bytes) (hsc : 124 ∉ sc) :
    httpsVariation (mkBytes sc p hs r) =
      if sc = http then some (mkBytes https p hs r)
      else if sc = https then some (mkBytes http p hs r) else none := by
  have sw : ∀ s, 124 ∉ s → (startsWith (mkBytes sc p hs r) (115 :: 58 :: s ++ [124]) = true ↔ sc = s) :=
    fun s h => by simpa [mkBytes_scheme] using startsWith_body sc s _ hsc h
  have rf : ∀ a b, replaceFirst (115 :: 58 :: a ++ [124]) (115 :: 58 :: b ++ [124]) (mkBytes a p hs r) =
      mkBytes b p hs r :=
    fun a b => by rw [mkBytes_scheme, mkBytes_scheme, replaceFirst_prefix _ _ _ (by simp)]
  have e1 : startsWith (mkBytes sc p hs r) sHttp = true ↔ sc = http := sw http (by decide)
  have e2 : startsWith (mkBytes sc p hs r) sHttps = true ↔ sc = https := sw https (by decide)
  unfold httpsVariation
  by_cases h1 : sc = http
  · rw [if_pos (e1.2 h1), if_pos h1, h1]
    exact congrArg some (rf http https)
  · rw [if_neg (mt e1.1 h1), if_neg h1]
    by_cases h2 : sc = https
    · rw [if_pos (e2.2 h2), if_pos h2, h2]
      exact congrArg some (rf https http)
    · rw [if_neg (mt e2.1 h2), if_neg h2]

def Alpha (sc : Bytes) : Prop := ∀ c ∈ sc, (65 ≤ c ∧ c ≤ 90) ∨ (97 ≤ c ∧ c ≤ 122)
def PortOk (p : Option Bytes) : Prop := ∀ q, p = some q → ∀ c ∈ q, 48 ≤ c ∧ c ≤ 57
def RestOk (r : List Bytes) : Prop := ∀ s ∈ r, Body s ∧ ¬ startsWith s hPrefix = true

theorem Alpha.no_sep {sc : Bytes} (h : Alpha sc) : 124 ∉ sc := by
  intro hm; have := h _ hm; omega

theorem bodiesOf_noSep (sc : Bytes) (p : Option Bytes) (hs r : List Bytes)
    (hsc : Alpha sc) (hp : PortOk p) (hh : ∀ h ∈ hs, Body h) (hr : RestOk r) :
    ∀ b ∈ bodiesOf sc p hs r, 124 ∉ b := by
  intro b hb
  simp only [bodiesOf, List.mem_cons, List.mem_append] at hb
  rcases hb with rfl | hb | hb | hb
  · have := hsc.no_sep
    simp [this]
  · cases p with
    | none => simp [portBodies] at hb
    | some q =>
      simp only [portBodies, List.mem_singleton] at hb
      subst hb
      have : 124 ∉ q := by intro hm; have := hp q rfl _ hm; omega
      simp [this]
  · simp only [hostBodies, List.mem_map] at hb
    obtain ⟨h, hm, rfl⟩ := hb
    have : 124 ∉ h := hh h hm
    simp [this]
  · exact (hr b hb).1

theorem hosts_filter (sc : Bytes) (p : Option Bytes) (hs r : List Bytes)
    (hsc : Alpha sc) (hp : PortOk p) (hh : ∀ h ∈ hs, Body h) (hr : RestOk r) :
    (splitOn sep (mkBytes sc p hs r)).filter (fun s => startsWith s hPrefix) = hostBodies hs := by
  show (splitOn 124 (sepJoin _)).filter _ = _
  rw [splitOn_sepJoin _ (bodiesOf_noSep sc p hs r hsc hp hh hr)]
  have f1 : (portBodies p).filter (fun s => startsWith s hPrefix) = [] := by
    cases p <;> simp [portBodies, hPrefix]
  have f2 : (hostBodies hs).filter (fun s => startsWith s hPrefix) = hostBodies hs := by
    simp [hostBodies, hPrefix, List.filter_eq_self]
  have f3 : r.filter (fun s => startsWith s hPrefix) = [] := by
    simp only [List.filter_eq_nil_iff]
    intro s hs'
    exact (hr s hs').2
  have f0 : startsWith (115 :: 58 :: sc) hPrefix = false := by simp [hPrefix]
  have f4 : startsWith [] hPrefix = false := by simp [hPrefix]
  simp [bodiesOf, List.filter_append, f0, f1, f2, f3, f4]

theorem NoHC_pre (sc : Bytes) (p : Option Bytes) (hsc : Alpha sc) (hp : PortOk p) :
    NoHC (sepJoin ((115 :: 58 :: sc) :: portBodies p)) := by
  have hp' : NoHC (124 :: sepJoin (portBodies p)) := by
    cases p with
    | none => exact (by decide : (124 : Nat) ≠ 104)
    | some q =>
      rw [portBodies, sepJoin_cons, sepJoin_nil]
      refine NoHC_cons_ne _ _ (by decide) (NoHC_cons_ne _ _ (by decide) (NoHC_cons_ne _ _ (by decide) ?_))
      exact NoHC_no58 q [] (fun c hc => by have := hp q rfl c hc; omega) (by decide : (124 : Nat) ≠ 104)
  rw [sepJoin_cons]
  refine NoHC_cons_ne _ _ (by decide) (NoHC_cons_ne _ _ (by decide) ?_)
  exact NoHC_no58 sc _ (fun c hc => by have := hsc c hc; omega) hp'

theorem replace_hosts (sc : Bytes) (p : Option Bytes) (hs hs' r : List Bytes)
    (hsc : Alpha sc) (hp : PortOk p) (h1 : hs ≠ []) (h2 : hs' ≠ []) :
    replaceFirst (joinWith sep (hostBodies hs) ++ [sep]) (joinWith sep (hostBodies hs') ++ [sep])
      (mkBytes sc p hs r) = mkBytes sc p hs' r := by
  show replaceFirst (joinWith 124 (hostBodies hs) ++ [124]) (joinWith 124 (hostBodies hs') ++ [124]) _ = _
  rw [joinWith_sep _ (by simpa [hostBodies] using h1), joinWith_sep _ (by simpa [hostBodies] using h2),
    mkBytes_hosts, mkBytes_hosts]
  obtain ⟨a, hs, rfl⟩ := List.exists_cons_of_ne_nil h1
  exact replaceFirst_sepJoin _ _ a (hostBodies hs) _ (NoHC_pre sc p hsc hp)

def schemeAlts (s : Bytes) : List Bytes :=
  if s = http then [s, https] else if s = https then [s, http] else [s]

def toggle (hs : List Bytes) : List Bytes :=
  if hs.getLast? = some www then hs.dropLast else hs ++ [www]

/-- the www variation `toggle hs` exists from two hosts on, unless dropping `www` would leave a single host (`ex4`) -/
def hostAlts (hs : List Bytes) : List (List Bytes) :=
  if hs.length ≤ 1 then [hs] else if (toggle hs).length = 1 then [hs] else [hs, toggle hs]

/-- `[x, swap x (if any), www x (if any), swap (www x) (if both)]` -/
def Lru17.variations (x : Lru17) : List Lru17 :=
  (hostAlts x.hosts).flatMap fun hs => (schemeAlts x.scheme).map fun sc => { x with scheme := sc, hosts := hs }

theorem Alpha_http : Alpha http := by unfold Alpha http; decide
theorem Alpha_https : Alpha https := by unfold Alpha https; decide

def NoWW (hs : List Bytes) : Prop := ¬ ∃ pre, hs = pre ++ [www, www]

theorem toggle_cases (hs : List Bytes) :
    (∃ ys, hs = ys ++ [www] ∧ toggle hs = ys) ∨ (hs.getLast? ≠ some www ∧ toggle hs = hs ++ [www]) := by
  unfold toggle
  by_cases h : hs.getLast? = some www
  · left
    obtain ⟨ys, rfl⟩ := List.getLast?_eq_some_iff.1 h
    exact ⟨ys, rfl, by rw [if_pos h, List.dropLast_concat]⟩
  · right
    exact ⟨h, by rw [if_neg h]⟩

theorem toggle_toggle (hs : List Bytes) (h : NoWW hs) : toggle (toggle hs) = hs := by
  rcases toggle_cases hs with ⟨ys, rfl, e⟩ | ⟨hn, e⟩
  · rw [e]
    have : ys.getLast? ≠ some www := by
      intro hl
      obtain ⟨zs, rfl⟩ := List.getLast?_eq_some_iff.1 hl
      exact h ⟨zs, by simp⟩
    unfold toggle
    rw [if_neg this]
  · rw [e]
    unfold toggle
    rw [if_pos List.getLast?_concat, List.dropLast_concat]

theorem toggle_NoWW (hs : List Bytes) (h : NoWW hs) : NoWW (toggle hs) := by
  rcases toggle_cases hs with ⟨ys, rfl, e⟩ | ⟨hn, e⟩
  · rw [e]
    rintro ⟨pre, rfl⟩
    exact h ⟨pre ++ [www], by simp⟩
  · rw [e]
    rintro ⟨pre, hp⟩
    apply hn
    have : hs ++ [www] = (pre ++ [www]) ++ [www] := by simpa using hp
    have := (List.append_cancel_right_eq _ _ _).mp this
    rw [this]
    exact List.getLast?_concat

theorem toggle_length (hs : List Bytes) :
    (toggle hs).length + 1 = hs.length ∨ (toggle hs).length = hs.length + 1 := by
  rcases toggle_cases hs with ⟨ys, rfl, e⟩ | ⟨hn, e⟩ <;> rw [e] <;> simp

theorem hostAlts_eq (hs : List Bytes) :
    hostAlts hs = if hs.length ≤ 1 ∨ (toggle hs).length = 1 then [hs] else [hs, toggle hs] := by
  unfold hostAlts
  by_cases c1 : hs.length ≤ 1
  · rw [if_pos c1, if_pos (Or.inl c1)]
  · by_cases c2 : (toggle hs).length = 1
    · rw [if_neg c1, if_pos c2, if_pos (Or.inr c2)]
    · rw [if_neg c1, if_neg c2, if_neg (not_or.mpr ⟨c1, c2⟩)]

theorem hostAlts_mem {hs hs' : List Bytes} (h : hs' ∈ hostAlts hs) :
    hs' = hs ∨ (hs' = toggle hs ∧ ¬ hs.length ≤ 1 ∧ (toggle hs).length ≠ 1) := by
  rw [hostAlts_eq] at h
  split at h
  · exact Or.inl (List.mem_singleton.1 h)
  · simp only [List.mem_cons, List.not_mem_nil, or_false] at h
    exact h.imp_right fun e => ⟨e, not_or.mp ‹_›⟩

theorem hostAlts_closed (hs hs' : List Bytes) (hn : NoWW hs) (h : hs' ∈ hostAlts hs) :
    (hostAlts hs').Perm (hostAlts hs) := by
  rcases hostAlts_mem h with rfl | ⟨rfl, c1, c2⟩
  · exact List.Perm.refl _
  · have tl := toggle_length hs
    unfold hostAlts
    rw [if_neg c1, if_neg c2, toggle_toggle hs hn, if_neg (by omega), if_neg (by omega)]
    exact List.Perm.swap _ _ _

theorem hostAlts_NoWW (hs hs' : List Bytes) (hn : NoWW hs) (h : hs' ∈ hostAlts hs) : NoWW hs' := by
  rcases hostAlts_mem h with rfl | ⟨rfl, _⟩
  · exact hn
  · exact toggle_NoWW _ hn

theorem hostAlts_rel (hs hs' : List Bytes) (h : hs' ∈ hostAlts hs) :
    hs' = hs ∨ hs' = hs ++ [www] ∨ hs' ++ [www] = hs := by
  rcases hostAlts_mem h with rfl | ⟨rfl, _⟩
  · exact Or.inl rfl
  · rcases toggle_cases hs with ⟨ys, rfl, e⟩ | ⟨hn, e⟩
    · rw [e]; exact Or.inr (Or.inr rfl)
    · rw [e]; exact Or.inr (Or.inl rfl)

theorem schemeAlts_rel (s s' : Bytes) (h : s' ∈ schemeAlts s) :
    s' = s ∨ (s = http ∧ s' = https) ∨ (s = https ∧ s' = http) := by
  unfold schemeAlts at h
  split at h
  · simp only [List.mem_cons, List.not_mem_nil, or_false] at h
    rcases h with rfl | rfl
    · exact Or.inl rfl
    · exact Or.inr (Or.inl ⟨‹_›, rfl⟩)
  · split at h
    · simp only [List.mem_cons, List.not_mem_nil, or_false] at h
      rcases h with rfl | rfl
      · exact Or.inl rfl
      · exact Or.inr (Or.inr ⟨‹_›, rfl⟩)
    · simp only [List.mem_singleton] at h
      exact Or.inl h

theorem schemeAlts_alpha {s s' : Bytes} (hs : Alpha s) (h : s' ∈ schemeAlts s) : Alpha s' := by
  rcases schemeAlts_rel s s' h with rfl | ⟨_, rfl⟩ | ⟨_, rfl⟩
  · exact hs
  · exact Alpha_https
  · exact Alpha_http

theorem schemeAlts_closed (s s' : Bytes) (h : s' ∈ schemeAlts s) : (schemeAlts s').Perm (schemeAlts s) := by
  rcases schemeAlts_rel s s' h with rfl | ⟨rfl, rfl⟩ | ⟨rfl, rfl⟩
  · exact List.Perm.refl _
  · exact List.Perm.swap _ _ _
  · exact List.Perm.swap _ _ _

def build (p : Option Bytes) (r : List Bytes) (scs : List Bytes) (hss : List (List Bytes)) : List Lru17 :=
  hss.flatMap fun hs => scs.map fun sc => ⟨sc, p, hs, r⟩

theorem Lru17.variations_eq_build (x : Lru17) :
    x.variations = build x.port x.rest (schemeAlts x.scheme) (hostAlts x.hosts) := rfl

theorem mem_build {p r scs hss} {y : Lru17} :
    y ∈ build p r scs hss ↔ y.port = p ∧ y.rest = r ∧ y.scheme ∈ scs ∧ y.hosts ∈ hss := by
  obtain ⟨sc, p', hs, r'⟩ := y
  simp only [build, List.mem_flatMap, List.mem_map, Lru17.mk.injEq]
  constructor
  · rintro ⟨hs', h1, sc', h2, rfl, rfl, rfl, rfl⟩
    exact ⟨rfl, rfl, h2, h1⟩
  · rintro ⟨rfl, rfl, h2, h1⟩
    exact ⟨hs, h1, sc, h2, rfl, rfl, rfl, rfl⟩

theorem build_perm {p r scs scs' hss hss'} (h1 : scs.Perm scs') (h2 : hss.Perm hss') :
    (build p r scs hss).Perm (build p r scs' hss') := by
  unfold build
  exact (flatMap_perm_left _ _ _ (fun hs _ => h1.map _)).trans (h2.flatMap_right _)

theorem Lru17.variations_closed (x y : Lru17) (hn : NoWW x.hosts) (hy : y ∈ x.variations) :
    y.variations.Perm x.variations := by
  rw [Lru17.variations_eq_build] at hy
  obtain ⟨hp, hr, hs, hh⟩ := mem_build.1 hy
  rw [y.variations_eq_build, x.variations_eq_build, hp, hr]
  exact build_perm (schemeAlts_closed _ _ hs) (hostAlts_closed _ _ hn hh)

theorem www_body : Body www := by unfold Body www; decide

theorem Lru17.variations_wf (x y : Lru17) (h : x.Wf) (hy : y ∈ x.variations) : y.Wf := by
  rw [Lru17.variations_eq_build] at hy
  obtain ⟨hp, hr, hs, hh⟩ := mem_build.1 hy
  obtain ⟨w1, w2, w3, w4, w5, w6⟩ := h
  have sa : y.scheme ≠ [] ∧ Alpha y.scheme := by
    rcases schemeAlts_rel _ _ hs with e | ⟨_, e⟩ | ⟨_, e⟩
    · rw [e]; exact ⟨w1, w2⟩
    · rw [e]; exact ⟨by decide, Alpha_https⟩
    · rw [e]; exact ⟨by decide, Alpha_http⟩
  refine ⟨sa.1, sa.2, by rw [hp]; exact w3, ?_, by rw [hr]; exact w5, hostAlts_NoWW _ _ w6 hh⟩
  rcases hostAlts_rel _ _ hh with e | e | e
  · rw [e]; exact w4
  · rw [e]
    intro h hm
    rcases List.mem_append.1 hm with hm | hm
    · exact w4 h hm
    · simp only [List.mem_singleton] at hm; subst hm; exact www_body
  · intro h hm
    exact w4 h (by rw [← e]; simp [hm])

theorem hostBodies_toggle (hs : List Bytes) :
    (if (hostBodies hs).getLast? == some hWww then (hostBodies hs).dropLast else hostBodies hs ++ [hWww])
      = hostBodies (toggle hs) := by
  have e : ((hostBodies hs).getLast? == some hWww) = true ↔ hs.getLast? = some www := by
    rw [beq_iff_eq, hostBodies, List.getLast?_map]
    cases hs.getLast? <;> simp [hWww, www]
  unfold toggle
  by_cases h : hs.getLast? = some www
  · rw [if_pos (e.2 h), if_pos h]; simp [hostBodies, List.map_dropLast]
  · rw [if_neg (fun h' => h (e.1 h')), if_neg h]; simp [hostBodies, hWww, www]

theorem vars_mk (sc : Bytes) (p : Option Bytes) (hs r : List Bytes) (hsc : 124 ∉ sc) :
    mkBytes sc p hs r :: (httpsVariation (mkBytes sc p hs r)).toList =
      (schemeAlts sc).map fun sc' => mkBytes sc' p hs r := by
  rw [httpsVariation_mk sc p hs r hsc, schemeAlts]
  by_cases s1 : sc = http
  · rw [if_pos s1, if_pos s1]; rfl
  · rw [if_neg s1, if_neg s1]
    by_cases s2 : sc = https
    · rw [if_pos s2, if_pos s2]; rfl
    · rw [if_neg s2, if_neg s2]; rfl

theorem lruVariations_mk (sc : Bytes) (p : Option Bytes) (hs r : List Bytes)
    (hsc : Alpha sc) (hp : PortOk p) (hh : ∀ h ∈ hs, Body h) (hr : RestOk r) :
    lruVariations (mkBytes sc p hs r) =
      (hostAlts hs).flatMap fun hs' => (schemeAlts sc).map fun sc' => mkBytes sc' p hs' r := by
  have hl : ∀ l, (hostBodies l).length = l.length := fun l => List.length_map _
  rw [lruVariations_eq]
  dsimp only
  rw [vars_mk sc p hs r hsc.no_sep, hosts_filter sc p hs r hsc hp hh hr, hostBodies_toggle, hl, hl, hostAlts_eq]
  by_cases c : hs.length ≤ 1 ∨ (toggle hs).length = 1
  · rw [if_pos c, if_pos c, List.flatMap_singleton]
  · rw [if_neg c, if_neg c, List.flatMap_cons, List.flatMap_singleton, List.map_map]
    -- each scheme alternative once more, with the run of host stems replaced
    have n1 : hs ≠ [] := fun e => c (Or.inl (by rw [e]; exact Nat.zero_le 1))
    have n2 : toggle hs ≠ [] := fun e => by
      have := toggle_length hs
      rw [e] at this
      exact c (Or.inl (by simp only [List.length_nil] at this; omega))
    exact congrArg _ (List.map_congr_left fun sc' h' =>
      replace_hosts sc' p hs (toggle hs) r (schemeAlts_alpha hsc h') hp n1 n2)

theorem lruVariations_bytes (x : Lru17) (h : x.Wf) :
    lruVariations x.bytes = x.variations.map Lru17.bytes := by
  obtain ⟨_, hsc, hp, hh, hr, _⟩ := h
  rw [x.bytes_eq, lruVariations_mk _ _ _ _ hsc (fun q hq => (hp q hq).2) hh hr]
  simp [Lru17.variations, List.map_flatMap, Lru17.bytes_eq, Function.comp_def]

theorem C17_head (b : Bytes) : (lruVariations b).head? = some b := by
  rw [lruVariations_eq]
  dsimp only
  simp only [apply_ite List.head?, List.cons_append, List.head?_cons, ite_self]

theorem mkBytes_length (sc : Bytes) (p : Option Bytes) (hs r : List Bytes) :
    (mkBytes sc p hs r).length =
      sc.length + (sepJoin (hostBodies hs)).length + (3 + (sepJoin (portBodies p)).length + (sepJoin r).length) := by
  simp [mkBytes_hosts, sepJoin_cons]; omega

theorem hostStems_toggle_length (hs : List Bytes) :
    (sepJoin (hostBodies (toggle hs))).length + 6 = (sepJoin (hostBodies hs)).length ∨
    (sepJoin (hostBodies (toggle hs))).length = (sepJoin (hostBodies hs)).length + 6 := by
  rcases toggle_cases hs with ⟨ys, rfl, e⟩ | ⟨hn, e⟩ <;> rw [e] <;> simp [sepJoin, hostBodies, www]

theorem schemeAlts_shape (s : Bytes) :
    schemeAlts s = [s] ∨ ∃ s', schemeAlts s = [s, s'] ∧ (s'.length = s.length + 1 ∨ s'.length + 1 = s.length) := by
  unfold schemeAlts
  split
  · subst_vars; exact Or.inr ⟨https, rfl, Or.inl rfl⟩
  · split
    · subst_vars; exact Or.inr ⟨http, rfl, Or.inr rfl⟩
    · exact Or.inl rfl

theorem hostAlts_shape (hs : List Bytes) : hostAlts hs = [hs] ∨ hostAlts hs = [hs, toggle hs] := by
  rw [hostAlts_eq]
  split
  · exact Or.inl rfl
  · exact Or.inr rfl

theorem four_sums_nodup (a a' b t c : Nat) (h1 : a' = a + 1 ∨ a' + 1 = a) (h2 : t + 6 = b ∨ t = b + 6) :
    [a + b + c, a' + b + c, a + t + c, a' + t + c].Nodup := by
  simp only [List.nodup_cons, List.mem_cons, List.not_mem_nil, or_false, not_or, List.nodup_nil, and_true,
    not_false_eq_true]
  omega

theorem C17_nodup (x : Lru17) (h : x.Wf) : (lruVariations x.bytes).Nodup := by
  rw [lruVariations_bytes x h, Lru17.variations_eq_build]
  -- the members differ in length: the scheme by one byte, the host run by the six of `h:www|`
  refine List.Pairwise.of_map (S := (· ≠ ·)) List.length (fun a b hab e => hab (congrArg _ e)) ?_
  have tl := hostStems_toggle_length x.hosts
  rcases schemeAlts_shape x.scheme with e1 | ⟨s', e1, hs'⟩ <;>
  rcases hostAlts_shape x.hosts with e2 | e2 <;>
  simp only [e1, e2, build, List.flatMap_cons, List.flatMap_nil, List.map_cons, List.map_nil, List.append_nil,
    List.cons_append, List.nil_append, Lru17.bytes_eq, mkBytes_length]
  · exact (four_sums_nodup _ _ _ _ _ (Or.inl rfl) tl).sublist (.cons_cons _ (.cons _ (.cons _ (.cons _ .slnil))))
  · exact (four_sums_nodup _ _ _ _ _ (Or.inl rfl) tl).sublist (.cons_cons _ (.cons _ (.cons_cons _ (.cons _ .slnil))))
  · exact (four_sums_nodup _ _ _ _ _ hs' tl).sublist (.cons_cons _ (.cons_cons _ (.cons _ (.cons _ .slnil))))
  · exact four_sums_nodup _ _ _ _ _ hs' tl
theorem C17_closed (x : Lru17) (h : x.Wf) :
    ∀ y ∈ lruVariations x.bytes, (lruVariations y).Perm (lruVariations x.bytes) := by
  intro y hy
  rw [lruVariations_bytes x h] at hy ⊢
  obtain ⟨x', hx', rfl⟩ := List.mem_map.1 hy
  rw [lruVariations_bytes x' (x.variations_wf x' h hx')]
  exact (x.variations_closed x' h.2.2.2.2.2 hx').map _

theorem C17_local (x : Lru17) (h : x.Wf) :
    ∀ y ∈ lruVariations x.bytes, ∃ x' : Lru17, x'.Wf ∧ x'.bytes = y ∧ x'.port = x.port ∧ x'.rest = x.rest ∧
      (x'.scheme = x.scheme ∨ (x.scheme = http ∧ x'.scheme = https) ∨ (x.scheme = https ∧ x'.scheme = http)) ∧
      (x'.hosts = x.hosts ∨ x'.hosts = x.hosts ++ [www] ∨ x'.hosts ++ [www] = x.hosts) := by
  intro y hy
  rw [lruVariations_bytes x h] at hy
  obtain ⟨x', hx', rfl⟩ := List.mem_map.1 hy
  have hw := x.variations_wf x' h hx'
  rw [Lru17.variations_eq_build] at hx'
  obtain ⟨hp, hr, hs, hh⟩ := mem_build.1 hx'
  exact ⟨x', hw, rfl, hp, hr, schemeAlts_rel _ _ hs, hostAlts_rel _ _ hh⟩

/-- few hosts (in particular scheme-only LRUs such as `s:http|` and `s:http|t:80|`): only the scheme varies -/
theorem C17_fewHosts (x : Lru17) (h : x.Wf) (hl : x.hosts.length ≤ 1) :
    lruVariations x.bytes = (schemeAlts x.scheme).map fun sc => ({ x with scheme := sc } : Lru17).bytes := by
  rw [lruVariations_bytes x h, Lru17.variations_eq_build]
  simp [hostAlts, hl, build]

theorem C17_card (x : Lru17) (h : x.Wf) :
    (lruVariations x.bytes).length = 1 ∨ (lruVariations x.bytes).length = 2 ∨
    (lruVariations x.bytes).length = 4 := by
  rw [lruVariations_bytes x h, Lru17.variations_eq_build]
  rcases schemeAlts_shape x.scheme with e1 | ⟨s', e1, _⟩ <;>
  rcases hostAlts_shape x.hosts with e2 | e2 <;> rw [e1, e2] <;> simp [build]

theorem lruIter_bytes (x : Lru17) (h : x.Wf) : lruIter x.bytes = x.stems := by
  obtain ⟨_, hsc, hp, hh, hr, _⟩ := h
  rw [x.bytes_eq, x.stems_eq]
  exact lruIter_sepJoin _ (bodiesOf_noSep _ _ _ _ hsc (fun q hq => (hp q hq).2) hh hr)

instance (x : Lru17) : Decidable x.Wf :=
  decidable_of_iff
    (x.scheme ≠ [] ∧ (∀ c ∈ x.scheme, (65 ≤ c ∧ c ≤ 90) ∨ (97 ≤ c ∧ c ≤ 122)) ∧
      (∀ p ∈ x.port, p ≠ [] ∧ ∀ c ∈ p, 48 ≤ c ∧ c ≤ 57) ∧
      (∀ h ∈ x.hosts, 124 ∉ h) ∧ (∀ r ∈ x.rest, 124 ∉ r ∧ ¬ startsWith r hPrefix = true) ∧
      ¬ [www, www] <:+ x.hosts)
    (and_congr Iff.rfl (and_congr Iff.rfl (and_congr Iff.rfl (and_congr Iff.rfl (and_congr Iff.rfl
      (not_congr ⟨fun ⟨t, h⟩ => ⟨t, h.symm⟩, fun ⟨t, h⟩ => ⟨t, h.symm⟩⟩))))))

/-- `s:https|h:com|h:example|p:s:http|` : a path stem containing the text "s:http" -/
def ex1 : Lru17 :=
  { scheme := https, port := none, hosts := [[99, 111, 109], [101, 120, 97, 109, 112, 108, 101]],
    rest := [[112, 58, 115, 58, 104, 116, 116, 112]] }

example : ex1.Wf := by decide +kernel

example : lruVariations ex1.bytes =
    [ -- s:https|h:com|h:example|p:s:http|
      [115,58,104,116,116,112,115,124, 104,58,99,111,109,124, 104,58,101,120,97,109,112,108,101,124,
        112,58,115,58,104,116,116,112,124],
      -- s:http|h:com|h:example|p:s:http|
      [115,58,104,116,116,112,124, 104,58,99,111,109,124, 104,58,101,120,97,109,112,108,101,124,
        112,58,115,58,104,116,116,112,124],
      -- s:https|h:com|h:example|h:www|p:s:http|
      [115,58,104,116,116,112,115,124, 104,58,99,111,109,124, 104,58,101,120,97,109,112,108,101,124,
        104,58,119,119,119,124, 112,58,115,58,104,116,116,112,124],
      -- s:http|h:com|h:example|h:www|p:s:http|
      [115,58,104,116,116,112,124, 104,58,99,111,109,124, 104,58,101,120,97,109,112,108,101,124,
        104,58,119,119,119,124, 112,58,115,58,104,116,116,112,124] ] := by decide +kernel

/-- `s:http|t:80|` : no host at all -/
def ex2 : Lru17 := { scheme := http, port := some [56, 48], hosts := [], rest := [] }

example : ex2.Wf := by decide +kernel

example : lruVariations ex2.bytes =
    [ [115,58,104,116,116,112,124, 116,58,56,48,124], [115,58,104,116,116,112,115,124, 116,58,56,48,124] ] := by
  decide +kernel

/-- `s:ftp|h:com|h:a|h:www|p:h:x|` : hosts end in www, unknown scheme, a path stem containing "h:" -/
def ex3 : Lru17 :=
  { scheme := [102, 116, 112], port := none, hosts := [[99, 111, 109], [97], www],
    rest := [[112, 58, 104, 58, 120]] }

example : ex3.Wf := by decide +kernel

example : lruVariations ex3.bytes =
    [ [115,58,102,116,112,124, 104,58,99,111,109,124, 104,58,97,124, 104,58,119,119,119,124, 112,58,104,58,120,124],
      [115,58,102,116,112,124, 104,58,99,111,109,124, 104,58,97,124, 112,58,104,58,120,124] ] := by decide +kernel

/-- `s:http|h:com|h:www|` : two hosts, the second is www: removing it would leave one host, so no www variation -/
def ex4 : Lru17 := { scheme := http, port := none, hosts := [[99, 111, 109], www], rest := [] }

example : ex4.Wf := by decide +kernel

example : lruVariations ex4.bytes =
    [ [115,58,104,116,116,112,124, 104,58,99,111,109,124, 104,58,119,119,119,124],
      [115,58,104,116,116,112,115,124, 104,58,99,111,109,124, 104,58,119,119,119,124] ] := by decide +kernel

/-- the excluded shape (hosts ending in two www) really breaks closure in the model:
    `s:a|h:x|h:www|h:www|` expands to itself and `s:a|h:x|h:www|`, which expands only to itself -/
example :
    let b : Bytes := [115,58,97,124, 104,58,120,124, 104,58,119,119,119,124, 104,58,119,119,119,124]
    let b' : Bytes := [115,58,97,124, 104,58,120,124, 104,58,119,119,119,124]
    lruVariations b = [b, b'] ∧ lruVariations b' = [b'] := by decide +kernel

#print axioms C17_head
#print axioms C17_nodup
#print axioms C17_local
#print axioms C17_closed
#print axioms lruVariations_bytes
#print axioms C17_fewHosts
#print axioms C17_card
#print axioms lruIter_bytes

end Traph
