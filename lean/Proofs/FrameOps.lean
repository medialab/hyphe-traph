import Proofs.Frame
import Proofs.Chunks
/-! The trie layer one step at a time, and `TrieAcross R`: a relation that the three kinds of write of `add_lru`
    respect holds from before `add_lru` to after it; `Trace` (hence `⊑`) is the first instance, `WT` (PtrOkOps),
    `AttrStep` (InsertAttrs) and the untouched components of the state (`Kept`) are others. -/
namespace Traph
open State

theorem cell_writeNew_old (s : State) (x : Stem) (par : Nat) (ch : Bool) (a : Nat) (ha : a < s.trie.size) :
    (s.writeNew x par ch).1.cell a = s.cell a := by
  unfold State.cell; rw [writeNew_old s x par ch a ha]

theorem trace_appendCells : ∀ (cs : List Cell) (s : State), Trace s (s.appendCells cs)
  | [], s => Trace.refl s
  | c :: cs, s => by
    rw [appendCells]
    exact (trace_appendCell s c).trans (trace_appendCells cs _)

theorem trace_writeNew (s : State) (stem : Bytes) (p : Nat) (c : Bool) : Trace s (s.writeNew stem p c).1 := by
  unfold writeNew
  exact (trace_appendCell s _).trans (trace_appendCells _ _)

theorem size_lt_writeNew (s : State) (stem : Bytes) (p : Nat) (c : Bool) :
    s.trie.size < (s.writeNew stem p c).1.trie.size := by
  rw [writeNew_size]; unfold blocksFor; split <;> simp [Layout.stemCap] <;> omega

/-- the equation of `findSib`, in a form that does not mention the `let` of the definition -/
theorem findSib_succ_eq (s : State) (stem : Stem) (fuel p : Nat) :
    s.findSib stem (fuel + 1) p =
      match s.trie[p]? with
      | none => .corrupt
      | some c =>
        if s.stemAt p = stem then .found p
        else if lexLt stem (s.stemAt p) then
          (if c.left ≠ 0 then s.findSib stem fuel c.left else .missing p .L)
        else
          (if c.right ≠ 0 then s.findSib stem fuel c.right else .missing p .R) := by
  rw [findSib]; rfl

/-- one step of the sibling search, without the comparisons -/
theorem findSib_succ (s : State) (stem : Stem) (fuel p : Nat) :
    (s.trie[p]? = none ∧ s.findSib stem (fuel + 1) p = .corrupt) ∨
    ∃ c, s.trie[p]? = some c ∧
      (s.findSib stem (fuel + 1) p = .found p ∨
       ∃ sl, sl ≠ .C ∧
        (c.slot sl ≠ 0 ∧ s.findSib stem (fuel + 1) p = s.findSib stem fuel (c.slot sl) ∨
         c.slot sl = 0 ∧ s.findSib stem (fuel + 1) p = .missing p sl)) := by
  rw [findSib_succ_eq]
  cases s.trie[p]? with
  | none => exact .inl ⟨rfl, rfl⟩
  | some c =>
    refine .inr ⟨c, rfl, ?_⟩
    dsimp only
    by_cases h1 : s.stemAt p = stem
    · exact .inl (if_pos h1)
    · rw [if_neg h1]
      by_cases h2 : lexLt stem (s.stemAt p) = true
      · rw [if_pos h2]
        refine .inr ⟨.L, nofun, ?_⟩
        by_cases h3 : c.left ≠ 0
        · exact .inl ⟨h3, if_pos h3⟩
        · exact .inr ⟨Decidable.not_not.mp h3, if_neg h3⟩
      · rw [if_neg h2]
        refine .inr ⟨.R, nofun, ?_⟩
        by_cases h3 : c.right ≠ 0
        · exact .inl ⟨h3, if_pos h3⟩
        · exact .inr ⟨Decidable.not_not.mp h3, if_neg h3⟩

theorem findSib_missing (s : State) (stem : Stem) :
    ∀ (fuel p q : Nat) (sl : Slot), s.findSib stem fuel p = .missing q sl →
      ∃ c, s.trie[q]? = some c ∧ c.slot sl = 0 := by
  intro fuel
  induction fuel with
  | zero => nofun
  | succ f ih =>
    intro p q sl h
    rcases findSib_succ s stem f p with ⟨_, e⟩ | ⟨c, hc, e | ⟨sl', _, ⟨_, e⟩ | ⟨h0, e⟩⟩⟩ <;> rw [e] at h
    · cases h
    · cases h
    · exact ih _ _ _ h
    · cases h; exact ⟨c, hc, h0⟩

theorem findSib_found_lt (s : State) (stem : Stem) :
    ∀ (fuel p i : Nat), s.findSib stem fuel p = .found i → i < s.trie.size := by
  intro fuel
  induction fuel with
  | zero => nofun
  | succ f ih =>
    intro p i h
    rcases findSib_succ s stem f p with ⟨_, e⟩ | ⟨c, hc, e | ⟨sl', _, ⟨_, e⟩ | ⟨_, e⟩⟩⟩ <;> rw [e] at h
    · cases h
    · cases h; exact (Array.getElem?_eq_some_iff.mp hc).1
    · exact ih _ _ h
    · cases h

theorem dfsGo_nil (s : State) (fr : Bool) (sb : Nat) (sk : Bool) (fuel : Nat) : s.dfsGo fr sb sk fuel [] = [] := by
  cases fuel <;> rfl

theorem cellLe_setSlot (c : Cell) (sl : Slot) (v : Nat) (h : c.slot sl = 0) : CellLe c (c.setSlot sl v) := by
  cases sl
  · exact ⟨rfl, rfl, rfl, rfl, id, id, id, fun h' => absurd h h', fun _ => rfl, fun _ => rfl⟩
  · exact ⟨rfl, rfl, rfl, rfl, id, id, id, fun _ => rfl, fun _ => rfl, fun h' => absurd h h'⟩
  · exact ⟨rfl, rfl, rfl, rfl, id, id, id, fun _ => rfl, fun h' => absurd h h', fun _ => rfl⟩

theorem ensureStem_absent (s : State) (start : Nat) (stem : Stem) :
    s.ensureStem start false stem = s.writeNew stem 0 false := rfl

theorem ensureStem_found (s : State) (start : Nat) (stem : Stem) (i : Nat)
    (hf : s.findSib stem (s.trie.size + 1) start = .found i) :
    s.ensureStem start true stem = (s, i) := by
  simp only [ensureStem, hf, Bool.not_true, Bool.false_eq_true, if_false]

theorem ensureStem_corrupt (s : State) (start : Nat) (stem : Stem)
    (hf : s.findSib stem (s.trie.size + 1) start = .corrupt) :
    s.ensureStem start true stem = (s, 0) := by
  simp only [ensureStem, hf, Bool.not_true, Bool.false_eq_true, if_false]

theorem ensureStem_missing (s : State) (start : Nat) (stem : Stem) (q : Nat) (sl : Slot)
    (hf : s.findSib stem (s.trie.size + 1) start = .missing q sl) :
    s.ensureStem start true stem =
      ((s.writeNew stem (s.cell q).parent false).1.modCell q (fun c => c.setSlot sl s.trie.size),
        s.trie.size) := by
  simp only [ensureStem, hf, Bool.not_true, Bool.false_eq_true, if_false]
  rfl

/-- The three things `__ensure_stem_from_siblings` can do: write the first node of an empty trie; answer a block
    and write nothing; write a node and hook it into the empty slot where the search fell off. -/
theorem ensureStem_cases (s : State) (start : Nat) (ex : Bool) (stem : Stem) :
    s.ensureStem start ex stem = s.writeNew stem 0 false ∨
    (∃ i, (i < s.trie.size ∨ i = 0) ∧ s.ensureStem start ex stem = (s, i)) ∨
    ∃ q sl c, s.trie[q]? = some c ∧ c.slot sl = 0 ∧
      s.ensureStem start ex stem =
        ((s.writeNew stem (s.cell q).parent false).1.modCell q (fun c => c.setSlot sl s.trie.size),
          s.trie.size) := by
  cases ex with
  | false => exact .inl rfl
  | true =>
    cases hf : s.findSib stem (s.trie.size + 1) start with
    | found i => exact .inr (.inl ⟨i, .inl (findSib_found_lt s stem _ _ _ hf), ensureStem_found s start stem i hf⟩)
    | corrupt => exact .inr (.inl ⟨0, .inr rfl, ensureStem_corrupt s start stem hf⟩)
    | missing q sl =>
      obtain ⟨c, hc, h0⟩ := findSib_missing s stem _ _ _ _ hf
      exact .inr (.inr ⟨q, sl, c, hc, h0, ensureStem_missing s start stem q sl hf⟩)

theorem cellLe_clearNoChild (c : Cell) : CellLe c { c with flags := { c.flags with noChild := false } } :=
  ⟨rfl, rfl, rfl, rfl, id, id, by simp, fun _ => rfl, fun _ => rfl, fun _ => rfl⟩

theorem ensureStem_lt (s : State) (start : Nat) (ex : Bool) (stem : Stem) (h0 : ex = true → 0 < s.trie.size) :
    (s.ensureStem start ex stem).2 < (s.ensureStem start ex stem).1.trie.size := by
  cases ex with
  | false => rw [ensureStem_absent]; exact size_lt_writeNew _ _ _ _
  | true =>
    rcases ensureStem_cases s start true stem with e | ⟨i, hi, e⟩ | ⟨q, sl, c, _, _, e⟩ <;> rw [e]
    · exact size_lt_writeNew _ _ _ _
    · rcases hi with hi | rfl
      · exact hi
      · exact h0 rfl
    · rw [trie_modCell_size]; exact size_lt_writeNew _ _ _ _

theorem trace_markCanHave (s : State) (n : Nat) (b : Bool) : Trace s (s.markCanHave n b) := by
  unfold markCanHave; split
  · exact trace_modCell _ _ _ (fun c _ => cellLe_clearNoChild c)
  · exact Trace.refl s

@[simp] theorem size_markCanHave (s : State) (n : Nat) (b : Bool) : (s.markCanHave n b).trie.size = s.trie.size := by
  unfold markCanHave; split <;> simp

theorem child_markCanHave (s : State) (n : Nat) (b : Bool) (j : Nat) : ((s.markCanHave n b).cell j).child = (s.cell j).child := by
  unfold markCanHave; split
  · rw [cell_modCell]; split <;> rfl
  · rfl

theorem addLruDescend_nil (flag : Bool) (s : State) (node : Nat) (ex : Bool) (pos : Nat) (h : Hist) :
    addLruDescend flag s [] node ex pos h = (s, node, [], h) := rfl

theorem addLruDescend_cons (flag : Bool) (s : State) (stem : Stem) (rest : List Stem) (node : Nat) (ex : Bool)
    (pos : Nat) (h : Hist) :
    addLruDescend flag s (stem :: rest) node ex pos h =
      (let (s1, n) := s.ensureStem node ex stem
       let pos := pos + stem.length
       let c := s1.cell n
       let h := h.visit c pos
       let s2 := s1.markCanHave n (!rest.isEmpty && flag && c.flags.noChild)
       if !rest.isEmpty && c.child ≠ 0 then addLruDescend flag s2 rest c.child true pos h
       else (s2, n, rest, h)) := by
  rw [addLruDescend]

theorem addLruCreate_nil (flag : Bool) (s : State) (node : Nat) : addLruCreate flag s [] node = (s, node) := rfl

theorem addLruCreate_cons (flag : Bool) (s : State) (x : Stem) (rest : List Stem) (q : Nat) :
    addLruCreate flag s (x :: rest) q =
      addLruCreate flag ((s.writeNew x q (!rest.isEmpty && flag)).1.modCell q
        (fun c => c.setSlot .C s.trie.size)) rest s.trie.size := by
  rw [addLruCreate]; rfl

/-- The first loop of `add_lru` stops at a block that exists; when stems remain to be created that block has
    no child. A block is only asked for (`ex`) in a file that has one. -/
theorem addLruDescend_stop (flag : Bool) : ∀ (stems : List Stem) (s : State) (node : Nat) (ex : Bool) (pos : Nat)
    (h : Hist), (ex = true → 0 < s.trie.size) → stems ≠ [] →
    (addLruDescend flag s stems node ex pos h).2.1 < (addLruDescend flag s stems node ex pos h).1.trie.size ∧
    ((addLruDescend flag s stems node ex pos h).2.2.1 ≠ [] →
      ((addLruDescend flag s stems node ex pos h).1.cell (addLruDescend flag s stems node ex pos h).2.1).child = 0) := by
  intro stems
  induction stems with
  | nil => intro _ _ _ _ _ _ hne; exact absurd rfl hne
  | cons stem rest ih =>
    intro s node ex pos h h0 _
    rcases he : s.ensureStem node ex stem with ⟨s1, n⟩
    have hn1 : n < s1.trie.size := by have := ensureStem_lt s node ex stem h0; rw [he] at this; exact this
    simp only [addLruDescend_cons, he]
    split
    · rename_i hgo
      have hr : rest ≠ [] := by
        intro e; subst e; simp at hgo
      exact ih _ _ true _ _ (fun _ => by rw [size_markCanHave]; exact Nat.zero_lt_of_lt hn1) hr
    · rename_i hstop
      refine ⟨by simp only; rw [size_markCanHave]; exact hn1, fun hne => ?_⟩
      simp only at hne ⊢
      have hr : rest.isEmpty = false := by
        cases rest with
        | nil => exact absurd rfl hne
        | cons _ _ => rfl
      simp only [hr, Bool.not_false, Bool.true_and, decide_eq_true_eq, Decidable.not_not] at hstop
      rw [child_markCanHave]; exact hstop

theorem addLruCreate_lt (flag : Bool) : ∀ (stems : List Stem) (s : State) (node : Nat), node < s.trie.size →
    (addLruCreate flag s stems node).2 < (addLruCreate flag s stems node).1.trie.size
  | [], _, _, hn => hn
  | stem :: rest, s, node, _ => by
    rw [addLruCreate_cons]
    exact addLruCreate_lt flag rest _ _ (by rw [trie_modCell_size]; exact size_lt_writeNew s stem node _)

/-- What a relation between states has to respect to hold from before `add_lru` to after it. The trie layer
    writes a new node, whose parent is none (the first node of the trie), a block of the file (the node is its
    child) or the parent of a block (the node is its sibling); it stores the index of a block of the file in an
    empty pointer slot; it clears a `noChild` flag. A relation that needs the ghost tree does not go through here
    but through `InsInv` / `Ins.inv` (Insert). -/
structure TrieAcross (R : State → State → Prop) : Prop where
  refl : ∀ s, R s s
  trans : ∀ {a b c}, R a b → R b c → R a c
  writeNew : ∀ s stem p c, (p = 0 ∨ p < s.trie.size ∨ ∃ q, p = (s.cell q).parent) → R s (s.writeNew stem p c).1
  link : ∀ s q sl v, (∀ c, s.trie[q]? = some c → c.slot sl = 0) → v < s.trie.size →
    R s (s.modCell q fun c => c.setSlot sl v)
  mark : ∀ s n b, R s (s.markCanHave n b)

section
variable {R : State → State → Prop} (A : TrieAcross R)
include A

theorem TrieAcross.ensureStem (s : State) (start : Nat) (ex : Bool) (stem : Stem) :
    R s (s.ensureStem start ex stem).1 := by
  rcases ensureStem_cases s start ex stem with e | ⟨i, _, e⟩ | ⟨q, sl, c, hc, h0, e⟩ <;> simp only [e]
  · exact A.writeNew _ _ _ _ (.inl rfl)
  · exact A.refl s
  · refine A.trans (A.writeNew s stem _ false (.inr (.inr ⟨q, rfl⟩)))
      (A.link _ q sl _ (fun c' hc' => ?_) (size_lt_writeNew _ _ _ _))
    rw [writeNew_old _ _ _ _ _ (Array.getElem?_eq_some_iff.mp hc).1, hc] at hc'
    cases hc'
    exact h0

theorem TrieAcross.descend (flag : Bool) : ∀ (stems : List Stem) (s : State) (node : Nat) (ex : Bool) (pos : Nat)
    (h : Hist), R s (addLruDescend flag s stems node ex pos h).1 := by
  intro stems
  induction stems with
  | nil => intro s _ _ _ _; exact A.refl s
  | cons stem rest ih =>
    intro s node ex pos h
    rcases he : s.ensureStem node ex stem with ⟨s1, n⟩
    have h1 : R s s1 := by have := A.ensureStem s node ex stem; rw [he] at this; exact this
    simp only [addLruDescend_cons, he]
    split
    · exact A.trans h1 (A.trans (A.mark _ _ _) (ih _ _ _ _ _))
    · exact A.trans h1 (A.mark _ _ _)

/-- the second loop starts at a block without a child, and each node it writes is the next such block -/
theorem TrieAcross.create (flag : Bool) : ∀ (stems : List Stem) (s : State) (node : Nat),
    node < s.trie.size → (stems ≠ [] → (s.cell node).child = 0) → R s (addLruCreate flag s stems node).1 := by
  intro stems
  induction stems with
  | nil => intro s _ _ _; exact A.refl s
  | cons stem rest ih =>
    intro s node hn hch
    rw [addLruCreate_cons]
    have hlt := size_lt_writeNew s stem node (!rest.isEmpty && flag)
    refine A.trans (A.writeNew s stem node _ (.inr (.inl hn))) (A.trans (A.link _ node .C _ (fun c hc => ?_) hlt)
      (ih _ _ (by rw [trie_modCell_size]; exact hlt) fun _ => ?_))
    · rw [writeNew_old s stem node _ node hn] at hc
      have h0 := hch (List.cons_ne_nil _ _)
      rw [cell_of_getElem? hc] at h0
      exact h0
    · rw [cell_modCell, if_neg (fun e => Nat.ne_of_lt hn e.1), cell_writeNew_head]; rfl

theorem TrieAcross.addLru (s : State) (stems : LRU) (flag : Bool) : R s (s.addLru stems flag).1 := by
  cases stems with
  | nil => exact A.refl s
  | cons a r =>
    have hne : a :: r ≠ [] := List.cons_ne_nil _ _
    unfold State.addLru
    rcases hd : addLruDescend flag s (a :: r) 1 (decide (s.trie.size > 1)) 0 {} with ⟨s1, node, rest, h⟩
    have h1 := A.descend flag (a :: r) s 1 (decide (s.trie.size > 1)) 0 {}
    obtain ⟨hlt, hch⟩ := addLruDescend_stop flag (a :: r) s 1 (decide (s.trie.size > 1)) 0 {}
      (fun e => Nat.zero_lt_of_lt (of_decide_eq_true e)) hne
    rw [hd] at h1 hlt hch
    exact A.trans h1 (A.create flag rest s1 node hlt hch)

end

/-- `LinkStore.add_links` appends one stub per target and then moves one list head of the page's block: a relation
    that these two writes respect holds across it -/
theorem addStubs_rel {R : State → State → Prop} (refl : ∀ s, R s s) (trans : ∀ {a b c}, R a b → R b c → R a c)
    (stub : ∀ s b, R s (s.appendStub b).1) (page : Nat) (out : Bool)
    (head : ∀ s v, R s (s.modCell page fun c => if out then { c with out := v } else { c with inn := v }))
    (s : State) (targets : List Nat) : R s (s.addStubs page targets out) := by
  have go : ∀ (ts : List Nat) (s : State) (tail : Nat), R s (s.addStubsGo tail ts).1 := fun ts => by
    induction ts with
    | nil => exact fun s _ => refl s
    | cons t ts ih => exact fun s tail => trans (stub s { target := t, prev := tail }) (ih _ _)
  unfold addStubs
  split
  · exact refl s
  · exact trans (go targets s _) (head _ _)

theorem Kept.trieAcross {β : Type} {π : State → β} (K : Kept π) : TrieAcross fun s s' => π s' = π s where
  refl _ := rfl
  trans h1 h2 := h2.trans h1
  writeNew s stem p c _ := K.writeNew s stem p c
  link s q _ _ _ _ := K.modCell s q _
  mark s n b := by
    unfold markCanHave; split
    · exact K.modCell s n _
    · rfl

theorem Kept.addLru {β : Type} {π : State → β} (K : Kept π) (s : State) (stems : LRU) (flag : Bool) :
    π (s.addLru stems flag).1 = π s := K.trieAcross.addLru s stems flag

theorem trace_trieAcross : TrieAcross Trace where
  refl := Trace.refl
  trans := Trace.trans
  writeNew s stem p c _ := trace_writeNew s stem p c
  link s q sl v h _ := trace_modCell s q _ fun c hc => cellLe_setSlot c sl v (h c hc)
  mark := trace_markCanHave

theorem addLru_lt (s : State) (stems : LRU) (flag : Bool) (hne : stems ≠ []) :
    (s.addLru stems flag).2.1 < (s.addLru stems flag).1.trie.size := by
  unfold addLru
  rcases hd : addLruDescend flag s stems 1 (decide (s.trie.size > 1)) 0 {} with ⟨s1, node, rest, h⟩
  have hlt := (addLruDescend_stop flag stems s 1 (decide (s.trie.size > 1)) 0 {}
    (fun e => Nat.zero_lt_of_lt (of_decide_eq_true e)) hne).1
  rw [hd] at hlt
  exact addLruCreate_lt flag rest s1 node hlt

theorem addLru_le (s : State) (stems : LRU) (flag : Bool) (_ : 0 < s.trie.size) (hne : stems ≠ []) :
    s ⊑ (s.addLru stems flag).1 ∧ (s.addLru stems flag).2.1 < (s.addLru stems flag).1.trie.size :=
  ⟨(trace_trieAcross.addLru s stems flag).le, addLru_lt s stems flag hne⟩

@[simp] theorem Hist.visit_created (h : Hist) (c : Cell) (pos : Nat) : (h.visit c pos).created = h.created := by
  unfold Hist.visit; split <;> split <;> rfl

theorem addLruDescend_created (flag : Bool) : ∀ (stems : List Stem) (s : State) (node : Nat) (ex : Bool) (pos : Nat) (h : Hist),
    (addLruDescend flag s stems node ex pos h).2.2.2.created = h.created := by
  intro stems
  induction stems with
  | nil => intro s node ex pos h; rfl
  | cons stem rest ih =>
    intro s node ex pos h
    rcases he : s.ensureStem node ex stem with ⟨s1, n⟩
    simp only [addLruDescend_cons, he]
    split
    · rw [ih, Hist.visit_created]
    · exact Hist.visit_created _ _ _

theorem addLru_created (s : State) (stems : LRU) (flag : Bool) : (s.addLru stems flag).2.2.created = false := by
  unfold addLru
  rcases hd : addLruDescend flag s stems 1 (decide (s.trie.size > 1)) 0 {} with ⟨s1, node, rest, h⟩
  have := addLruDescend_created flag stems s 1 (decide (s.trie.size > 1)) 0 {}
  rw [hd] at this
  simp only at this ⊢
  rcases addLruCreate flag s1 rest node with ⟨s2, node2⟩
  exact this

theorem cellLe_flags_page (c : Cell) (cr : Bool) :
    CellLe c { c with flags := { c.flags with page := true, crawled := c.flags.crawled || cr } } :=
  ⟨rfl, rfl, rfl, rfl, fun _ => rfl, fun h => by simp [h], id, fun _ => rfl, fun _ => rfl, fun _ => rfl⟩

theorem cellLe_flags_crawled (c : Cell) : CellLe c { c with flags := { c.flags with crawled := true } } :=
  ⟨rfl, rfl, rfl, rfl, id, fun _ => rfl, id, fun _ => rfl, fun _ => rfl, fun _ => rfl⟩

theorem addPageTrie_cases (s : State) (stems : LRU) (crawled : Bool) :
    (s.addPageTrie stems crawled).2.1 = (s.addLru stems false).2.1 ∧
    ((s.addPageTrie stems crawled).1 = (s.addLru stems false).1.modCell (s.addLru stems false).2.1
        (fun c => { c with flags := { c.flags with page := true, crawled := c.flags.crawled || crawled } }) ∨
     (s.addPageTrie stems crawled).1 = (s.addLru stems false).1.modCell (s.addLru stems false).2.1
        (fun c => { c with flags := { c.flags with crawled := true } }) ∨
     (s.addPageTrie stems crawled).1 = (s.addLru stems false).1) := by
  unfold addPageTrie
  rcases s.addLru stems false with ⟨s1, n, h⟩
  dsimp only
  split
  · exact ⟨rfl, .inl rfl⟩
  · split
    · exact ⟨rfl, .inr (.inl rfl)⟩
    · exact ⟨rfl, .inr (.inr rfl)⟩

theorem addPageTrie_le (s : State) (stems : LRU) (crawled : Bool) (h0 : 0 < s.trie.size) (hne : stems ≠ []) :
    s ⊑ (s.addPageTrie stems crawled).1 ∧ (s.addPageTrie stems crawled).2.1 < (s.addPageTrie stems crawled).1.trie.size := by
  obtain ⟨hle, hlt⟩ := addLru_le s stems false h0 hne
  obtain ⟨e2, e1 | e1 | e1⟩ := addPageTrie_cases s stems crawled <;> rw [e1, e2]
  · exact ⟨hle.trans (le_modCell _ _ _ fun c _ => cellLe_flags_page c crawled), by rw [trie_modCell_size]; exact hlt⟩
  · exact ⟨hle.trans (le_modCell _ _ _ fun c _ => cellLe_flags_crawled c), by rw [trie_modCell_size]; exact hlt⟩
  · exact ⟨hle, hlt⟩

end Traph
