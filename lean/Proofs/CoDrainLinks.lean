import Proofs.CoDrainShape
/-! C16 — `get_webentity_pagelinks_iter` drained on a fixed index = `get_webentity_pagelinks`.
    The generator yields once per Counter entry of the out-list and of the in-list of every page; between two
    yields it may pass any number of nodes that are not pages or have no entries. -/
namespace Traph
open State

section PL
variable (s : State) (weid : Nat) (incIn incInt incOut : Bool)

def plOutE (c : Cell) : List (Nat × Nat) := if c.out ≠ 0 && (incOut || incInt) then s.weighted c.out else []
def plInnE (c : Cell) : List (Nat × Nat) := if c.inn ≠ 0 && incIn then s.weighted c.inn else []

def plOutL (lru : Bytes) (q : List (Nat × Nat)) : List PageLink :=
  q.filterMap (fun tw =>
    if (incOut && s.windupWe tw.1 ≠ weid) || (incInt && s.windupWe tw.1 = weid) then some (lru, s.windup tw.1, tw.2) else none)

def plInnL (lru : Bytes) (q : List (Nat × Nat)) : List PageLink :=
  q.filterMap (fun sw => if s.windupWe sw.1 ≠ weid then some (s.windup sw.1, lru, sw.2) else none)

def plPage (it : QItem) : List PageLink :=
  if it.2.2.flags.page then
    plOutL s weid incInt incOut it.2.1 (plOutE s incInt incOut it.2.2) ++ plInnL s weid it.2.1 (plInnE s incIn it.2.2)
  else []

def plCost (it : QItem) : Nat :=
  if it.2.2.flags.page then (plOutE s incInt incOut it.2.2).length + (plInnE s incIn it.2.2).length else 0

def plYields (items : List QItem) : Nat := (items.map (plCost s incIn incInt incOut)).sum

def plGen : Gen PlSt Ans :=
  .reader (fun g q => plResume g s q) (fun q => qFuel s q.cur.prefixes.length q.cur.stack.length)

/-- where the machine pulls the next node: nothing left of the page before (`a.1`) -/
def plPull (w : WeCur) (a : Option (Bytes × Cell) × List PageLink) : PlSt :=
  { cur := w, weid := weid, incIn := incIn, incInt := incInt, incOut := incOut, node := a.1, outQ := [], innTodo := false,
    innQ := [], links := a.2 }

def plOutStep (lru : Bytes) (links : List PageLink) (tw : Nat × Nat) : List PageLink :=
  if (incOut && s.windupWe tw.1 ≠ weid) || (incInt && s.windupWe tw.1 = weid) then links ++ [(lru, s.windup tw.1, tw.2)]
  else links

def plInnStep (lru : Bytes) (links : List PageLink) (sw : Nat × Nat) : List PageLink :=
  if s.windupWe sw.1 ≠ weid then links ++ [(s.windup sw.1, lru, sw.2)] else links

def plStep (a : Option (Bytes × Cell) × List PageLink) (it : QItem) : Option (Bytes × Cell) × List PageLink :=
  if it.2.2.flags.page then
    (some (it.2.1, it.2.2), (plInnE s incIn it.2.2).foldl (plInnStep s weid it.2.1)
      ((plOutE s incInt incOut it.2.2).foldl (plOutStep s weid incInt incOut it.2.1) a.2))
  else (none, a.2)

variable (hflags : (!incInt && !incOut && !incIn) = false)
include hflags

theorem pl_item (w w' : WeCur) (it : QItem) (F : Option (Bytes × Cell) × List PageLink → Ans) (B Y : Nat)
    (hw : WeCur.nx s w = (w', .item it.1 it.2.1 it.2.2)) (hB : B ≤ 2 * (WeCur.bd s w' + 1))
    (hK : ∀ a, (plGen s).Drains (plPull weid incIn incInt incOut w' a) (F a) B Y)
    (a : Option (Bytes × Cell) × List PageLink) :
    (plGen s).Drains (plPull weid incIn incInt incOut w a) (F (plStep s weid incIn incInt incOut a it)) (B + 2)
      (Y + plCost s incIn incInt incOut it) := by
  obtain ⟨b, l, c⟩ := it
  obtain ⟨node, links⟩ := a
  have hq : B + 1 < qFuel s w'.prefixes.length w'.stack.length := by
    have := qFuel_ge2 s w'.prefixes.length w'.stack.length
    simp only [WeCur.bd] at hB
    omega
  by_cases hp : c.flags.page = true
  · simp only [plStep, plCost, hp, if_true]
    -- the in-list loop, the switch to it, the out-list loop, each with what follows as its continuation
    have inn := Gen.Drains.each_list (G := plGen s)
      (fun L links => { plPull weid incIn incInt incOut w' (some (l, c), links) with innQ := L })
      (plInnStep s weid l) (fun links => F (some (l, c), links)) B Y
      (fun x L a g => by simp only [plGen, Gen.reader, plPull, plResume, hflags, Bool.false_eq_true, if_false, plInnStep,
        Option.map_some, Option.getD_some])
      (fun _ _ => Nat.lt_of_succ_lt hq) (fun links => hK (some (l, c), links)) (plInnE s incIn c)
    have out := Gen.Drains.each_list (G := plGen s)
      (fun L links => { plPull weid incIn incInt incOut w' (some (l, c), links) with outQ := L, innTodo := true })
      (plOutStep s weid incInt incOut l) _ (B + 1) _
      (fun x L a g => by simp only [plGen, Gen.reader, plPull, plResume, hflags, Bool.false_eq_true, if_false, plOutStep,
        Option.map_some, Option.getD_some])
      (fun _ _ => hq)
      (fun links => (inn links).cont fun g => by
        simp only [plGen, Gen.reader, plPull, plResume, hflags, Bool.false_eq_true, if_false, if_true, Option.map_some,
          Option.getD_some, plInnE])
      (plOutE s incInt incOut c) links
    refine ((out.cont fun g => ?_).mono (Nat.le_refl _) (by omega))
    simp only [plGen, Gen.reader, plPull, plResume, hflags, Bool.false_eq_true, if_false, hw, hp, if_true, plOutE]
  · simp only [plStep, plCost, hp, Bool.false_eq_true, if_false]
    refine ((hK (none, links)).cont fun g => ?_).mono (by omega) (Nat.le_refl _)
    simp only [plGen, Gen.reader, plPull, plResume, hflags, Bool.false_eq_true, if_false, hw, hp]

theorem pl_drains {w : WeCur} {items : List QItem} {e : Option Err} (h : Runs (WeCur.nx s) (WeCur.bd s) w items e)
    (a : Option (Bytes × Cell) × List PageLink) :
    (plGen s).Drains (plPull weid incIn incInt incOut w a)
      (drainAns e (.links (items.foldl (plStep s weid incIn incInt incOut) a).2)) (2 * (items.length + 1))
      (plYields s incIn incInt incOut items) :=
  Gen.Drains.fold_runs (G := plGen s) (plPull weid incIn incInt incOut) _ (fun a => .links a.2) _ 2
    (fun w w' a hw => (Gen.Drains.done (G := plGen s) (q' := plPull weid incIn incInt incOut w' a) fun g => by
      simp only [plGen, Gen.reader, plPull, plResume, hflags, Bool.false_eq_true, if_false, hw]).mono (Nat.zero_le _) (Nat.le_refl _))
    (fun w w' e a hw => (Gen.Drains.failed (G := plGen s) (q' := plPull weid incIn incInt incOut w' a) fun g => by
      simp only [plGen, Gen.reader, plPull, plResume, hflags, Bool.false_eq_true, if_false, hw]).mono (Nat.zero_le _) (Nat.le_refl _))
    (pl_item s weid incIn incInt incOut hflags) h a

omit hflags

theorem foldl_append_if {α β} (p : β → Prop) [DecidablePred p] (g : β → α) : ∀ (L : List β) (acc : List α),
    L.foldl (fun acc x => if p x then acc ++ [g x] else acc) acc = acc ++ L.filterMap (fun x => if p x then some (g x) else none)
  | [], acc => by simp
  | x :: L, acc => by
    rw [List.foldl_cons, foldl_append_if p g L]
    by_cases hx : p x <;> simp [hx]

theorem plStep_fold (items : List QItem) : ∀ a : Option (Bytes × Cell) × List PageLink,
    (items.foldl (plStep s weid incIn incInt incOut) a).2 = a.2 ++ items.flatMap (plPage s weid incIn incInt incOut) := by
  induction items with
  | nil => intro a; simp
  | cons it items ih =>
    intro a
    rw [List.foldl_cons, ih]
    by_cases hp : it.2.2.flags.page = true
    · simp only [plStep, plPage, hp, if_true, List.flatMap_cons, plInnL, plOutL, ← List.append_assoc]
      congr 1
      unfold plInnStep plOutStep
      rw [foldl_append_if, foldl_append_if]
    · simp [plStep, plPage, hp]

end PL

theorem cd_filter_flatMap_if {α β} (P : α → Bool) (g : α → List β) (l : List α) :
    (l.filter P).flatMap g = l.flatMap (fun x => if P x then g x else []) :=
  filter_flatMap_if P g l

theorem plLinks_itemOf (s : State) (weid : Nat) (incIn incInt incOut : Bool) (bl : Nat × Bytes) :
    plOutL s weid incInt incOut bl.2 (plOutE s incInt incOut (s.cell bl.1)) ++
        plInnL s weid bl.2 (plInnE s incIn (s.cell bl.1)) =
      s.outLinksOfPage weid bl.1 bl.2 incInt incOut ++ s.inLinksOfPage weid bl.1 bl.2 incIn := by
  unfold outLinksOfPage inLinksOfPage plOutL plOutE plInnL plInnE
  congr 1
  · by_cases hc : (decide ((s.cell bl.1).out ≠ 0) && (incOut || incInt)) = true
    · simp only [hc, if_true]
    · simp only [hc, Bool.false_eq_true, if_false, List.filterMap_nil]
  · by_cases hc : (decide ((s.cell bl.1).inn ≠ 0) && incIn) = true
    · simp only [hc, if_true]
    · simp only [hc, Bool.false_eq_true, if_false, List.filterMap_nil]

/-- **`get_webentity_pagelinks_iter` drained = `get_webentity_pagelinks`**, for every `N` beyond the number of yield
    points of the request on this index (`plYields`: the Counter entries of the lists of the pages walked) -/
theorem pagelinks_drain (s : State) (weid : Nat) (ps : List Bytes) (incIn incInt incOut : Bool)
    (hfin : WeFin s none ps) (N : Nat)
    (hN : plYields s incIn incInt incOut (weItems s none ps).1 + 1 < N) :
    QSt.drain s N (.pagelinks { cur := { prefixes := ps }, weid := weid, incIn := incIn, incInt := incInt, incOut := incOut })
      = s.ask (.pagelinks weid ps incIn incInt incOut) := by
  by_cases hflags : (!incInt && !incOut && !incIn) = true
  · obtain ⟨N', rfl⟩ := exists_succ_of_lt hN
    obtain ⟨k, hk⟩ : ∃ k, qFuel s ps.length 0 = k + 1 := ⟨qFuel s ps.length 0 - 1, by unfold qFuel; omega⟩
    simp only [QSt.drain, QSt.resume, List.length_nil, hk, plResume, hflags, if_true, State.ask, webentityPagelinks, Ans.ofExcept]
  · have hflags' : (!incInt && !incOut && !incIn) = false := by simpa using hflags
    have hlen := weItems_length s none ps
    have hq := qFuel_ge2 s ps.length 0
    have hq2 : (s.trie.size + 2) * ps.length ≤ (s.trie.size + 2) * (ps.length + 1) := Nat.mul_le_mul_left _ (by omega)
    have := (pl_drains s weid incIn incInt incOut hflags' (weRuns_init s none ps hfin) (none, [])).drain
      (N := N) (by show _ < qFuel s ps.length 0; omega) (by omega)
    rw [show QSt.drain s N _ = (plGen s).drain N _ from QSt.drain_eq s .pagelinks _ _ (fun _ => rfl) N _]
    refine this.trans ?_
    rw [plStep_fold]
    have := weItems_pages s none (fun it => plOutL s weid incInt incOut it.2.1 (plOutE s incInt incOut it.2.2) ++
      plInnL s weid it.2.1 (plInnE s incIn it.2.2)) .links ps
    simp only [itemOf, plLinks_itemOf] at this
    simp only [State.ask, webentityPagelinks, hflags', Bool.false_eq_true, if_false]
    exact this.symm

/-- … unconditionally on a well-formed index -/
theorem pagelinks_drain_shape {s : State} {t : T} (h : Shape s t) (weid : Nat) (ps : List Bytes)
    (incIn incInt incOut : Bool) (hwf : ∀ pf ∈ ps, lruIter pf ≠ []) :
    ∃ N0, ∀ N, N0 ≤ N →
      QSt.drain s N (.pagelinks { cur := { prefixes := ps }, weid := weid, incIn := incIn, incInt := incInt, incOut := incOut })
        = s.ask (.pagelinks weid ps incIn incInt incOut) :=
  ⟨plYields s incIn incInt incOut (weItems s none ps).1 + 2, fun N hN =>
    pagelinks_drain s weid ps incIn incInt incOut (weFin_of_shape h none ps hwf) N (by omega)⟩

#print axioms pagelinks_drain_shape

end Traph
