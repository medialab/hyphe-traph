import Proofs.Dict
/-! Helper functions of `Api.lean` one at a time: `sortDedup`, the Counter update `counterAdd` (an `upsert`), what a walk
    history `Hist` records. -/
namespace Traph
open State

theorem mem_insertSorted (x y : Nat) : ∀ l : List Nat, y ∈ insertSorted x l ↔ y = x ∨ y ∈ l
  | [] => by simp [insertSorted]
  | z :: zs => by
    simp only [insertSorted]
    split
    · simp
    · split
      · rename_i _ h; subst h; simp
      · simp [mem_insertSorted x y zs]; constructor
        · rintro (h | h | h) <;> simp [h]
        · rintro (h | h | h) <;> simp [h]

theorem mem_sortDedup (y : Nat) (l : List Nat) : y ∈ sortDedup l ↔ y ∈ l := by
  unfold sortDedup
  suffices h : ∀ acc : List Nat, y ∈ l.foldl (fun acc x => insertSorted x acc) acc ↔ y ∈ acc ∨ y ∈ l by
    simpa using h []
  induction l with
  | nil => intro acc; simp
  | cons a as ih =>
    intro acc
    simp only [List.foldl_cons, ih, mem_insertSorted, List.mem_cons]
    constructor
    · rintro ((h | h) | h) <;> simp [h]
    · rintro (h | h | h) <;> simp [h]

def StrictAsc (l : List Nat) : Prop := l.Pairwise (· < ·)

theorem insertSorted_sorted (x : Nat) : ∀ l : List Nat, StrictAsc l → StrictAsc (insertSorted x l)
  | [], _ => by simp [insertSorted, StrictAsc]
  | z :: zs, h => by
    simp only [insertSorted]
    have hz := List.pairwise_cons.mp h
    split
    · rename_i hlt
      refine List.pairwise_cons.mpr ⟨?_, h⟩
      intro a ha
      simp only [List.mem_cons] at ha
      rcases ha with rfl | ha
      · exact hlt
      · exact Nat.lt_trans hlt (hz.1 a ha)
    · split
      · exact h
      · rename_i h1 h2
        refine List.pairwise_cons.mpr ⟨?_, insertSorted_sorted x zs hz.2⟩
        intro a ha
        rcases (mem_insertSorted x a zs).mp ha with rfl | ha
        · omega
        · exact hz.1 a ha

theorem sortDedup_sorted (l : List Nat) : StrictAsc (sortDedup l) := by
  unfold sortDedup
  suffices h : ∀ acc : List Nat, StrictAsc acc → StrictAsc (l.foldl (fun acc x => insertSorted x acc) acc) from
    h [] (by simp [StrictAsc])
  induction l with
  | nil => intro acc h; simpa using h
  | cons a as ih => intro acc h; exact ih _ (insertSorted_sorted a acc h)

theorem counterAdd_eq_upsert (d : List (Nat × Nat)) (k w : Nat) :
    counterAdd d k w = upsert (·.1) (fun p => (p.1, p.2 + w)) (k, 0) k d := by
  induction d with
  | nil => simp [counterAdd, upsert]
  | cons a d ih => simp only [counterAdd, upsert, ih]

/-- `Counter[k] += w` adds `w` to the total -/
theorem counterAdd_total (d : List (Nat × Nat)) (k w : Nat) :
    ((counterAdd d k w).map (·.2)).sum = (d.map (·.2)).sum + w := by
  rw [counterAdd_eq_upsert, ← psum_true (·.1), ← psum_true (·.1),
    psum_upsert (·.1) (fun p => (p.1, p.2 + w)) (k, 0) k (fun _ => rfl) rfl (·.2) w rfl (fun _ => rfl), if_pos trivial]

theorem counterAdd_mem_keys (d : List (Nat × Nat)) (k w x : Nat) :
    x ∈ (counterAdd d k w).map (·.1) ↔ x = k ∨ x ∈ d.map (·.1) := by
  rw [counterAdd_eq_upsert, mem_upsert_keys (·.1) (fun p => (p.1, p.2 + w)) (k, 0) k (fun _ => rfl) rfl, or_comm]

theorem counterAdd_keys_nodup (d : List (Nat × Nat)) (k w : Nat) (h : (d.map (·.1)).Nodup) :
    ((counterAdd d k w).map (·.1)).Nodup := by
  rw [counterAdd_eq_upsert]
  exact upsert_keys_nodup (·.1) (fun p => (p.1, p.2 + w)) (k, 0) k (fun _ => rfl) rfl d h

theorem counterAdd_pos (d : List (Nat × Nat)) (k w : Nat) (hw : 0 < w) (h : ∀ kw ∈ d, 0 < kw.2) :
    ∀ kw ∈ counterAdd d k w, 0 < kw.2 := by
  rw [counterAdd_eq_upsert]
  exact upsert_all (·.1) (fun p => (p.1, p.2 + w)) (k, 0) k (fun kw => 0 < kw.2)
    (Nat.lt_of_lt_of_le hw (Nat.le_add_left w 0)) (fun a _ => Nat.lt_of_lt_of_le hw (Nat.le_add_left w a.2)) d h

/-- a walk history records a webentity id and its position together -/
theorem Hist.visit_inv (h : Hist) (c : Cell) (pos : Nat) (hi : h.we ≠ 0 ↔ h.wePos ≠ none) :
    (h.visit c pos).we ≠ 0 ↔ (h.visit c pos).wePos ≠ none := by
  unfold Hist.visit
  by_cases hw : c.we ≠ 0 <;> by_cases hr : c.flags.rule = true <;> simp [hw, hr, hi]

/-- positions recorded by a walk never exceed the byte length walked so far -/
theorem Hist.visit_pos (h : Hist) (c : Cell) (pos bound : Nat) (hb : pos ≤ bound)
    (hi : ∀ p, h.wePos = some p → p ≤ bound) : ∀ p, (h.visit c pos).wePos = some p → p ≤ bound := by
  unfold Hist.visit
  intro p
  by_cases hw : c.we ≠ 0 <;> by_cases hr : c.flags.rule = true <;> simp [hw, hr] <;> intro hp
  all_goals first | (subst hp; exact hb) | exact hi p hp

end Traph
