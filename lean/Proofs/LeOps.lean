import Proofs.Built
/-! Every public write request (except `clear`, which starts a new index) is a `Trace`, a sequence of primitive
    ⊑-increasing storage writes (`add_lru` through `TrieAcross`, `addStubs` write by write, the requests above them
    through `Built`), and so ⊑-increasing: no page, no stub, no tree pointer is ever lost or altered by any later
    request. -/
namespace Traph
open State

/-- both stores have their header block: the side condition of `run_le` and of `Trace.writes` (TraceCore) -/
def Live (s : State) : Prop := 0 < s.trie.size ∧ 0 < s.links.size

theorem Live.mono {s s' : State} (hl : Live s) (h : s ⊑ s') : Live s' :=
  ⟨Nat.lt_of_lt_of_le hl.1 h.size, Nat.lt_of_lt_of_le hl.2 h.lsize⟩

theorem live_default : Live ({} : State) := by
  constructor <;> decide

theorem Le.pos {s s' : State} (h : s ⊑ s') (h0 : 0 < s.trie.size) : 0 < s'.trie.size :=
  Nat.lt_of_lt_of_le h0 h.size

theorem cellLe_setHead (c : Cell) (out : Bool) (v : Nat) :
    CellLe c (if out then { c with out := v } else { c with inn := v }) := by
  cases out <;> exact ⟨rfl, rfl, rfl, rfl, id, id, id, fun _ => rfl, fun _ => rfl, fun _ => rfl⟩

theorem cellLe_setWe (c : Cell) (v : Nat) : CellLe c { c with we := v } :=
  ⟨rfl, rfl, rfl, rfl, id, id, id, fun _ => rfl, fun _ => rfl, fun _ => rfl⟩

theorem cellLe_setRule (c : Cell) (b : Bool) : CellLe c { c with flags := { c.flags with rule := b } } :=
  ⟨rfl, rfl, rfl, rfl, id, id, id, fun _ => rfl, fun _ => rfl, fun _ => rfl⟩

theorem Trace.pos {s s' : State} (h : Trace s s') (h0 : 0 < s.trie.size) : 0 < s'.trie.size :=
  h.le.pos h0

theorem Trace.live {s s' : State} (h : Trace s s') (hl : Live s) : Live s' := hl.mono h.le

theorem trace_addStubs (s : State) (page : Nat) (targets : List Nat) (out : Bool) :
    Trace s (s.addStubs page targets out) :=
  addStubs_rel Trace.refl Trace.trans trace_appendStub page out
    (fun s v => trace_modCell s page _ fun c _ => cellLe_setHead c out v) s targets

theorem le_addStubs (s : State) (page : Nat) (targets : List Nat) (out : Bool) :
    s ⊑ s.addStubs page targets out := (trace_addStubs s page targets out).le

theorem trace_across (k ru : Bool) (wf : Prop) :
    Across k ru wf (fun s => 0 < s.trie.size) (fun _ _ => True) Trace where
  refl := Trace.refl
  trans := Trace.trans
  keep h0 h := h.pos h0
  stable _ _ _ := trivial
  addLru s stems flag _ := ⟨trace_trieAcross.addLru s stems flag, trivial⟩
  lookup _ _ _ _ _ := trivial
  setPage s x cr _ _ := ⟨trace_modCell s x.node _ (fun c _ => cellLe_flags_page c cr), trivial⟩
  isPage _ _ _ _ _ := trivial
  setCrawled s x _ _ := trace_modCell s x.node _ (fun c _ => cellLe_flags_crawled c)
  setRule _ s x b _ _ := trace_modCell s x.node _ (fun c _ => cellLe_setRule c b)
  setWe s x w _ _ _ := trace_modCell s x.node _ (fun c _ => cellLe_setWe c w)
  genId s _ := trace_setHdr s _
  addStubs _ s p ts o _ _ := trace_addStubs s p ts o
  ram _ _ _ _ _ := Trace.of_eq rfl rfl rfl rfl

theorem Built.To.le {k ru : Bool} {wf : Prop} {s s' : State} {P : List Answered → Prop}
    (h : Built.To k ru wf s [] s' P) (h0 : 0 < s.trie.size) : s ⊑ s' := (h.across (trace_across k ru wf) h0).le

theorem le_createWebentityAuto (s : State) (pfx : Bytes) (h0 : 0 < s.trie.size) :
    s ⊑ (s.createWebentityAuto pfx).1 := (built_createWebentityAuto (.refl (k := false) (ru := false) (wf := False) s) pfx).le h0

theorem le_addPageCore (s : State) (lru : Bytes) (crawled : Bool) (h0 : 0 < s.trie.size) :
    s ⊑ (s.addPageCore lru crawled).1 :=
  (built_addPageCore (.refl (k := false) (ru := false) (wf := False) s) lru crawled).le h0

theorem trace_installRules (rules : List (Bytes × Rule)) (s : State) (w : Bool) (h0 : 0 < s.trie.size) :
    Trace s (installRules s rules w).1 :=
  (built_installRules rules w (.refl (k := false) (wf := False) s)).across (trace_across _ _ _) h0

theorem le_installRules (rules : List (Bytes × Rule)) (s : State) (w : Bool) (h0 : 0 < s.trie.size) :
    s ⊑ (installRules s rules w).1 := (trace_installRules rules s w h0).le

theorem trace_fresh (cfg : Config) (dflt : Rule) (rules : List (Bytes × Rule)) (log : List Write) :
    Trace ({ cfg := cfg, dflt := dflt, log := .linkHdr :: .hdr 0 :: log } : State)
      (State.fresh cfg dflt rules log).1 := by
  unfold fresh
  exact trace_installRules rules _ true Nat.zero_lt_one

theorem live_hist : HistInv Live :=
  ⟨fun s ht hl => ⟨by rw [ht]; exact Nat.zero_lt_one, by rw [hl]; exact Nat.zero_lt_one⟩,
   fun b hl => (b.across (trace_across _ _ _) hl.1).1.live hl⟩

theorem live_fresh (cfg : Config) (dflt : Rule) (rules : List (Bytes × Rule)) (log : List Write) :
    Live (State.fresh cfg dflt rules log).1 := live_hist.fresh cfg dflt rules log

theorem step_trace (s : State) (op : Op) (hl : Live s) (hop : ∀ d rs, op ≠ .clear d rs) :
    Trace s (s.step op).1 :=
  (trace_across _ _ _).step_any s op hop hl.1

theorem step_le (s : State) (op : Op) (hl : Live s) (hop : ∀ d rs, op ≠ .clear d rs) :
    s ⊑ (s.step op).1 ∧ Live (s.step op).1 :=
  have key := step_trace s op hl hop
  ⟨key.le, key.live hl⟩

theorem run_trace : ∀ (ops : List Op) (s : State), Live s → (∀ op ∈ ops, ∀ d rs, op ≠ .clear d rs) →
    Trace s (s.run ops)
  | [], s, _, _ => Trace.refl s
  | op :: ops, s, hl, hop => by
    have h1 := step_trace s op hl (hop op (by simp))
    have h2 := run_trace ops (s.step op).1 (h1.live hl) (fun o ho => hop o (by simp [ho]))
    exact h1.trans h2

theorem run_le (s : State) (ops : List Op) (hl : Live s) (hop : ∀ op ∈ ops, ∀ d rs, op ≠ .clear d rs) :
    s ⊑ s.run ops ∧ Live (s.run ops) :=
  have h := run_trace ops s hl hop
  ⟨h.le, h.live hl⟩

theorem run_append (s : State) (a b : List Op) : s.run (a ++ b) = (s.run a).run b := by
  simp only [run, List.foldl_append]

/-- a crashed prefix of a history is below the completed history -/
theorem prefix_le (s : State) (a b : List Op) (hl : Live s) (hop : ∀ op ∈ a ++ b, ∀ d rs, op ≠ .clear d rs) :
    s.run a ⊑ s.run (a ++ b) := by
  rw [run_append]
  have hla := (run_le s a hl (fun o ho => hop o (by simp [ho]))).2
  exact (run_le (s.run a) b hla (fun o ho => hop o (by simp [ho]))).1

theorem Le.cell_le {s s' : State} (h : s ⊑ s') (i : Nat) (hi : i < s.trie.size) : CellLe (s.cell i) (s'.cell i) := by
  obtain ⟨c', hc', hle⟩ := h.cells i _ (getElem?_cell hi)
  rw [cell_of_getElem? hc']; exact hle

theorem Le.page_persists {s s' : State} (h : s ⊑ s') (i : Nat) (hi : i < s.trie.size)
    (hp : (s.cell i).flags.page = true) :
    (s'.cell i).flags.page = true ∧ (s'.cell i).chunk = (s.cell i).chunk ∧ (s'.cell i).parent = (s.cell i).parent :=
  have hc := h.cell_le i hi
  ⟨hc.page hp, hc.chunk, hc.parent⟩

theorem Le.crawled_persists {s s' : State} (h : s ⊑ s') (i : Nat) (hi : i < s.trie.size)
    (hp : (s.cell i).flags.crawled = true) :
    (s'.cell i).flags.crawled = true ∧ (s'.cell i).chunk = (s.cell i).chunk ∧ (s'.cell i).parent = (s.cell i).parent :=
  have hc := h.cell_le i hi
  ⟨hc.crawled hp, hc.chunk, hc.parent⟩

theorem Le.pointer_persists {s s' : State} (h : s ⊑ s') (i : Nat) (hi : i < s.trie.size) :
    ((s.cell i).left ≠ 0 → (s'.cell i).left = (s.cell i).left) ∧
    ((s.cell i).right ≠ 0 → (s'.cell i).right = (s.cell i).right) ∧
    ((s.cell i).child ≠ 0 → (s'.cell i).child = (s.cell i).child) :=
  have hc := h.cell_le i hi
  ⟨hc.left, hc.right, hc.child⟩

theorem Le.slot_persists {s s' : State} (h : s ⊑ s') (i : Nat) (hi : i < s.trie.size) (sl : Slot)
    (hne : (s.cell i).slot sl ≠ 0) : (s'.cell i).slot sl = (s.cell i).slot sl := by
  have hc := h.cell_le i hi
  cases sl
  · exact hc.left hne
  · exact hc.child hne
  · exact hc.right hne

theorem Le.stub_persists {s s' : State} (h : s ⊑ s') (i : Nat) (b : Stub) (hb : s.links[i]? = some b) :
    s'.links[i]? = some b := h.stubs i b hb

theorem Le.parentsGo_eq {s s' : State} (h : s ⊑ s')
    (hpar : ∀ i, i < s.trie.size → (s.cell i).parent < s.trie.size) :
    ∀ (fuel b : Nat), b < s.trie.size → s'.parentsGo fuel b = s.parentsGo fuel b
  | 0, _, _ => rfl
  | fuel + 1, b, hb => by
    simp only [parentsGo, (h.cell_le b hb).parent]
    split
    · rfl
    · rw [Le.parentsGo_eq h hpar fuel _ (hpar b hb)]

/-- `hdec`: parents are written before their children; then the fuel of `parentsGo` is irrelevant once it
    exceeds the block index -/
theorem parentsGo_fuel (s : State)
    (hdec : ∀ i, i < s.trie.size → (s.cell i).parent < i ∨ (s.cell i).parent = 0) :
    ∀ (f1 f2 b : Nat), b < s.trie.size → b < f1 → b < f2 → s.parentsGo f1 b = s.parentsGo f2 b
  | 0, _, _, _, h, _ => absurd h (Nat.not_lt_zero _)
  | _ + 1, 0, _, _, _, h => absurd h (Nat.not_lt_zero _)
  | f1 + 1, f2 + 1, b, hb, h1, h2 => by
    simp only [parentsGo]
    split
    · rfl
    · rename_i hp
      rcases hdec b hb with hlt | h0
      · rw [parentsGo_fuel s hdec f1 f2 _ (Nat.lt_trans hlt hb) (Nat.lt_of_lt_of_le hlt (Nat.le_of_lt_succ h1))
          (Nat.lt_of_lt_of_le hlt (Nat.le_of_lt_succ h2))]
      · exact absurd h0 hp

/-- `node_parents_iter` of an old block gives the same answer afterwards. (With only
    `parent < s.trie.size` the statement is false: a parent cycle makes the result as long as the fuel.) -/
theorem Le.parents_eq {s s' : State} (h : s ⊑ s') (b : Nat) (hb : b < s.trie.size)
    (hdec : ∀ i, i < s.trie.size → (s.cell i).parent < i ∨ (s.cell i).parent = 0) :
    s'.parents b = s.parents b := by
  unfold parents
  have hpar : ∀ i, i < s.trie.size → (s.cell i).parent < s.trie.size := fun i hi => by
    rcases hdec i hi with h | h <;> omega
  rw [Le.parentsGo_eq h hpar _ b hb]
  have := h.size
  exact parentsGo_fuel s hdec _ _ b hb (by omega) (by omega)

#print axioms step_trace
#print axioms run_trace
#print axioms step_le
#print axioms run_le
#print axioms prefix_le
#print axioms live_fresh

end Traph
