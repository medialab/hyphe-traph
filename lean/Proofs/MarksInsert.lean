import Proofs.MarksInv
/-! C13: `add_lru` preserves the mark invariant (any flag), and with
    `flag_can_have_child_webentities = True` it leaves every PROPER ancestor of the returned node unmarked
    (`Unm` along a run `Ins`: `Ins.unm`).
    Stated for `add_lru` itself: `addLru_markOk`, `addLru_true_unmarks`. -/
namespace Traph
open State

theorem flags_setSlot (c : Cell) (sl : Slot) (v : Nat) : (c.setSlot sl v).flags = c.flags := by
  cases sl <;> rfl

theorem flags_write_old (s : State) (q : Nat) (sl : Slot) (x : Stem) (par : Nat) (ch : Bool) (v : Nat)
    (a : Nat) (ha : a < s.trie.size) :
    (((s.writeNew x par ch).1.modCell q (fun c => c.setSlot sl v)).cell a).flags = (s.cell a).flags := by
  rw [cell_modCell]; split
  · rw [flags_setSlot, cell_writeNew_old s x par ch a ha]
  · rw [cell_writeNew_old s x par ch a ha]

theorem noChild_markCanHave_clear (s : State) (n : Nat) (hn : n < s.trie.size) (g : Bool) (hg : g = true) :
    ((s.markCanHave n (g && (s.cell n).flags.noChild)).cell n).flags.noChild = false := by
  subst hg
  unfold State.markCanHave
  cases hnc : (s.cell n).flags.noChild with
  | false => simp [hnc]
  | true =>
    simp only [Bool.and_self, if_true]
    rw [cell_modCell, if_pos ⟨rfl, hn⟩]

theorem noChild_markCanHave_of_false (s : State) (n : Nat) (m : Bool) {b : Nat}
    (h : (s.cell b).flags.noChild = false) : ((s.markCanHave n m).cell b).flags.noChild = false := by
  unfold State.markCanHave; split
  · rw [cell_modCell]; split
    · rfl
    · exact h
  · exact h

theorem noChild_markCanHave_true (s : State) (n : Nat) {m : Bool} (hm : m = true) (hn : n < s.trie.size) :
    ((s.markCanHave n m).cell n).flags.noChild = false := by
  unfold State.markCanHave
  rw [if_pos hm, cell_modCell, if_pos ⟨rfl, hn⟩]

/-- the flag a new node ends up with: created unmarked (`ch`) or unmarked afterwards (`m`) -/
theorem noChild_write_mark (s : State) (q : Nat) (sl : Slot) (x : Stem) (par : Nat) (ch m : Bool) :
    ((((s.writeNew x par ch).1.modCell q (fun c => c.setSlot sl s.trie.size)).markCanHave s.trie.size m).cell
      s.trie.size).flags.noChild = !(ch || m) := by
  cases m with
  | false => rw [Bool.or_false, markCanHave_false]; exact noChild_write_new s q sl x par ch _
  | true =>
    rw [Bool.or_true]
    exact noChild_markCanHave_true _ _ rfl (by rw [trie_modCell_size]; exact size_lt_writeNew s x par ch)

section
variable {stems : LRU} {s0 : State} {t0 : T} {p : LRU} {rest : List Stem} {n : Nat} {s : State} {t : T}

/-- every node stored under a prefix of the stems consumed is unmarked, the last one if stems remain -/
def Unm (p : LRU) (rest : List Stem) (s : State) (t : T) : Prop :=
  ∀ j b, 0 < j → j ≤ p.length → (j = p.length → rest ≠ []) → (p.take j, b) ∈ t.entries s [] →
    (s.cell b).flags.noChild = false

theorem Walk.unm (h0 : Shape s0 t0) (w : Walk stems true s0 t0 p rest n s) : Unm p rest s t0 := by
  induction w with
  | start => intro j _ hj1 hj2; exact absurd hj2 (Nat.not_le_of_lt hj1)
  | @found p x rest n a s w ha ih =>
    intro j b hj1 hj2 hr hb
    have m := w.marked.noStruct
    rw [(m.trans (noStruct_markCanHave s a _)).entries] at hb
    rcases take_snoc_cases p x hj2 with ⟨hj, e⟩ | ⟨hj, e⟩ <;> rw [e] at hb
    · refine noChild_markCanHave_of_false s a _ (ih j b hj1 hj (fun _ => List.cons_ne_nil _ _) ?_)
      rw [m.entries]; exact hb
    · obtain rfl := entries_path_injective h0.ord h0.nodup hb ha
      have hlt : b < s.trie.size := m.1 ▸ h0.rep.lt_size b (entries_addr_mem _ _ _ _ ha)
      cases rest with
      | nil => exact absurd rfl (hr (by rw [hj, List.length_append]; rfl))
      | cons _ _ => exact noChild_markCanHave_clear s b hlt true rfl

theorem Ins.unm (h0 : Shape s0 t0) (i : Ins stems true s0 t0 p rest n s t) : Unm p rest s t := by
  induction i with
  | walk w => exact w.unm h0
  | @first x rest _ hsz _ =>
    intro j b hj1 hj2 hr hb
    have ns := noStruct_markCanHave (s0.writeNew x 0 false).1 1 (!rest.isEmpty && true)
    obtain rfl : j = 1 := Nat.le_antisymm hj2 hj1
    rw [T.entries_leaf] at hb
    obtain rfl : b = 1 := (Prod.mk.inj (List.mem_singleton.mp hb)).2
    cases rest with
    | nil => exact absurd rfl (hr rfl)
    | cons _ _ => exact noChild_markCanHave_true _ 1 rfl (hsz ▸ size_lt_writeNew s0 x 0 false)
  | @write p x rest n s t q sl lo hi ch m i hs hh b1 b2 e ih =>
    intro j b hj1 hj2 hr hb
    have g := hh.graftStep hs x (slotPar s q sl) ch
    have ns := noStruct_markCanHave ((s.writeNew x (slotPar s q sl) ch).1.modCell q
      (fun c => c.setSlot sl s.trie.size)) s.trie.size m
    rw [ns.entries] at hb
    rcases List.mem_cons.mp ((hh.graft_entries hs.nodup (fun a ha => g.stems a (hs.rep.lt_size a ha))
      g.stemNew).subset hb) with e1 | hold
    · obtain ⟨e2, rfl⟩ := Prod.mk.inj e1
      rcases take_snoc_cases p x hj2 with ⟨hj, e3⟩ | ⟨hj, _⟩
      · have := congrArg List.length (e3.symm.trans e2)
        rw [List.length_take, List.length_append, Nat.min_eq_left hj] at this
        exact absurd (this ▸ hj) (Nat.not_succ_le_self _)
      · rw [noChild_write_mark, e, Bool.and_true]
        cases rest with
        | nil => exact absurd rfl (hr (by rw [hj, List.length_append]; rfl))
        | cons _ _ => rfl
    · have hlt := hs.rep.lt_size b (entries_addr_mem _ _ _ _ hold)
      have hfl : ((((s.writeNew x (slotPar s q sl) ch).1.modCell q (fun c => c.setSlot sl s.trie.size)).markCanHave
          s.trie.size m).cell b).flags.noChild = (s.cell b).flags.noChild := by
        unfold State.markCanHave; split
        · rw [cell_modCell, if_neg (fun h => Nat.lt_irrefl _ (h.1 ▸ hlt)), flags_write_old s q sl x _ ch _ b hlt]
        · rw [flags_write_old s q sl x _ ch _ b hlt]
      rw [hfl]
      rcases take_snoc_cases p x hj2 with ⟨hj, e3⟩ | ⟨_, e3⟩ <;> rw [e3] at hold
      · exact ih j b hj1 hj (fun _ => List.cons_ne_nil _ _) hold
      · exact absurd ⟨b, hold⟩ (hh.not_entry hs b1 b2)

end

theorem addLru_markOk {s : State} {t : T} (h : Shape s t) (hm : MarkOk s t) (stems : LRU) (hne : stems ≠ [])
    (flag : Bool) :
    ∃ t', Grow stems s t (s.addLru stems flag).1 t' ∧ MarkOk (s.addLru stems flag).1 t' ∧
      (stems, (s.addLru stems flag).2.1) ∈ t'.entries (s.addLru stems flag).1 [] := by
  obtain ⟨t', gr, hent⟩ := addLru_grow h stems flag hne
  exact ⟨t', gr, hm.grow h gr (attrStep_addLru s stems flag) (addLru_le s stems flag h.live hne).1, hent⟩

/-- after `add_lru(lru, flag_can_have_child_webentities=True)` every proper ancestor of
    the returned node (the node stored under every non-empty proper prefix of the path) is unmarked -/
theorem addLru_true_unmarks {s : State} {t : T} (h : Shape s t) (hm : MarkOk s t) (stems : LRU)
    (hne : stems ≠ []) :
    ∃ t', Grow stems s t (s.addLru stems true).1 t' ∧ MarkOk (s.addLru stems true).1 t' ∧
      (stems, (s.addLru stems true).2.1) ∈ t'.entries (s.addLru stems true).1 [] ∧
      ∀ k, 0 < k → k < stems.length → ∀ b, (stems.take k, b) ∈ t'.entries (s.addLru stems true).1 [] →
        ((s.addLru stems true).1.cell b).flags.noChild = false := by
  obtain ⟨t', i, _⟩ := addLru_ins h stems true hne
  have gr := (i.grow h).1
  exact ⟨t', gr, hm.grow h gr (attrStep_addLru s stems true) (addLru_le s stems true h.live hne).1, (i.grow h).2 hne,
    fun k hk0 hkl b hb => i.unm h k b hk0 (Nat.le_of_lt hkl) (fun e => absurd e (Nat.ne_of_lt hkl)) hb⟩

/-- the same without ghost tree in the conclusion, in terms of the look-up `lru_node` of the resulting index; the mark
    invariant plays no part in it -/
theorem addLru_true_unmarks_lruNode {s : State} {t : T} (h : Shape s t) (stems : LRU) (hne : stems ≠ []) :
    ∀ k, 0 < k → k < stems.length → ∀ b, (s.addLru stems true).1.lruNode (stems.take k) = some b →
      ((s.addLru stems true).1.cell b).flags.noChild = false := by
  obtain ⟨t', i, hs'⟩ := addLru_ins h stems true hne
  intro k hk0 hkl b hb
  have hne' : stems.take k ≠ [] := by
    intro e
    have := congrArg List.length e
    rw [List.length_take, List.length_nil] at this; omega
  exact i.unm h k b hk0 (Nat.le_of_lt hkl) (fun e => absurd e (Nat.ne_of_lt hkl))
    ((lruNode_iff_entries hs' _ hne' b).mp hb)

#print axioms addLru_markOk
#print axioms addLru_true_unmarks

end Traph
