import Proofs.PagesApi
import Proofs.LinkRead
import Proofs.Small
/-! C08 at the API level: `get_webentity_pagelinks(weid, prefixes, include_inbound, include_internal,
    include_outbound)`, `get_webentity_outlinks / inlinks` and the degrees, asked with the full current prefix
    list of the webentity (any order), in any state satisfying the invariants of reachable states
    (`Shape`, `Inv`, `LkOk`).

    Page-level links are read off the model's own stub lists: `OutLink s src tgt k` says that `src` is an
    indexed page whose out-list (walked from its head by `link_nodes_iter`) holds `k ≥ 1` stubs whose target is
    the node of `tgt`; `InLink s src tgt k` is the same read off the in-list of the page `tgt`.

    The per-page reading is `LinkEnds.mem_pageSide` of Proofs/LinkRead, the pages are the `visits` of Proofs/PagesApi;
    `wl_visit_side` puts the two together. All in one statement: `C08_of_inv`, `C08_switches_of_inv`. -/
namespace Traph
open State

theorem wl_retrieve_ok_iff (s : State) (lru : Bytes) {w : Nat} (hw : w ≠ 0) :
    s.retrieveWebentity lru = .ok w ↔ weOf s lru = w :=
  (retrieveWebentity_ok_iff_weOf s lru w).trans (and_iff_right hw)

theorem wl_retrieve_ne_ok_iff (s : State) (lru : Bytes) {w : Nat} (hw : w ≠ 0) :
    s.retrieveWebentity lru ≠ .ok w ↔ weOf s lru ≠ w := not_congr (wl_retrieve_ok_iff s lru hw)


def OutLink (s : State) (src tgt : Bytes) (k : Nat) : Prop :=
  ∃ b c, NodeOf s src b ∧ (s.cell b).flags.page = true ∧ NodeOf s tgt c ∧
    (s.cell b).out ≠ 0 ∧ c ∈ s.walk (s.cell b).out ∧ k = count c (s.walk (s.cell b).out)

def InLink (s : State) (src tgt : Bytes) (k : Nat) : Prop :=
  ∃ b c, NodeOf s tgt b ∧ (s.cell b).flags.page = true ∧ NodeOf s src c ∧
    (s.cell b).inn ≠ 0 ∧ c ∈ s.walk (s.cell b).inn ∧ k = count c (s.walk (s.cell b).inn)

theorem linked_iff {s : State} {o : Bool} {own other : Bytes} {k : Nat} :
    Linked s o own other k ↔ ∃ b c, NodeOf s own b ∧ (s.cell b).flags.page = true ∧ NodeOf s other c ∧
      headOf s o b ≠ 0 ∧ c ∈ s.walk (headOf s o b) ∧ k = count c (s.walk (headOf s o b)) := by
  refine exists_congr fun b => exists_congr fun c => and_congr_right fun _ => and_congr_right fun _ =>
    and_congr_right fun _ => ?_
  show c ∈ s.walk0 (headOf s o b) ∧ k = count c (s.walk0 (headOf s o b)) ↔ _
  rw [mem_walk0, and_assoc]
  exact and_congr_right fun h0 => by rw [walk0_of_ne h0]

theorem outLink_iff {s : State} {src tgt : Bytes} {k : Nat} : OutLink s src tgt k ↔ Linked s true src tgt k :=
  (linked_iff (s := s) (o := true) (own := src) (other := tgt) (k := k)).symm

theorem inLink_iff {s : State} {src tgt : Bytes} {k : Nat} : InLink s src tgt k ↔ Linked s false tgt src k :=
  (linked_iff (s := s) (o := false) (own := tgt) (other := src) (k := k)).symm

theorem Linked.pos {s : State} {o : Bool} {own other : Bytes} {k : Nat} (h : Linked s o own other k) : 0 < k := by
  obtain ⟨b, c, _, _, _, hc, rfl⟩ := h
  exact (count_pos_iff c _).mpr hc

theorem Linked.weight_unique {s : State} {o : Bool} {own other : Bytes} {k k' : Nat}
    (h : Linked s o own other k) (h' : Linked s o own other k') : k = k' := by
  obtain ⟨b, c, hb, _, hc, _, rfl⟩ := h
  obtain ⟨b', c', hb', _, hc', _, rfl⟩ := h'
  rw [nodeOf_unique hb hb', nodeOf_unique hc hc']

theorem Linked.other_page {s : State} {t : T} (e : LinkEnds s t) {o : Bool} {own other : Bytes} {k : Nat}
    (h : Linked s o own other k) : ∃ c, NodeOf s other c ∧ (s.cell c).flags.page = true := by
  obtain ⟨b, c, _, _, hc, hcw, _⟩ := h
  exact ⟨c, hc, (e.resolve hcw).choose_spec.2.1⟩

theorem OutLink.pos {s : State} {src tgt : Bytes} {k : Nat} (h : OutLink s src tgt k) : 0 < k :=
  Linked.pos (outLink_iff.mp h)

theorem InLink.pos {s : State} {src tgt : Bytes} {k : Nat} (h : InLink s src tgt k) : 0 < k :=
  Linked.pos (inLink_iff.mp h)

theorem OutLink.weight_unique {s : State} {src tgt : Bytes} {k k' : Nat} (h : OutLink s src tgt k)
    (h' : OutLink s src tgt k') : k = k' :=
  Linked.weight_unique (outLink_iff.mp h) (outLink_iff.mp h')

theorem InLink.weight_unique {s : State} {src tgt : Bytes} {k k' : Nat} (h : InLink s src tgt k)
    (h' : InLink s src tgt k') : k = k' :=
  Linked.weight_unique (inLink_iff.mp h) (inLink_iff.mp h')

theorem wl_visit_side {β : Type} {s : State} {t : T} (e : LinkEnds s t) {w : Nat} {ps : List Bytes}
    (hf : FullPrefixList s w ps) (o on : Bool) (test : Bytes → Nat → Prop) [∀ l x, Decidable (test l x)]
    (mk : Bytes → Bytes → Nat → Nat → β) (x : β) :
    (∃ bl ∈ visits s none ps, x ∈ readList s (headOf s o bl.1) on (fun c => test (s.windup c) (s.windupWe c))
        (fun c k => mk bl.2 (s.windup c) (s.windupWe c) k)) ↔
      on = true ∧ ∃ own other k, s.retrieveWebentity own = .ok w ∧ Linked s o own other k ∧
        test other (weOf s other) ∧ x = mk own other (weOf s other) k := by
  constructor
  · rintro ⟨⟨b, own⟩, hv, hx⟩
    obtain ⟨X, hX, rfl, hpg, hret⟩ := (visits_none_mem e.shape e.inv hf b own).mp hv
    obtain ⟨hon, other, k, hl, ht, rfl⟩ := (e.mem_pageSide hX hpg o on test (mk X.flatten) x).mp hx
    exact ⟨hon, _, other, k, hret, hl, ht, rfl⟩
  · rintro ⟨hon, own, other, k, hret, hl, ht, rfl⟩
    obtain ⟨b, _, hb, hpg, _⟩ := id hl
    obtain ⟨X, hX, rfl⟩ := (nodeOf_iff e.shape e.inv _ b).mp hb
    exact ⟨(b, X.flatten), (visits_none_mem e.shape e.inv hf b _).mpr ⟨X, hX, rfl, hpg, hret⟩,
      (e.mem_pageSide hX hpg o on test (mk X.flatten) _).mpr ⟨hon, other, k, hl, ht, rfl⟩⟩

theorem outLinksOfPage_eq (s : State) (w b : Nat) (lru : Bytes) (incInt incOut : Bool) :
    s.outLinksOfPage w b lru incInt incOut =
      readList s (headOf s true b) (incOut || incInt)
        (fun c => ((incOut && s.windupWe c ≠ w) || (incInt && s.windupWe c = w)) = true)
        (fun c k => (lru, s.windup c, k)) := rfl

theorem inLinksOfPage_eq (s : State) (w b : Nat) (lru : Bytes) (incIn : Bool) :
    s.inLinksOfPage w b lru incIn =
      readList s (headOf s false b) incIn (fun c => s.windupWe c ≠ w) (fun c k => (s.windup c, lru, k)) := rfl

theorem wl_pagelinks_eq {s : State} {w : Nat} {ps : List Bytes} {incIn incInt incOut : Bool} {l : List PageLink}
    (hl : s.webentityPagelinks w ps incIn incInt incOut = .ok l) :
    l = (visits s none ps).flatMap (fun bl =>
      s.outLinksOfPage w bl.1 bl.2 incInt incOut ++ s.inLinksOfPage w bl.1 bl.2 incIn) := by
  unfold webentityPagelinks at hl
  split at hl
  · cases hl
  · exact forPrefixes_visits hl

/-- the switch test on the other end, in terms of top-down resolution -/
def SwitchOut (s : State) (w : Nat) (incInt incOut : Bool) (tgt : Bytes) : Prop :=
  (incInt = true ∧ s.retrieveWebentity tgt = .ok w) ∨ (incOut = true ∧ s.retrieveWebentity tgt ≠ .ok w)

/-- the switch test as `outLinksOfPage` writes it -/
theorem switchOut_iff (s : State) {w : Nat} (hw : w ≠ 0) (incInt incOut : Bool) (tgt : Bytes) :
    SwitchOut s w incInt incOut tgt ↔ ((incOut && weOf s tgt ≠ w) || (incInt && weOf s tgt = w)) = true := by
  unfold SwitchOut
  rw [wl_retrieve_ok_iff s _ hw, wl_retrieve_ne_ok_iff s _ hw]
  simp only [Bool.or_eq_true, Bool.and_eq_true, decide_eq_true_eq]
  exact or_comm


/-- C08, the links: asked with its full prefix list (any order), webentity `w` is answered exactly
    * the out-list links `(src, tgt, k)` of the indexed pages `src` that resolve to `w`, such that
      (internal) `tgt` resolves to `w` and internal links are asked for, or (outbound) `tgt` resolves to
      another webentity or to none and outbound links are asked for;
    * (inbound, if asked for) the in-list links `(src, tgt, k)` of the indexed pages `tgt` that resolve to `w`,
      such that `src` does not resolve to `w`;
    each with weight `k` = the full multiplicity of the other end in the list. -/
theorem C08_links {s : State} {t : T} (h : Shape s t) (hi : Inv s t) (hk : LkOk s t []) {w : Nat} {ps : List Bytes}
    (hf : FullPrefixList s w ps) {incIn incInt incOut : Bool} {l : List PageLink}
    (hl : s.webentityPagelinks w ps incIn incInt incOut = .ok l) (src tgt : Bytes) (k : Nat) :
    (src, tgt, k) ∈ l ↔
      (OutLink s src tgt k ∧ s.retrieveWebentity src = .ok w ∧ SwitchOut s w incInt incOut tgt) ∨
      (incIn = true ∧ InLink s src tgt k ∧ s.retrieveWebentity tgt = .ok w ∧ s.retrieveWebentity src ≠ .ok w) := by
  have e := hk.linkEnds h hi
  have hO := wl_visit_side e hf true (incOut || incInt) (fun _ x => ((incOut && x ≠ w) || (incInt && x = w)) = true)
    (fun own other _ k => (own, other, k)) (src, tgt, k)
  have hI := wl_visit_side e hf false incIn (fun _ x => x ≠ w) (fun own other _ k => (other, own, k)) (src, tgt, k)
  rw [wl_pagelinks_eq hl, List.mem_flatMap]
  constructor
  · rintro ⟨bl, hv, hx⟩
    rcases List.mem_append.mp hx with hx | hx
    · obtain ⟨_, own, other, k', hret, hlk, ht, e'⟩ := hO.mp ⟨bl, hv, hx⟩
      cases e'
      exact Or.inl ⟨outLink_iff.mpr hlk, hret, (switchOut_iff s hf.ne incInt incOut _).mpr ht⟩
    · obtain ⟨hin, own, other, k', hret, hlk, ht, e'⟩ := hI.mp ⟨bl, hv, hx⟩
      cases e'
      exact Or.inr ⟨hin, inLink_iff.mpr hlk, hret, (wl_retrieve_ne_ok_iff s _ hf.ne).mpr ht⟩
  · rintro (⟨hlk, hret, hsw⟩ | ⟨hin, hlk, hret, hne⟩)
    · have hon : (incOut || incInt) = true := by rcases hsw with ⟨h1, _⟩ | ⟨h1, _⟩ <;> simp [h1]
      obtain ⟨bl, hv, hx⟩ := hO.mpr ⟨hon, src, tgt, k, hret, outLink_iff.mp hlk,
        (switchOut_iff s hf.ne incInt incOut _).mp hsw, rfl⟩
      exact ⟨bl, hv, List.mem_append_left _ hx⟩
    · obtain ⟨bl, hv, hx⟩ := hI.mpr ⟨hin, tgt, src, k, hret, inLink_iff.mp hlk,
        (wl_retrieve_ne_ok_iff s _ hf.ne).mp hne, rfl⟩
      exact ⟨bl, hv, List.mem_append_right _ hx⟩

def wlEnds (x : PageLink) : Bytes × Bytes := (x.1, x.2.1)

theorem wl_keys_of_visit {s : State} {t : T} (e : LinkEnds s t) (w : Nat)
    (b : Nat) (lru : Bytes) (incIn incInt incOut : Bool) (x : Bytes × Bytes) :
    (x ∈ (s.outLinksOfPage w b lru incInt incOut).map wlEnds → x.1 = lru) ∧
    (x ∈ (s.inLinksOfPage w b lru incIn).map wlEnds → x.2 = lru ∧ weOf s x.1 ≠ w) := by
  rw [outLinksOfPage_eq, inLinksOfPage_eq]
  constructor
  · intro hx
    obtain ⟨y, hy, rfl⟩ := List.mem_map.mp hx
    obtain ⟨_, c, _, _, rfl⟩ := (mem_readList ..).mp hy
    rfl
  · intro hx
    obtain ⟨y, hy, rfl⟩ := List.mem_map.mp hx
    obtain ⟨_, c, hc, hne, rfl⟩ := (mem_readList ..).mp hy
    obtain ⟨q, _, _, e1, e2, _⟩ := e.resolve (o := false) (a := b) hc
    refine ⟨rfl, ?_⟩
    show weOf s (s.windup c) ≠ w
    rw [e1, ← e2]; exact hne

/-- C08, each once: if no prefix is given twice, no (source, target) pair is listed twice — whatever the
    switches; in particular no triple is listed twice -/
theorem C08_each_once {s : State} {t : T} (h : Shape s t) (hi : Inv s t) (hk : LkOk s t []) {w : Nat} {ps : List Bytes}
    (hf : FullPrefixList s w ps) (hnd : (ps.map lruIter).Nodup) {incIn incInt incOut : Bool} {l : List PageLink}
    (hl : s.webentityPagelinks w ps incIn incInt incOut = .ok l) : (l.map wlEnds).Nodup := by
  have e := hk.linkEnds h hi
  have hV := visits_nodup h hi hf hnd none
  have hres : ∀ bl ∈ visits s none ps, weOf s bl.2 = w := by
    rintro ⟨b, lru⟩ hv
    obtain ⟨X, _, _, _, hret⟩ := (visits_none_mem h hi hf b lru).mp hv
    exact (wl_retrieve_ok_iff s lru hf.ne).mp hret
  rw [wl_pagelinks_eq hl, List.map_flatMap]
  unfold List.Nodup at hV ⊢
  rw [List.pairwise_map] at hV
  rw [List.pairwise_flatMap]
  constructor
  · rintro ⟨b, lru⟩ hv
    show ((s.outLinksOfPage w b lru incInt incOut ++ s.inLinksOfPage w b lru incIn).map wlEnds).Nodup
    rw [List.map_append, List.nodup_append]
    refine ⟨outLinksOfPage_eq .. ▸ readList_nodup s _ _ _ _ wlEnds fun _ hc _ hc' _ _ _ _ e' =>
        e.windup_inj (o := true) (a := b) hc hc' (Prod.mk.inj e').2,
      inLinksOfPage_eq .. ▸ readList_nodup s _ _ _ _ wlEnds fun _ hc _ hc' _ _ _ _ e' =>
        e.windup_inj (o := false) (a := b) hc hc' (Prod.mk.inj e').1, ?_⟩
    intro x hx y hy e
    subst e
    have h1 := (wl_keys_of_visit e w b lru incIn incInt incOut x).1 hx
    have h2 := (wl_keys_of_visit e w b lru incIn incInt incOut x).2 hy
    apply h2.2
    rw [h1]
    exact hres (b, lru) hv
  · refine List.Pairwise.imp_of_mem ?_ hV
    rintro ⟨b₁, lru₁⟩ ⟨b₂, lru₂⟩ hv₁ hv₂ hne x hx y hy e
    subst e
    simp only [List.map_append, List.mem_append] at hx hy
    have k1 := wl_keys_of_visit e w b₁ lru₁ incIn incInt incOut x
    have k2 := wl_keys_of_visit e w b₂ lru₂ incIn incInt incOut x
    have r1 := hres _ hv₁
    have r2 := hres _ hv₂
    simp only at hne r1 r2
    rcases hx with hx | hx <;> rcases hy with hy | hy
    · exact hne ((k1.1 hx).symm.trans (k2.1 hy))
    · have a1 := k1.1 hx
      have a2 := k2.2 hy
      apply a2.2; rw [a1]; exact r1
    · have a1 := k1.2 hx
      have a2 := k2.1 hy
      apply a1.2; rw [a2]; exact r2
    · exact hne ((k1.2 hx).1.symm.trans (k2.2 hy).1)

theorem C08_each_once' {s : State} {t : T} (h : Shape s t) (hi : Inv s t) (hk : LkOk s t []) {w : Nat} {ps : List Bytes}
    (hf : FullPrefixList s w ps) (hnd : (ps.map lruIter).Nodup) {incIn incInt incOut : Bool} {l : List PageLink}
    (hl : s.webentityPagelinks w ps incIn incInt incOut = .ok l) : l.Nodup :=
  List.Pairwise.of_map wlEnds (fun _ _ hab e => hab (e ▸ rfl)) (C08_each_once h hi hk hf hnd hl)

theorem wl_cited_eq {s : State} {ps : List Bytes} {out : Bool} {l : List Nat}
    (hl : s.citedWebentities ps out = .ok l) :
    l = sortDedup ((visits s none ps).flatMap (fun bl =>
      readList s (headOf s out bl.1) true (fun _ => True) (fun c _ => s.windupWe c))) := by
  obtain ⟨xs, hx, rfl⟩ := (forPrefixes_map_ok s ps _ sortDedup l).mp hl
  rw [forPrefixes_visits hx]
  simp only [deduped_map_eq]
  rfl

/-- C08, cited / citing sets: asked with its full prefix list, the answer of `get_webentity_outlinks`
    (`out = true`) resp. `get_webentity_inlinks` (`out = false`) is the strictly increasing list of exactly the
    webentity ids (0 standing for "none") to which the other ends of the out-list resp. in-list links of the
    pages resolving to `w` resolve. NB: `w` itself is a member as soon as one of its pages has an internal
    link, and 0 is a member as soon as an other end resolves to no webentity. -/
theorem C08_cited {s : State} {t : T} (h : Shape s t) (hi : Inv s t) (hk : LkOk s t []) {w : Nat} {ps : List Bytes}
    (hf : FullPrefixList s w ps) {out : Bool} {l : List Nat} (hl : s.citedWebentities ps out = .ok l) :
    StrictAsc l ∧ ∀ x, x ∈ l ↔ ∃ own other k, s.retrieveWebentity own = .ok w ∧
      ((out = true ∧ OutLink s own other k) ∨ (out = false ∧ InLink s other own k)) ∧ x = weOf s other := by
  rw [wl_cited_eq hl]
  refine ⟨sortDedup_sorted _, fun x => ?_⟩
  rw [mem_sortDedup, List.mem_flatMap, wl_visit_side (hk.linkEnds h hi) hf out true (fun _ _ => True)
    (fun _ _ we _ => we) x]
  have hL : ∀ own other k, ((out = true ∧ OutLink s own other k) ∨ (out = false ∧ InLink s other own k)) ↔
      Linked s out own other k := by
    intro own other k
    cases out
    · exact ⟨fun hh => hh.elim (fun hh => nomatch hh.1) (inLink_iff.mp ·.2), fun hh => Or.inr ⟨rfl, inLink_iff.mpr hh⟩⟩
    · exact ⟨fun hh => hh.elim (outLink_iff.mp ·.2) (fun hh => nomatch hh.1), fun hh => Or.inl ⟨rfl, outLink_iff.mpr hh⟩⟩
  simp only [hL, true_and]

/-- the three degrees are the sizes of the citing set, of the cited set, and their sum -/
theorem C08_degrees {s : State} {ps : List Bytes} {cited citing : List Nat}
    (ho : s.citedWebentities ps true = .ok cited) (hin : s.citedWebentities ps false = .ok citing) :
    s.webentityDegrees ps = .ok [citing.length, cited.length, citing.length + cited.length] := by
  unfold webentityDegrees
  rw [ho, hin]

theorem C08_cited_ok {s : State} {w : Nat} {ps : List Bytes} (hf : FullPrefixList s w ps) (out : Bool) :
    ∃ l, s.citedWebentities ps out = .ok l := forPrefixes_full_map_ok hf _ sortDedup

/-- no switch at all: refused with the library's own error -/
theorem C08_refused (s : State) (w : Nat) (ps : List Bytes) :
    s.webentityPagelinks w ps false false false = .error .traph := rfl

theorem C08_ok {s : State} {w : Nat} {ps : List Bytes} (hf : FullPrefixList s w ps) {incIn incInt incOut : Bool}
    (hsw : (incIn || incInt || incOut) = true) : ∃ l, s.webentityPagelinks w ps incIn incInt incOut = .ok l := by
  unfold webentityPagelinks
  split
  · rename_i hno
    exfalso
    cases incIn <;> cases incInt <;> cases incOut <;> simp_all
  · exact forPrefixes_full_ok hf _

/-- C08, switches: the three classes (internal / outbound / inbound = the answers with exactly one switch) are
    pairwise disjoint, and the answer for any combination of switches has exactly the members of the classes
    asked for -/
theorem C08_switches {s : State} {t : T} (h : Shape s t) (hi : Inv s t) (hk : LkOk s t []) {w : Nat} {ps : List Bytes}
    (hf : FullPrefixList s w ps) {lInt lOut lIn : List PageLink}
    (hInt : s.webentityPagelinks w ps false true false = .ok lInt)
    (hOut : s.webentityPagelinks w ps false false true = .ok lOut)
    (hIn : s.webentityPagelinks w ps true false false = .ok lIn) :
    (∀ x, x ∈ lInt → x ∉ lOut) ∧ (∀ x, x ∈ lInt → x ∉ lIn) ∧ (∀ x, x ∈ lOut → x ∉ lIn) ∧
    ∀ (incIn incInt incOut : Bool) (l : List PageLink), s.webentityPagelinks w ps incIn incInt incOut = .ok l →
      ∀ x, x ∈ l ↔ (incInt = true ∧ x ∈ lInt) ∨ (incOut = true ∧ x ∈ lOut) ∨ (incIn = true ∧ x ∈ lIn) := by
  -- `C08_links`, sorted by class
  have key : ∀ {incIn incInt incOut : Bool} {l : List PageLink}, s.webentityPagelinks w ps incIn incInt incOut = .ok l →
      ∀ src tgt k, (src, tgt, k) ∈ l ↔
        (incInt = true ∧ OutLink s src tgt k ∧ s.retrieveWebentity src = .ok w ∧ s.retrieveWebentity tgt = .ok w) ∨
        (incOut = true ∧ OutLink s src tgt k ∧ s.retrieveWebentity src = .ok w ∧ s.retrieveWebentity tgt ≠ .ok w) ∨
        (incIn = true ∧ InLink s src tgt k ∧ s.retrieveWebentity tgt = .ok w ∧ s.retrieveWebentity src ≠ .ok w) := by
    intro incIn incInt incOut l hl src tgt k
    rw [C08_links h hi hk hf hl]
    unfold SwitchOut
    constructor
    · rintro (⟨hA, hB, ⟨hi', hC⟩ | ⟨ho', hC⟩⟩ | hN)
      · exact Or.inl ⟨hi', hA, hB, hC⟩
      · exact Or.inr (Or.inl ⟨ho', hA, hB, hC⟩)
      · exact Or.inr (Or.inr hN)
    · rintro (⟨hi', hA, hB, hC⟩ | ⟨ho', hA, hB, hC⟩ | hN)
      · exact Or.inl ⟨hA, hB, Or.inl ⟨hi', hC⟩⟩
      · exact Or.inl ⟨hA, hB, Or.inr ⟨ho', hC⟩⟩
      · exact Or.inr hN
  have mInt := key hInt
  have mOut := key hOut
  have mIn := key hIn
  simp only [Bool.false_eq_true, false_and, true_and, or_false, false_or] at mInt mOut mIn
  refine ⟨?_, ?_, ?_, ?_⟩
  · rintro ⟨src, tgt, k⟩ h1 h2
    exact ((mOut _ _ _).mp h2).2.2 ((mInt _ _ _).mp h1).2.2
  · rintro ⟨src, tgt, k⟩ h1 h2
    exact ((mIn _ _ _).mp h2).2.2 ((mInt _ _ _).mp h1).2.1
  · rintro ⟨src, tgt, k⟩ h1 h2
    exact ((mIn _ _ _).mp h2).2.2 ((mOut _ _ _).mp h1).2.1
  · rintro incIn incInt incOut l hl ⟨src, tgt, k⟩
    rw [key hl, mInt, mOut, mIn]

/-- C08 for an index state with its invariants, every webentity `w` with any full prefix list `ps` (any order),
    every combination of the three switches — no reference to the ghost tree in the conclusion:
    1. no switch: the library's own error; otherwise the request is answered, the answer lists exactly the
       out-list links of the pages resolving to `w` that pass the internal / outbound test on the target, and
       (inbound) the in-list links of the pages resolving to `w` whose source does not resolve to `w`, each with
       its full multiplicity; no (source, target) pair twice if no prefix is given twice; the other ends are
       indexed pages;
    2. the cited / citing answers are the strictly increasing lists of exactly the ids (0 = none) to which the
       other ends of these pages' out-list / in-list links resolve, and the degrees are their sizes. -/
theorem C08_of_inv {s : State} {t : T} (h : Shape s t) (hi : Inv s t) (hk : LkOk s t [])
    {w : Nat} {ps : List Bytes} (hf : FullPrefixList s w ps) :
    (∀ incIn incInt incOut : Bool,
      (incIn = false ∧ incInt = false ∧ incOut = false →
        s.webentityPagelinks w ps incIn incInt incOut = .error .traph) ∧
      ((incIn || incInt || incOut) = true →
        ∃ l, s.webentityPagelinks w ps incIn incInt incOut = .ok l ∧
          (∀ src tgt k, (src, tgt, k) ∈ l ↔
            (OutLink s src tgt k ∧ s.retrieveWebentity src = .ok w ∧ SwitchOut s w incInt incOut tgt) ∨
            (incIn = true ∧ InLink s src tgt k ∧ s.retrieveWebentity tgt = .ok w ∧
              s.retrieveWebentity src ≠ .ok w)) ∧
          ((ps.map lruIter).Nodup → (l.map wlEnds).Nodup))) ∧
    (∀ src tgt k, OutLink s src tgt k → ∃ c, NodeOf s tgt c ∧ (s.cell c).flags.page = true) ∧
    (∀ src tgt k, InLink s src tgt k → ∃ c, NodeOf s src c ∧ (s.cell c).flags.page = true) ∧
    (∀ out : Bool, ∃ l, s.citedWebentities ps out = .ok l ∧ StrictAsc l ∧
      ∀ x, x ∈ l ↔ ∃ own other k, s.retrieveWebentity own = .ok w ∧
        ((out = true ∧ OutLink s own other k) ∨ (out = false ∧ InLink s other own k)) ∧ x = weOf s other) ∧
    (∃ cited citing, s.citedWebentities ps true = .ok cited ∧ s.citedWebentities ps false = .ok citing ∧
      s.webentityDegrees ps = .ok [citing.length, cited.length, citing.length + cited.length]) := by
  refine ⟨fun incIn incInt incOut => ⟨?_, fun hsw => ?_⟩, fun _ _ _ hl => Linked.other_page (hk.linkEnds h hi) (outLink_iff.mp hl),
    fun _ _ _ hl => Linked.other_page (hk.linkEnds h hi) (inLink_iff.mp hl), fun out => ?_, ?_⟩
  · rintro ⟨rfl, rfl, rfl⟩; rfl
  · obtain ⟨l, hl⟩ := C08_ok hf hsw
    exact ⟨l, hl, C08_links h hi hk hf hl, fun hnd => C08_each_once h hi hk hf hnd hl⟩
  · obtain ⟨l, hl⟩ := C08_cited_ok hf out
    obtain ⟨h1, h2⟩ := C08_cited h hi hk hf hl
    exact ⟨l, hl, h1, h2⟩
  · obtain ⟨cited, ho⟩ := C08_cited_ok hf true
    obtain ⟨citing, hin⟩ := C08_cited_ok hf false
    exact ⟨cited, citing, ho, hin, C08_degrees ho hin⟩

/-- `C08_switches`, the three one-switch requests being answered -/
theorem C08_switches_of_inv {s : State} {t : T} (h : Shape s t) (hi : Inv s t) (hk : LkOk s t [])
    {w : Nat} {ps : List Bytes} (hf : FullPrefixList s w ps) :
    ∃ lInt lOut lIn, s.webentityPagelinks w ps false true false = .ok lInt ∧
      s.webentityPagelinks w ps false false true = .ok lOut ∧
      s.webentityPagelinks w ps true false false = .ok lIn ∧
      (∀ x, x ∈ lInt → x ∉ lOut) ∧ (∀ x, x ∈ lInt → x ∉ lIn) ∧ (∀ x, x ∈ lOut → x ∉ lIn) ∧
      ∀ (incIn incInt incOut : Bool) (l : List PageLink), s.webentityPagelinks w ps incIn incInt incOut = .ok l →
        ∀ x, x ∈ l ↔ (incInt = true ∧ x ∈ lInt) ∨ (incOut = true ∧ x ∈ lOut) ∨ (incIn = true ∧ x ∈ lIn) := by
  obtain ⟨lInt, hInt⟩ := C08_ok hf (incIn := false) (incInt := true) (incOut := false) rfl
  obtain ⟨lOut, hOut⟩ := C08_ok hf (incIn := false) (incInt := false) (incOut := true) rfl
  obtain ⟨lIn, hIn⟩ := C08_ok hf (incIn := true) (incInt := false) (incOut := false) rfl
  exact ⟨lInt, lOut, lIn, hInt, hOut, hIn, C08_switches h hi hk hf hInt hOut hIn⟩

/-! The model on a concrete index:
    `a|` is webentity 1, `a|b|` webentity 2, `q|z|` resolves to no webentity. Links: `a|x| → a|b|c|`,
    `a|x| → a|y|` (twice), `a|b|c| → a|x|`, `q|z| → a|x|`, `a|x| → q|z|`. -/
section Examples

private def wlA : Bytes := [97, 124]
private def wlAB : Bytes := [97, 124, 98, 124]
private def wlABC : Bytes := [97, 124, 98, 124, 99, 124]
private def wlAX : Bytes := [97, 124, 120, 124]
private def wlAY : Bytes := [97, 124, 121, 124]
private def wlQZ : Bytes := [113, 124, 122, 124]
private def wlS : State :=
  (State.fresh {} .never [] []).1.run
    [.create [wlA], .create [wlAB],
     .addLinks [(wlAX, wlABC), (wlAX, wlAY), (wlABC, wlAX), (wlAX, wlAY), (wlQZ, wlAX), (wlAX, wlQZ)]]

/-- the model run once (twice: instance search gives up on longer conjunctions) -/
private theorem wlS_eval :
    (wlS.webentityPagelinks 1 [wlA] false true false).toOption = some [(wlAX, wlAY, 2)] ∧
    (wlS.webentityPagelinks 1 [wlA] false false true).toOption = some [(wlAX, wlQZ, 1), (wlAX, wlABC, 1)] ∧
    (wlS.webentityPagelinks 1 [wlA] true false false).toOption = some [(wlQZ, wlAX, 1), (wlABC, wlAX, 1)] := by
  decide +kernel

private theorem wlS_eval₂ :
    (wlS.webentityPagelinks 1 [wlA, wlA] false true false).toOption = some [(wlAX, wlAY, 2), (wlAX, wlAY, 2)] ∧
    (wlS.citedWebentities [wlA] true).toOption = some [0, 1, 2] ∧
    (wlS.citedWebentities [wlA] false).toOption = some [0, 1, 2] ∧
    (wlS.webentityDegrees [wlA]).toOption = some [3, 3, 6] := by decide +kernel

/-- internal: the double link with weight 2, once -/
example : (wlS.webentityPagelinks 1 [wlA] false true false).toOption = some [(wlAX, wlAY, 2)] := wlS_eval.1
/-- outbound: towards another webentity and towards no webentity -/
example : (wlS.webentityPagelinks 1 [wlA] false false true).toOption
    = some [(wlAX, wlQZ, 1), (wlAX, wlABC, 1)] := wlS_eval.2.1
/-- inbound: from another webentity and from no webentity -/
example : (wlS.webentityPagelinks 1 [wlA] true false false).toOption
    = some [(wlQZ, wlAX, 1), (wlABC, wlAX, 1)] := wlS_eval.2.2
/-- a prefix given twice: every link twice (`C08_each_once` needs the no-repetition hypothesis) -/
example : (wlS.webentityPagelinks 1 [wlA, wlA] false true false).toOption
    = some [(wlAX, wlAY, 2), (wlAX, wlAY, 2)] := wlS_eval₂.1
/-- cited and citing sets of webentity 1: "none" (0), webentity 1 itself (internal link), webentity 2 -/
example : (wlS.citedWebentities [wlA] true).toOption = some [0, 1, 2] := wlS_eval₂.2.1
example : (wlS.citedWebentities [wlA] false).toOption = some [0, 1, 2] := wlS_eval₂.2.2.1
example : (wlS.webentityDegrees [wlA]).toOption = some [3, 3, 6] := wlS_eval₂.2.2.2

end Examples

end Traph

section
open Traph
#print axioms C08_links
#print axioms C08_each_once
#print axioms C08_cited
#print axioms C08_switches
#print axioms C08_of_inv
#print axioms C08_switches_of_inv
end
