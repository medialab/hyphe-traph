import Proofs.ParentInsert
import Proofs.Windup
import Proofs.ShapeOps
/-! What is needed to read the link lists back as LRUs: the parent invariant `ParOk` — every block's `parent` field
    is the node one level up — is kept by every change a request makes (`parKeeps_across`), hence holds after a
    history without `clear` on an index that held its rules only (`parOk_based`); there `windup_lru(block)` is the LRU
    of the block's entry (`windup_eq`, Windup). The ghost tree of a state is unique (`Shape.unique`, Tst), so
    invariants proved with separately chosen trees can be combined. -/
namespace Traph
namespace LinkBag
open State

theorem shape_unique {s : State} {t t' : T} (h : Shape s t) (h' : Shape s t') : t = t' :=
  h.unique h'

def ParKeeps (s s' : State) : Prop :=
  ∀ t, Shape s t → ParOk s t 0 → ∃ t', Shape s' t' ∧ ParOk s' t' 0

theorem ParKeeps.refl (s : State) : ParKeeps s s := fun t h hp => ⟨t, h, hp⟩

theorem ParKeeps.trans {a b c : State} (h1 : ParKeeps a b) (h2 : ParKeeps b c) : ParKeeps a c :=
  fun t h hp => by
    obtain ⟨t1, s1, p1⟩ := h1 t h hp
    exact h2 t1 s1 p1

theorem parKeeps_of_trie_eq {s s' : State} (e : s'.trie = s.trie) : ParKeeps s s' :=
  fun t h hp => ⟨t, (Keeps.of_trie_eq h e).shape, hp.of_parent_eq (fun a => by rw [cell_of_trie_eq e])⟩

theorem parKeeps_modCell (s : State) (i : Nat) (f : Cell → Cell)
    (hf : ∀ c, (f c).left = c.left ∧ (f c).right = c.right ∧ (f c).child = c.child ∧
      (f c).chunk = c.chunk ∧ (f c).flags.hasTail = c.flags.hasTail)
    (hpar : ∀ c, (f c).parent = c.parent) : ParKeeps s (s.modCell i f) :=
  fun t h hp => ⟨t, (Traph.noStruct_modCell s i f hf).shape h, hp.modCell i f hpar⟩

theorem parKeeps_addLru (s : State) (stems : LRU) (flag : Bool) : ParKeeps s (s.addLru stems flag).1 := by
  by_cases hne : stems = []
  · subst hne; rw [addLru_nil]; exact ParKeeps.refl s
  · intro t h hp
    obtain ⟨t', gr, hp', _⟩ := addLru_parOk h hp stems hne flag
    exact ⟨t', gr.shape, hp'⟩

theorem parKeeps_setCrawled (s : State) (n : Nat) :
    ParKeeps s (s.modCell n (fun c => { c with flags := { c.flags with crawled := true } })) :=
  parKeeps_modCell _ _ _ (fun _ => ⟨rfl, rfl, rfl, rfl, rfl⟩) (fun _ => rfl)

theorem parKeeps_setRule (s : State) (n : Nat) (b : Bool) :
    ParKeeps s (s.modCell n (fun c => { c with flags := { c.flags with rule := b } })) :=
  parKeeps_modCell _ _ _ (fun _ => ⟨rfl, rfl, rfl, rfl, rfl⟩) (fun _ => rfl)

theorem parKeeps_addStubs (s : State) (page : Nat) (targets : List Nat) (out : Bool) :
    ParKeeps s (s.addStubs page targets out) :=
  addStubs_rel ParKeeps.refl ParKeeps.trans (fun _ _ => parKeeps_of_trie_eq rfl) page out
    (fun s _ => parKeeps_modCell s page _ (fun c => by cases out <;> exact ⟨rfl, rfl, rfl, rfl, rfl⟩)
      (fun c => by cases out <;> rfl)) s targets

/-- no change moves a block or rewrites a `parent` field; `add_lru` sets the parent of each block it creates -/
theorem parKeeps_across (k ru : Bool) (wf : Prop) :
    Across k ru wf (fun _ => True) (fun _ _ => True) ParKeeps where
  refl := ParKeeps.refl
  trans := ParKeeps.trans
  keep _ _ := trivial
  stable _ _ _ := trivial
  addLru s stems flag _ := ⟨parKeeps_addLru s stems flag, trivial⟩
  lookup _ _ _ _ _ := trivial
  setPage s x _ _ _ := ⟨parKeeps_modCell s x.node _ (fun _ => ⟨rfl, rfl, rfl, rfl, rfl⟩) (fun _ => rfl), trivial⟩
  isPage _ _ _ _ _ := trivial
  setCrawled s x _ _ := parKeeps_setCrawled s x.node
  setRule _ s x b _ _ := parKeeps_setRule s x.node b
  setWe s x _ _ _ _ := parKeeps_modCell s x.node _ (fun _ => ⟨rfl, rfl, rfl, rfl, rfl⟩) (fun _ => rfl)
  genId _ _ := parKeeps_of_trie_eq rfl
  addStubs _ s page targets out _ _ := parKeeps_addStubs s page targets out
  ram _ _ _ _ _ := parKeeps_of_trie_eq rfl

theorem parKeeps_addPageCore (s : State) (lru : Bytes) (crawled : Bool) :
    ParKeeps s (s.addPageCore lru crawled).1 :=
  (built_addPageCore (Built.quiet s) lru crawled).across (parKeeps_across _ _ _) trivial

theorem parKeeps_installRules (rules : List (Bytes × Rule)) (s : State) (w : Bool) :
    ParKeeps s (installRules s rules w).1 :=
  (built_installRules rules w (Built.quiet s)).across (parKeeps_across _ _ _) trivial

theorem parInv_hist : HistInv fun s => ∃ t, Shape s t ∧ ParOk s t 0 :=
  ⟨fun s ht _ => ⟨.nil, shape_of_trie_init s ht, parOk_nil s⟩,
   fun b ⟨t, h, hp⟩ => (b.across (parKeeps_across _ _ _) trivial).1 t h hp⟩

theorem run_parKeeps (ops : List Op) (s : State) (_ : ∀ op ∈ ops, ∀ d rs, op ≠ .clear d rs) : ParKeeps s (s.run ops) :=
  fun t h hp => parInv_hist.run ops s ⟨t, h, hp⟩

theorem parOk_based {b : State} (hb : b.trie = #[{}]) (rs : List (Bytes × Rule)) (seg : List Op)
    (_ : ∀ op ∈ seg, ∀ d rs, op ≠ .clear d rs) {t : T} (h : Shape ((installRules b rs true).1.run seg) t) :
    ParOk ((installRules b rs true).1.run seg) t 0 := by
  obtain ⟨t', h', hp'⟩ := parInv_hist.run seg _
    (parInv_hist.installRules rs b true ⟨.nil, shape_of_trie_init b hb, parOk_nil b⟩)
  rw [h.unique h']
  exact hp'

theorem parOk_run (cfg : Config) (dflt : Rule) (rules : List (Bytes × Rule)) (ops : List Op)
    (hop : ∀ op ∈ ops, ∀ d rs, op ≠ .clear d rs) {t : T}
    (h : Shape ((State.fresh cfg dflt rules []).1.run ops) t) :
    ParOk ((State.fresh cfg dflt rules []).1.run ops) t 0 :=
  parOk_based (b := { cfg := cfg, dflt := dflt, log := .linkHdr :: .hdr 0 :: [] }) rfl rules ops hop h

theorem windup_run (cfg : Config) (dflt : Rule) (rules : List (Bytes × Rule)) (ops : List Op)
    (hop : ∀ op ∈ ops, ∀ d rs, op ≠ .clear d rs) {t : T}
    (h : Shape ((State.fresh cfg dflt rules []).1.run ops) t) {p : LRU} {b : Nat}
    (hb : (p, b) ∈ t.entries ((State.fresh cfg dflt rules []).1.run ops) []) :
    ((State.fresh cfg dflt rules []).1.run ops).windup b = p.flatten :=
  windup_eq h (parOk_run cfg dflt rules ops hop h) hb

#print axioms shape_unique
#print axioms parOk_run
#print axioms windup_run

end LinkBag
end Traph
