import Proofs.StorageBridge
import Proofs.ReachableAll
/-! C15, images. The two storage machines of `Traph/Storage.lean`, fed the storage calls of a history (and the
    truncations of `clear`: `open(path, "wb+")` on files, `storage.clear()` in memory), hold identical bytes,
    equal to the codec image (`encodeTrie` / `encodeLinks`) of the model state — after every request and after
    every single call; the memory-mapped reader returns the blocks of the model state. All in one statement:
    `C15_backends`. -/
namespace Traph
open State Layout LayoutOk

/-- `Traph(folder=…)`: two file objects -/
structure sb_FileStores where
  trie  : FileSt := {}
  links : FileSt := {}

/-- `Traph(folder=None)`: two bytearrays -/
structure sb_MemStores where
  trie  : MemSt := {}
  links : MemSt := {}

def sb_FileStores.get (st : sb_FileStores) : sb_StoreId → FileSt
  | .trie => st.trie
  | .links => st.links

def sb_FileStores.set (st : sb_FileStores) : sb_StoreId → FileSt → sb_FileStores
  | .trie, x => { st with trie := x }
  | .links, x => { st with links := x }

def sb_MemStores.get (st : sb_MemStores) : sb_StoreId → MemSt
  | .trie => st.trie
  | .links => st.links

def sb_MemStores.set (st : sb_MemStores) : sb_StoreId → MemSt → sb_MemStores
  | .trie, x => { st with trie := x }
  | .links, x => { st with links := x }

/-- one event on the file back-end: `FileStorage.write(data, block)` on the store of the call, or the
    truncation `open(path, "wb+")` (empty file, cursor 0). Answers what `write` returned. -/
def sb_FileStores.event (st : sb_FileStores) : Event → sb_FileStores × Option Nat
  | .write w =>
    let r := (st.get w.sb_store).write w.sb_store.bs w.sb_data w.sb_block
    (st.set w.sb_store r.1, some r.2)
  | .truncTrie => (st.set .trie {}, none)
  | .truncLinks => (st.set .links {}, none)

/-- one event on the memory back-end: `MemoryStorage.write(data, block)`, or `storage.clear()` -/
def sb_MemStores.event (st : sb_MemStores) : Event → sb_MemStores × Option Nat
  | .write w =>
    let r := (st.get w.sb_store).write w.sb_store.bs w.sb_data w.sb_block
    (st.set w.sb_store r.1, some r.2)
  | .truncTrie => (st.set .trie {}, none)
  | .truncLinks => (st.set .links {}, none)

def sb_FileStores.run (st : sb_FileStores) : List Event → sb_FileStores × List (Option Nat)
  | [] => (st, [])
  | e :: es =>
    let r := st.event e
    let rest := r.1.run es
    (rest.1, r.2 :: rest.2)

def sb_MemStores.run (st : sb_MemStores) : List Event → sb_MemStores × List (Option Nat)
  | [] => (st, [])
  | e :: es =>
    let r := st.event e
    let rest := r.1.run es
    (rest.1, r.2 :: rest.2)

def sb_FileStores.Abs (st : sb_FileStores) (f : Files) : Prop := ∀ i, (st.get i).data = f.sb_image i
def sb_MemStores.Abs (st : sb_MemStores) (f : Files) : Prop := ∀ i, (st.get i).data = f.sb_image i

theorem sb_image_empty (i : sb_StoreId) : ({} : Files).sb_image i = [] := by
  cases i <;> rfl

theorem sb_fileStores_abs_empty : ({} : sb_FileStores).Abs {} := fun i => by
  rw [sb_image_empty]; cases i <;> rfl

theorem sb_memStores_abs_empty : ({} : sb_MemStores).Abs {} := fun i => by
  rw [sb_image_empty]; cases i <;> rfl

@[simp] theorem sb_FileStores.get_set (st : sb_FileStores) (i j : sb_StoreId) (x : FileSt) :
    (st.set i x).get j = if j = i then x else st.get j := by
  cases i <;> cases j <;> rfl

@[simp] theorem sb_MemStores.get_set (st : sb_MemStores) (i j : sb_StoreId) (x : MemSt) :
    (st.set i x).get j = if j = i then x else st.get j := by
  cases i <;> cases j <;> rfl

theorem sb_event_sim (f : Files) (fs : sb_FileStores) (ms : sb_MemStores) (hf : fs.Abs f) (hm : ms.Abs f)
    (e : Event) (hok : e.sb_Ok f) :
    (fs.event e).1.Abs (f.applyE e) ∧ (ms.event e).1.Abs (f.applyE e) ∧ (fs.event e).2 = (ms.event e).2 := by
  cases e with
  | write w =>
    obtain ⟨hd, hw, hother⟩ := sb_write_sim f w hok
    have hwf := sb_blocks_wf f w.sb_store
    have hF := FileSt.write_sim (fs.get w.sb_store) (f.sb_blocks w.sb_store) (hf w.sb_store) hwf
      w.sb_data w.sb_block hd
    have hM := MemSt.write_sim (ms.get w.sb_store) (f.sb_blocks w.sb_store) (hm w.sb_store) hwf
      w.sb_data w.sb_block hd
    rw [sb_blocks_bs] at hF hM
    refine ⟨fun i => ?_, fun i => ?_, ?_⟩
    · simp only [sb_FileStores.event, sb_FileStores.get_set, Files.applyE]
      by_cases hi : i = w.sb_store
      · subst hi; rw [if_pos rfl]
        have := hF.1; rw [hw] at this; exact this
      · rw [if_neg hi, hf i]; unfold Files.sb_image; rw [hother i hi]
    · simp only [sb_MemStores.event, sb_MemStores.get_set, Files.applyE]
      by_cases hi : i = w.sb_store
      · subst hi; rw [if_pos rfl]
        have := hM.1; rw [hw] at this; exact this
      · rw [if_neg hi, hm i]; unfold Files.sb_image; rw [hother i hi]
    · simp only [sb_FileStores.event, sb_MemStores.event]
      rw [hF.2, hM.2]
  | truncTrie =>
    refine ⟨fun i => ?_, fun i => ?_, rfl⟩
    · cases i
      · rfl
      · exact hf .links
    · cases i
      · rfl
      · exact hm .links
  | truncLinks =>
    refine ⟨fun i => ?_, fun i => ?_, rfl⟩
    · cases i
      · exact hf .trie
      · rfl
    · cases i
      · exact hm .trie
      · rfl

theorem sb_run_sim : ∀ (es : List Event) (f : Files) (fs : sb_FileStores) (ms : sb_MemStores),
    fs.Abs f → ms.Abs f → sb_EvOk f es →
    (fs.run es).1.Abs (es.foldl Files.applyE f) ∧ (ms.run es).1.Abs (es.foldl Files.applyE f) ∧
    (fs.run es).2 = (ms.run es).2
  | [], _, _, _, hf, hm, _ => ⟨hf, hm, rfl⟩
  | e :: es, f, fs, ms, hf, hm, hok => by
    obtain ⟨h1, h2, h3⟩ := sb_event_sim f fs ms hf hm e hok.1
    obtain ⟨r1, r2, r3⟩ := sb_run_sim es _ _ _ h1 h2 hok.2
    simp only [sb_FileStores.run, sb_MemStores.run, List.foldl_cons]
    exact ⟨r1, r2, by rw [h3, r3]⟩

/-- second component: what each `storage.write` answered -/
def sb_fileOf (es : List Event) : sb_FileStores × List (Option Nat) := ({} : sb_FileStores).run es
def sb_memOf (es : List Event) : sb_MemStores × List (Option Nat) := ({} : sb_MemStores).run es

theorem sb_run_images (es : List Event) (hok : sb_EvOk {} es) (i : sb_StoreId) :
    ((sb_fileOf es).1.get i).data = (replayE es).sb_image i ∧
    ((sb_memOf es).1.get i).data = (replayE es).sb_image i ∧
    (sb_fileOf es).2 = (sb_memOf es).2 := by
  obtain ⟨h1, h2, h3⟩ := sb_run_sim es {} {} {} sb_fileStores_abs_empty sb_memStores_abs_empty hok
  exact ⟨h1 i, h2 i, h3⟩

/-- stated for an arbitrary event list: with a concrete history in its place, comparing `(…).get .trie` with
    `(…).trie` sets the unifier to unfolding the history -/
theorem sb_images_of (es : List Event) (s : State) (hok : sb_EvOk {} es) (hend : replayE es = s.files) :
    (sb_fileOf es).1.trie.data = encodeTrie s ∧ (sb_memOf es).1.trie.data = encodeTrie s ∧
    (sb_fileOf es).1.links.data = encodeLinks s ∧ (sb_memOf es).1.links.data = encodeLinks s ∧
    (sb_fileOf es).2 = (sb_memOf es).2 := by
  obtain ⟨t1, t2, r⟩ := sb_run_images es hok .trie
  obtain ⟨l1, l2, _⟩ := sb_run_images es hok .links
  rw [hend, sb_image_trie] at t1 t2
  rw [hend, sb_image_links] at l1 l2
  exact ⟨t1, t2, l1, l2, r⟩

def sb_opsOf (st : sb_StoreId) (ws : List Write) : List SOp :=
  (ws.filter (fun w => w.sb_store = st)).map (fun w => .write w.sb_data w.sb_block)

theorem sb_allDisciplined (st : sb_StoreId) : ∀ (ws : List Write) (f : Files), WsAll Write.sb_Ok f ws →
    (f.sb_blocks st).AllDisciplined (sb_opsOf st ws) ∧
    ((f.sb_blocks st).runOps (sb_opsOf st ws)).1 = (ws.foldl Files.apply f).sb_blocks st
  | [], _, _ => ⟨trivial, rfl⟩
  | w :: ws, f, hok => by
    obtain ⟨hd, hw, hother⟩ := sb_write_sim f w hok.1
    obtain ⟨ih1, ih2⟩ := sb_allDisciplined st ws _ hok.2
    by_cases hst : w.sb_store = st
    · subst hst
      have e : sb_opsOf w.sb_store (w :: ws) = .write w.sb_data w.sb_block :: sb_opsOf w.sb_store ws := by
        simp [sb_opsOf]
      rw [e]
      simp only [Blocks.AllDisciplined, Blocks.runOps, List.foldl_cons]
      rw [hw]
      exact ⟨⟨hd, ih1⟩, ih2⟩
    · have e : sb_opsOf st (w :: ws) = sb_opsOf st ws := by
        simp [sb_opsOf, hst]
      rw [e, List.foldl_cons]
      rw [hother st (fun h => hst h.symm)] at ih1 ih2
      exact ⟨ih1, ih2⟩

theorem sb_runOps_images (st : sb_StoreId) (ws : List Write) (hok : WsAll Write.sb_Ok {} ws) :
    (⟨st.bs, []⟩ : Blocks).AllDisciplined (sb_opsOf st ws) ∧
    ((({} : FileSt).runOps st.bs (sb_opsOf st ws)).2 = (({} : MemSt).runOps st.bs (sb_opsOf st ws)).2) ∧
    (({} : FileSt).runOps st.bs (sb_opsOf st ws)).1.data = (replay ws).sb_image st ∧
    (({} : MemSt).runOps st.bs (sb_opsOf st ws)).1.data = (replay ws).sb_image st := by
  obtain ⟨h1, h2⟩ := sb_allDisciplined st ws {} hok
  have hb : ({} : Files).sb_blocks st = ⟨st.bs, []⟩ := by cases st <;> rfl
  rw [hb] at h1 h2
  obtain ⟨a1, a2, a3, a4, _⟩ := back_ends_agree (sb_opsOf st ws) {} {} ⟨st.bs, []⟩ rfl rfl
    (by cases st <;> exact ⟨by decide, by simp⟩) h1
  refine ⟨h1, a1.trans a2.symm, ?_, ?_⟩
  · rw [FileSt.Abs, h2] at a3; exact a3
  · rw [MemSt.Abs, h2] at a4; exact a4

theorem sb_mmap_image (f : Files) (st : sb_StoreId) (b : Nat) :
    mmapRead (f.sb_image st) st.bs (b * st.bs) = (f.sb_blocks st).blocks[b]? := by
  have hw := sb_blocks_wf f st
  have h := mmapRead_sim (f.sb_blocks st) hw (b * st.bs) (by rw [sb_blocks_bs]; exact Nat.mul_mod_left _ _)
  rw [sb_blocks_bs] at h
  rw [Files.sb_image, h, Blocks.read, sb_blocks_bs, Nat.mul_div_cancel]
  cases st <;> decide

theorem sb_image_slice (f : Files) (i n : Nat) (hi : 0 < i) (h : 0 < f.trie.size) :
    ((f.sb_image .trie).drop (i * trieBlock)).take (n * trieBlock) =
      (((f.trie.toList.drop i).take n).map encodeCell).flatten := by
  have hw : ∀ x ∈ f.sb_trieBlocks, x.length = trieBlock := (sb_blocks_wf f .trie).2
  have hne : f.trie.size ≠ 0 := Nat.ne_of_gt h
  show ((f.sb_trieBlocks.flatten).drop (i * trieBlock)).take (n * trieBlock) = _
  rw [flatten_drop_mul trieBlock _ hw i,
    flatten_take_mul trieBlock _ (fun x hx => hw x (List.mem_of_mem_drop hx)) n]
  obtain ⟨k, rfl⟩ := Nat.exists_eq_add_one_of_ne_zero (Nat.ne_of_gt hi)
  simp only [Files.sb_trieBlocks, if_neg hne, List.drop_succ_cons, ← List.map_drop, ← List.map_take,
    List.drop_drop]
  rw [Nat.add_comm 1 k]

/-- **C15, images after every single storage call.** Any history on a fresh index (any configuration, any
    constructor rules, any requests, `clear` anywhere), cut after any number `k` of its storage events: both
    back-ends hold, in both stores, exactly the image of the files decoded from those `k` events, and every
    `write` so far answered the same block offset on both. -/
theorem C15_images_every_write (cfg : Config) (dflt : Rule) (rules : List (Bytes × Rule)) (ops : List Op)
    (k : Nat) (i : sb_StoreId) :
    let es := (historyEvents cfg dflt rules ops).take k
    ((sb_fileOf es).1.get i).data = (replayE es).sb_image i ∧
    ((sb_memOf es).1.get i).data = (replayE es).sb_image i ∧
    (sb_fileOf es).2 = (sb_memOf es).2 :=
  sb_run_images _ (sb_evOk_take _ k _ (sb_history_ok cfg dflt rules ops)) i

/-- **C15, images after every request.** Both back-ends, fed the storage calls of the whole history, hold
    `encodeTrie s` and `encodeLinks s` of the model state `s` the history reaches; same answers to every call. -/
theorem C15_images (cfg : Config) (dflt : Rule) (rules : List (Bytes × Rule)) (ops : List Op) :
    let s := (State.fresh cfg dflt rules []).1.run ops
    let es := historyEvents cfg dflt rules ops
    (sb_fileOf es).1.trie.data = encodeTrie s ∧ (sb_memOf es).1.trie.data = encodeTrie s ∧
    (sb_fileOf es).1.links.data = encodeLinks s ∧ (sb_memOf es).1.links.data = encodeLinks s ∧
    (sb_fileOf es).2 = (sb_memOf es).2 :=
  sb_images_of _ _ (sb_history_ok cfg dflt rules ops) (historyEvents_end cfg dflt rules ops)

/-- for every reachable state (`Proofs/ReachableAll`): some admissible event history leaves both back-ends
    holding exactly its codec images -/
theorem C15_images_reachable {s : State} (h : Reachable s) :
    ∃ es : List Event, sb_EvOk {} es ∧ replayE es = s.files ∧
      (sb_fileOf es).1.trie.data = encodeTrie s ∧ (sb_memOf es).1.trie.data = encodeTrie s ∧
      (sb_fileOf es).1.links.data = encodeLinks s ∧ (sb_memOf es).1.links.data = encodeLinks s := by
  obtain ⟨cfg, dflt, rules, ops, _, _, _, rfl⟩ := h
  obtain ⟨a, b, c, d, _⟩ := C15_images cfg dflt rules ops
  exact ⟨_, sb_history_ok cfg dflt rules ops, historyEvents_end cfg dflt rules ops, a, b, c, d⟩

/-- **between two writes of one request**: a cut that falls inside a request other than `clear` leaves both
    back-ends holding the codec images of a model state `m` between the state before and the state after that
    request (`Trace`: the log is faithful after every single write) -/
theorem C15_images_mid_request (cfg : Config) (dflt : Rule) (rules : List (Bytes × Rule)) (ops : List Op)
    (k n : Nat) (op : Op) (hop : ops[n]? = some op) (hc : op.isClear = false)
    (h1 : (historyEvents cfg dflt rules (ops.take n)).length < k)
    (h2 : k ≤ (historyEvents cfg dflt rules (ops.take (n + 1))).length) :
    let fr := (State.fresh cfg dflt rules []).1
    let es := (historyEvents cfg dflt rules ops).take k
    ∃ m : State, fr.run (ops.take n) ⊑ m ∧ m ⊑ fr.run (ops.take (n + 1)) ∧
      (sb_fileOf es).1.trie.data = encodeTrie m ∧ (sb_memOf es).1.trie.data = encodeTrie m ∧
      (sb_fileOf es).1.links.data = encodeLinks m ∧ (sb_memOf es).1.links.data = encodeLinks m := by
  dsimp only
  have hrun : (((State.fresh cfg dflt rules []).1.run (ops.take n)).step op).1 =
      (State.fresh cfg dflt rules []).1.run (ops.take (n + 1)) := by
    rw [List.take_add_one, hop, Option.toList_some, run_append]; rfl
  rcases history_cut_at cfg dflt rules ops hop k h1 h2 with ⟨h, _⟩ | ⟨hm1, hm2⟩
  · rw [hc] at h; cases h
  · rw [hrun] at hm2
    obtain ⟨t1, t2, l1, l2, _⟩ := sb_images_of _ (Files.toState _)
      (sb_evOk_take _ k _ (sb_history_ok cfg dflt rules ops)) rfl
    exact ⟨Files.toState _, Files.Le.of_files (hm1 hc), Files.Le.of_files hm2, t1, t2, l1, l2⟩

/-- a history without `clear`: the calls on each store, from the empty store, are `AllDisciplined` for the
    abstract block list of block size 128 (trie) resp. 16 (links); `FileSt.runOps` and `MemSt.runOps` give the
    same answers and end with the image of the state -/
theorem C15_discipline_noclear (cfg : Config) (dflt : Rule) (rules : List (Bytes × Rule)) (ops : List Op)
    (hfree : ∀ op ∈ ops, op.isClear = false) (st : sb_StoreId) :
    let s := (State.fresh cfg dflt rules []).1.run ops
    let calls := sb_opsOf st s.log.reverse
    (⟨st.bs, []⟩ : Blocks).AllDisciplined calls ∧
    (({} : FileSt).runOps st.bs calls).2 = (({} : MemSt).runOps st.bs calls).2 ∧
    (({} : FileSt).runOps st.bs calls).1.data = s.files.sb_image st ∧
    (({} : MemSt).runOps st.bs calls).1.data = s.files.sb_image st := by
  intro s calls
  have hl := logged_fresh cfg dflt rules ops fun op h => Op.not_clear_of_isClear (hfree op h)
  have := sb_runOps_images st s.log.reverse (hl.sb_ok (sb_history_nz cfg dflt rules ops))
  rwa [show replay s.log.reverse = s.files from hl.1] at this

/-- a history whose last `clear` is followed by the clear-free requests `seg`: the same for the calls since that
    `clear` emptied the two stores (its own header writes first). `s.files` is the model state of the WHOLE
    history. -/
theorem C15_discipline_segment (cfg : Config) (dflt : Rule) (rules : List (Bytes × Rule)) (pre : List Op)
    (d : Option Rule) (rs : Option (List (Bytes × Rule))) (seg : List Op)
    (hseg : ∀ op ∈ seg, op.isClear = false) (st : sb_StoreId) :
    let s := (State.fresh cfg dflt rules []).1.run (pre ++ .clear d rs :: seg)
    let calls := sb_opsOf st ((((State.fresh cfg dflt rules []).1.run pre).cleared d rs).run seg).log.reverse
    (⟨st.bs, []⟩ : Blocks).AllDisciplined calls ∧
    (({} : FileSt).runOps st.bs calls).2 = (({} : MemSt).runOps st.bs calls).2 ∧
    (({} : FileSt).runOps st.bs calls).1.data = s.files.sb_image st ∧
    (({} : MemSt).runOps st.bs calls).1.data = s.files.sb_image st := by
  intro s calls
  have hl := logged_cleared_run ((State.fresh cfg dflt rules []).1.run pre) d rs seg hseg
  -- the model's log goes on across `clear`: the log since is its newer part
  have hs : (State.fresh cfg dflt rules []).1.run (pre ++ .clear d rs :: seg) =
      ((((State.fresh cfg dflt rules []).1.run pre).cleared d rs).run seg).addLog
        ((State.fresh cfg dflt rules []).1.run pre).log := by
    rw [run_append, run_clear_eq]
  have hz : sb_NZ ((((State.fresh cfg dflt rules []).1.run pre).cleared d rs).run seg).log := fun c hm =>
    sb_history_nz cfg dflt rules (pre ++ .clear d rs :: seg) c (by rw [hs]; exact List.mem_append_left _ hm)
  have := sb_runOps_images st _ (hl.sb_ok hz)
  rwa [show replay _ = _ from hl.1, show State.files _ = s.files by show _ = State.files (State.run _ _); rw [hs]; rfl]
    at this

/-- **C15, mmap.** `MemMapStorage.read` on the image of any state, at the offset of block `b`: the header for
    `b = 0`, the encoding of the model's cell / stub for an existing block `b ≥ 1`, `None` past the end -/
theorem C15_mmap_blocks (s : State) (b : Nat) :
    (0 < s.trie.size → mmapRead (encodeTrie s) trieBlock 0 = some (encodeTrieHeader s.hdrId)) ∧
    (0 < b → b < s.trie.size → mmapRead (encodeTrie s) trieBlock (b * trieBlock) = some (encodeCell (s.cell b))) ∧
    (s.trie.size ≤ b → mmapRead (encodeTrie s) trieBlock (b * trieBlock) = none) ∧
    (0 < s.links.size → mmapRead (encodeLinks s) linkBlock 0 = some encodeLinkHeader) ∧
    (∀ x, 0 < b → s.links[b]? = some x →
      mmapRead (encodeLinks s) linkBlock (b * linkBlock) = some (encodeStub x)) ∧
    (s.links.size ≤ b → mmapRead (encodeLinks s) linkBlock (b * linkBlock) = none) := by
  have ht : ∀ b, mmapRead (encodeTrie s) trieBlock (b * trieBlock) = s.files.sb_trieBlocks[b]? := fun b => by
    have := sb_mmap_image s.files .trie b; rw [sb_image_trie] at this; exact this
  have hl : ∀ b, mmapRead (encodeLinks s) linkBlock (b * linkBlock) = s.files.sb_linkBlocks[b]? := fun b => by
    have := sb_mmap_image s.files .links b; rw [sb_image_links] at this; exact this
  refine ⟨fun h => ?_, fun h0 hb => ?_, fun hb => ?_, fun h => ?_, fun x h0 hx => ?_, fun hb => ?_⟩
  · have := ht 0; rw [Nat.zero_mul] at this
    rw [this]; exact storeBlocks_zero (encodeTrieHeader s.hdrId) encodeCell s.trie h
  · rw [ht b]
    rw [cell_of_getElem? (Array.getElem?_eq_getElem hb)]; exact storeBlocks_get (encodeTrieHeader s.hdrId) encodeCell s.trie b h0 hb
  · rw [ht b]
    exact List.getElem?_eq_none (by show s.files.sb_trieBlocks.length ≤ b; rw [sb_trieBlocks_length]; exact hb)
  · have := hl 0; rw [Nat.zero_mul] at this
    rw [this]; exact storeBlocks_zero encodeLinkHeader encodeStub s.links h
  · rw [hl b]
    obtain ⟨hb, rfl⟩ := Array.getElem?_eq_some_iff.mp hx
    exact storeBlocks_get encodeLinkHeader encodeStub s.links b h0 hb
  · rw [hl b]
    exact List.getElem?_eq_none (by show s.files.sb_linkBlocks.length ≤ b; rw [sb_linkBlocks_length]; exact hb)

/-- the three readers agree on stores that hold the images: at every block offset, `MemMapStorage.read` on the
    file's bytes = `FileStorage.read(block)` = `MemoryStorage.read(block)` -/
theorem C15_readers_agree (f : Files) (fs : sb_FileStores) (ms : sb_MemStores) (hf : fs.Abs f) (hm : ms.Abs f)
    (st : sb_StoreId) (b : Nat) :
    mmapRead (fs.get st).data st.bs (b * st.bs) = ((fs.get st).read st.bs (some (b * st.bs))).2 ∧
    mmapRead (fs.get st).data st.bs (b * st.bs) = (ms.get st).read st.bs (b * st.bs) ∧
    mmapRead (fs.get st).data st.bs (b * st.bs) = (f.sb_blocks st).blocks[b]? := by
  have hw := sb_blocks_wf f st
  have ha : (b * st.bs) % (f.sb_blocks st).bs = 0 := by rw [sb_blocks_bs]; exact Nat.mul_mod_left _ _
  have h1 := mmapRead_file_sim (fs.get st) (f.sb_blocks st) (hf st) hw _ ha
  have h2 := MemSt.read_sim (ms.get st) (f.sb_blocks st) (hm st) hw _ ha
  have h3 := ((fs.get st).read_sim (f.sb_blocks st) (hf st) hw _ ha).1
  rw [sb_blocks_bs] at h1 h2 h3
  refine ⟨h1, by rw [h1, h3, h2], ?_⟩
  rw [hf st]; exact sb_mmap_image f st b

theorem sb_readers_of (es : List Event) (s : State) (hok : sb_EvOk {} es) (hend : replayE es = s.files)
    (hl : Live s) (b : Nat) :
    (∀ i : sb_StoreId,
      mmapRead ((sb_fileOf es).1.get i).data i.bs (b * i.bs) =
        (((sb_fileOf es).1.get i).read i.bs (some (b * i.bs))).2 ∧
      mmapRead ((sb_fileOf es).1.get i).data i.bs (b * i.bs) = ((sb_memOf es).1.get i).read i.bs (b * i.bs)) ∧
    (0 < b → b < s.trie.size →
      mmapRead (sb_fileOf es).1.trie.data trieBlock (b * trieBlock) = some (encodeCell (s.cell b))) ∧
    (∀ x, 0 < b → s.links[b]? = some x →
      mmapRead (sb_fileOf es).1.links.data linkBlock (b * linkBlock) = some (encodeStub x)) ∧
    mmapRead (sb_fileOf es).1.trie.data trieBlock 0 = some (encodeTrieHeader s.hdrId) ∧
    mmapRead (sb_fileOf es).1.links.data linkBlock 0 = some encodeLinkHeader := by
  obtain ⟨hF, hM, _⟩ := sb_run_sim es {} {} {} sb_fileStores_abs_empty sb_memStores_abs_empty hok
  rw [show es.foldl Files.applyE {} = s.files from hend] at hF hM
  obtain ⟨a, _, c, _, _⟩ := sb_images_of es s hok hend
  obtain ⟨m1, m2, _, m4, m5, _⟩ := C15_mmap_blocks s b
  rw [a, c]
  exact ⟨fun i => ⟨(C15_readers_agree s.files _ _ hF hM i b).1, (C15_readers_agree s.files _ _ hF hM i b).2.1⟩,
    m2, m5, m1 hl.1, m4 hl.2⟩

/-- **C15, multi-block stems.** Blocks `i .. i+n-1` (`i ≥ 1`) of the trie image of any state are the encodings
    of its cells `i .. i+n-1`, concatenated: the byte image of a node whose stem takes `n - 1` tail blocks is its
    head block encoding followed by its tail block encodings — on both back-ends, since both hold `encodeTrie s` -/
theorem C15_node_image (s : State) (i n : Nat) (hi : 0 < i) :
    ((encodeTrie s).drop (i * trieBlock)).take (n * trieBlock) =
      (((s.trie.toList.drop i).take n).map encodeCell).flatten := by
  by_cases h : 0 < s.trie.size
  · rw [← sb_image_trie]; exact sb_image_slice s.files i n hi h
  · have h0 : s.trie.size = 0 := Nat.eq_zero_of_not_pos h
    have : s.trie.toList = [] := by
      have := Array.length_toList (xs := s.trie); rw [h0] at this; exact List.eq_nil_of_length_eq_zero this
    simp [encodeTrie, h0, this]

/-- writing a new node (`LRUTrieNode(stem=…).write()`: head block, then one append per tail chunk) extends
    the image by exactly the head encoding followed by the tail encodings, whatever the length of the stem -/
theorem C15_writeNew_image (s : State) (h0 : 0 < s.trie.size) (stem : Bytes) (p : Nat) (c : Bool) :
    encodeTrie (s.writeNew stem p c).1 =
      encodeTrie s ++ encodeCell (headCell stem p c) ++ ((tailsOf stem).map encodeCell).flatten := by
  have hne : s.trie.size ≠ 0 := Nat.ne_of_gt h0
  have hl : 0 < s.trie.toList.length := by rw [Array.length_toList]; exact h0
  have hsz : (s.writeNew stem p c).1.trie.size ≠ 0 := by
    have := size_lt_writeNew s stem p c; omega
  unfold encodeTrie
  rw [if_neg hne, if_neg hsz, kept_hdrId.writeNew s stem p c, writeNew_trie]
  simp only [Array.toList_append, Array.toList_push, List.append_assoc]
  rw [List.drop_append_of_le_length (by omega)]
  simp

def sb_answers : State → List Op → List Ans
  | _, [] => []
  | s, op :: ops => (s.step op).2 :: sb_answers (s.step op).1 ops

theorem sb_answers_addLog : ∀ (ops : List Op) (s : State) (l : List Write),
    sb_answers (s.addLog l) ops = sb_answers s ops
  | [], _, _ => rfl
  | op :: ops, s, l => by
    simp only [sb_answers, step_addLog]
    rw [sb_answers_addLog ops]

/-- **C15, headline.** For every history — requests `ops` on an index created fresh with any configuration
    `cfg`, default rule and constructor rules; `clear` and `reopen` allowed anywhere:

    (a) there is ONE model for both back-ends (`State.step` has no back-end argument), so answers and reports
        are a function of the history alone; the only storage-related component of the model state, the ghost
        write log, influences neither the answers nor the rest of the state;
    (b) the file back-end (`FileSt`: bytes + cursor, truncation = `open(…, "wb+")`) and the memory back-end
        (`MemSt`: bytearray with slice assignment, truncation = `clear()`), fed the storage calls of the history,
        hold identical bytes in both stores and got identical answers from every `write` — after every single
        storage call (`k` arbitrary), and in particular after every request, where the bytes are the codec
        images `encodeTrie` / `encodeLinks` of the model state;
    (c) the memory-mapped reader on the file's bytes returns, for every block, what the file reader and the
        memory reader return: the header, resp. the encoding of the model's cell / stub. -/
theorem C15_backends (cfg : Config) (dflt : Rule) (rules : List (Bytes × Rule)) (ops : List Op) :
    let fr := (State.fresh cfg dflt rules []).1
    let es := historyEvents cfg dflt rules ops
    -- (a)
    (∀ log : List Write,
      sb_answers (State.fresh cfg dflt rules log).1 ops = sb_answers fr ops ∧
      (State.fresh cfg dflt rules log).2 = (State.fresh cfg dflt rules []).2 ∧
      (State.fresh cfg dflt rules log).1.run ops = (fr.run ops).addLog log) ∧
    -- (b) after every single storage call
    (∀ k : Nat, ∀ i : sb_StoreId,
      ((sb_fileOf (es.take k)).1.get i).data = ((sb_memOf (es.take k)).1.get i).data ∧
      ((sb_fileOf (es.take k)).1.get i).data = (replayE (es.take k)).sb_image i ∧
      (sb_fileOf (es.take k)).2 = (sb_memOf (es.take k)).2) ∧
    -- (b) after every request
    (∀ n : Nat,
      let sn := fr.run (ops.take n)
      let en := historyEvents cfg dflt rules (ops.take n)
      en = es.take en.length ∧
      (sb_fileOf en).1.trie.data = encodeTrie sn ∧ (sb_memOf en).1.trie.data = encodeTrie sn ∧
      (sb_fileOf en).1.links.data = encodeLinks sn ∧ (sb_memOf en).1.links.data = encodeLinks sn) ∧
    -- (c) the memory-mapped reader, after every request
    (∀ n b : Nat,
      let sn := fr.run (ops.take n)
      let en := historyEvents cfg dflt rules (ops.take n)
      (∀ i : sb_StoreId,
        mmapRead ((sb_fileOf en).1.get i).data i.bs (b * i.bs) = (((sb_fileOf en).1.get i).read i.bs (some (b * i.bs))).2 ∧
        mmapRead ((sb_fileOf en).1.get i).data i.bs (b * i.bs) = ((sb_memOf en).1.get i).read i.bs (b * i.bs)) ∧
      (0 < b → b < sn.trie.size →
        mmapRead (sb_fileOf en).1.trie.data trieBlock (b * trieBlock) = some (encodeCell (sn.cell b))) ∧
      (∀ x, 0 < b → sn.links[b]? = some x →
        mmapRead (sb_fileOf en).1.links.data linkBlock (b * linkBlock) = some (encodeStub x)) ∧
      mmapRead (sb_fileOf en).1.trie.data trieBlock 0 = some (encodeTrieHeader sn.hdrId) ∧
      mmapRead (sb_fileOf en).1.links.data linkBlock 0 = some encodeLinkHeader) := by
  intro fr es
  refine ⟨fun log => ?_, fun k i => ?_, fun n => ?_, fun n b => ?_⟩
  · have e := fresh_addLog cfg dflt rules log
    refine ⟨?_, ?_, ?_⟩
    · rw [e]; exact sb_answers_addLog ops _ log
    · rw [e]
    · rw [e]; exact run_addLog ops _ log
  · obtain ⟨h1, h2, h3⟩ := C15_images_every_write cfg dflt rules ops k i
    exact ⟨h1.trans h2.symm, h1, h3⟩
  · obtain ⟨a, b, c, d, _⟩ := C15_images cfg dflt rules (ops.take n)
    -- "after every request" is an instance of "after every storage call": the events of `ops.take n` are a prefix
    exact ⟨((historyEvents_take_take cfg dflt rules ops n _ (Nat.le_refl _)).trans List.take_length).symm, a, b, c, d⟩
  · exact sb_readers_of _ _ (sb_history_ok cfg dflt rules (ops.take n)) (historyEvents_end cfg dflt rules _)
      (live_hist.run (ops.take n) fr (live_fresh cfg dflt rules [])) b

#print axioms sb_run_sim
#print axioms sb_runOps_images
#print axioms C15_images_every_write
#print axioms C15_images
#print axioms C15_images_mid_request
#print axioms C15_discipline_noclear
#print axioms C15_discipline_segment
#print axioms C15_mmap_blocks
#print axioms C15_node_image
#print axioms C15_writeNew_image
#print axioms C15_backends

end Traph
