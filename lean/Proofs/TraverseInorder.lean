import Proofs.Traverse
/-! The recursive in-order traversal `inorderGo`, un-paginated, equals a structural in-order of the ghost tree with
    the irrelevant nodes pruned as in `weDfs`, path numbers included. The paginated one is a filter of it
    (Proofs/Pagination); `inorderGo_slot` and `node_assemble` put a node together for both. -/
namespace Traph
open State

/-- the recursion depth of `inorderGo` on `t` (a sibling costs a level as a child does): the fuel that suffices for
    it, at most the number of nodes (`T.height_le_size`) -/
def T.height : T → Nat
  | .nil => 0
  | .node _ l c r => 1 + max l.height (max c.height r.height)

theorem T.height_le_size : ∀ t : T, t.height ≤ t.size
  | .nil => Nat.le_refl _
  | .node _ l c r => by
    have h : max l.height (max c.height r.height) ≤ l.size + c.size + r.size :=
      Nat.max_le.mpr ⟨Nat.le_trans (T.height_le_size l) (Nat.le_trans (Nat.le_add_right _ _) (Nat.le_add_right _ _)),
        Nat.max_le.mpr ⟨Nat.le_trans (T.height_le_size c) (Nat.le_trans (Nat.le_add_left _ _) (Nat.le_add_right _ _)),
          Nat.le_trans (T.height_le_size r) (Nat.le_add_left _ _)⟩⟩
    simp only [T.height, T.size, Nat.add_assoc]
    exact Nat.add_le_add_left (Nat.add_assoc .. ▸ h) 1

/-- structural counterpart of `inorderGo start none`: left tree, node, child tree, right tree; a node is
    relevant when it is the start or carries no webentity (irrelevant: not emitted, child tree not
    entered); the siblings of the start are not entered; path numbers are extended by 1 / 2 / 3 -/
def T.weInorder (s : State) (start : Nat) : T → Bytes → Nat → List (Nat × Bytes × Nat)
  | .nil, _, _ => []
  | .node a l c r, lru, path =>
    (if a = start then [] else l.weInorder s start lru (base4Append path 1))
    ++ (if a = start ∨ (s.cell a).we = 0 then
          (a, lru ++ s.stemAt a, path) :: c.weInorder s start (lru ++ s.stemAt a) (base4Append path 2)
        else [])
    ++ (if a = start then [] else r.weInorder s start lru (base4Append path 3))

/-- `pag = some (comparison_path, pagination_lru)`; `can_follow_path` is false: the subtree at `path` holds nothing
    after the token -/
def pagPrunes (pag : Option (Bytes × Bytes)) (path : Nat) : Bool :=
  match pag with | some (cmp, _) => !canFollowPath cmp path | none => false

/-- the item with LRU `cur` comes after the token -/
def pagKeeps (pag : Option (Bytes × Bytes)) (cur : Bytes) : Bool :=
  match pag with | some (_, plru) => lexLt plru cur | none => true

theorem inorderGo_succ (s : State) (start : Nat) (pag : Option (Bytes × Bytes)) (f b : Nat) (lru : Bytes)
    (path : Nat) :
    s.inorderGo start pag (f + 1) b lru path =
      if pagPrunes pag path then [] else
        (if (decide (b ≠ start) && decide ((s.cell b).left ≠ 0)) = true then
            s.inorderGo start pag f (s.cell b).left lru (base4Append path 1) else [])
        ++ (if (decide (b = start) || decide ((s.cell b).we = 0)) = true then
              (if pagKeeps pag (lru ++ s.stemAt b) then [(b, lru ++ s.stemAt b, path)] else []) else [])
        ++ (if ((decide (b = start) || decide ((s.cell b).we = 0)) && decide ((s.cell b).child ≠ 0)) = true then
              s.inorderGo start pag f (s.cell b).child (lru ++ s.stemAt b) (base4Append path 2) else [])
        ++ (if (decide (b ≠ start) && decide ((s.cell b).right ≠ 0)) = true then
              s.inorderGo start pag f (s.cell b).right lru (base4Append path 3) else []) := by
  cases pag with
  | none => rw [inorderGo]; rfl
  | some cp => rw [inorderGo]; rfl

/-- A slot of the walk: the pointer test followed by the recursive call is the structural call on the subtree `u` the
    pointer leads to. `k` filters the items (`fun _ => true` for the un-paginated walk). -/
theorem inorderGo_slot {s : State} {start : Nat} {pag : Option (Bytes × Bytes)} {f : Nat}
    (k : Nat × Bytes × Nat → Bool) (b : Bool) {u : T} (hr : Rep s u) (lru : Bytes) (path : Nat)
    (ih : u ≠ .nil → s.inorderGo start pag f u.root lru path = (u.weInorder s start lru path).filter k) :
    (if (b && decide (u.root ≠ 0)) = true then s.inorderGo start pag f u.root lru path else [])
      = (if b = true then u.weInorder s start lru path else []).filter k := by
  cases u with
  | nil => rw [T.root_nil, if_neg (by simp), T.weInorder, ite_self]; rfl
  | node a l c r =>
    rw [decide_eq_true (p := (T.node a l c r).root ≠ 0) hr.1, Bool.and_true, ih T.noConfusion]
    cases b <;> rfl

theorem node_assemble (k : Nat × Bytes × Nat → Bool) (a start : Nat) (we0 : Prop) [Decidable we0]
    (x : Nat × Bytes × Nat) (L L' C C' R R' : List (Nat × Bytes × Nat))
    (hL : L' = (if decide (a ≠ start) = true then L else []).filter k)
    (hC : C' = (if (decide (a = start) || decide we0) = true then C else []).filter k)
    (hR : R' = (if decide (a ≠ start) = true then R else []).filter k) :
    L' ++ (if (decide (a = start) || decide we0) = true then (if k x = true then [x] else []) else []) ++ C' ++ R'
      = ((if a = start then [] else L) ++ (if a = start ∨ we0 then x :: C else [])
          ++ (if a = start then [] else R)).filter k := by
  subst hL hC hR
  by_cases e : a = start <;> by_cases hw : we0 <;> by_cases hk : k x = true <;> simp [e, hw, hk]

theorem inorderGo_eq_weInorder {s : State} (start : Nat) :
    ∀ (t : T) (fuel : Nat) (lru : Bytes) (path : Nat), Rep s t → t ≠ .nil → t.height ≤ fuel →
      s.inorderGo start none fuel t.root lru path = t.weInorder s start lru path := by
  intro t
  induction t with
  | nil => intro _ _ _ _ hn; exact absurd rfl hn
  | node a l c r ihl ihc ihr =>
    intro fuel lru path hr _ hf
    obtain ⟨h1, h2, h3⟩ := hr.cell_eq
    obtain ⟨_, _, rl, rc, rr⟩ := hr
    cases fuel with
    | zero => exact absurd hf (by simp [T.height])
    | succ f =>
      have hM : max l.height (max c.height r.height) ≤ f :=
        Nat.le_of_add_le_add_left (Nat.add_comm f 1 ▸ hf : 1 + _ ≤ 1 + f)
      have hcr := Nat.max_le.mp (Nat.max_le.mp hM).2
      have nofilter : ∀ (u : T) (x : Bytes) (p : Nat), u.weInorder s start x p
          = (u.weInorder s start x p).filter (fun _ => true) :=
        fun _ _ _ => (List.filter_eq_self.mpr fun _ _ => rfl).symm
      rw [T.root_node, inorderGo_succ, if_neg (show ¬ pagPrunes none path = true from Bool.false_ne_true), h1, h2, h3,
        nofilter (.node a l c r), T.weInorder]
      exact node_assemble (fun _ => true) a start _ (a, lru ++ s.stemAt a, path) _ _ _ _ _ _
        (inorderGo_slot _ _ rl _ _ fun hn => (ihl f _ _ rl hn (Nat.max_le.mp hM).1).trans (nofilter ..))
        (inorderGo_slot _ _ rc _ _ fun hn => (ihc f _ _ rc hn hcr.1).trans (nofilter ..))
        (inorderGo_slot _ _ rr _ _ fun hn => (ihr f _ _ rr hn hcr.2).trans (nofilter ..))

theorem weInorder_eq {s : State} {a : Nat} {l c r : T} (hr : Rep s (.node a l c r))
    (hsz : (T.node a l c r).size ≤ s.trie.size) (startLru : Bytes) :
    s.weInorder a startLru none
      = some ((a, lruDirname startLru ++ s.stemAt a, 0) ::
          c.weInorder s a (lruDirname startLru ++ s.stemAt a) (base4Append 0 2)) := by
  have hh := T.height_le_size (T.node a l c r)
  have := inorderGo_eq_weInorder (s := s) a (T.node a l c r) (s.trie.size + 1) (lruDirname startLru) 0
    hr (by simp) (by omega)
  simp only [T.root_node] at this
  simp [State.weInorder, this, T.weInorder]

end Traph

section
open Traph
#print axioms inorderGo_eq_weInorder
#print axioms weInorder_eq
end
