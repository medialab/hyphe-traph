import Proofs.DescendSpec
import Proofs.Traverse
/-! Resolution three ways (C04 / C05 / C07), at the ghost level. `T.resolveAlong s u stems inherited` is the
    abstract resolution along the descent of `stems` in `u`. The id carried down by `dfs_with_webentity_iter` is
    the resolution of the node's own path (`preWe_mem_iff`), which is what `follow_lru` computes
    (`followLru_we`, `C07_carried_is_resolution`); the per-webentity walk meets exactly the nodes below the start node with no
    webentity on the way (node included), within the depth limit if there is one (`wePreD_mem_iff`,
    `C05_walk_is_resolution`). `exists_entry_node` says how the stored paths below a node split over its
    subtrees, once for every traversal that is characterised by paths. -/
namespace Traph
open State

def lastWeFrom (d : Nat) (l : List Nat) : Nat := ((l.filter (· ≠ 0)).getLast?).getD d

theorem lastWeFrom_zero (l : List Nat) : lastWeFrom 0 l = lastWe l := rfl

@[simp] theorem lastWeFrom_nil (d : Nat) : lastWeFrom d [] = d := rfl

theorem lastWeFrom_cons (d x : Nat) (l : List Nat) :
    lastWeFrom d (x :: l) = lastWeFrom (if x ≠ 0 then x else d) l := by
  unfold lastWeFrom
  by_cases hx : x ≠ 0
  · rw [if_pos hx]
    have : (x :: l).filter (· ≠ 0) = x :: l.filter (· ≠ 0) := by simp [hx]
    rw [this, List.getLast?_cons]
    simp
  · rw [if_neg hx]
    have : (x :: l).filter (· ≠ 0) = l.filter (· ≠ 0) := by simp [hx]
    rw [this]

@[simp] theorem lastWe_nil : lastWe [] = 0 := rfl

theorem lastWe_cons (x : Nat) (l : List Nat) : lastWe (x :: l) = lastWeFrom x l := by
  rw [← lastWeFrom_zero, lastWeFrom_cons]
  by_cases hx : x ≠ 0
  · rw [if_pos hx]
  · rw [if_neg hx]; have : x = 0 := by omega
    rw [this]

theorem lastWeFrom_eq (d : Nat) (l : List Nat) :
    lastWeFrom d l = if lastWe l ≠ 0 then lastWe l else d := by
  induction l generalizing d with
  | nil => simp
  | cons x l ih =>
    rw [lastWeFrom_cons, lastWe_cons, ih, ih x]
    by_cases hl : lastWe l ≠ 0
    · simp only [if_pos hl]
    · simp only [if_neg hl]

theorem lastWeFrom_append (d : Nat) (l₁ l₂ : List Nat) :
    lastWeFrom d (l₁ ++ l₂) = lastWeFrom (lastWeFrom d l₁) l₂ := by
  induction l₁ generalizing d with
  | nil => simp
  | cons x l ih => rw [List.cons_append, lastWeFrom_cons, ih, ← lastWeFrom_cons]

theorem lastWe_append (l₁ l₂ : List Nat) :
    lastWe (l₁ ++ l₂) = if lastWe l₂ ≠ 0 then lastWe l₂ else lastWe l₁ := by
  rw [← lastWeFrom_zero, lastWeFrom_append, lastWeFrom_eq, lastWeFrom_zero]

theorem lastWe_concat (l : List Nat) (x : Nat) :
    lastWe (l ++ [x]) = if x ≠ 0 then x else lastWe l := by
  rw [lastWe_append, lastWe_cons, lastWeFrom_nil]

/-- resolution returns the webentity attached to the deepest existing stem-prefix that carries one -/
theorem followLru_we {s : State} {t : T} (h : Shape s t) (stems : LRU) (hs : stems ≠ []) :
    (s.followLru stems).2.we = lastWe ((t.pathCells s stems).map (fun c => (s.cell c.1).we)) := by
  have _ := hs
  have all : ∀ p, (s.followLru p).2.we = lastWe ((t.pathCells s p).map (fun c => (s.cell c.1).we)) := fun p => by
    induction p using snoc_induction with
    | nil => rw [followLru_nil]; rfl
    | snoc p x ih =>
      rw [followLru_snoc, pathCells_snoc h, State.visitAt]
      cases s.lruNode (p ++ [x]) with
      | none => rw [List.append_nil]; exact ih
      | some b => rw [List.map_append, List.map_cons, List.map_nil, lastWe_concat, Hist.visit_we, ih]
  exact all stems

theorem lastWeFrom_eq_zero_iff (d : Nat) (l : List Nat) :
    lastWeFrom d l = 0 ↔ d = 0 ∧ ∀ x ∈ l, x = 0 := by
  induction l generalizing d with
  | nil => simp
  | cons x l ih =>
    rw [lastWeFrom_cons, ih]
    by_cases hx : x ≠ 0
    · rw [if_pos hx]; simp [hx]
    · rw [if_neg hx]; have : x = 0 := by omega
      simp [this]

theorem lastWe_eq_zero_iff (l : List Nat) : lastWe l = 0 ↔ ∀ x ∈ l, x = 0 := by
  rw [← lastWeFrom_zero, lastWeFrom_eq_zero_iff]; simp

def T.pathWes (s : State) (u : T) (stems : List Stem) : List Nat :=
  (u.pathCells s stems).map (fun c => (s.cell c.1).we)

/-- resolution of `stems` in `u`: the deepest non-null id on the path, the inherited one if none -/
def T.resolveAlong (s : State) (u : T) (stems : List Stem) (inherited : Nat) : Nat :=
  lastWeFrom inherited (u.pathWes s stems)

theorem T.resolveAlong_zero (s : State) (u : T) (stems : List Stem) :
    u.resolveAlong s stems 0 = lastWe ((u.pathCells s stems).map (fun c => (s.cell c.1).we)) := rfl

theorem T.resolveAlong_eq (s : State) (u : T) (stems : List Stem) (inh : Nat) :
    u.resolveAlong s stems inh
      = if u.resolveAlong s stems 0 ≠ 0 then u.resolveAlong s stems 0 else inh := by
  unfold T.resolveAlong
  rw [lastWeFrom_eq, lastWeFrom_zero]

theorem T.pathCells_sib {s : State} {u : T} {lo hi : Option Stem} (hord : OrdT s u lo hi)
    {a : Nat} (ha : a ∈ u.sibs) (rest : List Stem) :
    u.pathCells s (s.stemAt a :: rest) = (a, s.stemAt a) :: (u.childAt a).pathCells s rest :=
  T.pathCells_cons_found (T.find_found u lo hi hord a ha rfl)

theorem T.resolveAlong_sib {s : State} {u : T} {lo hi : Option Stem} (hord : OrdT s u lo hi)
    {a : Nat} (ha : a ∈ u.sibs) (rest : List Stem) (inh : Nat) :
    u.resolveAlong s (s.stemAt a :: rest) inh
      = (u.childAt a).resolveAlong s rest (if (s.cell a).we ≠ 0 then (s.cell a).we else inh) := by
  unfold T.resolveAlong T.pathWes
  rw [T.pathCells_sib hord ha, List.map_cons, lastWeFrom_cons]

@[simp] theorem T.resolveAlong_nil (s : State) (u : T) (inh : Nat) : u.resolveAlong s [] inh = inh := by
  simp [T.resolveAlong, T.pathWes, T.pathCells]

theorem T.pathCells_node_left {s : State} {a : Nat} {l c r : T} {lo hi : Option Stem}
    (hord : OrdT s (.node a l c r) lo hi) (hnd : (T.node a l c r).addrs.Nodup) {pre p : LRU} {b : Nat}
    (h : (pre ++ p, b) ∈ l.entries s pre) : (T.node a l c r).pathCells s p = l.pathCells s p := by
  have hn := T.nodup_node hnd
  obtain ⟨a', ha', h⟩ := entries_head_sib hn.2.2.2.1 h
  have hmem : a' ∈ (T.node a l c r).sibs := T.mem_sibs_left ha'
  have hp : ∃ rest, p = s.stemAt a' :: rest := by
    rcases h with ⟨h, _⟩ | ⟨x, rest, h, _⟩
    · exact ⟨[], h⟩
    · exact ⟨_, h⟩
  obtain ⟨rest, rfl⟩ := hp
  rw [T.pathCells_sib hord hmem, T.pathCells_sib hord.2.2.1 ha', T.childAt_node_left hnd ha']

theorem T.pathCells_node_right {s : State} {a : Nat} {l c r : T} {lo hi : Option Stem}
    (hord : OrdT s (.node a l c r) lo hi) (hnd : (T.node a l c r).addrs.Nodup) {pre p : LRU} {b : Nat}
    (h : (pre ++ p, b) ∈ r.entries s pre) : (T.node a l c r).pathCells s p = r.pathCells s p := by
  have hn := T.nodup_node hnd
  obtain ⟨a', ha', h⟩ := entries_head_sib hn.2.2.2.2.2.1 h
  have hmem : a' ∈ (T.node a l c r).sibs := T.mem_sibs_right ha'
  have hp : ∃ rest, p = s.stemAt a' :: rest := by
    rcases h with ⟨h, _⟩ | ⟨x, rest, h, _⟩
    · exact ⟨[], h⟩
    · exact ⟨_, h⟩
  obtain ⟨rest, rfl⟩ := hp
  rw [T.pathCells_sib hord hmem, T.pathCells_sib hord.2.2.2.1 ha', T.childAt_node_right hnd ha']

theorem T.pathCells_node_self {s : State} (a : Nat) (l c r : T) (rest : List Stem) :
    (T.node a l c r).pathCells s (s.stemAt a :: rest) = (a, s.stemAt a) :: c.pathCells s rest := by
  have hf : (T.node a l c r).find s (s.stemAt a) = .found a := by simp [T.find]
  rw [T.pathCells_cons_found hf, T.childAt_node_self]

theorem T.resolveAlong_node_self (s : State) (a : Nat) (l c r : T) (rest : List Stem) (inh : Nat) :
    (T.node a l c r).resolveAlong s (s.stemAt a :: rest) inh
      = c.resolveAlong s rest (if (s.cell a).we ≠ 0 then (s.cell a).we else inh) := by
  unfold T.resolveAlong T.pathWes
  rw [T.pathCells_node_self, List.map_cons, lastWeFrom_cons]

/-- The stored paths below a node, each with the cells its descent meets, split as the traversals do: the
    node's own stem; that stem followed by a path of the child tree; a path of the left or of the right
    sibling tree, whose descent does not see the node. -/
theorem exists_entry_node {s : State} {a : Nat} {l c r : T} {lo hi : Option Stem}
    (hord : OrdT s (.node a l c r) lo hi) (hnd : (T.node a l c r).addrs.Nodup) (pre : LRU) (b : Nat)
    (Φ : LRU → List (Nat × Stem) → Prop) :
    (∃ q, (pre ++ q, b) ∈ (T.node a l c r).entries s pre ∧ Φ q ((T.node a l c r).pathCells s q)) ↔
      (b = a ∧ Φ [s.stemAt a] [(a, s.stemAt a)]) ∨
      (∃ q, (pre ++ [s.stemAt a] ++ q, b) ∈ c.entries s (pre ++ [s.stemAt a]) ∧
        Φ (s.stemAt a :: q) ((a, s.stemAt a) :: c.pathCells s q)) ∨
      (∃ q, (pre ++ q, b) ∈ l.entries s pre ∧ Φ q (l.pathCells s q)) ∨
      (∃ q, (pre ++ q, b) ∈ r.entries s pre ∧ Φ q (r.pathCells s q)) := by
  have hself : (T.node a l c r).pathCells s [s.stemAt a] = [(a, s.stemAt a)] := by
    rw [T.pathCells_node_self]; rfl
  constructor
  · rintro ⟨q, hq, hΦ⟩
    rcases entry_node_below.mp hq with hq | ⟨rfl, rfl⟩ | ⟨x, rest, rfl, hc⟩ | hq
    · exact Or.inr (Or.inr (Or.inl ⟨q, hq, T.pathCells_node_left hord hnd hq ▸ hΦ⟩))
    · exact Or.inl ⟨rfl, hself ▸ hΦ⟩
    · rw [T.pathCells_node_self] at hΦ
      exact Or.inr (Or.inl ⟨x :: rest, hc, hΦ⟩)
    · exact Or.inr (Or.inr (Or.inr ⟨q, hq, T.pathCells_node_right hord hnd hq ▸ hΦ⟩))
  · rintro (⟨rfl, hΦ⟩ | ⟨q, hq, hΦ⟩ | ⟨q, hq, hΦ⟩ | ⟨q, hq, hΦ⟩)
    · exact ⟨_, entry_self, hself.symm ▸ hΦ⟩
    · refine ⟨s.stemAt a :: q, entry_child (by rw [List.append_assoc] at hq; exact hq), ?_⟩
      rw [T.pathCells_node_self]; exact hΦ
    · exact ⟨q, entry_left hq, (T.pathCells_node_left hord hnd hq).symm ▸ hΦ⟩
    · exact ⟨q, entry_right hq, (T.pathCells_node_right hord hnd hq).symm ▸ hΦ⟩

/-- C07, ghost level: the traversal meets every node (= entry) once, and the id it carries down to a node
    is the resolution of the node's own path: the deepest non-null id on it, the inherited one if none -/
theorem preWe_mem_iff {s : State} : ∀ (u : T) (lo hi : Option Stem) (pre : LRU) (inherited b w : Nat),
    OrdT s u lo hi → u.addrs.Nodup →
    ((b, w) ∈ u.preWe s inherited ↔
      ∃ p, (pre ++ p, b) ∈ u.entries s pre ∧ w = u.resolveAlong s p inherited) := by
  intro u
  induction u with
  | nil => intro _ _ _ _ _ _ _ _; simp [T.preWe, T.entries_nil]
  | node a l c r ihl ihc ihr =>
    intro lo hi pre inh b w hord hnd
    have hn := T.nodup_node hnd
    refine Iff.trans ?_ (exists_entry_node hord hnd pre b
      (fun p cells => w = lastWeFrom inh (cells.map (fun x => (s.cell x.1).we)))).symm
    simp only [List.map_cons, lastWeFrom_cons, List.map_nil, lastWeFrom_nil]
    refine Iff.trans ?_ (or_congr Iff.rfl (or_congr
      (ihc _ _ (pre ++ [s.stemAt a]) _ b w hord.2.2.2.2 hn.2.2.2.2.1)
      (or_congr (ihl _ _ pre inh b w hord.2.2.1 hn.2.2.2.1) (ihr _ _ pre inh b w hord.2.2.2.1 hn.2.2.2.2.2.1))))
    simp only [T.preWe, List.mem_cons, List.mem_append, Prod.mk.injEq, or_assoc]

theorem nodup_map_inj {α β : Type} (f : α → β) (l : List α) (hnd : (l.map f).Nodup) :
    ∀ x ∈ l, ∀ y ∈ l, f x = f y → x = y :=
  have h := List.pairwise_map.mp hnd
  List.Pairwise.forall_of_forall_of_flip (fun _ _ _ => rfl) (h.imp fun hne e => absurd e hne)
    (h.imp fun hne e => absurd e.symm hne)

theorem entries_addr_injective {s : State} {u : T} (hnd : u.addrs.Nodup) {pre p₁ p₂ : LRU} {b : Nat}
    (h1 : (p₁, b) ∈ u.entries s pre) (h2 : (p₂, b) ∈ u.entries s pre) : p₁ = p₂ := by
  have hn : ((u.entries s pre).map (·.2)).Nodup := (entries_addrs_perm u pre).nodup_iff.mpr hnd
  have := nodup_map_inj (·.2) _ hn _ h1 _ h2 rfl
  exact (Prod.mk.inj this).1

theorem preWe_addrs_perm {s : State} : ∀ (t : T) (we : Nat), ((t.preWe s we).map (·.1)).Perm t.addrs := by
  intro t
  induction t with
  | nil => intro _; simp [T.preWe, T.addrs]
  | node a l c r ihl ihc ihr =>
    intro we
    simp only [T.preWe, T.addrs, List.map_cons, List.map_append]
    refine List.Perm.cons _ ?_
    exact (((ihc _).append (ihl we)).append (ihr we)).trans (List.perm_append_comm.append_right _)

theorem preWe_unique {s : State} {u : T} (hnd : u.addrs.Nodup) {inh b w₁ w₂ : Nat}
    (h1 : (b, w₁) ∈ u.preWe s inh) (h2 : (b, w₂) ∈ u.preWe s inh) : w₁ = w₂ := by
  have hn : ((u.preWe s inh).map (·.1)).Nodup := (preWe_addrs_perm u inh).nodup_iff.mpr hnd
  have := nodup_map_inj (·.1) _ hn _ h1 _ h2 rfl
  exact (Prod.mk.inj this).2

theorem dfsWe_mem_iff {s : State} {t : T} (h : Shape s t) (b w : Nat) :
    (b, w) ∈ s.dfsWe ↔ ∃ stems, (stems, b) ∈ t.entries s [] ∧ w = t.resolveAlong s stems 0 := by
  rw [dfsWe_eq h, preWe_mem_iff t none none [] 0 b w h.ord h.nodup]
  simp

theorem followLru_we_resolveAlong {s : State} {t : T} (h : Shape s t) (stems : LRU) (hne : stems ≠ []) :
    (s.followLru stems).2.we = t.resolveAlong s stems 0 := by
  rw [followLru_we h stems hne, T.resolveAlong_zero]

/-- C07: for every stored LRU, the id the full traversal carries down to its node is the id `follow_lru`
    resolves the LRU to (and `follow_lru` ends on that node) -/
theorem C07_carried_is_resolution {s : State} {t : T} (h : Shape s t) (stems : LRU) (hne : stems ≠ [])
    (b : Nat) (hb : (stems, b) ∈ t.entries s []) :
    ∃ w, (b, w) ∈ s.dfsWe ∧ w = (s.followLru stems).2.we := by
  refine ⟨t.resolveAlong s stems 0, (dfsWe_mem_iff h b _).mpr ⟨stems, hb, rfl⟩, ?_⟩
  rw [followLru_we_resolveAlong h stems hne]

theorem C07_followLru_node {s : State} {t : T} (h : Shape s t) (stems : LRU) (hne : stems ≠ [])
    (b : Nat) (hb : (stems, b) ∈ t.entries s []) : (s.followLru stems).1 = some b := by
  rw [followLru_fst s stems]; exact (lruNode_iff_entries h stems hne b).mpr hb

/-- C07, uniqueness: the traversal yields one id per node -/
theorem C07_carried_unique {s : State} {t : T} (h : Shape s t) {b w₁ w₂ : Nat}
    (h1 : (b, w₁) ∈ s.dfsWe) (h2 : (b, w₂) ∈ s.dfsWe) : w₁ = w₂ := by
  rw [dfsWe_eq h] at h1 h2
  exact preWe_unique h.nodup h1 h2

/-- C07, converse reading: whatever the traversal yields for a node is the resolution of the node's LRU -/
theorem C07_carried_sound {s : State} {t : T} (h : Shape s t) {b w : Nat} (hw : (b, w) ∈ s.dfsWe) :
    ∃ stems, stems ≠ [] ∧ (stems, b) ∈ t.entries s [] ∧ (s.followLru stems).1 = some b ∧
      w = (s.followLru stems).2.we := by
  obtain ⟨stems, hb, hw⟩ := (dfsWe_mem_iff h b w).mp hw
  have hne : stems ≠ [] := entry_ne_nil hb
  exact ⟨stems, hne, hb, C07_followLru_node h stems hne b hb, by rw [followLru_we_resolveAlong h stems hne]; exact hw⟩

theorem T.resolveAlong_zero_iff (s : State) (u : T) (q : List Stem) :
    u.resolveAlong s q 0 = 0 ↔ ∀ x ∈ u.pathCells s q, (s.cell x.1).we = 0 := by
  unfold T.resolveAlong T.pathWes
  rw [lastWeFrom_zero, lastWe_eq_zero_iff]
  constructor
  · intro h x hx
    exact h _ (List.mem_map.mpr ⟨x, hx, rfl⟩)
  · intro h w hw
    obtain ⟨x, hx, rfl⟩ := List.mem_map.mp hw
    exact h x hx

theorem T.mem_wePreD_node {s : State} {start a : Nat} (hne : a ≠ start) (md : Option Nat) (l c r : T)
    (lru0 : Bytes) (lvl : Nat) (x : Nat × Bytes) :
    x ∈ (T.node a l c r).wePreD s start md lru0 lvl ↔
      ((s.cell a).we = 0 ∧ x = (a, lru0 ++ s.stemAt a)) ∨
      ((s.cell a).we = 0 ∧ (∀ d ∈ md, lvl < d) ∧ x ∈ c.wePreD s start md (lru0 ++ s.stemAt a) (lvl + 1)) ∨
      x ∈ l.wePreD s start md lru0 lvl ∨ x ∈ r.wePreD s start md lru0 lvl := by
  have hd : md.all (lvl < ·) = true ↔ ∀ d ∈ md, lvl < d := by simp [Option.all_eq_true]
  simp only [T.wePreD, hne, false_or, if_false, List.mem_append, ← hd]
  by_cases hw : (s.cell a).we = 0
  · by_cases hdd : md.all (lvl < ·) = true <;> simp [hw, hdd, or_assoc]
  · simp [hw]

/-- below the start node, in a sibling tree whose nodes have level `lvl` (an entry `q` of it has level
    `lvl + q.length - 1`) -/
theorem wePreD_below_mem_iff {s : State} (start : Nat) (md : Option Nat) : ∀ (u : T) (lo hi : Option Stem)
    (pre : LRU) (lru0 : Bytes) (lvl : Nat) (b : Nat) (lru : Bytes),
    OrdT s u lo hi → u.addrs.Nodup → start ∉ u.addrs → (∀ d ∈ md, lvl ≤ d) →
    ((b, lru) ∈ u.wePreD s start md lru0 lvl ↔
      ∃ q, (pre ++ q, b) ∈ u.entries s pre ∧ lru = lru0 ++ q.flatten ∧
        (∀ x ∈ u.pathCells s q, (s.cell x.1).we = 0) ∧ ∀ d ∈ md, lvl + q.length ≤ d + 1) := by
  intro u
  induction u with
  | nil =>
    intro _ _ _ _ _ _ _ _ _ _ _
    exact ⟨fun h => absurd h List.not_mem_nil, fun ⟨_, hq, _⟩ => absurd hq List.not_mem_nil⟩
  | node a l c r ihl ihc ihr =>
    intro lo hi pre lru0 lvl b lru hord hnd hst hlvl
    have hn := T.nodup_node hnd
    obtain ⟨hsa, hsl, hsc, hsr⟩ := T.not_mem_node hst
    rw [T.mem_wePreD_node (fun e => hsa e.symm),
      exists_entry_node hord hnd pre b (fun q cells => lru = lru0 ++ q.flatten ∧
        (∀ x ∈ cells, (s.cell x.1).we = 0) ∧ ∀ d ∈ md, lvl + q.length ≤ d + 1),
      ihl _ _ pre lru0 lvl b lru hord.2.2.1 hn.2.2.2.1 hsl hlvl,
      ihr _ _ pre lru0 lvl b lru hord.2.2.2.1 hn.2.2.2.2.2.1 hsr hlvl]
    refine or_congr ?_ (or_congr ?_ Iff.rfl)
    · -- the node itself
      simp only [Prod.mk.injEq, List.mem_singleton, forall_eq, List.flatten_cons, List.flatten_nil, List.append_nil,
        List.length_singleton]
      exact ⟨fun ⟨hw, e1, e2⟩ => ⟨e1, e2, hw, fun d hd => Nat.succ_le_succ (hlvl d hd)⟩,
        fun ⟨e1, e2, hw, _⟩ => ⟨hw, e1, e2⟩⟩
    · -- its child tree: one level down, entered only below the limit
      have ic := fun hlt =>
        ihc _ _ (pre ++ [s.stemAt a]) (lru0 ++ s.stemAt a) (lvl + 1) b lru hord.2.2.2.2 hn.2.2.2.2.1 hsc hlt
      constructor
      · rintro ⟨hw, hlt, h⟩
        obtain ⟨q, hq, hl, hz, hd⟩ := (ic hlt).mp h
        refine ⟨q, hq, by rw [hl]; simp, ?_, fun d hm => ?_⟩
        · intro x hx
          rcases List.mem_cons.mp hx with rfl | hx
          · exact hw
          · exact hz x hx
        · have := hd d hm
          simp only [List.length_cons]; omega
      · rintro ⟨q, hq, hl, hz, hd⟩
        have hq0 : 0 < q.length := List.length_pos_iff.mpr (entries_ne_nil hq)
        have hd' : ∀ d ∈ md, lvl + 1 ≤ d ∧ lvl + 1 + q.length ≤ d + 1 := fun d hm => by
          have := hd d hm
          rw [List.length_cons] at this; omega
        exact ⟨hz _ List.mem_cons_self, fun d hm => (hd' d hm).1,
          (ic fun d hm => (hd' d hm).1).mpr ⟨q, hq, by rw [hl]; simp,
            fun x hx => hz x (List.mem_cons_of_mem _ hx), fun d hm => (hd' d hm).2⟩⟩

theorem pathCells_length_of_entry {s : State} {u : T} {lo hi : Option Stem} (hord : OrdT s u lo hi)
    (hnd : u.addrs.Nodup) {pre q : LRU} {b : Nat} (h : (pre ++ q, b) ∈ u.entries s pre) :
    (u.pathCells s q).length = q.length := by
  exact descend_found_length q u pre b ((descend_found_iff q u lo hi pre b hord hnd (entries_ne_nil h)).mpr h)

theorem pathCells_all_iff {s : State} {u : T} {lo hi : Option Stem} (hord : OrdT s u lo hi)
    (hnd : u.addrs.Nodup) {pre q : LRU} {b : Nat} (h : (pre ++ q, b) ∈ u.entries s pre) (P : Nat → Prop) :
    (∀ x ∈ u.pathCells s q, P x.1) ↔
      (∀ k, 0 < k → k ≤ q.length → ∀ b', (pre ++ q.take k, b') ∈ u.entries s pre → P b') := by
  constructor
  · intro hall k hk hkl b' hb'
    have hlt : k - 1 < (u.pathCells s q).length :=
      (pathCells_length_of_entry hord hnd h).symm ▸ Nat.sub_one_lt_of_le hk hkl
    have he := (pathCells_entries_getElem? q u lo hi pre hord hnd (k - 1) _ (List.getElem?_eq_getElem hlt)).1
    rw [Nat.sub_add_cancel hk] at he
    rw [← entries_path_injective hord hnd he hb']
    exact hall _ (List.getElem_mem hlt)
  · intro hall x hx
    obtain ⟨k, hk, rfl⟩ := List.getElem_of_mem hx
    have he := (pathCells_entries_getElem? q u lo hi pre hord hnd k _ (List.getElem?_eq_getElem hk)).1
    exact hall (k + 1) (Nat.succ_pos k) (Nat.le_trans hk (pathCells_length_le (s := s) q u)) _ he

theorem T.wePreD_start (s : State) (a : Nat) (md : Option Nat) (l c r : T) (lru0 : Bytes) :
    (T.node a l c r).wePreD s a md lru0 0 =
      (a, lru0 ++ s.stemAt a) :: (if md.all (0 < ·) then c.wePreD s a md (lru0 ++ s.stemAt a) 1 else []) := by
  simp [T.wePreD]

/-- C05, ghost level (path-cell phrasing): the walk of `webentity_dfs_iter` from the start node `a` meets
    `a` itself, and below it exactly the nodes with no webentity on the way from just below `a` down to
    the node itself, at most as many stems below `a` as the depth limit allows -/
theorem wePreD_mem_iff_cells {s : State} {a : Nat} {l c r : T} {lo hi : Option Stem}
    (hord : OrdT s (.node a l c r) lo hi) (hnd : (T.node a l c r).addrs.Nodup) (pre : LRU)
    (md : Option Nat) (lru0 : Bytes) (b : Nat) (lru : Bytes) :
    (b, lru) ∈ (T.node a l c r).wePreD s a md lru0 0 ↔
      (b = a ∧ lru = lru0 ++ s.stemAt a) ∨
      ∃ q, q ≠ [] ∧ (pre ++ q, b) ∈ c.entries s pre ∧ lru = lru0 ++ s.stemAt a ++ q.flatten ∧
        (∀ x ∈ c.pathCells s q, (s.cell x.1).we = 0) ∧ ∀ d ∈ md, q.length ≤ d := by
  have hn := T.nodup_node hnd
  rw [T.wePreD_start, List.mem_cons, Prod.mk.injEq]
  refine or_congr Iff.rfl ?_
  by_cases hd : md.all (0 < ·) = true
  · have hd' : ∀ d ∈ md, 1 ≤ d := by simpa [Option.all_eq_true, Nat.succ_le_iff] using hd
    rw [if_pos hd, wePreD_below_mem_iff a md c none none pre (lru0 ++ s.stemAt a) 1 b lru hord.2.2.2.2
      hn.2.2.2.2.1 hn.2.1 hd']
    simp only [Nat.add_comm 1, Nat.add_le_add_iff_right]
    exact exists_congr fun q => ⟨fun h => ⟨entries_ne_nil h.1, h⟩, fun h => h.2⟩
  · -- a limit of 0: nothing below the start node
    obtain ⟨d, hm, hd0⟩ : ∃ d ∈ md, d = 0 := by
      simpa [Option.all_eq_true] using hd
    rw [if_neg hd]
    refine ⟨fun h => (nomatch h), fun ⟨q, hne, _, _, _, hlen⟩ => absurd ?_ hne⟩
    exact List.eq_nil_of_length_eq_zero (Nat.le_zero.mp (hd0 ▸ hlen d hm))

/-- C05, ghost level (prefix phrasing) -/
theorem wePreD_mem_iff {s : State} {a : Nat} {l c r : T} {lo hi : Option Stem}
    (hord : OrdT s (.node a l c r) lo hi) (hnd : (T.node a l c r).addrs.Nodup) (pre : LRU)
    (md : Option Nat) (lru0 : Bytes) (b : Nat) (lru : Bytes) :
    (b, lru) ∈ (T.node a l c r).wePreD s a md lru0 0 ↔
      (b = a ∧ lru = lru0 ++ s.stemAt a) ∨
      ∃ q, q ≠ [] ∧ (pre ++ q, b) ∈ c.entries s pre ∧ lru = lru0 ++ s.stemAt a ++ q.flatten ∧
        (∀ k, 0 < k → k ≤ q.length → ∀ b', (pre ++ q.take k, b') ∈ c.entries s pre → (s.cell b').we = 0) ∧
        ∀ d ∈ md, q.length ≤ d := by
  have hn := T.nodup_node hnd
  rw [wePreD_mem_iff_cells hord hnd pre]
  refine or_congr Iff.rfl (exists_congr fun q => and_congr_right fun _ => and_congr_right fun hq =>
    and_congr_right fun _ => and_congr_left fun _ => ?_)
  exact pathCells_all_iff hord.2.2.2.2 hn.2.2.2.2.1 hq (fun b' => (s.cell b').we = 0)

/-- C05: a node stored strictly below the start node (under the relative path `q`) is met by the walk iff
    no node on the way from just below the start node down to it (inclusive) carries a webentity, i.e. iff
    its resolution is contributed by the start node; the LRU yielded is the flattened path -/
theorem C05_walk_is_resolution {s : State} {a : Nat} {l c r : T} {lo hi : Option Stem}
    (hord : OrdT s (.node a l c r) lo hi) (hnd : (T.node a l c r).addrs.Nodup)
    (lru0 : Bytes) {q : LRU} {b : Nat} (hq : (q, b) ∈ c.entries s []) (lru : Bytes) :
    (b, lru) ∈ (T.node a l c r).wePre s a lru0 ↔
      lru = lru0 ++ s.stemAt a ++ q.flatten ∧ c.resolveAlong s q 0 = 0 := by
  have hn := T.nodup_node hnd
  have hba : b ≠ a := by
    intro e; subst e; exact hn.2.1 (entries_addr_mem _ _ _ _ hq)
  rw [← T.wePreD_none s a _ lru0 0, wePreD_mem_iff_cells hord hnd [], T.resolveAlong_zero_iff]
  constructor
  · rintro (⟨h, _⟩ | ⟨q', _, hq', hl, hz, _⟩)
    · exact absurd h hba
    · have : q' = q := entries_addr_injective hn.2.2.2.2.1 hq' hq
      subst this; exact ⟨hl, hz⟩
  · rintro ⟨hl, hz⟩
    exact Or.inr ⟨q, entries_ne_nil (pre := []) hq, hq, hl, hz, fun _ hm => nomatch hm⟩

theorem C05_walk_is_resolution' {s : State} {a : Nat} {l c r : T} {lo hi : Option Stem}
    (hord : OrdT s (.node a l c r) lo hi) (hnd : (T.node a l c r).addrs.Nodup)
    (lru0 : Bytes) {q : LRU} {b : Nat} (hq : (q, b) ∈ c.entries s []) :
    (∃ lru, (b, lru) ∈ (T.node a l c r).wePre s a lru0) ↔ c.resolveAlong s q 0 = 0 := by
  constructor
  · rintro ⟨lru, h⟩; exact ((C05_walk_is_resolution hord hnd lru0 hq lru).mp h).2
  · intro h; exact ⟨_, (C05_walk_is_resolution hord hnd lru0 hq _).mpr ⟨rfl, h⟩⟩

/-- a node met by the walk from a start node that carries a webentity resolves to that webentity -/
theorem C05_walk_resolves_to_start {s : State} {a : Nat} {l c r : T} {lo hi : Option Stem}
    (hord : OrdT s (.node a l c r) lo hi) (hnd : (T.node a l c r).addrs.Nodup)
    (lru0 : Bytes) {q : LRU} {b : Nat} (hq : (q, b) ∈ c.entries s []) {lru : Bytes}
    (hw : (b, lru) ∈ (T.node a l c r).wePre s a lru0) (hw0 : (s.cell a).we ≠ 0) (inh : Nat) :
    (T.node a l c r).resolveAlong s (s.stemAt a :: q) inh = (s.cell a).we := by
  have hz := ((C05_walk_is_resolution hord hnd lru0 hq lru).mp hw).2
  -- the resolution from the top of the start node's sibling tree: the id found below it, else its own, else `inh`
  rw [T.resolveAlong_node_self, T.resolveAlong_eq, hz]
  simp [hw0]

/-- `wePreD_mem_iff` through the heap entry point `webentity_dfs_iter(node, lru, max_depth)` -/
theorem weDfs_opt_mem_iff {s : State} {a : Nat} {l c r : T} {lo hi : Option Stem}
    (hr : Rep s (.node a l c r)) (hsz : (T.node a l c r).size ≤ s.trie.size)
    (hord : OrdT s (.node a l c r) lo hi) (hnd : (T.node a l c r).addrs.Nodup) (pre : LRU)
    (startLru : Bytes) (md : Option Nat) (b : Nat) (lru : Bytes) :
    (b, lru) ∈ s.weDfs a startLru md ↔
      (b = a ∧ lru = lruDirname startLru ++ s.stemAt a) ∨
      ∃ q, q ≠ [] ∧ (pre ++ q, b) ∈ c.entries s pre ∧ lru = lruDirname startLru ++ s.stemAt a ++ q.flatten ∧
        (∀ k, 0 < k → k ≤ q.length → ∀ b', (pre ++ q.take k, b') ∈ c.entries s pre → (s.cell b').we = 0) ∧
        ∀ d ∈ md, q.length ≤ d := by
  rw [weDfs, weDfsGo_single hr hsz]
  exact wePreD_mem_iff hord hnd pre md _ b lru

theorem weDfs_mem_iff {s : State} {a : Nat} {l c r : T} {lo hi : Option Stem}
    (hr : Rep s (.node a l c r)) (hsz : (T.node a l c r).size ≤ s.trie.size)
    (hord : OrdT s (.node a l c r) lo hi) (hnd : (T.node a l c r).addrs.Nodup)
    (startLru : Bytes) (b : Nat) (lru : Bytes) :
    (b, lru) ∈ s.weDfs a startLru none ↔
      (b = a ∧ lru = lruDirname startLru ++ s.stemAt a) ∨
      ∃ q, q ≠ [] ∧ (q, b) ∈ c.entries s [] ∧ lru = lruDirname startLru ++ s.stemAt a ++ q.flatten ∧
        (∀ k, 0 < k → k ≤ q.length → ∀ b', (q.take k, b') ∈ c.entries s [] → (s.cell b').we = 0) := by
  exact (weDfs_opt_mem_iff hr hsz hord hnd [] startLru none b lru).trans
    (or_congr Iff.rfl (exists_congr fun q => and_congr_right fun _ => and_congr_right fun _ =>
      and_congr_right fun _ => and_iff_left fun _ hm => nomatch hm))

end Traph

section
open Traph
#print axioms lastWe_append
#print axioms followLru_we
#print axioms preWe_mem_iff
#print axioms C07_carried_is_resolution
#print axioms C07_carried_unique
#print axioms C07_carried_sound
#print axioms wePreD_mem_iff
#print axioms C05_walk_is_resolution
#print axioms C05_walk_resolves_to_start
#print axioms weDfs_mem_iff
end
