import Proofs.GraftHole
import Proofs.Small
/-! What the level-by-level descent means in terms of the finite map `T.entries`:
    `descend` finds `b` for `stems` iff `(pre ++ stems, b)` is an entry; hence `lru_node` is the map
    look-up, no LRU is stored twice, every node is exactly one entry. `follow_lru` finds the same node; what it records
    on the way is analysed one stem at a time (`followLru_snoc`), and the cells of the ghost tree it meets likewise
    (`pathCells_snoc`). -/
namespace Traph
open State

theorem T.childAt_node_left {b a : Nat} {l c r : T} (hnd : (T.node b l c r).addrs.Nodup)
    (ha : a ∈ l.sibs) : (T.node b l c r).childAt a = l.childAt a := by
  have hn := T.nodup_node hnd
  have hne : ¬ b = a := by
    intro e; subst e; exact hn.1 (T.sibs_subset_addrs l _ ha)
  simp only [T.childAt]
  rw [if_neg hne, if_pos ha]

theorem T.childAt_node_right {b a : Nat} {l c r : T} (hnd : (T.node b l c r).addrs.Nodup)
    (ha : a ∈ r.sibs) : (T.node b l c r).childAt a = r.childAt a := by
  have hn := T.nodup_node hnd
  have hne : ¬ b = a := by
    intro e; subst e; exact hn.2.2.1 (T.sibs_subset_addrs r _ ha)
  have hnl : ¬ a ∈ l.sibs := by
    intro hl
    exact hn.2.2.2.2.2.2.2.1 a (T.sibs_subset_addrs l _ hl) (T.sibs_subset_addrs r _ ha)
  simp only [T.childAt]
  rw [if_neg hne, if_neg hnl]

theorem T.childAt_nodup (u : T) (a : Nat) (hnd : u.addrs.Nodup) (h : a ∈ u.sibs) : (u.childAt a).addrs.Nodup := by
  obtain ⟨_, _, hn⟩ := T.sib_node (Q := fun t => t.addrs.Nodup)
    (fun _ _ _ _ h => ⟨(T.nodup_node h).2.2.2.1, (T.nodup_node h).2.2.2.2.2.1⟩) u a hnd h
  exact (T.nodup_node hn).2.2.2.2.1

/-- (no `Nodup` needed: whichever node labelled `a` is picked, its child tree is ordered) -/
theorem OrdT.childAt {s : State} (u : T) (lo hi : Option Stem) (a : Nat) (ho : OrdT s u lo hi) (h : a ∈ u.sibs) :
    OrdT s (u.childAt a) none none := by
  obtain ⟨_, _, _, _, ho'⟩ := T.sib_node (Q := fun t => ∃ lo hi, OrdT s t lo hi)
    (fun _ _ _ _ ⟨_, _, h⟩ => ⟨⟨_, _, h.2.2.1⟩, ⟨_, _, h.2.2.2.1⟩⟩) u a ⟨lo, hi, ho⟩ h
  exact ho'.2.2.2.2

theorem entries_head_sib {s : State} {u : T} (hnd : u.addrs.Nodup) {pre p : LRU} {b : Nat}
    (h : (pre ++ p, b) ∈ u.entries s pre) :
    ∃ a ∈ u.sibs, (p = [s.stemAt a] ∧ b = a) ∨
      ∃ x rest, p = s.stemAt a :: x :: rest ∧
        (pre ++ [s.stemAt a] ++ x :: rest, b) ∈ (u.childAt a).entries s (pre ++ [s.stemAt a]) := by
  induction u with
  | nil => exact nomatch h
  | node d l c r ihl _ ihr =>
    have hn := T.nodup_node hnd
    rcases entry_node_below.mp h with h | h | h | h
    · obtain ⟨a, ha, h⟩ := ihl hn.2.2.2.1 h
      exact ⟨a, T.mem_sibs_left ha, by rw [T.childAt_node_left hnd ha]; exact h⟩
    · exact ⟨d, T.mem_sibs_self, .inl h⟩
    · exact ⟨d, T.mem_sibs_self, .inr (by rw [T.childAt_node_self]; exact h)⟩
    · obtain ⟨a, ha, h⟩ := ihr hn.2.2.2.2.2.1 h
      exact ⟨a, T.mem_sibs_right ha, by rw [T.childAt_node_right hnd ha]; exact h⟩

theorem childAt_entries_iff {s : State} {u : T} {lo hi : Option Stem} (hord : OrdT s u lo hi) (hnd : u.addrs.Nodup)
    {pre : LRU} {stem : Stem} {a : Nat} (hf : u.find s stem = .found a) (q : LRU) (b : Nat) :
    (q, b) ∈ (u.childAt a).entries s (pre ++ [stem]) ↔
      ((q, b) ∈ u.entries s pre ∧ ∃ x rest, q = pre ++ stem :: x :: rest) := by
  obtain ⟨hmem, rfl⟩ := T.find_sound u a hf
  constructor
  · intro h
    obtain ⟨x, rest, rfl⟩ := entries_prefix _ _ _ _ h
    exact ⟨T.childAt_entries u pre a hmem h, x, rest, List.append_assoc _ _ _⟩
  · rintro ⟨h, x, rest, rfl⟩
    obtain ⟨a', ha', ⟨e, _⟩ | ⟨x', rest', e, h'⟩⟩ := entries_head_sib hnd h
    · exact nomatch (List.cons.inj e).2
    · obtain ⟨e1, rfl, rfl⟩ : s.stemAt a = s.stemAt a' ∧ x = x' ∧ rest = rest' := by simpa using e
      -- the sibling with this stem is the one the search finds
      obtain rfl : a' = a := Find.found.inj ((T.find_found u lo hi hord a' ha' e1.symm).symm.trans hf)
      rw [List.append_assoc] at h'
      exact h'

theorem descend_found_iff {s : State} : ∀ (stems : List Stem) (u : T) (lo hi : Option Stem) (pre : LRU) (b : Nat),
    OrdT s u lo hi → u.addrs.Nodup → stems ≠ [] →
    (u.descend s stems pre = .found b ↔ (pre ++ stems, b) ∈ u.entries s pre) := by
  intro stems
  induction stems with
  | nil => intro _ _ _ _ _ _ _ h; exact absurd rfl h
  | cons stem rest ih =>
    intro u lo hi pre b hord hnd _
    refine ⟨descend_found_mem _ u pre b, fun h => ?_⟩
    obtain ⟨a, hmem, ⟨e, rfl⟩ | ⟨x, tl, e, hch⟩⟩ := entries_head_sib hnd h
    · obtain ⟨rfl, rfl⟩ := List.cons.inj e
      simp only [T.descend, T.find_found u lo hi hord b hmem rfl]
    · obtain ⟨rfl, rfl⟩ := List.cons.inj e
      have hf := T.find_found u lo hi hord a hmem rfl
      have hord' := OrdT.childAt u lo hi a hord hmem
      have hnd' := T.childAt_nodup u a hnd hmem
      cases hc : u.childAt a with
      | nil => rw [hc] at hch; exact nomatch hch
      | node a' l' c' r' =>
        simp only [T.descend, hf, hc]
        rw [hc] at hord' hnd' hch
        exact (ih (.node a' l' c' r') none none (pre ++ [s.stemAt a]) b hord' hnd' (by simp)).mpr hch

/-- the cells matched by the descent, top-down, with the stem matched at each level -/
def T.pathCells (s : State) : List Stem → T → List (Nat × Stem)
  | [], _ => []
  | stem :: rest, u =>
    match u.find s stem with
    | .found a => (a, stem) :: (match rest with | [] => [] | _ :: _ => T.pathCells s rest (u.childAt a))
    | _ => []

theorem T.pathCells_nil_tree (s : State) (stems : List Stem) : T.pathCells s stems .nil = [] := by
  cases stems <;> simp [T.pathCells, T.find]

theorem T.pathCells_cons_found {s : State} {stem : Stem} {rest : List Stem} {u : T} {a : Nat}
    (hf : u.find s stem = .found a) :
    T.pathCells s (stem :: rest) u = (a, stem) :: T.pathCells s rest (u.childAt a) := by
  cases rest <;> simp [T.pathCells, hf]

theorem pathCells_map_snd {s : State} : ∀ (stems : List Stem) (u : T),
    (u.pathCells s stems).map (·.2) = stems.take (u.pathCells s stems).length := by
  intro stems
  induction stems with
  | nil => intro u; simp [T.pathCells]
  | cons stem rest ih =>
    intro u
    cases hf : u.find s stem with
    | corrupt => simp [T.pathCells, hf]
    | missing q sl => simp [T.pathCells, hf]
    | found a =>
      rw [T.pathCells_cons_found hf]
      simp only [List.map_cons, List.length_cons, List.take_succ_cons, ih]

/-- `lru_node` is `follow_lru` without the history (a fact about the two loops, no tree needed) -/
theorem followLruGo_fst (s : State) : ∀ (stems : List Stem) (n pos : Nat) (h : Hist),
    (s.followLruGo stems n pos h).1 = s.lruNodeGo stems n
  | [], _, _, _ => rfl
  | stem :: rest, n, pos, h => by
    rw [followLruGo, lruNodeGo]
    cases s.findSib stem (s.trie.size + 1) n with
    | found i =>
      dsimp only
      split
      · rfl
      · split
        · rfl
        · exact followLruGo_fst s rest _ _ _
    | missing _ _ => rfl
    | corrupt => rfl

theorem lruNodeGo_eq_descend {s : State} : ∀ (stems : List Stem) (u : T) (pre : LRU),
    Rep s u → u ≠ .nil → u.size ≤ s.trie.size → stems ≠ [] →
    s.lruNodeGo stems u.root = match u.descend s stems pre with | .found b => some b | _ => none := by
  intro stems
  induction stems with
  | nil => intro _ _ _ _ _ h; exact absurd rfl h
  | cons stem rest ih =>
    intro u pre hr hne hsz _
    simp only [lruNodeGo, findSib_eq_find u _ hr hne (Nat.le_succ_of_le hsz), T.descend]
    cases hf : u.find s stem with
    | corrupt => rfl
    | missing q sl => rfl
    | found a =>
      obtain ⟨hrc, cell, hcell, hch⟩ := Rep.childAt u a hr (T.find_sound u a hf).1
      have hsz' := Nat.le_trans (T.childAt_size u a) hsz
      replace hch : (s.cell a).child = (u.childAt a).root := by rw [State.cell, hcell]; exact hch
      cases rest with
      | nil => rfl
      | cons st2 rest2 =>
        simp only [List.isEmpty_cons, Bool.false_eq_true, if_false, hch]
        cases hc : u.childAt a with
        | nil => rfl
        | node a' l' c' r' =>
          rw [hc] at hrc hsz'
          rw [if_neg (show ¬(T.node a' l' c' r').root = 0 from hrc.1)]
          exact ih _ (pre ++ [stem]) hrc nofun hsz' (List.cons_ne_nil _ _)

theorem lruNode_iff_entries {s : State} {t : T} (h : Shape s t) (stems : LRU) (hne : stems ≠ []) (b : Nat) :
    s.lruNode stems = some b ↔ (stems, b) ∈ t.entries s [] := by
  unfold State.lruNode
  by_cases hsz : s.trie.size ≤ 1
  · rw [if_pos hsz]
    obtain rfl := h.eq_nil hsz
    simp [T.entries_nil]
  · rw [if_neg hsz]
    obtain ⟨hroot, htne⟩ := h.root_one hsz
    have := lruNodeGo_eq_descend (s := s) stems t [] h.rep htne h.size_le hne
    rw [hroot] at this
    rw [this]
    have hd := descend_found_iff (s := s) stems t none none [] b h.ord h.nodup hne
    simp only [List.nil_append] at hd
    rw [← hd]
    cases t.descend s stems [] <;> simp

theorem entries_path_injective {s : State} {u : T} {lo hi : Option Stem} (hord : OrdT s u lo hi)
    (hnd : u.addrs.Nodup) {pre p : LRU} {b₁ b₂ : Nat}
    (h1 : (p, b₁) ∈ u.entries s pre) (h2 : (p, b₂) ∈ u.entries s pre) : b₁ = b₂ := by
  obtain ⟨x, rest, rfl⟩ := entries_prefix _ _ _ _ h1
  have d1 := (descend_found_iff (x :: rest) u lo hi pre b₁ hord hnd (by simp)).mpr h1
  have d2 := (descend_found_iff (x :: rest) u lo hi pre b₂ hord hnd (by simp)).mpr h2
  rw [d1] at d2
  exact Loc.found.inj d2

theorem followLru_fst (s : State) (stems : LRU) :
    (s.followLru stems).1 = s.lruNode stems := by
  unfold State.followLru State.lruNode
  split
  · rfl
  · exact followLruGo_fst s stems 1 0 {}

def lastWe (l : List Nat) : Nat := ((l.filter (· ≠ 0)).getLast?).getD 0

theorem Hist.visit_we (h : Hist) (c : Cell) (pos : Nat) :
    (h.visit c pos).we = if c.we ≠ 0 then c.we else h.we := by
  unfold Hist.visit
  by_cases hw : c.we ≠ 0 <;> by_cases hr : c.flags.rule = true <;> simp [hw, hr]


/-- what the walk of `follow_lru` adds for the stem path `q`: a visit of its node, if it has one -/
def State.visitAt (s : State) (h : Hist) (q : LRU) : Hist :=
  match s.lruNode q with
  | some b => h.visit (s.cell b) q.flatten.length
  | none => h

theorem followLruGo_snoc (s : State) (st : Stem) : ∀ (stems : List Stem) (n pos : Nat) (h : Hist),
    (s.followLruGo (stems ++ [st]) n pos h).2 =
      match s.lruNodeGo (stems ++ [st]) n with
      | some b => (s.followLruGo stems n pos h).2.visit (s.cell b) (pos + (stems ++ [st]).flatten.length)
      | none => (s.followLruGo stems n pos h).2
  | [], n, pos, h => by
    simp only [List.nil_append, followLruGo, lruNodeGo, List.isEmpty_nil, if_true, List.flatten_cons, List.flatten_nil,
      List.append_nil]
    cases s.findSib st (s.trie.size + 1) n <;> rfl
  | x :: rest, n, pos, h => by
    have ne : (rest ++ [st]).isEmpty = false := by cases rest <;> rfl
    simp only [List.cons_append, followLruGo, lruNodeGo, ne, Bool.false_eq_true, if_false]
    cases s.findSib x (s.trie.size + 1) n with
    | missing _ _ => rfl
    | corrupt => rfl
    | found i =>
      simp only
      have ih := followLruGo_snoc s st rest (s.cell i).child (pos + x.length) (h.visit (s.cell i) (pos + x.length))
      rw [List.flatten_cons, List.length_append, ← Nat.add_assoc]
      by_cases hc : (s.cell i).child = 0
      · rw [if_pos hc, if_pos hc]
        cases rest with
        | nil => rfl
        | cons y ys => simp only [List.isEmpty_cons, Bool.false_eq_true, if_false, if_pos hc]
      · rw [if_neg hc, if_neg hc, ih]
        cases rest with
        | nil => rfl
        | cons y ys => simp only [List.isEmpty_cons, Bool.false_eq_true, if_false, if_neg hc]

/-- THE STEP of resolution, for every state and without a tree: the walk of `follow_lru` along `p ++ [st]` is its walk
    along `p`, then a visit of the node of `p ++ [st]` if that path is in the index. Everything said about resolution (the
    prefix map, the cells of the ghost tree, the rule flags met) is an induction over the stems with this step. -/
theorem followLru_snoc (s : State) (p : LRU) (st : Stem) :
    (s.followLru (p ++ [st])).2 = s.visitAt (s.followLru p).2 (p ++ [st]) := by
  unfold State.visitAt State.followLru State.lruNode
  by_cases hsz : s.trie.size ≤ 1
  · simp only [if_pos hsz]
  · simp only [if_neg hsz]
    rw [followLruGo_snoc, Nat.zero_add]

theorem followLru_nil (s : State) : (s.followLru []).2 = {} := by
  unfold State.followLru; split <;> rfl

theorem followLru_inv (s : State) (stems : LRU) :
    (s.followLru stems).2.we ≠ 0 ↔ (s.followLru stems).2.wePos ≠ none := by
  induction stems using snoc_induction with
  | nil => rw [followLru_nil]; simp
  | snoc p st ih =>
    rw [followLru_snoc, State.visitAt]
    cases s.lruNode (p ++ [st]) with
    | none => exact ih
    | some b => exact Hist.visit_inv _ _ _ ih

theorem T.pathCells_snoc_descend (s : State) (st : Stem) : ∀ (p : List Stem) (u : T) (pre : LRU),
    u.pathCells s (p ++ [st]) = u.pathCells s p ++
      (match u.descend s (p ++ [st]) pre with | .found b => [(b, st)] | _ => [])
  | [], u, pre => by
    simp only [List.nil_append, T.pathCells, T.descend]
    cases u.find s st <;> rfl
  | x :: rest, u, pre => by
    rcases T.descend_cases s x (rest ++ [st]) u pre
      with ⟨hf, e⟩ | ⟨_, _, hf, e⟩ | ⟨a, hf, ⟨h0, _⟩ | ⟨_, hc, e⟩ | ⟨_, _, e⟩⟩
    · rw [List.cons_append, e]; simp [T.pathCells, hf]
    · rw [List.cons_append, e]; simp [T.pathCells, hf]
    · exact absurd h0 (by simp)
    · rw [List.cons_append, e, T.pathCells_cons_found hf, T.pathCells_cons_found hf, hc, T.pathCells_nil_tree,
        T.pathCells_nil_tree]
      rfl
    · rw [List.cons_append, e, T.pathCells_cons_found hf, T.pathCells_cons_found hf,
        T.pathCells_snoc_descend s st rest _ (pre ++ [x])]
      rfl

theorem pathCells_snoc {s : State} {t : T} (h : Shape s t) (p : LRU) (st : Stem) :
    t.pathCells s (p ++ [st]) = t.pathCells s p ++
      (match s.lruNode (p ++ [st]) with | some b => [(b, st)] | none => []) := by
  rw [T.pathCells_snoc_descend s st p t []]
  congr 1
  unfold State.lruNode
  by_cases hsz : s.trie.size ≤ 1
  · obtain rfl := h.eq_nil hsz
    rw [if_pos hsz]
    cases p <;> rfl
  · obtain ⟨hroot, htne⟩ := h.root_one hsz
    rw [if_neg hsz, ← hroot, lruNodeGo_eq_descend (p ++ [st]) t [] h.rep htne h.size_le (by simp)]
    cases t.descend s (p ++ [st]) [] <;> rfl

theorem pathCells_entries_getElem? {s : State} : ∀ (stems : List Stem) (u : T) (lo hi : Option Stem) (pre : LRU),
    OrdT s u lo hi → u.addrs.Nodup → ∀ (k : Nat) (c : Nat × Stem), (u.pathCells s stems)[k]? = some c →
    (pre ++ stems.take (k + 1), c.1) ∈ u.entries s pre ∧ stems[k]? = some c.2 := by
  intro stems
  induction stems with
  | nil => intro u _ _ _ _ _ k c h; simp [T.pathCells] at h
  | cons stem rest ih =>
    intro u lo hi pre hord hnd k c h
    cases hf : u.find s stem with
    | corrupt => simp [T.pathCells, hf] at h
    | missing q sl => simp [T.pathCells, hf] at h
    | found a =>
      rw [T.pathCells_cons_found hf] at h
      obtain ⟨hmem, rfl⟩ := T.find_sound u a hf
      cases k with
      | zero =>
        obtain rfl : (a, s.stemAt a) = c := Option.some.inj h
        exact ⟨T.sib_entry u pre a hmem, rfl⟩
      | succ k =>
        obtain ⟨h1, h2⟩ := ih (u.childAt a) none none (pre ++ [s.stemAt a]) (OrdT.childAt u lo hi a hord hmem)
          (T.childAt_nodup u a hnd hmem) k c h
        rw [List.append_assoc] at h1
        exact ⟨T.childAt_entries u pre a hmem h1, h2⟩

theorem pathCells_entries {s : State} {u : T} {lo hi : Option Stem} (hord : OrdT s u lo hi)
    (hnd : u.addrs.Nodup) (stems : List Stem) (pre : LRU) :
    ∀ k, k < (u.pathCells s stems).length →
      (pre ++ stems.take (k + 1), ((u.pathCells s stems)[k]!).1) ∈ u.entries s pre := by
  intro k hk
  have hget : (u.pathCells s stems)[k]? = some ((u.pathCells s stems)[k]!) := by
    rw [getElem!_pos (u.pathCells s stems) k hk]; exact List.getElem?_eq_getElem hk
  exact (pathCells_entries_getElem? stems u lo hi pre hord hnd k _ hget).1

theorem pathCells_length_le {s : State} : ∀ (stems : List Stem) (u : T),
    (u.pathCells s stems).length ≤ stems.length := by
  intro stems
  induction stems with
  | nil => intro u; simp [T.pathCells]
  | cons stem rest ih =>
    intro u
    cases hf : u.find s stem with
    | corrupt => simp [T.pathCells, hf]
    | missing q sl => simp [T.pathCells, hf]
    | found a =>
      rw [T.pathCells_cons_found hf]
      have := ih (u.childAt a)
      simp only [List.length_cons]; omega

theorem descend_found_length {s : State} : ∀ (stems : List Stem) (u : T) (pre : LRU) (b : Nat),
    u.descend s stems pre = .found b → (u.pathCells s stems).length = stems.length := by
  intro stems
  induction stems with
  | nil => intro u pre b h; exact nomatch h
  | cons stem rest ih =>
    intro u pre b hd
    rcases T.descend_cases s stem rest u pre
      with ⟨_, e⟩ | ⟨_, _, _, e⟩ | ⟨a, hf, ⟨rfl, e⟩ | ⟨_, _, e⟩ | ⟨hr, _, e⟩⟩ <;> rw [e] at hd
    · exact nomatch hd
    · exact nomatch hd
    · rw [T.pathCells_cons_found hf]
      rfl
    · exact nomatch hd
    · rw [T.pathCells_cons_found hf, List.length_cons, ih _ (pre ++ [stem]) b hd]
      rfl

#print axioms descend_found_iff
#print axioms lruNode_iff_entries
#print axioms entries_path_injective
#print axioms pathCells_entries

end Traph
