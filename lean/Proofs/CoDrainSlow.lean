import Proofs.NetworkAgg
import Proofs.CoDrain
/-! C16 — `get_webentities_links_slow_iter` drained on a fixed index = `get_webentities_links_slow`.
    The generator walks the whole trie (`dfs_with_webentity_iter`), reads the Counter of every page that has a list and
    a webentity, and yields only after an entry that adds to the graph. -/
namespace Traph
open State

def dfsWeFin (s : State) : Nat → List (Nat × Nat) → Prop
  | _, [] => True
  | 0, _ :: _ => False
  | f + 1, (b, we) :: rest =>
    dfsWeFin s f (dfsWePush b we (if (s.cell b).we ≠ 0 then (s.cell b).we else we) (s.cell b) rest)

theorem dfsWeGo_step (s : State) (f b we : Nat) (rest : List (Nat × Nat)) :
    s.dfsWeGo (f + 1) ((b, we) :: rest) =
      (b, if (s.cell b).we ≠ 0 then (s.cell b).we else we) ::
        s.dfsWeGo f (dfsWePush b we (if (s.cell b).we ≠ 0 then (s.cell b).we else we) (s.cell b) rest) := by
  simp only [dfsWeGo, dfsWePush]

section SL
variable (s : State) (out auto : Bool)

def slFuel (q : SlowSt) : Nat := (s.trie.size + 2) * (s.links.size + 3) + q.stack.length + q.curList.length + 4

def slGen : Gen SlowSt Ans := .reader (fun g q => slowResume g s q) (slFuel s)

/-- the machine between two nodes of the walk (`pend`: the node popped last), or inside the Counter of a page (`L`) -/
abbrev slSt (stack : List (Nat × Nat)) (pend : Option (Nat × Nat × Nat × Cell)) (src : Nat) (L : List (Nat × Nat))
    (acc : List NetRow × List (Nat × Nat)) : SlowSt :=
  { out := out, auto := auto, started := true, stack := stack, pend := pend, cache := acc.2, curSrc := src, curList := L,
    graph := acc.1 }

/-- does the entry add to the graph (and so end a section)? -/
def slAdds (src : Nat) (acc : List NetRow × List (Nat × Nat)) (tw : Nat × Nat) : Bool :=
  let tWe := (dictGet? acc.2 tw.1).getD (s.windupWe tw.1)
  !(tWe = 0) && !(!auto && src = tWe)

theorem sl_list (F : List NetRow × List (Nat × Nat) → Ans) (B Y : Nat) (hB : B + 1 ≤ (s.trie.size + 2) * (s.links.size + 3))
    (stack : List (Nat × Nat)) (pend : Option (Nat × Nat × Nat × Cell)) (src : Nat)
    (hK : ∀ acc, (slGen s).Drains (slSt out auto stack pend src [] acc) (F acc) B Y) (L : List (Nat × Nat))
    (acc : List NetRow × List (Nat × Nat)) :
    (slGen s).Drains (slSt out auto stack pend src L acc) (F (L.foldl (cdSlowInner s auto src) acc)) (B + L.length)
      (Y + L.length) := by
  refine Gen.Drains.list (G := slGen s) (slSt out auto stack pend src) (cdSlowInner s auto src) (slAdds s auto src) F B Y
    ?_ ?_ (fun L a => by simp only [slGen, Gen.reader, slFuel]; omega) hK L acc
  · rintro ⟨t, w⟩ L ⟨graph, cache⟩ hy g
    simp only [slGen, Gen.reader, slowResume, cdSlowInner]
    simp only [slAdds] at hy
    cases hget : dictGet? cache t with
    | some x => by_cases h0 : x = 0 <;> by_cases ha : (!auto && src = x) = true <;> simp [hget, h0, ha] at hy ⊢
    | none =>
      by_cases h0 : s.windupWe t = 0 <;> by_cases ha : (!auto && src = s.windupWe t) = true <;>
        simp [hget, h0, ha] at hy ⊢
  · rintro ⟨t, w⟩ L ⟨graph, cache⟩ hy g
    simp only [slGen, Gen.reader, slowResume, cdSlowInner]
    simp only [slAdds] at hy
    cases hget : dictGet? cache t with
    | some x => by_cases h0 : x = 0 <;> by_cases ha : (!auto && src = x) = true <;> simp [hget, h0, ha] at hy ⊢
    | none =>
      by_cases h0 : s.windupWe t = 0 <;> by_cases ha : (!auto && src = s.windupWe t) = true <;>
        simp [hget, h0, ha] at hy ⊢

theorem cd_walkGo_length_le : ∀ (fuel i : Nat), (s.walkGo fuel i).length ≤ fuel := by
  intro fuel
  induction fuel with
  | zero => intro i; simp [walkGo]
  | succ f ih =>
    intro i
    unfold walkGo
    cases s.links[i]? with
    | none => simp
    | some st =>
      simp only [List.length_cons]
      split
      · have := ih st.prev; omega
      · simp

theorem cd_countInto_length_le (acc : List (Nat × Nat)) (t : Nat) : (countInto acc t).length ≤ acc.length + 1 := by
  induction acc with
  | nil => simp [countInto]
  | cons p rest ih =>
    obtain ⟨k, n⟩ := p
    unfold countInto
    split <;> simp <;> omega

/-- the Counter of a list has at most one entry per stub -/
theorem cf_weighted_length_le (head : Nat) : (s.weighted head).length ≤ (s.walk head).length := by
  have key : ∀ (l : List Nat) (acc : List (Nat × Nat)), (l.foldl countInto acc).length ≤ acc.length + l.length := by
    intro l
    induction l with
    | nil => intro acc; simp
    | cons x xs ih =>
      intro acc
      have h1 := ih (countInto acc x)
      have h2 := cd_countInto_length_le acc x
      simp only [List.foldl_cons, List.length_cons]
      omega
  have := key (s.walk head) []
  simpa [weighted] using this

theorem cd_weighted_length_le (head : Nat) : (s.weighted head).length ≤ s.links.size + 1 :=
  Nat.le_trans (cf_weighted_length_le s head) (cd_walkGo_length_le s (s.links.size + 1) head)

theorem slowResume_pop (g b we : Nat) (rest : List (Nat × Nat)) (cache : List (Nat × Nat)) (src : Nat)
    (graph : List NetRow) :
    slowResume (g + 1) s { out := out, auto := auto, started := true, stack := (b, we) :: rest, pend := none,
                           cache := cache, curSrc := src, curList := [], graph := graph } =
      if ((s.cell b).flags.page && decide ((if out then (s.cell b).out else (s.cell b).inn) ≠ 0) &&
          decide ((if (s.cell b).we ≠ 0 then (s.cell b).we else we) ≠ 0)) = true then
        slowResume g s { out := out, auto := auto, started := true, stack := rest,
                         pend := some (b, we, (if (s.cell b).we ≠ 0 then (s.cell b).we else we), s.cell b),
                         cache := dictSet cache b (if (s.cell b).we ≠ 0 then (s.cell b).we else we),
                         curSrc := (if (s.cell b).we ≠ 0 then (s.cell b).we else we),
                         curList := s.weighted (if out then (s.cell b).out else (s.cell b).inn), graph := graph }
      else
        slowResume g s { out := out, auto := auto, started := true,
                         stack := dfsWePush b we (if (s.cell b).we ≠ 0 then (s.cell b).we else we) (s.cell b) rest,
                         pend := none, cache := cache, curSrc := src, curList := [], graph := graph } := rfl

/-- `f` pops, each followed by a list of at most `L + 1` entries and the switch back, fit in the fuel of a section -/
theorem sl_fuel_bound {f S L : Nat} (h : f ≤ S + 1) : f * (L + 2) + 1 ≤ (S + 2) * (L + 3) :=
  calc f * (L + 2) + 1 ≤ (S + 1) * (L + 2) + (L + 2) :=
        Nat.add_le_add (Nat.mul_le_mul_right _ h) (Nat.le_add_left 1 (L + 1))
    _ = (S + 2) * (L + 2) := (Nat.succ_mul (S + 1) (L + 2)).symm
    _ ≤ (S + 2) * (L + 3) := Nat.mul_le_mul_left _ (Nat.le_succ _)

theorem sl_stack : ∀ (f : Nat) (stk : List (Nat × Nat)), dfsWeFin s f stk → f ≤ s.trie.size + 1 →
    ∀ (acc : List NetRow × List (Nat × Nat)) (src : Nat),
      (slGen s).Drains (slSt out auto stk none src [] acc) (.net ((s.dfsWeGo f stk).foldl (cdSlowStep s out auto) acc).1)
        (f * (s.links.size + 2)) (f * (s.links.size + 1)) := by
  have hnil : ∀ f acc src B Y, (slGen s).Drains (slSt out auto [] none src [] acc)
      (.net ((s.dfsWeGo f []).foldl (cdSlowStep s out auto) acc).1) B Y := fun f acc src B Y => by
    rw [dfsWeGo_nil]
    exact (Gen.Drains.done (G := slGen s) (q' := slSt out auto [] none src [] acc) fun g => by
      simp only [slGen, Gen.reader, slowResume, if_true, List.foldl_nil]).mono (Nat.zero_le _) (Nat.zero_le _)
  intro f
  induction f with
  | zero =>
    intro stk hfin _ acc src
    cases stk with
    | nil => exact hnil _ _ _ _ _
    | cons p rest => exact absurd hfin (by simp [dfsWeFin])
  | succ f ih =>
    intro stk hfin hsz acc src
    cases stk with
    | nil => exact hnil _ _ _ _ _
    | cons p rest =>
      obtain ⟨b, we⟩ := p
      simp only [dfsWeFin] at hfin
      rw [dfsWeGo_step, List.foldl_cons, Nat.succ_mul, Nat.succ_mul]
      have ih' := ih _ hfin (by omega)
      generalize hcur : (if (s.cell b).we ≠ 0 then (s.cell b).we else we) = cur at hfin ih' ⊢
      generalize hhead : (if out then (s.cell b).out else (s.cell b).inn) = head
      by_cases hcond : ((s.cell b).flags.page && decide (head ≠ 0) && decide (cur ≠ 0)) = true
      · have hstep : cdSlowStep s out auto acc (b, cur) =
            (s.weighted head).foldl (cdSlowInner s auto cur) (acc.1, dictSet acc.2 b cur) := by
          simp only [Bool.and_eq_true, decide_eq_true_eq] at hcond
          simp [cdSlowStep, hhead, hcond.1.1, hcond.1.2, hcond.2]
        have hlen := cd_weighted_length_le s head
        have lst := sl_list s out auto _ _ _ (sl_fuel_bound (L := s.links.size) (Nat.le_of_succ_le hsz)) rest
          (some (b, we, cur, s.cell b)) cur (fun acc => (ih' acc cur).congr fun _ => rfl) (s.weighted head)
          (acc.1, dictSet acc.2 b cur)
        rw [hstep]
        refine (lst.cont fun g => ?_).mono (by omega) (by omega)
        simp only [slGen, Gen.reader, slSt, slowResume_pop, hcur, hhead, hcond, if_true]
      · have hstep : cdSlowStep s out auto acc (b, cur) = acc := by
          simp only [Bool.and_eq_true, decide_eq_true_eq, not_and, Decidable.not_not] at hcond
          simp only [cdSlowStep, hhead]
          by_cases hp : (s.cell b).flags.page = true
          · by_cases hh : head = 0
            · simp [hp, hh]
            · simp [hp, hh, hcond ⟨hp, hh⟩]
          · simp [hp]
        rw [hstep]
        refine ((ih' acc src).cont fun g => ?_).mono (by omega) (by omega)
        simp only [slGen, Gen.reader, slSt, slowResume_pop, hcur, hhead, hcond, Bool.false_eq_true, if_false]

/-- **`get_webentities_links_slow_iter` drained = `get_webentities_links_slow`** on every index whose walk ends within
    the atomic fuel -/
theorem netSlow_drain (hfin : dfsWeFin s (s.trie.size + 1) (if s.trie.size ≤ 1 then [] else [(1, 0)])) (N : Nat)
    (hN : (s.trie.size + 1) * (s.links.size + 1) + 1 < N) :
    QSt.drain s N (.netSlow { out := out, auto := auto }) = s.ask (.network out auto true) := by
  have h1 : (slGen s).Drains ({ out := out, auto := auto } : SlowSt) _ _ _ :=
    (sl_stack s out auto _ _ hfin (Nat.le_refl _) ([], []) 0).congr fun _ => rfl
  have hf : (s.trie.size + 1) * (s.links.size + 2) < (slGen s).fuelOf { out := out, auto := auto } :=
    Nat.lt_of_lt_of_le (sl_fuel_bound (Nat.le_refl _))
      (show (s.trie.size + 2) * (s.links.size + 3) ≤ (s.trie.size + 2) * (s.links.size + 3) + 0 + 0 + 4 by omega)
  rw [show QSt.drain s N _ = (slGen s).drain N _ from QSt.drain_eq s .netSlow _ _ (fun _ => rfl) N _]
  refine (h1.drain hf (by omega)).trans ?_
  simp only [State.ask, if_true, cd_networkSlow_eq, dfsWe]
  split
  · rw [dfsWeGo_nil]
  · rfl

end SL

theorem dfsWeFin_of_stackRep {s : State} :
    ∀ (fuel : Nat) (ts : List (T × Nat)), StackRep s ts → stackSize ts < fuel →
      dfsWeFin s fuel (stackOf ts) := by
  refine StackRep.induction (fun _ => trivial) (fun _ _ _ h => h) ?_
  intro f a l c r we ts hr hts ih
  obtain ⟨_, _, rl, rc, rr⟩ := id hr
  rw [stackOf, dfsWeFin, dfsWePush_rep hr]
  exact ih _ (((hts.cons rr _).cons rl _).cons rc _) (by simp only [stackSize_cons]; exact Nat.le_refl _)

theorem Shape.dfsWeFin_root {s : State} {t : T} (h : Shape s t) :
    dfsWeFin s (s.trie.size + 1) (if s.trie.size ≤ 1 then [] else [(1, 0)]) := by
  rw [← h.stackOf_root]
  exact dfsWeFin_of_stackRep (s := s) (s.trie.size + 1) [(t, 0)] (.single h.rep _)
    (by rw [stackSize_single]; exact Nat.lt_succ_of_le h.size_le)

/-- **slow network query, unconditionally on a well-formed index** -/
theorem netSlow_drain_shape {s : State} {t : T} (h : Shape s t) (out auto : Bool) (N : Nat)
    (hN : (s.trie.size + 1) * (s.links.size + 1) + 1 < N) :
    QSt.drain s N (.netSlow { out := out, auto := auto }) = s.ask (.network out auto true) :=
  netSlow_drain s out auto h.dfsWeFin_root N hN

#print axioms netSlow_drain_shape

end Traph
