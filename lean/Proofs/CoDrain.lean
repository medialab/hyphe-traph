import Proofs.ForPrefixes
import Proofs.Drained
import Proofs.Traverse
/-! C16 — the query machines of `QSt`, drained on a FIXED index, compute the atomic answers of `Traph/Api.lean`.
    The cursor of a fresh request yields the items of the atomic walk (`weItems`: prefix by prefix, `weDfs`), provided
    the atomic walks end within their own fuel (`WeFin`, true of every index representing a tree: Proofs/CoDrainShape — the atomic functions
    silently truncate otherwise). Here the two machines whose consumer loop only folds over the cursor: crawled pages
    and most linked pages (`crawled_drain`, `mostLinked_drain`); `weRuns_init`, `QSt.drain_eq`, `weItems_pages` are reused by the
    other CoDrain* files. -/
namespace Traph
open State

theorem exists_succ_of_lt {a n : Nat} (h : a < n) : ∃ k, n = k + 1 :=
  Nat.exists_eq_add_one_of_ne_zero (Nat.ne_zero_of_lt h)

/-- the walk from `stack` empties its stack within `fuel` pops -/
def weDfsFin (s : State) (start : Nat) (d : Option Nat) : Nat → List (Nat × Bytes × Nat) → Prop
  | _, [] => True
  | 0, _ :: _ => False
  | f + 1, (b, lru, level) :: rest =>
    weDfsFin s start d f (weDfsPushD d start b lru (lru ++ s.stemAt b) level (s.cell b) rest)

/-- the cursor with the children of the node it yielded last already pushed -/
def WeCur.norm (w : WeCur) : WeCur :=
  { w with stack := (match w.pend with
      | some (b, lru, cur, level, c) => weDfsPushD w.depth w.start b lru cur level c w.stack
      | none => w.stack), pend := none }

theorem WeCur.next_norm (g : Nat) (s : State) (w : WeCur) : w.next (g + 1) s = w.norm.next (g + 1) s := by
  obtain ⟨ps, d, st, stk, pend⟩ := w
  cases pend with
  | none => rfl
  | some p =>
    obtain ⟨b, lru, cur, level, c⟩ := p
    rfl

/-- the cursor as the consumers advance it -/
abbrev WeCur.nx (s : State) (w : WeCur) : WeCur × CurOut := w.next (w.fuel s) s
abbrev WeCur.bd (s : State) (w : WeCur) : Nat := (s.trie.size + 2) * (w.prefixes.length + 1)

theorem WeCur.fuel_ge (s : State) (w : WeCur) : s.trie.size + 3 ≤ w.fuel s := by
  unfold WeCur.fuel
  have : (s.trie.size + 2) * 2 ≤ (s.trie.size + 2) * (w.prefixes.length + 2) := Nat.mul_le_mul_left _ (by omega)
  omega

/-- what a `next()` that returned `r` stands for: the end of the traversal, or an item after which the cursor, advanced
    as the consumers advance it, runs on -/
def WeRuns.After (s : State) : WeCur × CurOut → List QItem → Option Err → Prop
  | (_, .stop), items, e => items = [] ∧ e = none
  | (_, .fail x), items, e => items = [] ∧ e = some x
  | (w', .item b lru c), items, e =>
    ∃ rest, items = (b, lru, c) :: rest ∧ Runs (WeCur.nx s) (WeCur.bd s) w' rest e ∧ rest.length ≤ WeCur.bd s w'

/-- the cursor `w` yields `items` and then stops or raises `e`; its first `next()` needs no more than `m` iterations -/
def WeRuns (s : State) (m : Nat) (w : WeCur) (items : List QItem) (e : Option Err) : Prop :=
  ∃ r, (∀ g, m ≤ g → w.next g s = r) ∧ WeRuns.After s r items e

theorem WeRuns.mono {s : State} {m m' : Nat} {w : WeCur} {items : List QItem} {e : Option Err}
    (h : WeRuns s m w items e) (hm : m ≤ m') : WeRuns s m' w items e :=
  have ⟨r, h, a⟩ := h
  ⟨r, fun g hg => h g (Nat.le_trans hm hg), a⟩

theorem WeRuns.skip {s : State} {m : Nat} {w w2 : WeCur} {items : List QItem} {e : Option Err}
    (hw : ∀ g, w.next (g + 1) s = w2.next g s) (h : WeRuns s m w2 items e) : WeRuns s (m + 1) w items e :=
  have ⟨r, h, a⟩ := h
  ⟨r, fun g hg => by obtain ⟨k, rfl⟩ := exists_succ_of_lt hg; rw [hw]; exact h k (Nat.le_of_succ_le_succ hg), a⟩

theorem WeRuns.congr {s : State} {m : Nat} {w w2 : WeCur} {items : List QItem} {e : Option Err}
    (hm : 1 ≤ m) (hw : ∀ g, w.next (g + 1) s = w2.next (g + 1) s) (h : WeRuns s m w2 items e) : WeRuns s m w items e :=
  have ⟨r, h, a⟩ := h
  ⟨r, fun g hg => by obtain ⟨k, rfl⟩ := exists_succ_of_lt (Nat.lt_of_lt_of_le hm hg); rw [hw]; exact h _ hg, a⟩

theorem WeRuns.runs {s : State} {m : Nat} {w : WeCur} {items : List QItem} {e : Option Err}
    (h : WeRuns s m w items e) (hm : m ≤ s.trie.size + 3) : Runs (WeCur.nx s) (WeCur.bd s) w items e := by
  obtain ⟨⟨w', o⟩, h, a⟩ := h
  have hw := h _ (Nat.le_trans hm (WeCur.fuel_ge s w))
  cases o with
  | stop => obtain ⟨rfl, rfl⟩ := a; exact .stop hw
  | fail x => obtain ⟨rfl, rfl⟩ := a; exact .fail hw
  | item b l c => obtain ⟨rest, rfl, r, hl⟩ := a; exact .item hw r hl

def itemOf (s : State) (bl : Nat × Bytes) : QItem := (bl.1, bl.2, s.cell bl.1)

theorem weDfsGo_length_le (s : State) (st : Nat) (d : Option Nat) : ∀ (f : Nat) (stk : List (Nat × Bytes × Nat)),
    (s.weDfsGo st d f stk).length ≤ f := by
  intro f
  induction f with
  | zero => intro stk; simp [weDfsGo_zero]
  | succ f ih =>
    intro stk
    cases stk with
    | nil => simp [weDfsGo_nil]
    | cons p rest =>
      obtain ⟨b, lru, level⟩ := p
      rw [weDfsGo_step]
      have := ih (weDfsPushD d st b lru (lru ++ s.stemAt b) level (s.cell b) rest)
      split <;> simp <;> omega

/-- the walk in progress: from a stack the cursor yields what `weDfsGo` lists, then goes on as from the empty stack (`hK`: items `itemsK`, outcome `eK`) -/
theorem weRuns_stack (s : State) (ps : List Bytes) (d : Option Nat) (st : Nat)
    (itemsK : List QItem) (eK : Option Err)
    (hK : WeRuns s 2 { prefixes := ps, depth := d, start := st, stack := [], pend := none } itemsK eK)
    (hKl : itemsK.length ≤ (s.trie.size + 2) * ps.length) :
    ∀ (f : Nat) (stk : List (Nat × Bytes × Nat)), f ≤ s.trie.size + 1 → weDfsFin s st d f stk →
      WeRuns s (f + 2) { prefixes := ps, depth := d, start := st, stack := stk, pend := none }
        ((s.weDfsGo st d f stk).map (itemOf s) ++ itemsK) eK := by
  intro f
  induction f with
  | zero =>
    intro stk _ hfin
    cases stk with
    | nil => simpa [weDfsGo_nil] using hK
    | cons p rest => exact absurd hfin (by simp [weDfsFin])
  | succ f ih =>
    intro stk hsz hfin
    cases stk with
    | nil => simpa [weDfsGo_nil] using hK.mono (by omega)
    | cons p rest =>
      obtain ⟨b, lru, level⟩ := p
      simp only [weDfsFin] at hfin
      have ih' := ih _ (by omega) hfin
      rw [weDfsGo_step]
      by_cases hrel : (b = st || (s.cell b).we = 0) = true
      · rw [if_pos hrel]
        simp only [List.cons_append, List.nil_append, List.map_cons, itemOf]
        refine ⟨(⟨ps, d, st, rest, some (b, lru, lru ++ s.stemAt b, level, s.cell b)⟩, .item b (lru ++ s.stemAt b) (s.cell b)),
          fun g hg => ?_, _, rfl, ?_, ?_⟩
        · obtain ⟨k, rfl⟩ := exists_succ_of_lt hg
          simp only [WeCur.next, hrel, if_true]
        · refine (WeRuns.congr (Nat.le_add_left 1 (f + 1)) (fun g => WeCur.next_norm g s _) ?_).runs (by omega)
          simpa [WeCur.norm] using ih'
        · have := weDfsGo_length_le s st d f (weDfsPushD d st b lru (lru ++ s.stemAt b) level (s.cell b) rest)
          simp only [List.length_append, List.length_map, WeCur.bd]
          rw [Nat.mul_add]
          omega
      · rw [if_neg hrel]
        simp only [List.nil_append]
        refine WeRuns.skip (fun g => ?_) ih'
        simp only [WeCur.next, hrel]
        simp

/-- what the loop over the prefixes yields on the fixed index: the atomic walks, prefix by prefix, until a prefix
    is not in the trie -/
def weItems (s : State) (d : Option Nat) : List Bytes → List QItem × Option Err
  | [] => ([], none)
  | pf :: more =>
    match s.lruNode (lruIter pf) with
    | none => ([], some .traph)
    | some nn => ((s.weDfs nn pf d).map (itemOf s) ++ (weItems s d more).1, (weItems s d more).2)

theorem weItems_length (s : State) (d : Option Nat) : ∀ ps : List Bytes,
    (weItems s d ps).1.length ≤ (s.trie.size + 2) * ps.length := by
  intro ps
  induction ps with
  | nil => simp [weItems]
  | cons pf more ih =>
    cases hn : s.lruNode (lruIter pf) with
    | none => simp [weItems, hn]
    | some nn =>
      simp only [weItems, hn, List.length_append, List.length_map, List.length_cons, weDfs]
      have := weDfsGo_length_le s nn d (s.trie.size + 1) [(nn, lruDirname pf, 0)]
      rw [Nat.mul_add]
      omega

/-- every atomic walk of the request ends within the fuel the atomic request grants it -/
def WeFin (s : State) (d : Option Nat) (ps : List Bytes) : Prop :=
  ∀ pf ∈ ps, ∀ nn, s.lruNode (lruIter pf) = some nn → weDfsFin s nn d (s.trie.size + 1) [(nn, lruDirname pf, 0)]

theorem weRuns_prefixes (s : State) (d : Option Nat) : ∀ (ps : List Bytes) (st : Nat), WeFin s d ps →
    WeRuns s 2 { prefixes := ps, depth := d, start := st, stack := [], pend := none }
      (weItems s d ps).1 (weItems s d ps).2 := by
  intro ps
  induction ps with
  | nil =>
    intro st _
    refine ⟨({ prefixes := [], depth := d, start := st, stack := [], pend := none }, .stop), fun g hg => ?_, rfl, rfl⟩
    obtain ⟨k, rfl⟩ := exists_succ_of_lt hg
    simp only [WeCur.next]
  | cons pf more ih =>
    intro st hfin
    cases hn : s.lruNode (lruIter pf) with
    | none =>
      simp only [weItems, hn]
      refine ⟨({ prefixes := pf :: more, depth := d, start := st, stack := [], pend := none }, .fail .traph),
        fun g hg => ?_, rfl, rfl⟩
      obtain ⟨k, rfl⟩ := exists_succ_of_lt hg
      simp only [WeCur.next, hn]
    | some nn =>
      have hf := hfin pf (by simp) nn hn
      simp only [weDfsFin] at hf
      have ihm := ih nn (fun p hp => hfin p (by simp [hp]))
      have hrun := weRuns_stack s more d nn _ _ ihm (weItems_length s d more) s.trie.size _ (by omega) hf
      simp only [weItems, hn, weDfs]
      rw [weDfsGo_step]
      simp only [decide_true, Bool.true_or, if_true, List.cons_append, List.nil_append, List.map_cons, itemOf]
      refine ⟨(⟨more, d, nn, [], some (nn, lruDirname pf, lruDirname pf ++ s.stemAt nn, 0, s.cell nn)⟩, .item nn _ _),
        fun g hg => ?_, _, rfl, ?_, ?_⟩
      · obtain ⟨k, rfl⟩ : ∃ k, g = k + 2 := ⟨g - 2, by omega⟩
        simp only [WeCur.next, hn, decide_true, Bool.true_or, if_true]
      · refine (WeRuns.congr (Nat.le_add_left 1 (s.trie.size + 1)) (fun g => WeCur.next_norm g s _) ?_).runs (by omega)
        simpa [WeCur.norm] using hrun
      · have h1 := weDfsGo_length_le s nn d s.trie.size
          (weDfsPushD d nn nn (lruDirname pf) (lruDirname pf ++ s.stemAt nn) 0 (s.cell nn) [])
        have h2 := weItems_length s d more
        simp only [List.length_append, List.length_map, WeCur.bd]
        rw [Nat.mul_add]
        omega

theorem weRuns_init (s : State) (d : Option Nat) (ps : List Bytes) (h : WeFin s d ps) :
    Runs (WeCur.nx s) (WeCur.bd s) { prefixes := ps, depth := d } (weItems s d ps).1 (weItems s d ps).2 :=
  (weRuns_prefixes s d ps 0 h).runs (by omega)

theorem qFuel_ge2 (s : State) (p x : Nat) : 2 * ((s.trie.size + 2) * (p + 1)) + 4 ≤ qFuel s p x := by
  unfold qFuel
  have : (s.trie.size + 2) * (p + 1) ≤ (s.trie.size + 2) * (p + 2) := Nat.mul_le_mul_left _ (by omega)
  have h2 : 2 * (s.trie.size + 2) * (p + 2) = 2 * ((s.trie.size + 2) * (p + 2)) := by rw [Nat.mul_assoc]
  omega

/-- what the consumer loop of the crawled-pages generator accumulates -/
def crawledFold (pages : List (Bytes × Bool)) (items : List QItem) : List (Bytes × Bool) :=
  items.foldl (fun acc it => if it.2.2.flags.page && it.2.2.flags.crawled then acc ++ [(it.2.1, true)] else acc) pages

/-- `QSt.drain` on a machine of `QSt` (`mk` its constructor, `run` its section with the fuel as a parameter) is the
    drain of that generator -/
theorem QSt.drain_eq {τ : Type} (s : State) (mk : τ → QSt) (run : Nat → τ → τ × CoOut) (fuelOf : τ → Nat)
    (h : ∀ q, (mk q).resume s = (mk (run (fuelOf q) q).1, (run (fuelOf q) q).2)) :
    ∀ N q, QSt.drain s N (mk q) = (Gen.reader run fuelOf).drain N q
  | 0, _ => rfl
  | N + 1, q => by
    rw [QSt.drain, h, Gen.drain_succ]
    show _ = goOn _ _ (run (fuelOf q) q)
    rcases run (fuelOf q) q with ⟨q1, o⟩
    cases o with
    | yielded => exact QSt.drain_eq s mk run fuelOf h N q1
    | done a => rfl
    | failed e => rfl

theorem sum_map_le_length {α} (cost : α → Nat) (h : ∀ x, cost x ≤ 1) : ∀ l : List α, (l.map cost).sum ≤ l.length
  | [] => Nat.le_refl _
  | x :: l => by
    have := sum_map_le_length cost h l
    have := h x
    simp only [List.map_cons, List.sum_cons, List.length_cons]; omega

def crawledGen (s : State) : Gen CrawledSt Ans :=
  .reader (fun g q => crawledResume g s q) (fun q => qFuel s q.cur.prefixes.length q.cur.stack.length)

theorem crawled_drains (s : State) {w : WeCur} {items : List QItem} {e : Option Err}
    (h : Runs (WeCur.nx s) (WeCur.bd s) w items e) (pages : List (Bytes × Bool)) :
    (crawledGen s).Drains ⟨w, pages⟩ (drainAns e (.pages (crawledFold pages items))) (1 * (items.length + 1))
      (items.map fun it => if it.2.2.flags.page then 1 else 0).sum := by
  refine Gen.Drains.fold_runs (G := crawledGen s) (fun w pages => ⟨w, pages⟩) _ Ans.pages _ 1 ?_ ?_ ?_ h pages
  · intro w w' a hw
    exact (Gen.Drains.done (G := crawledGen s) (q' := ⟨w', a⟩) fun g => by
      simp only [crawledGen, Gen.reader, crawledResume, hw]).mono (Nat.zero_le _) (Nat.le_refl _)
  · intro w w' e a hw
    exact (Gen.Drains.failed (G := crawledGen s) (q' := ⟨w', a⟩) fun g => by
      simp only [crawledGen, Gen.reader, crawledResume, hw]).mono (Nat.zero_le _) (Nat.le_refl _)
  · intro w w' it F B Y hw hB hK a
    obtain ⟨b, l, c⟩ := it
    by_cases hp : c.flags.page = true
    · simp only [hp, Bool.true_and, if_true]
      refine ((hK _).yield (fun g => by simp only [crawledGen, Gen.reader, crawledResume, hw, hp, if_true]) ?_).mono
        (Nat.zero_le _) (Nat.le_refl _)
      have := qFuel_ge2 s w'.prefixes.length w'.stack.length
      simp only [crawledGen, Gen.reader, WeCur.bd] at hB ⊢
      omega
    · simp only [hp, Bool.false_and, Bool.false_eq_true, if_false]
      exact (hK a).cont fun g => by simp only [crawledGen, Gen.reader, crawledResume, hw, hp, Bool.false_eq_true, if_false]

theorem forPrefixes_weItems (s : State) (d : Option Nat) {α} (h : QItem → List α) : ∀ ps : List Bytes,
    s.forPrefixes ps (fun n p => (s.weDfs n p d).flatMap (fun bl => h (itemOf s bl))) =
      (match (weItems s d ps).2 with
       | none => .ok ((weItems s d ps).1.flatMap h)
       | some e => .error e) := by
  intro ps
  induction ps with
  | nil => simp [forPrefixes, weItems]
  | cons p ps ih =>
    rw [cd_forPrefixes_cons, ih]
    cases hn : s.lruNode (lruIter p) with
    | none => simp [weItems, hn]
    | some n =>
      simp only [weItems, hn]
      cases (weItems s d ps).2 with
      | none => simp [List.flatMap_append, List.flatMap_map]
      | some e => simp

/-- **the atomic requests over the pages of the walks, against the drained cursor**: a request that lists `g` of every
    page node, passed to `fin`, answers what the consumers of the cursor answer when what they accumulate is `g` of
    every page item -/
theorem weItems_pages (s : State) (d : Option Nat) {α : Type} (g : QItem → List α) (fin : List α → Ans) (ps : List Bytes) :
    Ans.ofExcept fin (s.forPrefixes ps fun n p =>
        ((s.weDfs n p d).filter fun bl => (s.cell bl.1).flags.page).flatMap fun bl => g (itemOf s bl)) =
      drainAns (weItems s d ps).2 (fin ((weItems s d ps).1.flatMap fun it => if it.2.2.flags.page then g it else [])) := by
  have hF : (fun n p => ((s.weDfs n p d).filter fun bl => (s.cell bl.1).flags.page).flatMap fun bl => g (itemOf s bl)) =
      fun n p => (s.weDfs n p d).flatMap fun bl => (fun it : QItem => if it.2.2.flags.page then g it else []) (itemOf s bl) :=
    funext fun n => funext fun p => filter_flatMap_if _ _ _
  rw [hF, forPrefixes_weItems s d (fun it => if it.2.2.flags.page then g it else []) ps]
  cases (weItems s d ps).2 <;> rfl

theorem crawledFold_eq (items : List QItem) : ∀ pages : List (Bytes × Bool),
    crawledFold pages items = pages ++
      (items.flatMap (fun it => if it.2.2.flags.page then [(it.2.1, it.2.2.flags.crawled)] else [])).filter (·.2) := by
  induction items with
  | nil => intro pages; simp [crawledFold]
  | cons it items ih =>
    intro pages
    have := ih (if it.2.2.flags.page && it.2.2.flags.crawled then pages ++ [(it.2.1, true)] else pages)
    simp only [crawledFold, List.foldl_cons] at this ⊢
    rw [this]
    by_cases hp : it.2.2.flags.page = true <;> by_cases hc : it.2.2.flags.crawled = true <;>
      simp [hp, hc]

/-- **`get_webentity_crawled_pages_iter` drained = `get_webentity_crawled_pages`** on every index whose walks end
    within the atomic fuel -/
theorem crawled_drain (s : State) (ps : List Bytes) (hfin : WeFin s none ps) (N : Nat)
    (hN : (s.trie.size + 2) * ps.length + 1 < N) :
    QSt.drain s N (.crawled { cur := { prefixes := ps } }) = s.ask (.crawledPages ps) := by
  have hlen := weItems_length s none ps
  have hq := qFuel_ge2 s ps.length 0
  have hq2 : (s.trie.size + 2) * ps.length ≤ (s.trie.size + 2) * (ps.length + 1) := Nat.mul_le_mul_left _ (by omega)
  have hc := sum_map_le_length (fun it : QItem => if it.2.2.flags.page then 1 else 0) (fun it => by split <;> omega)
    (weItems s none ps).1
  have := (crawled_drains s (weRuns_init s none ps hfin) []).drain (N := N)
    (by show _ < qFuel s ps.length 0; omega) (by omega)
  rw [show QSt.drain s N _ = (crawledGen s).drain N _ from QSt.drain_eq s .crawled _ _ (fun _ => rfl) N _, this]
  rw [crawledFold_eq, ← weItems_pages s none (fun it => [(it.2.1, it.2.2.flags.crawled)])
    (fun l => .pages ([] ++ l.filter (·.2))) ps]
  simp only [State.ask, webentityCrawledPages, webentityPages, List.map_eq_flatMap, itemOf, List.nil_append]
  cases s.forPrefixes ps _ <;> rfl

/-- what the consumer loop of the most-linked generator accumulates: the arrival counter and the bounded heap -/
def mostFold (s : State) (k : Nat) (acc : Nat × List (Nat × Nat × Bytes)) (items : List QItem) :
    Nat × List (Nat × Nat × Bytes) :=
  items.foldl (fun acc it =>
    if it.2.2.flags.page then (acc.1 + 1, boundedPush k acc.2 (s.indegreeEntries it.2.2.inn, acc.1 + 1, it.2.1))
    else acc) acc

def mostGen (s : State) : Gen MostSt Ans := .reader (fun _ q => mostResume s q) (fun _ => 1)

theorem most_drains (s : State) (k : Nat) {w : WeCur} {items : List QItem} {e : Option Err}
    (h : Runs (WeCur.nx s) (WeCur.bd s) w items e) (acc : Nat × List (Nat × Nat × Bytes)) :
    (mostGen s).Drains ⟨w, k, acc.1, acc.2⟩
      (drainAns e (.ranked ((mostFold s k acc items).2.reverse.map (fun x => (x.2.2, x.1))))) (0 * (items.length + 1))
      (items.map fun _ => 1).sum := by
  refine Gen.Drains.fold_runs (G := mostGen s) (fun w acc => ⟨w, k, acc.1, acc.2⟩) _
    (fun acc => .ranked (acc.2.reverse.map (fun x => (x.2.2, x.1)))) _ 0 ?_ ?_ ?_ h acc
  · intro w w' a hw
    exact Gen.Drains.done (G := mostGen s) (q' := ⟨w', k, a.1, a.2⟩) fun g => by simp only [mostGen, Gen.reader, mostResume, hw]
  · intro w w' e a hw
    exact Gen.Drains.failed (G := mostGen s) (q' := ⟨w', k, a.1, a.2⟩) fun g => by simp only [mostGen, Gen.reader, mostResume, hw]
  · intro w w' it F B Y hw hB hK a
    obtain ⟨b, l, c⟩ := it
    have hB0 : B = 0 := by omega
    subst hB0
    by_cases hp : c.flags.page = true
    · simp only [hp, if_true]
      exact (hK _).yield (fun g => by simp only [mostGen, Gen.reader, mostResume, hw, hp, if_true]) Nat.one_pos
    · simp only [hp, Bool.false_eq_true, if_false]
      exact (hK a).yield (fun g => by simp only [mostGen, Gen.reader, mostResume, hw, hp, Bool.false_eq_true, if_false]) Nat.one_pos

theorem mostFold_eq (s : State) (k : Nat) (items : List QItem) : ∀ (count : Nat) (heap : List (Nat × Nat × Bytes)),
    mostFold s k (count, heap) items =
      (count + (items.flatMap (fun it => if it.2.2.flags.page then [(it.2.1, s.indegreeEntries it.2.2.inn)] else [])).length,
       ((enumFrom (count + 1) (items.flatMap (fun it =>
            if it.2.2.flags.page then [(it.2.1, s.indegreeEntries it.2.2.inn)] else []))).map
          (fun ip => (ip.2.2, ip.1, ip.2.1))).foldl (boundedPush k) heap) := by
  induction items with
  | nil => intro count heap; simp [mostFold, enumFrom]
  | cons it items ih =>
    intro count heap
    simp only [mostFold, List.foldl_cons] at ih ⊢
    by_cases hp : it.2.2.flags.page = true
    · simp only [hp, if_true, List.flatMap_cons]
      rw [ih]
      simp [enumFrom, Nat.add_assoc, Nat.add_comm 1]
    · simp only [hp, Bool.false_eq_true, if_false, List.flatMap_cons, List.nil_append]
      rw [ih]

/-- **`get_webentity_most_linked_pages_iter` drained = `get_webentity_most_linked_pages`** -/
theorem mostLinked_drain (s : State) (ps : List Bytes) (k : Nat) (d : Option Nat) (hfin : WeFin s d ps) (N : Nat)
    (hN : (s.trie.size + 2) * ps.length < N) :
    QSt.drain s N (.mostLinked { cur := { prefixes := ps, depth := d }, k := k }) = s.ask (.mostLinked ps k d) := by
  have hlen := weItems_length s d ps
  have hc := sum_map_le_length (fun _ : QItem => 1) (fun _ => Nat.le_refl _) (weItems s d ps).1
  have := (most_drains s k (weRuns_init s d ps hfin) (0, [])).drain (N := N)
    (by rw [Nat.zero_mul]; exact Nat.one_pos) (by omega)
  rw [show QSt.drain s N _ = (mostGen s).drain N _ from QSt.drain_eq s .mostLinked _ _ (fun _ => rfl) N _, this, mostFold_eq]
  dsimp only
  rw [← weItems_pages s d (fun it => [(it.2.1, s.indegreeEntries it.2.2.inn)]) (fun pages => .ranked
    ((((enumFrom (0 + 1) pages).map fun ip => (ip.2.2, ip.1, ip.2.1)).foldl (boundedPush k) []).reverse.map
      fun x => (x.2.2, x.1))) ps]
  simp only [State.ask, mostLinked, List.map_eq_flatMap, itemOf]
  cases s.forPrefixes ps _ <;> rfl

end Traph
