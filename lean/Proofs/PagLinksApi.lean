import Proofs.PagWalk
import Proofs.WeLinks
/-! C10 at the API level: `paginate_webentity_pagelinks`, called again and again with the token of the
    previous answer, against `get_webentity_pagelinks(include_inbound = False)`. The request is the generic loop
    `Pag.gRun` over the whole walk `gItems` (`paginateLinks_none`), resp. over the items behind the item a token
    denotes (`paginateLinks_token`) — for *every* item of the walk, link-bearing page, link-less page or plain node,
    in whichever prefix; `linkEpisode_from` gives the episode from every resume point. `C10_episode` is the property
    for the episode from the start; `C10_of_inv` states it together with resumption at any item and termination. -/
namespace Traph
open State Pag

/-- how `paginate_webentity_pagelinks` reads an item: every page records the resume point; a page with at
    least one link passing the switches is counted and contributes these links -/
def linkCls (s : State) (weid : Nat) (incInt incOut : Bool) : Cls GX PageLink where
  idx x := x.1
  path x := x.2.2.2
  mark x := (s.cell x.2.1).flags.page
  bear x := (s.cell x.2.1).flags.page && !(s.outLinksOfPage weid x.2.1 x.2.2.1 incInt incOut).isEmpty
  out x := s.outLinksOfPage weid x.2.1 x.2.2.1 incInt incOut

def State.PlAcc.toG (a : PlAcc) : GAcc PageLink :=
  { n := a.n, out := a.links, lastI := a.lastI, lastPath := a.lastPath }

/-- the answer built from the result of `Pag.gRun`: `true` (stopped at the limit) gives a chunk that is not done and
    carries the token of the last page read, `false` (the walk is exhausted) the last chunk, without token -/
def mkLink : Bool × GAcc PageLink → Except Err LinkChunk
  | (true, a) =>
    (match tokenOf a.lastI a.lastPath with
     | .error e => .error e
     | .ok t => .ok { done := false, sourcePages := a.n, links := a.out, token := some t })
  | (false, a) => .ok { done := true, sourcePages := a.n, links := a.out, token := none }

theorem switches_on {incInt incOut : Bool} (h : (incInt || incOut) = true) : (!incInt && !incOut) = false := by
  revert h; cases incInt <;> cases incOut <;> decide

theorem linksItems_bridge (s : State) (weid : Nat) (incInt incOut : Bool) (k i : Nat) (items : List Item)
    (acc : PlAcc) (rest : List GX) (K : PlAcc → Except Err LinkChunk)
    (hK : ∀ a, K a = mkLink (gRun (linkCls s weid incInt incOut) k rest a.toG)) :
    Sum.elim id K (s.paginateLinksItems weid incInt incOut (some k) i items acc)
      = mkLink (gRun (linkCls s weid incInt incOut) k (items.map (fun it => (i, it)) ++ rest) acc.toG) := by
  induction items generalizing acc with
  | nil => simp [paginateLinksItems, hK]
  | cons it items ih =>
    obtain ⟨b, lru, path⟩ := it
    rw [List.map_cons, List.cons_append]
    by_cases hp : (s.cell b).flags.page = true
    · by_cases ho : (s.cell b).out = 0
      · -- a page without any out-link: only the resume point moves
        have hnl : s.outLinksOfPage weid b lru incInt incOut = [] := by simp [outLinksOfPage, ho]
        have hb : (linkCls s weid incInt incOut).bear (i, b, lru, path) = false := by simp [linkCls, hnl]
        have hm : (linkCls s weid incInt incOut).mark (i, b, lru, path) = true := by simp [linkCls, hp]
        have := ih { acc with lastPath := some path, lastI := some i }
        rw [gRun_cons_go _ _ _ _ _ (Or.inl hb), gStep_mark _ _ _ hb hm]
        simp only [paginateLinksItems, hp, ho, Bool.not_true, Bool.false_eq_true, if_false, if_true]
        exact this
      · by_cases hnl : (s.outLinksOfPage weid b lru incInt incOut).isEmpty = true
        · -- a page none of whose links passes the switches: only the resume point moves
          have hb : (linkCls s weid incInt incOut).bear (i, b, lru, path) = false := by simp [linkCls, hnl]
          have hm : (linkCls s weid incInt incOut).mark (i, b, lru, path) = true := by simp [linkCls, hp]
          have := ih { acc with lastPath := some path, lastI := some i }
          rw [gRun_cons_go _ _ _ _ _ (Or.inl hb), gStep_mark _ _ _ hb hm]
          simp only [paginateLinksItems, hp, ho, hnl, Bool.not_true, Bool.false_eq_true, if_false]
          exact this
        · -- a link-bearing page
          have hnl' : (s.outLinksOfPage weid b lru incInt incOut).isEmpty = false := by
            simpa using hnl
          have hb : (linkCls s weid incInt incOut).bear (i, b, lru, path) = true := by
            simp [linkCls, hp, hnl']
          by_cases hstop : acc.n + 1 > k
          · have hd : decide (acc.n + 1 > k) = true := by simpa using hstop
            rw [gRun_cons_stop _ _ _ _ _ hb (show acc.toG.n + 1 > k from hstop)]
            simp only [paginateLinksItems, hp, ho, hnl', Bool.not_true, Bool.not_false, Bool.false_eq_true,
              if_false, if_true, hd, Nat.add_sub_cancel, Sum.elim_inl, id]
            rfl
          · have hd : decide (acc.n + 1 > k) = false := by simpa using hstop
            have := ih
              { n := acc.n + 1, links := acc.links ++ s.outLinksOfPage weid b lru incInt incOut,
                lastPath := some path, lastI := some i }
            rw [gRun_cons_go _ _ _ _ _ (Or.inr (show ¬ acc.toG.n + 1 > k from hstop)), gStep_bear _ _ _ hb]
            simp only [paginateLinksItems, hp, ho, hnl', Bool.not_true, Bool.not_false, Bool.false_eq_true,
              if_false, if_true, hd]
            exact this
    · -- not a page
      have hp' : (s.cell b).flags.page = false := by simpa using hp
      have hb : (linkCls s weid incInt incOut).bear (i, b, lru, path) = false := by simp [linkCls, hp']
      have hm : (linkCls s weid incInt incOut).mark (i, b, lru, path) = false := by simp [linkCls, hp']
      have := ih acc
      rw [gRun_cons_go _ _ _ _ _ (Or.inl hb), gStep_skip _ _ _ hb hm]
      simp only [paginateLinksItems, hp', Bool.not_false, if_true]
      exact this

theorem linksLoop (s : State) (weid : Nat) (incInt incOut : Bool) (k : Nat) :
    PfxLoop s (linkCls s weid incInt incOut) mkLink State.PlAcc.toG (fun _ => True) k
      (s.paginateLinksItems weid incInt incOut (some k)) (s.paginateLinksPrefixes weid incInt incOut (some k)) where
  nil := fun _ _ _ => rfl
  cons := fun i p rest o acc n its hn hw => by
    simp only [paginateLinksPrefixes, hn, hw]
    cases s.paginateLinksItems weid incInt incOut (some k) i its acc <;> rfl
  inner := fun i its acc rest K _ hK =>
    linksItems_bridge s weid incInt incOut k i its acc rest K fun a => hK a trivial

theorem paginateLinks_none {s : State} {ps : List Bytes} (hok : AllOk s ps) (weid : Nat) (incInt incOut : Bool)
    (hsw : (incInt || incOut) = true) (k : Nat) :
    s.paginateLinks weid ps incInt incOut (some k) none
      = mkLink (gRun (linkCls s weid incInt incOut) k (gItems s (enumFrom 0 ps)) {}) := by
  simp only [paginateLinks, switches_on hsw, Bool.false_eq_true, if_false, List.drop_zero]
  exact (linksLoop s weid incInt incOut k).bridge _ {} trivial (pfxOk_of_allOk hok 0)

theorem paginateLinks_token {s : State} {ps : List Bytes} (hok : AllOk s ps) (weid : Nat) (incInt incOut : Bool)
    (hsw : (incInt || incOut) = true) (k : Nat) (pre : List GX) (x : GX) (post : List GX)
    (hG : gItems s (enumFrom 0 ps) = pre ++ x :: post) :
    s.paginateLinks weid ps incInt incOut (some k) (some (buildToken x.1 x.2.2.2))
      = mkLink (gRun (linkCls s weid incInt incOut) k post {}) := by
  simp only [paginateLinks, switches_on hsw, Bool.false_eq_true, if_false, buildToken_ne_nil,
    parseToken_buildToken, Option.map]
  exact (linksLoop s weid incInt incOut k).token hok {} trivial pre x post hG

/-- `LinkEpisode s weid ps incInt incOut count tok chunks`: calling `paginate_webentity_pagelinks` with
    `tok` and then with the token of every answer in turn never fails and yields `chunks`; the last answer,
    and only it, says done -/
def LinkEpisode (s : State) (weid : Nat) (ps : List Bytes) (incInt incOut : Bool) (count : Nat) :
    Option Bytes → List LinkChunk → Prop :=
  Episode (fun tok => s.paginateLinks weid ps incInt incOut (some count) tok) (·.done) (·.token)

/-- the episode as a computation: at most `fuel` calls of `paginate_webentity_pagelinks`, each with the token of the
    answer before; `none` = a call failed or `fuel` did not suffice (`C10_terminates` gives a `fuel` that does) -/
def episodeLinks (s : State) (weid : Nat) (ps : List Bytes) (incInt incOut : Bool) (count fuel : Nat)
    (tok : Option Bytes) : Option (List LinkChunk) :=
  runEpisode (fun tok => s.paginateLinks weid ps incInt incOut (some count) tok) (·.done) (·.token) fuel tok

theorem mkLink_ok : MkOk mkLink (fun ch : LinkChunk => ch.done) (·.token) where
  stop := by
    intro acc i p h1 h2
    exact ⟨{ done := false, sourcePages := acc.n, links := acc.out, token := some (buildToken i p) },
      by simp [mkLink, h1, h2, tokenOf], rfl, rfl⟩
  fin := by
    intro acc
    exact ⟨{ done := true, sourcePages := acc.n, links := acc.out, token := none }, by simp [mkLink], rfl, rfl⟩
  tok := by
    intro st acc ch t h ht
    cases st with
    | false => simp only [mkLink, Except.ok.injEq] at h; subst h; cases ht
    | true =>
      cases hi : acc.lastI <;> cases hp : acc.lastPath <;> simp only [mkLink, tokenOf, hi, hp] at h <;> cases h
      exact ⟨_, _, rfl, rfl, (Option.some.inj ht).symm⟩

theorem mkLink_fields {st : Bool} {acc : GAcc PageLink} {ch : LinkChunk} (h : mkLink (st, acc) = .ok ch) :
    ch.links = acc.out ∧ ch.sourcePages = acc.n := by
  cases st with
  | false => simp only [mkLink, Except.ok.injEq] at h; subst h; exact ⟨rfl, rfl⟩
  | true =>
    simp only [mkLink] at h
    split at h
    · cases h
    · cases h; exact ⟨rfl, rfl⟩

/-- `ch` is the answer for the segment `seg`: assembled from the un-limited loop over `seg` -/
def LinkAnswer (s : State) (weid : Nat) (incInt incOut : Bool) (ch : LinkChunk) (seg : List GX) : Prop :=
  ∃ st, mkLink (st, gFold (linkCls s weid incInt incOut) seg {}) = .ok ch

theorem LinkAnswer.fields {s : State} {weid : Nat} {incInt incOut : Bool} {ch : LinkChunk} {seg : List GX}
    (h : LinkAnswer s weid incInt incOut ch seg) :
    ch.links = (linkCls s weid incInt incOut).outs seg ∧
    ch.sourcePages = (linkCls s weid incInt incOut).cnt seg := by
  obtain ⟨st, hmk⟩ := h
  obtain ⟨h1, h2⟩ := mkLink_fields hmk
  rw [h1, h2, gFold_out, gFold_n]
  simp

/-- EPISODE over a tail `xs` of the walk (the whole walk for no token, the items behind `x` for the token of `x`):
    `Pag.episode_summary` for `paginate_webentity_pagelinks` -/
theorem linkEpisode_from {s : State} {ps : List Bytes} (hok : AllOk s ps) (weid : Nat) (incInt incOut : Bool)
    (hsw : (incInt || incOut) = true) (count : Nat) (hc : 1 ≤ count) (tok : Option Bytes) (xs : List GX)
    (hcall : s.paginateLinks weid ps incInt incOut (some count) tok
      = mkLink (gRun (linkCls s weid incInt incOut) count xs {}))
    (hpre : ∃ pre, gItems s (enumFrom 0 ps) = pre ++ xs) :
    ∃ chunks segs, LinkEpisode s weid ps incInt incOut count tok chunks ∧
      Segs (linkCls s weid incInt incOut) count xs segs ∧
      Forall2 (LinkAnswer s weid incInt incOut) chunks segs ∧
      chunks.flatMap (·.links) = (linkCls s weid incInt incOut).outs xs ∧
      (∀ ch ∈ chunks.dropLast, ch.done = false ∧ ch.sourcePages = count ∧ ch.token.isSome = true) ∧
      (∃ l, chunks.getLast? = some l ∧ l.done = true ∧ l.token = none ∧ l.sourcePages ≤ count) ∧
      chunks.length ≤ (linkCls s weid incInt incOut).cnt xs / count + 1 :=
  episode_summary (linkCls s weid incInt incOut) mkLink_ok (·.links) (·.sourcePages)
    (fun _ _ ha => LinkAnswer.fields ha) _ count hc
    (paginateLinks_token hok weid incInt incOut hsw count) tok xs hcall hpre

/-- the links contributed by the node `(block, lru)`: those of `get_webentity_pagelinks_iter` if it is a page -/
def srcLinks (s : State) (weid : Nat) (incInt incOut : Bool) (bl : Nat × Bytes) : List PageLink :=
  if (s.cell bl.1).flags.page then s.outLinksOfPage weid bl.1 bl.2 incInt incOut else []

theorem linkCls_outs_eq (s : State) (weid : Nat) (incInt incOut : Bool) (xs : List GX) :
    (linkCls s weid incInt incOut).outs xs = xs.flatMap (fun x => srcLinks s weid incInt incOut (x.2.1, x.2.2.1)) := by
  refine Cls.outs_eq_flatMap _ _ (fun x => ?_) xs
  simp only [linkCls, srcLinks]
  by_cases hp : (s.cell x.2.1).flags.page = true
  · by_cases he : (s.outLinksOfPage weid x.2.1 x.2.2.1 incInt incOut).isEmpty = true
    · simp [hp, List.isEmpty_iff.mp he]
    · simp [hp, he]
  · simp [hp]

theorem pagelinks_answered {s : State} {t : T} (h : Shape s t) (hi : Inv s t) {weid : Nat} {ps : List Bytes}
    {incInt incOut : Bool} {all : List PageLink}
    (hall : s.webentityPagelinks weid ps false incInt incOut = .ok all) : (incInt || incOut) = true ∧ AllOk s ps := by
  unfold webentityPagelinks at hall
  split at hall
  · cases hall
  · exact ⟨by revert ‹¬ _›; cases incInt <;> cases incOut <;> decide, allOk_of_answered h hi hall⟩

theorem walk_links_perm {s : State} {ps : List Bytes} (hok : AllOk s ps) {weid : Nat} {incInt incOut : Bool}
    {all : List PageLink} (hall : s.webentityPagelinks weid ps false incInt incOut = .ok all) :
    ((linkCls s weid incInt incOut).outs (gItems s (enumFrom 0 ps))).Perm all := by
  rw [linkCls_outs_eq, gItems_flatMap s (fun it => srcLinks s weid incInt incOut (it.1, it.2.1)) ps 0, wl_pagelinks_eq hall]
  refine List.Perm.trans (List.Perm.of_eq ?_) (walk_perm_visits hok _)
  refine congrArg (ps.flatMap ·) (funext fun p => congrArg ((walkOf s p).flatMap ·) (funext fun it => ?_))
  simp only [srcLinks, inLinksOfPage, Bool.and_false, Bool.false_eq_true, if_false, List.append_nil]

/-- the link-bearing source pages of webentity `weid` for the given switches, in the order of the
    paginated request: tagged items `(prefix index, block, lru, path)` -/
def linkSources (s : State) (weid : Nat) (ps : List Bytes) (incInt incOut : Bool) : List GX :=
  (gItems s (enumFrom 0 ps)).filter (linkCls s weid incInt incOut).bear

/-- C10. In every state with the invariants, for every prefix list and every switch setting the
    un-paginated request answers, and every source-page count ≥ 1: paging from the start, feeding every
    token back, never fails; the answers `chunks` correspond one by one to consecutive groups of
    link-bearing source pages; every answer returns exactly the links of its group and reports the size of
    the group; every group but the last has exactly `count` pages, and its answer says not done and carries
    a token; the last answer says done; all links together are a rearrangement of the un-paginated
    answer; the number of calls is bounded. -/
theorem C10_episode {s : State} {t : T} (h : Shape s t) (hi : Inv s t) {weid : Nat} {ps : List Bytes}
    {incInt incOut : Bool} {all : List PageLink}
    (hall : s.webentityPagelinks weid ps false incInt incOut = .ok all) (count : Nat) (hc : 1 ≤ count) :
    ∃ (chunks : List LinkChunk) (groups : List (List GX)),
      LinkEpisode s weid ps incInt incOut count none chunks ∧
      (chunks.flatMap (·.links)).Perm all ∧
      groups.flatten = linkSources s weid ps incInt incOut ∧
      Forall2 (fun (ch : LinkChunk) grp =>
          ch.links = grp.flatMap (fun x => s.outLinksOfPage weid x.2.1 x.2.2.1 incInt incOut) ∧
          ch.sourcePages = grp.length) chunks groups ∧
      (∀ grp ∈ groups.dropLast, grp.length = count) ∧
      (∀ ch ∈ chunks.dropLast, ch.done = false ∧ ch.sourcePages = count ∧ ch.token.isSome = true) ∧
      (∃ l, chunks.getLast? = some l ∧ l.done = true ∧ l.token = none ∧ l.sourcePages ≤ count) ∧
      chunks.length ≤ (linkSources s weid ps incInt incOut).length / count + 1 := by
  obtain ⟨hsw, hok⟩ := pagelinks_answered h hi hall
  obtain ⟨chunks, segs, hep, hsegs, hf, a1, a2, a3, a4⟩ := linkEpisode_from hok weid incInt incOut hsw count hc
    none _ (paginateLinks_none hok weid incInt incOut hsw count) ⟨[], rfl⟩
  refine ⟨chunks, segs.map (fun seg => seg.filter (linkCls s weid incInt incOut).bear), hep, ?_, ?_, ?_, ?_,
    a2, a3, a4⟩
  · rw [a1]; exact walk_links_perm hok hall
  · rw [← List.filter_flatten, hsegs.flatten]; rfl
  · exact Forall2.map_right _ (hf.imp fun _ _ ha => LinkAnswer.fields ha)
  · intro grp hgrp
    rw [← List.map_dropLast] at hgrp
    obtain ⟨seg, hseg, rfl⟩ := List.mem_map.mp hgrp
    exact hsegs.counts.1 seg hseg

/-- C10, termination: iterating the calls with fuel `(number of link-bearing source pages) / count + 1`
    completes the episode -/
theorem C10_terminates {s : State} {t : T} (h : Shape s t) (hi : Inv s t) {weid : Nat} {ps : List Bytes}
    {incInt incOut : Bool} {all : List PageLink}
    (hall : s.webentityPagelinks weid ps false incInt incOut = .ok all) (count : Nat) (hc : 1 ≤ count) :
    ∃ chunks, episodeLinks s weid ps incInt incOut count
        ((linkSources s weid ps incInt incOut).length / count + 1) none = some chunks ∧
      LinkEpisode s weid ps incInt incOut count none chunks := by
  obtain ⟨chunks, _, hep, _, _, _, _, _, _, hlen⟩ := C10_episode h hi hall count hc
  exact ⟨chunks, hep.run _ hlen, hep⟩

/-- C10, every resume point: for every item `x` of the walk — link-bearing page, page without links, plain
    node, in whichever prefix, whatever lies between it and the next link-bearing page — and every count
    ≥ 1, the episode started with the token of `x` exists and returns exactly the links of the
    link-bearing pages behind `x`, in order -/
theorem C10_resume_anywhere {s : State} {t : T} (h : Shape s t) (hi : Inv s t) {weid : Nat} {ps : List Bytes}
    {incInt incOut : Bool} {all : List PageLink}
    (hall : s.webentityPagelinks weid ps false incInt incOut = .ok all) (count : Nat) (hc : 1 ≤ count)
    (pre : List GX) (x : GX) (post : List GX) (hG : gItems s (enumFrom 0 ps) = pre ++ x :: post) :
    ∃ chunks, LinkEpisode s weid ps incInt incOut count (some (buildToken x.1 x.2.2.2)) chunks ∧
      chunks.flatMap (·.links) = post.flatMap (fun y => srcLinks s weid incInt incOut (y.2.1, y.2.2.1)) ∧
      (∀ ch ∈ chunks.dropLast, ch.sourcePages = count) := by
  obtain ⟨hsw, hok⟩ := pagelinks_answered h hi hall
  obtain ⟨chunks, _, hep, _, _, a1, a2, _⟩ := linkEpisode_from hok weid incInt incOut hsw count hc _ post
    (paginateLinks_token hok weid incInt incOut hsw count pre x post hG) ⟨pre ++ [x], by rw [hG]; simp⟩
  exact ⟨chunks, hep, by rw [a1, linkCls_outs_eq], fun ch hch => (a2 ch hch).2.1⟩

/-- C10, issued tokens: every token an episode started without a token issues is the token of a page of the walk; hence
    (`C10_resume_anywhere`) it can be resumed, with any count -/
theorem C10_issued_tokens {s : State} {t : T} (h : Shape s t) (hi : Inv s t) {weid : Nat} {ps : List Bytes}
    {incInt incOut : Bool} {all : List PageLink}
    (hall : s.webentityPagelinks weid ps false incInt incOut = .ok all) (count : Nat) (hc : 1 ≤ count)
    {chunks : List LinkChunk} (hep : LinkEpisode s weid ps incInt incOut count none chunks)
    {ch : LinkChunk} (hch : ch ∈ chunks) {tk : Bytes} (htk : ch.token = some tk) :
    ∃ pre x post, gItems s (enumFrom 0 ps) = pre ++ x :: post ∧ (s.cell x.2.1).flags.page = true ∧
      tk = buildToken x.1 x.2.2.2 := by
  obtain ⟨hsw, hok⟩ := pagelinks_answered h hi hall
  obtain ⟨chunks', segs, hep', hsegs, hf, _⟩ := linkEpisode_from hok weid incInt incOut hsw count hc
    none _ (paginateLinks_none hok weid incInt incOut hsw count) ⟨[], rfl⟩
  cases Episode.det hep hep'
  obtain ⟨pre, x, post, e2, hpg, e⟩ := issued_token (linkCls s weid incInt incOut) mkLink_ok hsegs hf hch htk
  refine ⟨pre, x, post, e2, hpg.elim id fun hb => ?_, e⟩
  have : ((s.cell x.2.1).flags.page && !(s.outLinksOfPage weid x.2.1 x.2.2.1 incInt incOut).isEmpty) = true := hb
  exact (Bool.and_eq_true _ _ ▸ this).1

/-- C10 in one statement, for an index state with its invariants: for every webentity id, every prefix
    list (one or several prefixes, any order) and every switch setting for which the un-paginated request
    answers, and every source-page count ≥ 1, the conclusions of `C10_episode` hold, every item of the walk
    is a resume point (`C10_resume_anywhere`) and the iteration terminates within the stated number of calls -/
theorem C10_of_inv {s : State} {t : T} (h : Shape s t) (hi : Inv s t) {weid : Nat} {ps : List Bytes}
    {incInt incOut : Bool} {all : List PageLink}
    (hall : s.webentityPagelinks weid ps false incInt incOut = .ok all) (count : Nat) (hc : 1 ≤ count) :
    (∃ (chunks : List LinkChunk) (groups : List (List GX)),
      LinkEpisode s weid ps incInt incOut count none chunks ∧
      episodeLinks s weid ps incInt incOut count
        ((linkSources s weid ps incInt incOut).length / count + 1) none = some chunks ∧
      (chunks.flatMap (·.links)).Perm all ∧
      groups.flatten = linkSources s weid ps incInt incOut ∧
      Forall2 (fun (ch : LinkChunk) grp =>
          ch.links = grp.flatMap (fun x => s.outLinksOfPage weid x.2.1 x.2.2.1 incInt incOut) ∧
          ch.sourcePages = grp.length) chunks groups ∧
      (∀ grp ∈ groups.dropLast, grp.length = count) ∧
      (∀ ch ∈ chunks.dropLast, ch.done = false ∧ ch.sourcePages = count ∧ ch.token.isSome = true) ∧
      (∃ l, chunks.getLast? = some l ∧ l.done = true ∧ l.token = none ∧ l.sourcePages ≤ count)) ∧
    (∀ pre x post, gItems s (enumFrom 0 ps) = pre ++ x :: post → ∀ count', 1 ≤ count' →
      ∃ chunks, LinkEpisode s weid ps incInt incOut count' (some (buildToken x.1 x.2.2.2)) chunks ∧
        chunks.flatMap (·.links) = post.flatMap (fun y => srcLinks s weid incInt incOut (y.2.1, y.2.2.1))) := by
  obtain ⟨chunks, groups, h1, h2, h3, h4, h5, h6, h7, h8⟩ := C10_episode h hi hall count hc
  refine ⟨⟨chunks, groups, h1, h1.run _ h8, h2, h3, h4, h5, h6, h7⟩, fun pre x post hG count' hc' => ?_⟩
  obtain ⟨chunks', g1, g2, _⟩ := C10_resume_anywhere h hi hall count' hc' pre x post hG
  exact ⟨chunks', g1, g2⟩

/-! The model on the witness of the repaired defect D3: webentity 1 with prefixes `x|` and `y|`; links
    `x|1| → x|2|`, `y|m| → y|mm|`, page `y|n|`, link `y|z| → y|zz|`. `y|mm|` sorts before `y|m|`: with one source
    page per call the first token points into the second prefix, at a page without links. -/
section Examples

private def exX : Bytes := [120, 124]
private def exY : Bytes := [121, 124]
private def exPg (p : Bytes) (l : List Nat) : Bytes := p ++ l ++ [124]
private def exS : State :=
  (State.fresh {} .never [] []).1.run
    [.create [exX, exY], .addLinks [(exPg exX [49], exPg exX [50]), (exPg exY [109], exPg exY [109, 109])],
     .addPage (exPg exY [110]) false, .addLinks [(exPg exY [122], exPg exY [122, 122])]]

/-- the model run once; the examples below read the answers off -/
private theorem exS_eval :
    (exS.webentityPagelinks 1 [exX, exY] false true true).toOption
      = some [(exPg exX [49], exPg exX [50], 1), (exPg exY [109], exPg exY [109, 109], 1),
              (exPg exY [122], exPg exY [122, 122], 1)] ∧
    episodeLinks exS 1 [exX, exY] true true 1 4 none
      = some [{ done := false, sourcePages := 1, links := [(exPg exX [49], exPg exX [50], 1)],
                token := some [49, 35, 57] },
              { done := false, sourcePages := 1, links := [(exPg exY [109], exPg exY [109, 109], 1)],
                token := some [49, 35, 50, 90] },
              { done := true, sourcePages := 1, links := [(exPg exY [122], exPg exY [122, 122], 1)],
                token := none }] ∧
    (episodeLinks exS 1 [exX, exY] true true 2 4 none).map
        (fun cs => cs.map (fun c => (c.done, c.sourcePages, c.links.length)))
      = some [(false, 2, 2), (true, 1, 1)] ∧
    (episodeLinks exS 1 [exX, exY] true true 3 4 none).map
        (fun cs => cs.map (fun c => (c.done, c.sourcePages, c.links.length)))
      = some [(true, 3, 3)] := by decide +kernel

example : (exS.webentityPagelinks 1 [exX, exY] false true true).toOption
    = some [(exPg exX [49], exPg exX [50], 1), (exPg exY [109], exPg exY [109, 109], 1),
            (exPg exY [122], exPg exY [122, 122], 1)] := exS_eval.1
example : episodeLinks exS 1 [exX, exY] true true 1 4 none
    = some [{ done := false, sourcePages := 1, links := [(exPg exX [49], exPg exX [50], 1)],
              token := some [49, 35, 57] },
            { done := false, sourcePages := 1, links := [(exPg exY [109], exPg exY [109, 109], 1)],
              token := some [49, 35, 50, 90] },
            { done := true, sourcePages := 1, links := [(exPg exY [122], exPg exY [122, 122], 1)],
              token := none }] := exS_eval.2.1
example : (episodeLinks exS 1 [exX, exY] true true 2 4 none).map
      (fun cs => cs.map (fun c => (c.done, c.sourcePages, c.links.length)))
    = some [(false, 2, 2), (true, 1, 1)] := exS_eval.2.2.1
example : (episodeLinks exS 1 [exX, exY] true true 3 4 none).map
      (fun cs => cs.map (fun c => (c.done, c.sourcePages, c.links.length)))
    = some [(true, 3, 3)] := exS_eval.2.2.2

end Examples

end Traph

section
open Traph
#print axioms linkEpisode_from
#print axioms C10_episode
#print axioms C10_terminates
#print axioms C10_resume_anywhere
#print axioms C10_issued_tokens
#print axioms C10_of_inv
end
