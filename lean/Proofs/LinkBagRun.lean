import Proofs.LinkBagWrites
import Proofs.PageSet
/-! C03 over whole histories. `Graph s t L`: the bags of the state are, block by block and on both
    sides, exactly the pairs of `L` (the links submitted so far, in submission order), every submitted
    end is a page, the stub array holds two stubs per submitted pair. Every well-formed write request but `clear`
    that does not answer `KeyError` keeps it with
    `L` extended by the pairs the request submits (`step_graph`, `run_graph`). -/
namespace Traph
open State

def Op.links : Op → List (Bytes × Bytes)
  | .addLinks links => links
  | .batch data => batchLinks data
  | _ => []

theorem Op.links_eq_nil {op : Op} (h1 : ∀ links, op ≠ .addLinks links) (h2 : ∀ data, op ≠ .batch data) :
    op.links = [] := by
  cases op with
  | addLinks links => exact absurd rfl (h1 links)
  | batch data => exact absurd rfl (h2 data)
  | _ => rfl

/-- `nsub` read in blocks: how many pairs of `L` have source at block `a` and target at block `b` by `s`'s `lru_node` -/
def ncount (s : State) (L : List (Bytes × Bytes)) (a b : Nat) : Nat :=
  (L.filter (fun st => decide (s.lruNode (lruIter st.1) = some a ∧ s.lruNode (lruIter st.2) = some b))).length

/-- how many times the link `p → q` was submitted -/
def nsub (L : List (Bytes × Bytes)) (p q : LRU) : Nat :=
  (L.filter (fun st => decide (lruIter st.1 = p ∧ lruIter st.2 = q))).length

structure Graph (s : State) (t : T) (L : List (Bytes × Bytes)) : Prop where
  ok    : LinksOk s
  pages : ∀ st ∈ L, IsPage s t (lruIter st.1) ∧ IsPage s t (lruIter st.2)
  out   : ∀ a b, count b (s.bag true a) = ncount s L a b
  inn   : ∀ a b, count a (s.bag false b) = ncount s L a b
  size  : s.links.size = 1 + 2 * L.length

theorem Graph.symm {s : State} {t : T} {L : List (Bytes × Bytes)} (g : Graph s t L) (a b : Nat) :
    count b (s.outBag a) = count a (s.inBag b) := (g.out a b).trans (g.inn a b).symm

theorem isPage_node {s : State} {t : T} (h : Shape s t) {p : LRU} (hp : IsPage s t p) :
    p ≠ [] ∧ ∃ b, s.lruNode p = some b ∧ (p, b) ∈ t.entries s [] ∧ (s.cell b).flags.page = true := by
  obtain ⟨b, hm, hf⟩ := hp
  have hne : p ≠ [] := entry_ne_nil hm
  exact ⟨hne, b, (lruNode_iff_entries h p hne b).mpr hm, hm, hf⟩

theorem ncount_append (s : State) (L₁ L₂ : List (Bytes × Bytes)) (a b : Nat) :
    ncount s (L₁ ++ L₂) a b = ncount s L₁ a b + ncount s L₂ a b := by
  unfold ncount; rw [List.filter_append, List.length_append]

theorem ncount_ext {s s' : State} {t t' : T} (h : Shape s t) (x : Ext s t s' t') {L : List (Bytes × Bytes)}
    (hp : ∀ st ∈ L, IsPage s t (lruIter st.1) ∧ IsPage s t (lruIter st.2)) (a b : Nat) :
    ncount s' L a b = ncount s L a b := by
  unfold ncount
  congr 1
  apply List.filter_congr
  intro st hst
  obtain ⟨p1, p2⟩ := hp st hst
  obtain ⟨ne1, n1, e1, _⟩ := isPage_node h p1
  obtain ⟨ne2, n2, e2, _⟩ := isPage_node h p2
  rw [e1, e2, lruNode_ext h x ne1 e1, lruNode_ext h x ne2 e2]

theorem ncount_new {s : State} {blk : Bytes → Nat} {new : List (Bytes × Bytes)}
    (hn : ∀ st ∈ new, s.lruNode (lruIter st.1) = some (blk st.1) ∧ s.lruNode (lruIter st.2) = some (blk st.2))
    (a b : Nat) : ncount s new a b = pcount blk new a b := by
  unfold ncount pcount
  congr 1
  apply List.filter_congr
  intro st hst
  obtain ⟨e1, e2⟩ := hn st hst
  rw [e1, e2]
  simp only [Option.some.injEq]

theorem Graph.extend {s s' : State} {t t' : T} {L : List (Bytes × Bytes)} (g : Graph s t L) (h : Shape s t)
    (x : Ext s t s' t') (mono : ∀ p, IsPage s t p → IsPage s' t' p)
    {blk : Bytes → Nat} {new : List (Bytes × Bytes)} (ls : LinkStep s s' blk new)
    (hnew : ∀ st ∈ new, IsPage s' t' (lruIter st.1) ∧ IsPage s' t' (lruIter st.2)) :
    Graph s' t' (L ++ new) where
  ok := ls.ok
  pages := fun st hst => by
    rcases List.mem_append.mp hst with hst | hst
    · exact ⟨mono _ (g.pages st hst).1, mono _ (g.pages st hst).2⟩
    · exact hnew st hst
  out := fun a b => by
    rw [ls.out, g.out, ncount_append, ncount_ext h x g.pages, ncount_new ls.node]
  inn := fun a b => by
    rw [ls.inn, g.inn, ncount_append, ncount_ext h x g.pages, ncount_new ls.node]
  size := by rw [ls.size, g.size, List.length_append]; omega

theorem LinkStep.of_ptrEq {s s' : State} (p : PtrEq s s') (hl : LinksOk s) : LinkStep s s' (fun _ => 0) [] where
  ok := p.linksOk hl
  out := fun a b => by rw [p.bag]; simp
  inn := fun a b => by rw [p.bag]; simp
  size := by rw [p.size]; simp
  node := fun st hst => by simp at hst

theorem Graph.frame {s s' : State} {t t' : T} {L : List (Bytes × Bytes)} (g : Graph s t L) (h : Shape s t)
    (x : Ext s t s' t') (mono : ∀ p, IsPage s t p → IsPage s' t' p) (p : PtrEq s s') : Graph s' t' L := by
  have := g.extend h x mono (LinkStep.of_ptrEq p g.ok) (fun st hst => by simp at hst)
  rwa [List.append_nil] at this

theorem mem_linkPages {links : List (Bytes × Bytes)} {st : Bytes × Bytes} (h : st ∈ links) :
    (∃ x ∈ linkPages links, x.1 = lruIter st.1) ∧ (∃ x ∈ linkPages links, x.1 = lruIter st.2) := by
  unfold linkPages
  exact ⟨⟨(lruIter st.1, false, false), List.mem_flatMap.mpr ⟨st, h, by simp⟩, rfl⟩,
    ⟨(lruIter st.2, false, false), List.mem_flatMap.mpr ⟨st, h, by simp⟩, rfl⟩⟩

theorem mem_batchPages {data : List (Bytes × List Bytes)} {st : Bytes × Bytes} (h : st ∈ batchLinks data) :
    (∃ x ∈ batchPages data, x.1 = lruIter st.1) ∧ (∃ x ∈ batchPages data, x.1 = lruIter st.2) := by
  unfold batchLinks at h
  obtain ⟨d, hd, hst⟩ := List.mem_flatMap.mp h
  obtain ⟨y, hy, rfl⟩ := List.mem_map.mp hst
  unfold batchPages
  refine ⟨⟨(lruIter d.1, true, true), List.mem_flatMap.mpr ⟨d, hd, by simp⟩, rfl⟩,
    ⟨(lruIter y, false, false), List.mem_flatMap.mpr ⟨d, hd, ?_⟩, rfl⟩⟩
  exact List.mem_cons_of_mem _ (List.mem_map.mpr ⟨y, hy, rfl⟩)

theorem step_graph {s : State} {t : T} {L : List (Bytes × Bytes)} (h : Shape s t) (hi : Inv s t)
    (g : Graph s t L) (op : Op) (hop : ∀ d rs, op ≠ .clear d rs) (hwf : OpWf op)
    (hok : (s.step op).2 ≠ .err (.other "KeyError")) :
    ∃ t', Ext s t (s.step op).1 t' ∧ Adds s t (s.step op).1 t' op.pages ∧
      Graph (s.step op).1 t' (L ++ op.links) := by
  obtain ⟨t', x, f⟩ := step_spec h op hop
  have a : Adds s t (s.step op).1 t' op.pages := (f hwf hi).1 hok
  have mono : ∀ p, IsPage s t p → IsPage (s.step op).1 t' p := fun p hp => (a.page p).mpr (Or.inl hp)
  refine ⟨t', x, a, ?_⟩
  by_cases h1 : ∃ links, op = .addLinks links
  · obtain ⟨links, rfl⟩ := h1
    obtain ⟨r, hr⟩ := ofExcept_ok_of_noKeyErr (addLinks_err s links) hok
    obtain ⟨blk, ls⟩ := addLinks_link h g.ok links hwf r hr
    refine g.extend h x mono ls (fun st hst => ?_)
    exact ⟨(a.page _).mpr (Or.inr (mem_linkPages hst).1), (a.page _).mpr (Or.inr (mem_linkPages hst).2)⟩
  · by_cases h2 : ∃ data, op = .batch data
    · obtain ⟨data, rfl⟩ := h2
      obtain ⟨r, hr⟩ := ofExcept_ok_of_noKeyErr (batch_err s data) hok
      obtain ⟨blk, ls⟩ := batch_link h g.ok data hwf r hr
      refine g.extend h x mono ls (fun st hst => ?_)
      exact ⟨(a.page _).mpr (Or.inr (mem_batchPages hst).1), (a.page _).mpr (Or.inr (mem_batchPages hst).2)⟩
    · rw [Op.links_eq_nil (fun ls e => h1 ⟨ls, e⟩) (fun d e => h2 ⟨d, e⟩), List.append_nil]
      exact g.frame h x mono (step_ptrEq s op hop (fun ls e => h1 ⟨ls, e⟩) (fun d e => h2 ⟨d, e⟩))

theorem run_graph : ∀ (ops : List Op) (s : State) (t : T) (L : List (Bytes × Bytes)), Shape s t → Inv s t →
    Graph s t L → (∀ op ∈ ops, ∀ d rs, op ≠ .clear d rs) → (∀ op ∈ ops, OpWf op) → NoKeyErr s ops →
    ∃ t', Shape (s.run ops) t' ∧ Inv (s.run ops) t' ∧ Graph (s.run ops) t' (L ++ ops.flatMap Op.links) := by
  intro ops
  induction ops with
  | nil => exact fun s t L h hi g _ _ _ => ⟨t, h, hi, by rw [List.flatMap_nil, List.append_nil]; exact g⟩
  | cons op ops ih =>
    intro s t L h hi g hop hwf hok
    obtain ⟨t1, x1, a1, g1⟩ :=
      step_graph h hi g op (hop op List.mem_cons_self) (hwf op List.mem_cons_self) hok.1
    obtain ⟨t2, h2, i2, g2⟩ := ih (s.step op).1 t1 (L ++ op.links) x1.shape a1.inv g1
      (fun o ho => hop o (List.mem_cons_of_mem _ ho)) (fun o ho => hwf o (List.mem_cons_of_mem _ ho)) hok.2
    rw [run_cons, List.flatMap_cons, ← List.append_assoc]
    exact ⟨t2, h2, i2, g2⟩

#print axioms step_graph

end Traph
