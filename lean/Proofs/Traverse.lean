import Traph.Co
import Proofs.Tst
/-! The explicit-stack traversals of `Traph/Trie.lean` (`dfsGo`, `weDfsGo`, `dfsWeGo`) equal structural recursions
    over the ghost tree. The loops run on a stack of blocks; the proofs, on a stack of represented trees (each with its
    payload: LRU prefix, level, inherited webentity), by `StackRep.induction`; `stackOf` is the stack of blocks such a
    stack of trees stands for. An empty tree stands for a pointer that was 0 and was not pushed, and a push the code
    makes only under a condition is the push of the subtree or of the empty tree, so that every turn of a loop pushes
    "the three subtrees". -/
namespace Traph
open State

def StackRep {α : Type} (s : State) (ts : List (T × α)) : Prop := ∀ p ∈ ts, Rep s p.1

def stackOf {α : Type} : List (T × α) → List (Nat × α)
  | [] => []
  | (.nil, _) :: ts => stackOf ts
  | (.node a _ _ _, x) :: ts => (a, x) :: stackOf ts

def stackSize {α : Type} (ts : List (T × α)) : Nat := (ts.map (fun p => p.1.size)).sum

@[simp] theorem stackSize_nil {α : Type} : stackSize ([] : List (T × α)) = 0 := rfl
@[simp] theorem stackSize_cons {α : Type} (p : T × α) (ts : List (T × α)) :
    stackSize (p :: ts) = p.1.size + stackSize ts := by simp [stackSize]

theorem stackOf_cons {α : Type} {s : State} {t : T} (hr : Rep s t) (x : α) (ts : List (T × α)) :
    (if t.root ≠ 0 then (t.root, x) :: stackOf ts else stackOf ts) = stackOf ((t, x) :: ts) := by
  cases t with
  | nil => rfl
  | node a l c r => exact if_pos hr.1

theorem stackOf_when {α : Type} (b : Prop) [Decidable b] (t : T) (x : α) (ts : List (T × α)) :
    (if b then stackOf ((t, x) :: ts) else stackOf ts) = stackOf ((if b then t else .nil, x) :: ts) := by
  by_cases hb : b
  · rw [if_pos hb, if_pos hb]
  · rw [if_neg hb, if_neg hb]; rfl

theorem stackOf_sibs {α : Type} {s : State} {l r : T} (rl : Rep s l) (rr : Rep s r) (x : α) (ts : List (T × α)) :
    (have st := if r.root ≠ 0 then (r.root, x) :: stackOf ts else stackOf ts
     if l.root ≠ 0 then (l.root, x) :: st else st) = stackOf ((l, x) :: (r, x) :: ts) := by
  rw [stackOf_cons rr, stackOf_cons rl]

theorem stackOf_sibs_when {α : Type} {s : State} (b : Prop) [Decidable b] {l r : T} (rl : Rep s l) (rr : Rep s r)
    (x : α) (ts : List (T × α)) :
    (if b then
        (have st := if r.root ≠ 0 then (r.root, x) :: stackOf ts else stackOf ts
         if l.root ≠ 0 then (l.root, x) :: st else st)
      else stackOf ts) = stackOf ((if b then l else .nil, x) :: (if b then r else .nil, x) :: ts) := by
  by_cases hb : b
  · simp only [if_pos hb, stackOf_sibs rl rr]
  · simp only [if_neg hb]; rfl

theorem stackOf_eq_map {α : Type} (ts : List (T × α)) (h : ∀ p ∈ ts, p.1 ≠ .nil) :
    stackOf ts = ts.map (fun p => (p.1.root, p.2)) := by
  induction ts with
  | nil => rfl
  | cons p ts ih =>
    obtain ⟨t, x⟩ := p
    cases t with
    | nil => exact absurd rfl (h _ List.mem_cons_self)
    | node a l c r => exact congrArg ((a, x) :: ·) (ih fun p hp => h p (List.mem_cons_of_mem _ hp))

theorem StackRep.cons {α : Type} {s : State} {t : T} {ts : List (T × α)} (hs : StackRep s ts) (hr : Rep s t)
    (x : α) : StackRep s ((t, x) :: ts) := by
  intro p hp
  rcases List.mem_cons.mp hp with rfl | hp
  · exact hr
  · exact hs p hp

theorem StackRep.tail {α : Type} {s : State} {p : T × α} {ts : List (T × α)}
    (hs : StackRep s (p :: ts)) : StackRep s ts := fun q hq => hs q (by simp [hq])

theorem StackRep.single {α : Type} {s : State} {t : T} (hr : Rep s t) (x : α) : StackRep s [(t, x)] :=
  StackRep.cons (fun _ hp => absurd hp List.not_mem_nil) hr x

theorem stackSize_single {α : Type} (t : T) (x : α) : stackSize [(t, x)] = t.size := Nat.add_zero _

theorem Rep.cell_eq {s : State} {a : Nat} {l c r : T} (hr : Rep s (.node a l c r)) :
    (s.cell a).left = l.root ∧ (s.cell a).child = c.root ∧ (s.cell a).right = r.root := by
  obtain ⟨_, ⟨cell, hc, h1, h2, h3⟩, _⟩ := hr
  rw [cell_of_getElem? hc]; exact ⟨h1, h2, h3⟩

theorem Rep.when {s : State} {t : T} (h : Rep s t) (b : Prop) [Decidable b] : Rep s (if b then t else .nil) := by
  by_cases hb : b
  · rw [if_pos hb]; exact h
  · rw [if_neg hb]; trivial

theorem T.size_when_le (t : T) (b : Prop) [Decidable b] : (if b then t else T.nil).size ≤ t.size := by
  by_cases hb : b
  · rw [if_pos hb]; exact Nat.le_refl _
  · rw [if_neg hb]; exact Nat.zero_le _

/-- Induction for a loop that pops an explicit stack of blocks. At a node the claim is assumed of every stack no larger
    than the three subtrees and the rest, since the loops push some of them only under a condition. -/
theorem StackRep.induction {α : Type} {s : State} {P : Nat → List (T × α) → Prop}
    (hnil : ∀ f, P (f + 1) [])
    (hskip : ∀ f x ts, P f ts → P f ((.nil, x) :: ts))
    (hturn : ∀ f a l c r x ts, Rep s (.node a l c r) → StackRep s ts →
      (∀ ts', StackRep s ts' → stackSize ts' ≤ c.size + (l.size + (r.size + stackSize ts)) → P f ts') →
      P (f + 1) ((.node a l c r, x) :: ts)) :
    ∀ (fuel : Nat) (ts : List (T × α)), StackRep s ts → stackSize ts < fuel → P fuel ts := by
  intro fuel
  induction fuel with
  | zero => intro ts _ hf; exact absurd hf (Nat.not_lt_zero _)
  | succ f ih =>
    intro ts
    induction ts with
    | nil => intro _ _; exact hnil f
    | cons p ts iht =>
      intro hs hf
      match p, hs, hf with
      | (.nil, x), hs, hf => exact hskip _ x ts (iht hs.tail (by simpa [T.size] using hf))
      | (.node a l c r, x), hs, hf =>
        refine hturn f a l c r x ts (hs _ List.mem_cons_self) hs.tail (fun ts' hs' hsz => ih ts' hs' ?_)
        simp only [stackSize_cons, T.size] at hf
        omega

/-- order of `dfs_iter(skip_childless_paths=True)`: node, child subtree *unless the node is still marked as free
    of child webentities*, left subtree, right subtree -/
def T.prePruned (s : State) : T → Bytes → List (Nat × Bytes)
  | .nil, _ => []
  | .node a l c r, lru =>
    (a, lru ++ s.stemAt a) ::
      ((if (s.cell a).flags.noChild then [] else c.prePruned s (lru ++ s.stemAt a))
        ++ l.prePruned s lru ++ r.prePruned s lru)

@[simp] theorem T.prePruned_nil (s : State) (lru : Bytes) : T.nil.prePruned s lru = [] := rfl

def T.preSkip (s : State) (skip : Bool) (t : T) (lru : Bytes) : List (Nat × Bytes) :=
  bif skip then t.prePruned s lru else t.pre s lru

theorem T.preSkip_node (s : State) (skip : Bool) (a : Nat) (l c r : T) (lru : Bytes) :
    (T.node a l c r).preSkip s skip lru = (a, lru ++ s.stemAt a) ::
      ((if ¬ (skip && (s.cell a).flags.noChild) = true then c else T.nil).preSkip s skip (lru ++ s.stemAt a)
        ++ (l.preSkip s skip lru ++ r.preSkip s skip lru)) := by
  cases skip
  · simp [T.preSkip, T.pre]
  · by_cases hn : (s.cell a).flags.noChild = true <;> simp [T.preSkip, T.prePruned, hn]

theorem dfsGo_eq {s : State} (fr : Bool) (start : Nat) (skip : Bool) :
    ∀ (fuel : Nat) (ts : List (T × Bytes)), StackRep s ts → stackSize ts < fuel →
      (fr = true ∨ ∀ p ∈ ts, start ∉ p.1.addrs) →
      s.dfsGo fr start skip fuel (stackOf ts) = (ts.map (fun p => p.1.preSkip s skip p.2)).flatten := by
  refine StackRep.induction (fun _ _ => rfl)
    (fun _ _ _ h hst => (h (hst.imp id fun h p hp => h p (List.mem_cons_of_mem _ hp))).trans
      (by cases skip <;> rfl)) ?_
  intro f a l c r lru ts hr hts ih hst
  obtain ⟨h1, h2, h3⟩ := hr.cell_eq
  obtain ⟨_, _, rl, rc, rr⟩ := hr
  -- the start block is not met again: the siblings are pushed
  have hcond : (fr || decide (a ≠ start)) = true := by
    rcases hst with h | h
    · rw [h]; rfl
    · have hne : a ≠ start := fun e => h (T.node a l c r, lru) List.mem_cons_self (e ▸ List.mem_cons_self)
      simp [hne]
  have hst' : fr = true ∨ ∀ p ∈ (if ¬ (skip && (s.cell a).flags.noChild) = true then c else T.nil, lru ++ s.stemAt a)
      :: (l, lru) :: (r, lru) :: ts, start ∉ p.1.addrs := by
    refine hst.imp id (fun h p hp => ?_)
    obtain ⟨_, h0l, h0c, h0r⟩ := T.not_mem_node (h (T.node a l c r, lru) List.mem_cons_self)
    simp only [List.mem_cons] at hp
    rcases hp with rfl | rfl | rfl | hp
    · split
      · exact h0c
      · exact List.not_mem_nil
    · exact h0l
    · exact h0r
    · exact h p (List.mem_cons_of_mem _ hp)
  simp only [stackOf, dfsGo, h1, h2, h3, hcond, if_true]
  rw [stackOf_sibs rl rr, stackOf_cons rc, ← ite_not, stackOf_when,
    ih _ (((hts.cons rr lru).cons rl lru).cons (rc.when _) _) ?_ hst']
  · simp only [List.map_cons, List.flatten_cons, T.preSkip_node, List.cons_append, List.append_assoc]
  · simp only [stackSize_cons]
    have := c.size_when_le (¬ (skip && (s.cell a).flags.noChild) = true)
    omega

theorem dfsGo_eq_pre {s : State} (start : Nat) (fuel : Nat) (stack : List (T × Bytes))
    (hs : ∀ p ∈ stack, Rep s p.1 ∧ p.1 ≠ .nil) (hf : (stack.map (fun p => p.1.size)).sum < fuel) :
    s.dfsGo true start false fuel (stack.map (fun (t, lru) => (t.root, lru)))
      = (stack.map (fun (t, lru) => t.pre s lru)).flatten :=
  stackOf_eq_map stack (fun p hp => (hs p hp).2) ▸
    dfsGo_eq true start false fuel stack (fun p hp => (hs p hp).1) hf (Or.inl rfl)

theorem Shape.root_cases {s : State} {t : T} (h : Shape s t) :
    (s.trie.size ≤ 1 ∧ t = .nil) ∨ (¬ s.trie.size ≤ 1 ∧ ∃ l c r, t = .node 1 l c r) := by
  have hroot := h.root
  by_cases hsz : s.trie.size ≤ 1
  · rw [if_pos hsz] at hroot
    cases t with
    | nil => exact Or.inl ⟨hsz, rfl⟩
    | node a l c r => exact absurd hroot h.rep.1
  · rw [if_neg hsz] at hroot
    cases t with
    | nil => exact absurd hroot (by decide)
    | node a l c r => exact Or.inr ⟨hsz, l, c, r, by rw [← hroot]; rfl⟩

theorem Shape.stackOf_root {α : Type} {s : State} {t : T} (h : Shape s t) (x : α) :
    stackOf [(t, x)] = if s.trie.size ≤ 1 then [] else [(1, x)] := by
  rcases h.root_cases with ⟨hsz, rfl⟩ | ⟨hsz, l, c, r, rfl⟩
  · rw [if_pos hsz]; rfl
  · rw [if_neg hsz]; rfl

theorem dfsIter_none {s : State} {t : T} (h : Shape s t) (skip : Bool) : s.dfsIter none skip = t.preSkip s skip [] := by
  have e := dfsGo_eq (s := s) true 1 skip (s.trie.size + 1) [(t, [])] (.single h.rep _)
    (by rw [stackSize_single]; exact Nat.lt_succ_of_le h.size_le) (Or.inl rfl)
  rw [h.stackOf_root] at e
  rw [dfsIter]
  split
  · rw [if_pos ‹_›, dfsGo_nil] at e; exact e.trans (List.append_nil _)
  · rw [if_neg ‹_›] at e; exact e.trans (List.append_nil _)

theorem dfsIter_root {s : State} {t : T} (h : Shape s t) : s.dfsIter none false = t.pre s [] := dfsIter_none h false

theorem pre_addrs_perm {s : State} : ∀ (t : T) (lru : Bytes), ((t.pre s lru).map (·.1)).Perm t.addrs := by
  intro t
  induction t with
  | nil => intro _; simp [T.pre, T.addrs]
  | node a l c r ihl ihc ihr =>
    intro lru
    simp only [T.pre, T.addrs, List.map_cons, List.map_append]
    refine List.Perm.cons _ ?_
    have h1 := ihc (lru ++ s.stemAt a)
    have h2 := ihl lru
    have h3 := ihr lru
    exact ((h1.append h2).append h3).trans
      (List.perm_append_comm.append_right _)

theorem dfsIter_nodup {s : State} {t : T} (h : Shape s t) : ((s.dfsIter none false).map (·.1)).Nodup := by
  rw [dfsIter_root h]
  exact (pre_addrs_perm t []).nodup_iff.mpr h.nodup

theorem dfsIter_mem {s : State} {t : T} (h : Shape s t) (a : Nat) :
    a ∈ (s.dfsIter none false).map (·.1) ↔ a ∈ t.addrs := by
  rw [dfsIter_root h]
  exact (pre_addrs_perm t []).mem_iff

/-- `dfs_iter` from a node: the turn at the start node pushes the child only (unless it is skipped); from there on the
    start block is not met again -/
theorem dfsGo_from {s : State} {a : Nat} {l c r : T} (hr : Rep s (.node a l c r))
    (hnd : (T.node a l c r).addrs.Nodup) (hsz : (T.node a l c r).size ≤ s.trie.size) (skip : Bool) (lru : Bytes) :
    s.dfsGo false a skip (s.trie.size + 1) [(a, lru)] = (a, lru ++ s.stemAt a) ::
      (if ¬ (skip && (s.cell a).flags.noChild) = true then c else T.nil).preSkip s skip (lru ++ s.stemAt a) := by
  obtain ⟨_, h2, _⟩ := hr.cell_eq
  obtain ⟨_, _, _, rc, _⟩ := hr
  have hna : a ∉ c.addrs := by
    exact (T.nodup_node hnd).2.1
  simp only [dfsGo, h2, Bool.false_or, ne_eq, not_true_eq_false, decide_false, Bool.false_eq_true, if_false]
  rw [show ([] : List (Nat × Bytes)) = stackOf ([] : List (T × Bytes)) from rfl, stackOf_cons rc, ← ite_not, stackOf_when,
    dfsGo_eq false a skip s.trie.size _ (.single (rc.when _) _) ?_ (Or.inr fun p hp => ?_)]
  · exact congrArg _ (List.append_nil _)
  · rw [stackSize_single]
    have := c.size_when_le (¬ (skip && (s.cell a).flags.noChild) = true)
    simp only [T.size] at hsz
    omega
  · rw [List.mem_singleton.mp hp]
    split
    · exact hna
    · exact List.not_mem_nil

theorem dfsIter_from {s : State} {a : Nat} {l c r : T} (hr : Rep s (.node a l c r))
    (hnd : (T.node a l c r).addrs.Nodup) (hsz : (T.node a l c r).size ≤ s.trie.size) (lru : Bytes) :
    s.dfsGo false a false (s.trie.size + 1) [(a, lru)]
      = (a, lru ++ s.stemAt a) :: c.pre s (lru ++ s.stemAt a) :=
  dfsGo_from hr hnd hsz false lru

theorem dfsIter_some {s : State} {a : Nat} {l c r : T} (hr : Rep s (.node a l c r))
    (hnd : (T.node a l c r).addrs.Nodup) (hsz : (T.node a l c r).size ≤ s.trie.size) (lru : Bytes) :
    s.dfsIter (some (a, lru)) false
      = (a, lruDirname lru ++ s.stemAt a) :: c.pre s (lruDirname lru ++ s.stemAt a) :=
  dfsGo_from hr hnd hsz false (lruDirname lru)

/-- structural counterpart of `weDfsGo start none`: a node is relevant when it is the start or carries no
    webentity; relevant nodes are emitted and their child tree visited; siblings are visited unless the
    node is the start. Order as in the code: node, child tree, left tree, right tree. -/
def T.wePre (s : State) (start : Nat) : T → Bytes → List (Nat × Bytes)
  | .nil, _ => []
  | .node a l c r, lru =>
    (if a = start ∨ (s.cell a).we = 0 then
        (a, lru ++ s.stemAt a) :: c.wePre s start (lru ++ s.stemAt a) else [])
    ++ (if a = start then [] else l.wePre s start lru ++ r.wePre s start lru)

/-- structural counterpart of `weDfsGo start md` for either kind of `max_depth`: as `T.wePre`, but the child
    tree of a node of level `lvl` is visited only when `lvl` is below the limit, if there is one (the start
    node is level 0; the code tests `level >= max_depth` before pushing the child) -/
def T.wePreD (s : State) (start : Nat) (md : Option Nat) : T → Bytes → Nat → List (Nat × Bytes)
  | .nil, _, _ => []
  | .node a l c r, lru, lvl =>
    (if a = start ∨ (s.cell a).we = 0 then
        (a, lru ++ s.stemAt a) ::
          (if md.all (lvl < ·) then c.wePreD s start md (lru ++ s.stemAt a) (lvl + 1) else []) else [])
    ++ (if a = start then [] else l.wePreD s start md lru lvl ++ r.wePreD s start md lru lvl)

theorem T.wePreD_none (s : State) (start : Nat) : ∀ (t : T) (lru : Bytes) (lvl : Nat),
    t.wePreD s start none lru lvl = t.wePre s start lru
  | .nil, _, _ => rfl
  | .node a l c r, lru, lvl => by
    simp only [T.wePreD, T.wePre, Option.all_none, if_true, T.wePreD_none s start c, T.wePreD_none s start l,
      T.wePreD_none s start r]

theorem weDfsGo_zero (s : State) (st : Nat) (d : Option Nat) (stk : List (Nat × Bytes × Nat)) :
    s.weDfsGo st d 0 stk = [] := rfl

theorem weDfsGo_nil (s : State) (st : Nat) (d : Option Nat) (f : Nat) : s.weDfsGo st d f [] = [] := by
  cases f <;> rfl

theorem weDfsGo_step (s : State) (st : Nat) (d : Option Nat) (f b : Nat) (lru : Bytes) (level : Nat)
    (rest : List (Nat × Bytes × Nat)) :
    s.weDfsGo st d (f + 1) ((b, lru, level) :: rest) =
      (if (b = st || (s.cell b).we = 0) = true then [(b, lru ++ s.stemAt b)] else []) ++
        s.weDfsGo st d f (weDfsPushD d st b lru (lru ++ s.stemAt b) level (s.cell b) rest) := by
  -- by unfolding: the equations of `weDfsGo` (which split on `d`) are slow to derive
  by_cases h : (b = st || (s.cell b).we = 0) = true
  · rw [if_pos h]; exact (if_pos h).trans rfl
  · rw [if_neg h]; exact (if_neg h).trans rfl

theorem weDfsPushD_rep {s : State} (start : Nat) (md : Option Nat) {a : Nat} {l c r : T}
    (hr : Rep s (.node a l c r)) (lru cur : Bytes) (lvl : Nat) (ts : List (T × Bytes × Nat)) :
    weDfsPushD md start a lru cur lvl (s.cell a) (stackOf ts)
      = stackOf ((if (a = start ∨ (s.cell a).we = 0) ∧ md.all (lvl < ·) then c else .nil, cur, lvl + 1) ::
          (if a ≠ start then l else .nil, lru, lvl) :: (if a ≠ start then r else .nil, lru, lvl) :: ts) := by
  obtain ⟨h1, h2, h3⟩ := hr.cell_eq
  obtain ⟨_, _, rl, rc, rr⟩ := hr
  unfold weDfsPushD
  rw [h1, h2, h3, stackOf_sibs_when (a ≠ start) rl rr (lru, lvl) ts,
    ← stackOf_when ((a = start ∨ (s.cell a).we = 0) ∧ md.all (lvl < ·)) c (cur, lvl + 1), ← stackOf_cons rc]
  -- the pushes of the siblings are the same on both sides; what is left is the condition of the child push
  generalize stackOf (_ :: _ :: ts) = S
  by_cases hrel : a = start ∨ (s.cell a).we = 0
  · have hb : (decide (a = start) || decide ((s.cell a).we = 0)) = true := by simpa using hrel
    cases md with
    | none => simp [hb, hrel]
    | some d => by_cases hd : lvl < d <;> simp [hb, hrel, hd, Nat.not_le.mpr, Nat.le_of_not_lt]
  · have hb : (decide (a = start) || decide ((s.cell a).we = 0)) = false := by simpa using hrel
    simp [hb, hrel]

theorem weDfs_push_size (b1 b2 : Prop) [Decidable b1] [Decidable b2] (l c r : T) (x1 x2 x3 : Bytes × Nat)
    (ts : List (T × Bytes × Nat)) :
    stackSize ((if b1 then c else .nil, x1) :: (if b2 then l else .nil, x2) :: (if b2 then r else .nil, x3) :: ts)
      ≤ c.size + (l.size + (r.size + stackSize ts)) := by
  simp only [stackSize_cons]
  exact Nat.add_le_add (c.size_when_le _) (Nat.add_le_add (l.size_when_le _)
    (Nat.add_le_add_right (r.size_when_le _) _))

theorem T.wePreD_when (s : State) (start : Nat) (md : Option Nat) (t : T) (b : Prop) [Decidable b]
    (lru : Bytes) (lvl : Nat) :
    (if b then t else T.nil).wePreD s start md lru lvl = if b then t.wePreD s start md lru lvl else [] := by
  by_cases hb : b
  · rw [if_pos hb, if_pos hb]
  · rw [if_neg hb, if_neg hb]; rfl

theorem weDfsGo_eq_wePreD {s : State} (start : Nat) (md : Option Nat) :
    ∀ (fuel : Nat) (ts : List (T × Bytes × Nat)), StackRep s ts → stackSize ts < fuel →
      s.weDfsGo start md fuel (stackOf ts)
        = (ts.map (fun p => p.1.wePreD s start md p.2.1 p.2.2)).flatten := by
  refine StackRep.induction (fun _ => rfl) (fun _ _ _ h => h) ?_
  intro f a l c r ⟨lru, lvl⟩ ts hr hts ih
  obtain ⟨_, _, rl, rc, rr⟩ := id hr
  rw [stackOf, weDfsGo_step, weDfsPushD_rep start md hr,
    ih _ (((hts.cons (rr.when _) _).cons (rl.when _) _).cons (rc.when _) _) (weDfs_push_size ..)]
  simp only [List.map_cons, List.flatten_cons, T.wePreD, T.wePreD_when]
  by_cases e : a = start
  · simp [e]
  · by_cases hw : (s.cell a).we = 0 <;> simp [e, hw]

theorem weDfsGo_single {s : State} {a : Nat} {l c r : T} (hr : Rep s (.node a l c r))
    (hsz : (T.node a l c r).size ≤ s.trie.size) (md : Option Nat) (lru0 : Bytes) :
    s.weDfsGo a md (s.trie.size + 1) [(a, lru0, 0)] = (T.node a l c r).wePreD s a md lru0 0 := by
  exact (weDfsGo_eq_wePreD (s := s) a md _ [(T.node a l c r, lru0, 0)] (.single hr _)
    (by rw [stackSize_single]; omega)).trans (List.append_nil _)

theorem weDfs_eq {s : State} {a : Nat} {l c r : T} (hr : Rep s (.node a l c r))
    (_hnd : (T.node a l c r).addrs.Nodup) (hsz : (T.node a l c r).size ≤ s.trie.size) (lru0 : Bytes) :
    s.weDfsGo a none (s.trie.size + 1) [(a, lru0, 0)] = (T.node a l c r).wePre s a lru0 := by
  rw [weDfsGo_single hr hsz, T.wePreD_none]

theorem T.wePre_start (s : State) (a : Nat) (l c r : T) (lru0 : Bytes) :
    (T.node a l c r).wePre s a lru0 = (a, lru0 ++ s.stemAt a) :: c.wePre s a (lru0 ++ s.stemAt a) := by
  simp [T.wePre]

/-- structural counterpart of `dfsWeGo`: pre-order carrying the nearest webentity at or above -/
def T.preWe (s : State) : T → Nat → List (Nat × Nat)
  | .nil, _ => []
  | .node a l c r, we =>
    (a, if (s.cell a).we ≠ 0 then (s.cell a).we else we) ::
      (c.preWe s (if (s.cell a).we ≠ 0 then (s.cell a).we else we) ++ l.preWe s we ++ r.preWe s we)

theorem dfsWePush_rep {s : State} {a : Nat} {l c r : T} (hr : Rep s (.node a l c r)) (we cur : Nat)
    (ts : List (T × Nat)) :
    dfsWePush a we cur (s.cell a) (stackOf ts) = stackOf ((c, cur) :: (l, we) :: (r, we) :: ts) := by
  obtain ⟨h1, h2, h3⟩ := hr.cell_eq
  obtain ⟨_, _, rl, rc, rr⟩ := hr
  simp only [dfsWePush, h1, h2, h3]
  rw [stackOf_sibs rl rr, stackOf_cons rc]

theorem dfsWeGo_eq_preWe {s : State} :
    ∀ (fuel : Nat) (ts : List (T × Nat)), StackRep s ts → stackSize ts < fuel →
      s.dfsWeGo fuel (stackOf ts) = (ts.map (fun p => p.1.preWe s p.2)).flatten := by
  refine StackRep.induction (fun _ => rfl) (fun _ _ _ h => h) ?_
  intro f a l c r we ts hr hts ih
  obtain ⟨_, _, rl, rc, rr⟩ := id hr
  rw [stackOf, dfsWeGo, ← dfsWePush, dfsWePush_rep hr, ih _ (((hts.cons rr _).cons rl _).cons rc _)
    (by simp only [stackSize_cons]; exact Nat.le_refl _)]
  simp [T.preWe]

theorem dfsWeGo_nil (s : State) (fuel : Nat) : s.dfsWeGo fuel [] = [] := by cases fuel <;> rfl

theorem dfsWe_eq {s : State} {t : T} (h : Shape s t) : s.dfsWe = t.preWe s 0 := by
  have e := dfsWeGo_eq_preWe (s := s) (s.trie.size + 1) [(t, 0)] (.single h.rep _)
    (by rw [stackSize_single]; exact Nat.lt_succ_of_le h.size_le)
  rw [h.stackOf_root] at e
  rw [dfsWe]
  split
  · rw [if_pos ‹_›, dfsWeGo_nil] at e; exact e.trans (List.append_nil _)
  · rw [if_neg ‹_›] at e; exact e.trans (List.append_nil _)

end Traph

section
open Traph
#print axioms dfsGo_eq_pre
#print axioms dfsIter_root
#print axioms pre_addrs_perm
#print axioms dfsIter_nodup
#print axioms dfsIter_from
#print axioms weDfs_eq
#print axioms dfsWe_eq
end
