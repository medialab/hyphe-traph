import Proofs.CoNetFold
import Proofs.CoFinalQueries
import Proofs.CoDrainExamples
/-! C16 — the two bounds on the answer of the NETWORK query `get_webentities_links_iter(out, include_auto)`
    (`CoReq.queryNet`, machine `NetSt` / `netResume` of `Traph/Co.lean`) under ANY schedule with writers (crawl batches,
    rule installations) and other queries, from any index with the shape invariant and list heads in range
    (`Shape`, `HeadsOk`: both hold in every reachable index and are kept by every schedule; no hypothesis at all on the
    other generators' private states or on the well-formedness of their requests).

    * Soundness side: `Proofs/CoNetFold` — the answer IS the two folds of the atomic request over what the query
      recorded (`cnb_sched_sound_full`), and what `cnb_AnsFull` says is read off the folds (`nf_Ok.ansFull`).
    * Completeness side. `cnb_res`: the id the walk computes along a list of blocks; `cnb_PCov`: a page is
      recorded with the right id or an entry of the stack leads to it by a pointer path (`HPath` of `Proofs/CoQuery`)
      carrying a value that resolves to the right id; `cnb_LCov`: both pages of a link are covered, and once the source is
      recorded the pointer recorded with it holds the link. Only the iterations of the first pass have anything to keep
      (`cnb_PCov.iter1`, `cnb_LCov.iter1`); that the link is then in the answer is `nf_answer_complete`.

    Main: `C16_net_query_sound`, `C16_net_query_complete` (each with `_reachable`), the latter from `cnb_sched_complete`;
    `NetEx`: a kernel-evaluated scenario to which both apply. -/
namespace Traph
open State Layout

/-- the id the walk computes along a list of blocks (root side first), starting from the carried value `c`:
    the last non-zero `we` field -/
def cnb_res (s : State) (c : Nat) (l : List Nat) : Nat :=
  l.foldl (fun acc m => if (s.cell m).we ≠ 0 then (s.cell m).we else acc) c

theorem cnb_res_nil (s : State) (c : Nat) : cnb_res s c [] = c := rfl

theorem cnb_res_cons (s : State) (c m : Nat) (l : List Nat) :
    cnb_res s c (m :: l) = cnb_res s (if (s.cell m).we ≠ 0 then (s.cell m).we else c) l := rfl

theorem cnb_res_append (s : State) (c : Nat) (l₁ l₂ : List Nat) :
    cnb_res s c (l₁ ++ l₂) = cnb_res s (cnb_res s c l₁) l₂ := by
  unfold cnb_res; rw [List.foldl_append]

theorem cnb_res_zero (s : State) : ∀ (l : List Nat) (c : Nat), (∀ m ∈ l, (s.cell m).we = 0) → cnb_res s c l = c
  | [], _, _ => rfl
  | m :: l, c, h => by
    rw [cnb_res_cons, if_neg (by simp [h m (by simp)])]
    exact cnb_res_zero s l c (fun x hx => h x (List.mem_cons_of_mem _ hx))

theorem cnb_res_indep (s : State) : ∀ (l : List Nat) (c c' : Nat), (∃ m ∈ l, (s.cell m).we ≠ 0) →
    cnb_res s c l = cnb_res s c' l
  | [], _, _, h => by obtain ⟨m, hm, _⟩ := h; simp at hm
  | m :: l, c, c', h => by
    rw [cnb_res_cons, cnb_res_cons]
    by_cases hm : (s.cell m).we ≠ 0
    · rw [if_pos hm, if_pos hm]
    · rw [if_neg hm, if_neg hm]
      obtain ⟨m', hm', hne⟩ := h
      rcases List.mem_cons.mp hm' with rfl | hm'
      · exact absurd hne hm
      · exact cnb_res_indep s l c c' ⟨m', hm', hne⟩

/-- the carried value stays right when other generators attach webentities, as long as the full resolution does -/
theorem cnb_res_mono {s s' : State} {pre L : List Nat} {c X : Nat}
    (hw : ∀ m ∈ L, (s.cell m).we ≠ 0 → (s'.cell m).we = (s.cell m).we)
    (hgood : cnb_res s c L = X) (hq : cnb_res s' 0 (pre ++ L) = X) : cnb_res s' c L = X := by
  by_cases hex : ∃ m ∈ L, (s'.cell m).we ≠ 0
  · rw [cnb_res_indep s' L c (cnb_res s' 0 pre) hex, ← cnb_res_append]
    exact hq
  · have hz' : ∀ m ∈ L, (s'.cell m).we = 0 := fun m hm => by
      apply Classical.byContradiction
      intro hne
      exact hex ⟨m, hm, hne⟩
    have hz : ∀ m ∈ L, (s.cell m).we = 0 := fun m hm => by
      apply Classical.byContradiction
      intro hne
      have := hw m hm hne
      rw [hz' m hm] at this
      exact hne this.symm
    rw [cnb_res_zero s' L c hz']
    rw [cnb_res_zero s L c hz] at hgood
    exact hgood

theorem cnb_hpath_entries {s : State} {t : T} (h : Shape s t) {start b' : Nat} {lru' : Bytes} {b : Nat} {cur : Bytes}
    {anc : List Nat} (hp : HPath s start b' lru' b cur anc) :
    (∃ p, (p, b') ∈ t.entries s []) → ∀ m ∈ anc ++ [b], ∃ q, (q, m) ∈ t.entries s [] := by
  induction hp with
  | here b lru =>
    rintro ⟨p, hm⟩ m hmem
    simp only [List.nil_append, List.mem_singleton] at hmem
    subst hmem
    exact ⟨p, hm⟩
  | @left b' lru' b cur anc hne hl _ ih =>
    exact fun ⟨p, hm⟩ => ((stale_entries h (CellLe.refl _) hm).1 hl).elim fun _ hz => ih ⟨_, hz⟩
  | @right b' lru' b cur anc hne hl _ ih =>
    exact fun ⟨p, hm⟩ => ((stale_entries h (CellLe.refl _) hm).2.1 hl).elim fun _ hz => ih ⟨_, hz⟩
  | @child b' lru' b cur anc hl _ ih =>
    rintro ⟨p, hm⟩ m hmem
    rw [List.cons_append] at hmem
    rcases List.mem_cons.mp hmem with rfl | hmem
    · exact ⟨p, hm⟩
    · exact ((stale_entries h (CellLe.refl _) hm).2.2 hl).elim fun _ hz => ih ⟨_, hz⟩ m hmem

/-- a page the query should record: its block, the blocks at which the pointer path from the root descends to a
    child (its proper ancestors, root side first), the webentity id it resolves to -/
structure cnb_Tgt where
  x   : Nat
  anc : List Nat
  X   : Nat

/-- the page is recorded with the right id, or the walk will still come across it: an entry of the stack the next
    iteration starts from leads to it, and carries a value that resolves to the right id along the rest of the path -/
def cnb_PCov (s : State) (t : T) (n : NetSt) (g : cnb_Tgt) : Prop :=
  dictGet? n.pageWe g.x = some g.X ∨
  (n.phase2 = none ∧ (s.cell g.x).flags.page = true ∧ ∃ y ∈ (netNorm s n).stack, ∃ pre anc' p cur,
      g.anc = pre ++ anc' ∧ (p, y.1) ∈ t.entries s [] ∧ HPath s 0 y.1 p.dropLast.flatten g.x cur anc' ∧
      cnb_res s y.2 (anc' ++ [g.x]) = g.X)

/-- once the tree has a block the stack a phase-1 iteration starts from does not depend on the index -/
theorem cnb_norm_stack_mono {s s' : State} {t : T} (h : Shape s t) (le : s ⊑ s') (n : NetSt) {y : Nat × Nat}
    {p : LRU} (hm : (p, y.1) ∈ t.entries s []) (hy : y ∈ (netNorm s n).stack) : y ∈ (netNorm s' n).stack := by
  have h1 := (cf_root_one h (entries_addr_mem _ _ _ _ hm)).2
  have h2 := le.size
  have e : netNorm s' n = netNorm s n := by
    unfold netNorm
    rw [if_neg (by omega : ¬ s'.trie.size ≤ 1), if_neg (by omega : ¬ s.trie.size ≤ 1)]
  rw [e]
  exact hy

theorem cnb_PCov.later {s s' : State} {t t' : T} {n : NetSt} {g : cnb_Tgt} (l : CoLater s t s' t')
    (hq : cnb_res s' 0 (g.anc ++ [g.x]) = g.X) (hc : cnb_PCov s t n g) : cnb_PCov s' t' n g := by
  rcases hc with hc | ⟨hp, hpg, y, hy, pre, anc', p, cur, e, hm, hpath, hgood⟩
  · exact Or.inl hc
  · have hent := cnb_hpath_entries l.shape hpath ⟨p, hm⟩
    obtain ⟨qx, hqx⟩ := hent g.x (by simp)
    refine Or.inr ⟨hp, (l.cell hqx).page hpg, y, cnb_norm_stack_mono l.shape l.le n hm hy, pre, anc', p, cur, e,
      l.ext.keep _ _ hm, hpath.mono l.shape l.ext l.le ⟨p, hm, rfl⟩, ?_⟩
    refine cnb_res_mono (pre := pre) (fun b hb hne => ?_) hgood (by rw [← List.append_assoc, ← e]; exact hq)
    obtain ⟨q, hq'⟩ := hent b hb
    exact l.we_cell hq' hne

theorem cnb_PCov.iter1 {s : State} {t : T} {n : NetSt} {g : cnb_Tgt} (h : Shape s t)
    (htop : ∀ m c rest, n.stack = (m, c) :: rest → ∀ bk ∈ n.pageWe, bk.1 ≠ m)
    (hst : n.started = true) (hpe : n.pend = none) (hp2 : n.phase2 = none) (hX : g.X ≠ 0)
    (hc : cnb_PCov s t n g) :
    (netIter1 s n).All (fun n' => cnb_PCov s t n' g) (fun n' _ => cnb_PCov s t n' g) := by
  obtain ⟨out, auto, started, stack, pend, pageWe, pointers, phase2, curSrc, curList, graph⟩ := n
  obtain ⟨gx, ganc, gX⟩ := g
  cases hst
  cases hpe
  cases hp2
  simp only at hX
  -- the top entry `(m, c)` is popped: the page is recorded, or it is `m` itself, or an entry of the expanded stack
  -- leads to it (the one below `m` on the path, or the one that led to it before)
  have hpush : ∀ m c rest cur, stack = (m, c) :: rest → (if (s.cell m).we ≠ 0 then (s.cell m).we else c) = cur →
      dictGet? pageWe gx = some gX ∨ (m = gx ∧ cur = gX ∧ (s.cell gx).flags.page = true) ∨
        ((s.cell gx).flags.page = true ∧ ∃ y ∈ dfsWePush m c cur (s.cell m) rest, ∃ pre anc' p cu,
          ganc = pre ++ anc' ∧ (p, y.1) ∈ t.entries s [] ∧ HPath s 0 y.1 p.dropLast.flatten gx cu anc' ∧
          cnb_res s y.2 (anc' ++ [gx]) = gX) := by
    rintro m c rest cur rfl hcd
    rcases hc with hc | ⟨_, hpg, y, hy, pre, anc', p, cu, e, hm, hpath, hgood⟩
    · exact Or.inl hc
    · rcases List.mem_cons.mp (hy : y ∈ (m, c) :: rest) with rfl | hy'
      · simp only at hm hpath hgood
        obtain ⟨q, eq, f1, f2, f3⟩ := entries_last_and_ptrs t [] p m h.rep hm
        have hq : p.dropLast = q := by rw [eq, List.dropLast_concat]
        cases hpath with
        | here =>
          refine Or.inr (Or.inl ⟨rfl, ?_, hpg⟩)
          rw [List.nil_append, cnb_res_cons, cnb_res_nil, hcd] at hgood
          exact hgood
        | left hne hl hrest =>
          refine Or.inr (Or.inr ⟨hpg, _, cnb_mem_dfsWePush.mpr (.inr (.inl ⟨hl, rfl⟩)), pre, anc', _, cu, e, f1 hl, ?_,
            hgood⟩)
          rw [List.dropLast_concat, ← hq]; exact hrest
        | right hne hl hrest =>
          refine Or.inr (Or.inr ⟨hpg, _, cnb_mem_dfsWePush.mpr (.inr (.inr (.inl ⟨hl, rfl⟩))), pre, anc', _, cu, e, f2 hl,
            ?_, hgood⟩)
          rw [List.dropLast_concat, ← hq]; exact hrest
        | @child _ _ _ _ anc'' hl hrest =>
          refine Or.inr (Or.inr ⟨hpg, _, cnb_mem_dfsWePush.mpr (.inl ⟨hl, rfl⟩), pre ++ [m], anc'', _, cu,
            (by have e' : ganc = pre ++ m :: anc'' := e; rw [e']; simp), f3 hl, ?_, ?_⟩)
          · rw [List.dropLast_concat]
            have : p.flatten = p.dropLast.flatten ++ s.stemAt m := by rw [hq, eq]; simp
            rw [this]; exact hrest
          · rw [List.cons_append, cnb_res_cons, hcd] at hgood
            exact hgood
      · exact Or.inr (Or.inr ⟨hpg, y, cnb_mem_dfsWePush.mpr (.inr (.inr (.inr hy'))), pre, anc', p, cu, e, hm, hpath,
          hgood⟩)
  refine netIter1_cases ?_ ?_ ?_
  · rintro rfl
    rcases hc with hc | ⟨_, _, y, hy, _⟩
    · exact Or.inl hc
    · exact absurd hy (by simp [netNorm])
  · rintro m c rest cur head hs hcd - - -
    rcases hpush m c rest cur hs hcd with hp | ⟨rfl, rfl, hpg⟩ | ⟨hpg, y, hy, rest'⟩
    · refine Or.inl ?_
      show dictGet? (dictSet pageWe m cur) gx = some gX
      rw [Co.dictGet?_dictSet_ne _ _ _ _ (htop m c rest hs _ (dictGet?_mem _ _ _ hp))]; exact hp
    · exact Or.inl (Co.dictGet?_dictSet_self _ _ _)
    · exact Or.inr ⟨rfl, hpg, y, hy, rest'⟩
  · rintro m c rest cur hs hcd hc'
    rcases hpush m c rest cur hs hcd with hp | ⟨rfl, rfl, hpg⟩ | ⟨hpg, y, hy, rest'⟩
    · exact Or.inl hp
    · exact absurd ⟨hpg, hX⟩ hc'
    · exact Or.inr ⟨rfl, hpg, y, hy, rest'⟩

theorem cnb_PCov.norm {s : State} {t : T} {n : NetSt} {g : cnb_Tgt} (hc : cnb_PCov s t n g) (hp2 : n.phase2 = none) :
    cnb_PCov s t (netNorm s n) g := by
  obtain ⟨out, auto, started, stack, pend, pageWe, pointers, phase2, curSrc, curList, graph⟩ := n
  rcases hc with hc | ⟨hp, hpg, y, hy, rest⟩
  · exact Or.inl (by cases started <;> cases pend <;> exact hc)
  · refine Or.inr ⟨by cases started <;> cases pend <;> exact hp, hpg, y, ?_, rest⟩
    cases started <;> cases pend <;> exact hy

theorem cnb_listOf_head (s : State) (out : Bool) (a : Nat) :
    cf_listOf s out a = s.walk0 (if out then (s.cell a).out else (s.cell a).inn) := by cases out <;> rfl

/-- a link the query should count: source page, target page, its multiplicity when the query is created -/
structure cnb_Link where
  src : cnb_Tgt
  tgt : cnb_Tgt
  w   : Nat

/-- where the link is on its way into the answer: both pages are still to be recorded or recorded, the pointer
    recorded with the source holds the link; once the first pass is over both are recorded, and nothing of this changes -/
def cnb_LCov (s : State) (t : T) (n : NetSt) (L : cnb_Link) : Prop :=
  (n.phase2 = none → cnb_PCov s t n L.src ∧ cnb_PCov s t n L.tgt ∧ L.w ≤ count L.tgt.x (cf_listOf s n.out L.src.x)) ∧
  (n.phase2 ≠ none → dictGet? n.pageWe L.src.x = some L.src.X ∧ dictGet? n.pageWe L.tgt.x = some L.tgt.X) ∧
  (dictGet? n.pageWe L.src.x = some L.src.X →
    ∃ h, (L.src.X, h) ∈ n.pointers ∧ h < s.links.size ∧ L.w ≤ count L.tgt.x (s.walk0 h))

theorem cnb_LCov.later {s s' : State} {t t' : T} {n : NetSt} {L : cnb_Link} (l : CoLater s t s' t') (hk : HeadsOk s)
    (hq1 : cnb_res s' 0 (L.src.anc ++ [L.src.x]) = L.src.X) (hq2 : cnb_res s' 0 (L.tgt.anc ++ [L.tgt.x]) = L.tgt.X)
    (hc : cnb_LCov s t n L) : cnb_LCov s' t' n L := by
  refine ⟨fun hp => ?_, hc.2.1, fun hr => ?_⟩
  · obtain ⟨c1, c2, hw⟩ := hc.1 hp
    obtain ⟨new, e⟩ := (l.grow hk).listOf n.out L.src.x
    exact ⟨c1.later l hq1, c2.later l hq2, by rw [e, lbCount_append]; omega⟩
  · obtain ⟨hd, h1, h2, h3⟩ := hc.2.2 hr
    refine ⟨hd, h1, Nat.lt_of_lt_of_le h2 l.le.lsize, ?_⟩
    unfold State.walk0
    rw [l.walk hk h2]
    exact h3

theorem cnb_LCov.norm {s : State} {t : T} {n : NetSt} {L : cnb_Link} (hc : cnb_LCov s t n L) (hp2 : n.phase2 = none) :
    cnb_LCov s t (netNorm s n) L := by
  have e : (netNorm s n).pageWe = n.pageWe ∧ (netNorm s n).pointers = n.pointers ∧ (netNorm s n).out = n.out ∧
      (netNorm s n).phase2 = n.phase2 := by
    obtain ⟨out, auto, started, stack, pend, pageWe, pointers, phase2, curSrc, curList, graph⟩ := n
    cases started <;> cases pend <;> exact ⟨rfl, rfl, rfl, rfl⟩
  obtain ⟨c1, c2, hw⟩ := hc.1 hp2
  rw [cnb_LCov, e.1, e.2.1, e.2.2.1, e.2.2.2]
  exact ⟨fun _ => ⟨c1.norm hp2, c2.norm hp2, hw⟩, hc.2.1, hc.2.2⟩

theorem cnb_LCov.iter1 {s : State} {t : T} {n : NetSt} {L : cnb_Link} (h : Shape s t) (hk : HeadsOk s)
    (htop : ∀ m c rest, n.stack = (m, c) :: rest → ∀ bk ∈ n.pageWe, bk.1 ≠ m)
    (hst : n.started = true) (hpe : n.pend = none) (hp2 : n.phase2 = none)
    (hA : L.src.X ≠ 0) (hB : L.tgt.X ≠ 0) (hw0 : 0 < L.w) (hc : cnb_LCov s t n L) :
    (netIter1 s n).All (fun n' => cnb_LCov s t n' L) (fun n' _ => cnb_LCov s t n' L) := by
  obtain ⟨⟨c1, c2, hw⟩, -, hptr⟩ := And.imp_left (· hp2) hc
  -- both pages stay covered (`cnb_PCov.iter1`); given that, shape by shape:
  suffices key : (netIter1 s n).All (fun n' => cnb_PCov s t n' L.src → cnb_PCov s t n' L.tgt → cnb_LCov s t n' L)
      (fun n' _ => cnb_PCov s t n' L.src → cnb_PCov s t n' L.tgt → cnb_LCov s t n' L) from
    ((c1.iter1 h htop hst hpe hp2 hA).and ((c2.iter1 h htop hst hpe hp2 hB).and key)).imp
      (fun _ ⟨a, b, k⟩ => k a b) (fun _ _ ⟨a, b, k⟩ => k a b)
  obtain ⟨out, auto, started, stack, pend, pageWe, pointers, phase2, curSrc, curList, graph⟩ := n
  cases hp2
  simp only at hw hptr
  refine netIter1_cases ?_ ?_ ?_
  · -- the first pass is over: both pages are recorded
    intro _ a b
    exact ⟨(fun e => nomatch e), fun _ => ⟨a.resolve_right fun ⟨hp, _⟩ => (nomatch hp),
      b.resolve_right fun ⟨hp, _⟩ => (nomatch hp)⟩, hptr⟩
  · rintro m c rest cur head - - hhd - - a b
    refine ⟨fun _ => ⟨a, b, hw⟩, fun hp => absurd rfl hp, fun hrec => ?_⟩
    simp only at hrec ⊢
    by_cases hma : L.src.x = m
    · -- the source page is the block just recorded: its list head, not 0 since the list has a member, is the pointer
      rw [hma, Co.dictGet?_dictSet_self] at hrec
      cases hrec
      rw [hma, cnb_listOf_head, hhd] at hw
      have hne : head ≠ 0 := fun e0 => by rw [e0, lbWalk0_zero] at hw; exact absurd hw (by simp; omega)
      refine ⟨head, ?_, ?_, hw⟩
      · rw [if_pos hne]; exact List.mem_append_right _ (List.mem_singleton_self _)
      · rw [← hhd]; cases out
        · exact (hk.2 m).2
        · exact (hk.2 m).1
    · rw [Co.dictGet?_dictSet_ne _ _ _ _ hma] at hrec
      obtain ⟨hd, h1, h2, h3⟩ := hptr hrec
      refine ⟨hd, ?_, h2, h3⟩
      split
      · exact List.mem_append_left _ h1
      · exact h1
  · exact fun _ _ _ _ _ _ _ a b => ⟨fun _ => ⟨a, b, hw⟩, fun hp => absurd rfl hp, hptr⟩

/-- **completeness for every schedule, in terms of a system and of pointer paths**: a link that is on its way into
    the answer, between two pages whose resolutions along their paths stay the same at every moment, is in the answer -/
theorem cnb_sched_complete (sched : Sched) (σ : Sys) (t : T) (h : Shape σ.1 t) (hk : HeadsOk σ.1) (i : Nat) (n : NetSt)
    (V : List Nat) (L0 : List nf_Page) (own : List cf_Ptr) (hi : σ.2[i]? = some (.net n)) (hn : nf_Ok σ.1 t n V L0 own)
    (L : cnb_Link) (hA : L.src.X ≠ 0) (hB : L.tgt.X ≠ 0) (hw0 : 0 < L.w) (hauto : n.auto = true ∨ L.src.X ≠ L.tgt.X)
    (hc : cnb_LCov σ.1 t n L)
    (hthr : Throughout (fun s' => cnb_res s' 0 (L.src.anc ++ [L.src.x]) = L.src.X ∧
      cnb_res s' 0 (L.tgt.anc ++ [L.tgt.x]) = L.tgt.X) σ sched)
    (a : Ans) (hm : (i, CoOut.done a) ∈ (σ.run sched).2) :
    ∃ t', Ext σ.1 t (σ.run sched).1.1 t' ∧ ∃ g, a = .net g ∧ cnb_AnsOk (σ.run sched).1.1 t' n.auto g ∧
      L.w ≤ netW g L.src.X L.tgt.X :=
  (Reader.net.sched .heads _ (fun s t n' => nf_J s t n.out n.auto (fun n' => cnb_LCov s t n' L) n')
    (fun s t o => ∀ a, o = .done a → ∃ g, a = .net g ∧ cnb_AnsOk s t n.auto g ∧ L.w ≤ netW g L.src.X L.tgt.X)
    (fun h _ l _ hq' ⟨ho, ha, ⟨V, L0, own, hn⟩, hc⟩ =>
      ⟨ho, ha, ⟨V, L0, own, hn.later l h.2⟩, hc.later l h.2 hq'.1 hq'.2⟩)
    (fun _ _ l hA a e => have ⟨g, eg, hg, hw⟩ := hA a e; ⟨g, eg, hg.later l, hw⟩)
    (fun {σ t n'} h _ hJ => by
      obtain ⟨_, h1, h2⟩ := nf_sec h.1 h.2 (E := False) (fun n c hp => c.norm hp)
        (fun n V L0 own hn _ e1 e2 e3 c => c.iter1 h.1 h.2 (hn.fresh_top e1 e2) e1 e2 e3 hA hB hw0)
        (fun n ptrs n' hp ⟨_, _, _, _, e, _⟩ c =>
          e ▸ ⟨fun hp' => (nomatch hp'), fun _ => c.2.1 (fun e => nomatch hp.symm.trans e), c.2.2⟩)
        hJ (σ.1.trie.size + σ.1.links.size + n'.pointers.length + 3) nofun
      refine ⟨fun a ea => ?_, h1⟩
      obtain ⟨nf, V, L0, own, hn, hc, ho, ha', hph, rfl⟩ := h2 a ea
      obtain ⟨r1, r2⟩ := hc.2.1 hph
      obtain ⟨hd, hmem, _, hw⟩ := hc.2.2 r1
      exact ⟨_, rfl, (ha' ▸ hn.ansFull).ansOk,
        Nat.le_trans hw (nf_answer_complete σ.1 n.auto L0 hB hauto r2 hmem)⟩)
    sched σ t ⟨h, hk⟩ i n hi ⟨rfl, rfl, ⟨V, L0, own, hn⟩, hc⟩ hthr _ hm).elim
    (fun e => nomatch e) fun ⟨t', _, l, hA⟩ => ⟨t', l.ext, hA a rfl⟩

theorem cnb_zero_not_mem {s : State} : ∀ {u : T}, Rep s u → 0 ∉ u.addrs
  | .nil, _ => by simp [T.addrs]
  | .node a l c r, hr => by
    obtain ⟨ha, _, rl, rc, rr⟩ := hr
    simp only [T.addrs, List.mem_cons, List.mem_append, not_or]
    exact ⟨fun e => ha e.symm, ⟨cnb_zero_not_mem rl, cnb_zero_not_mem rc⟩, cnb_zero_not_mem rr⟩

theorem cnb_root_mem_sibs : ∀ {u : T} {x : Nat}, x ∈ u.addrs → u.root ∈ u.sibs
  | .nil, _, h => by simp [T.addrs] at h
  | .node a l c r, _, _ => by simp [T.sibs]

/-- every entry of the tree is reached from block 1 by a pointer path whose ancestors are the blocks of its proper
    stem-prefixes, in order -/
theorem cnb_hpath_root {s : State} {t : T} (h : Shape s t) {p : LRU} {x : Nat} (hx : (p, x) ∈ t.entries s []) :
    ∃ anc cur p1, (p1, 1) ∈ t.entries s [] ∧ HPath s 0 1 p1.dropLast.flatten x cur anc ∧
      anc.length + 1 = p.length ∧ ∀ k (hk : k < anc.length), (p.take (k + 1), anc[k]) ∈ t.entries s [] := by
  have hxa := entries_addr_mem t [] p x hx
  obtain ⟨hroot, _⟩ := cf_root_one h hxa
  obtain ⟨anc, hp, hlen, hanc⟩ := hpath_below (start := 0) p t [] x h.rep h.nodup (cnb_zero_not_mem h.rep)
    (by simpa using hx)
  have hent := co_sib_entry (s := s) t [] h.nodup (cnb_root_mem_sibs hxa)
  rw [hroot] at hent hp
  refine ⟨anc, ([] ++ p).flatten, [s.stemAt 1], by simpa using hent, ?_, hlen, fun k hk => by simpa using hanc k hk⟩
  simpa using hp

/-- the blocks of the stem-prefixes of a path (root side first; the block of the path itself is the last one) -/
def cnb_NodesOf (s : State) (t : T) (p : LRU) (nodes : List Nat) : Prop :=
  nodes.length = p.length ∧ ∀ k (hk : k < nodes.length), (p.take (k + 1), nodes[k]) ∈ t.entries s []

theorem cnb_nodes_eq {s : State} {t : T} (h : Shape s t) {p : LRU} {x : Nat} (hx : (p, x) ∈ t.entries s [])
    {nodes anc : List Nat} (hn : cnb_NodesOf s t p nodes) (hlen : anc.length + 1 = p.length)
    (hanc : ∀ k (hk : k < anc.length), (p.take (k + 1), anc[k]) ∈ t.entries s []) : nodes = anc ++ [x] := by
  obtain ⟨h1, h2⟩ := hn
  apply List.ext_getElem
  · simp; omega
  · intro k hk1 hk2
    by_cases hk : k < anc.length
    · rw [List.getElem_append_left hk]
      exact entries_path_injective h.ord h.nodup (h2 k hk1) (hanc k hk)
    · have hke : k = anc.length := by simp at hk2; omega
      subst hke
      rw [List.getElem_append_right (Nat.le_refl _)]
      simp only [Nat.sub_self, List.getElem_cons_zero]
      have := h2 anc.length hk1
      rw [hlen, List.take_length] at this
      exact entries_path_injective h.ord h.nodup this hx

theorem cnb_PCov.init {s : State} {t : T} (h : Shape s t) (out auto : Bool) {p : LRU} {x X : Nat} {nodes : List Nat}
    (hx : (p, x) ∈ t.entries s []) (hpg : (s.cell x).flags.page = true) (hn : cnb_NodesOf s t p nodes)
    (hres : cnb_res s 0 nodes = X) :
    ∃ anc, nodes = anc ++ [x] ∧ cnb_PCov s t { out := out, auto := auto } ⟨x, anc, X⟩ := by
  obtain ⟨anc, cur, p1, h1, hpath, hlen, hanc⟩ := cnb_hpath_root h hx
  have e := cnb_nodes_eq h hx hn hlen hanc
  refine ⟨anc, e, Or.inr ⟨rfl, hpg, (1, 0), ?_, [], anc, p1, cur, rfl, h1, hpath, by rw [← e]; exact hres⟩⟩
  have hlt := entry_lt h h1
  show (1, 0) ∈ (if s.trie.size ≤ 1 then [] else [(1, 0)])
  rw [if_neg (by omega)]; simp

/-- **C16, network query, completeness**: for EVERY schedule, from every index with the shape
    invariant and list heads in range (both true of every reachable index and kept by every schedule), whatever the
    other generators are and do: let page blocks `a` (path `pa`) and `b` (path `pb`) exist when the query
    `get_webentities_links_iter(out, auto)` is created, with `b` occurring `w > 0` times in the out-list (`out = true`;
    in-list for `out = false`) of `a` at that time. If at EVERY moment of the execution the last non-zero `we` field
    along the blocks of the stem-prefixes of `pa` is `A` and along those of `pb` is `B` (`A, B ≠ 0`; `A ≠ B` unless
    `auto`) — i.e. the nearest-webentity resolutions of the two pages never change — then the answer has a row `A`
    with an entry `B` of weight at least `w`. -/
theorem C16_net_query_complete {s : State} {t : T} (hs : Shape s t) (hk : HeadsOk s) (reqs : List CoReq) (sched : Sched)
    (i : Nat) (out auto : Bool) (hreq : reqs[i]? = some (.queryNet out auto))
    (pa pb : LRU) (a b A B : Nat) (nodesA nodesB : List Nat)
    (ha : (pa, a) ∈ t.entries s []) (hb : (pb, b) ∈ t.entries s [])
    (hpa : (s.cell a).flags.page = true) (hpb : (s.cell b).flags.page = true)
    (hnA : cnb_NodesOf s t pa nodesA) (hnB : cnb_NodesOf s t pb nodesB)
    (hA : A ≠ 0) (hB : B ≠ 0) (hauto : auto = true ∨ A ≠ B)
    (hlink : 0 < count b (cf_listOf s out a))
    (hthr : Throughout (fun s' => cnb_res s' 0 nodesA = A ∧ cnb_res s' 0 nodesB = B) (s, reqs.map CoReq.init) sched)
    (g : List NetRow) (hdone : (i, CoOut.done (.net g)) ∈ (Sys.run (s, reqs.map CoReq.init) sched).2) :
    ∃ r ∈ g, r.src = A ∧ ∃ w', (B, w') ∈ r.targets ∧ count b (cf_listOf s out a) ≤ w' := by
  have hq0 := hthr.head
  obtain ⟨ancA, eA, cA⟩ := cnb_PCov.init hs out auto ha hpa hnA hq0.1
  obtain ⟨ancB, eB, cB⟩ := cnb_PCov.init hs out auto hb hpb hnB hq0.2
  subst eA eB
  have hc : cnb_LCov s t { out := out, auto := auto } ⟨⟨a, ancA, A⟩, ⟨b, ancB, B⟩, count b (cf_listOf s out a)⟩ :=
    ⟨fun _ => ⟨cA, cB, Nat.le_refl _⟩, fun h => absurd rfl h, fun e => by simp [dictGet?] at e⟩
  obtain ⟨t', x, g', eg, hans, hw⟩ := cnb_sched_complete sched (s, reqs.map CoReq.init) t hs hk i _ [] [] []
    (CoReq.init_get hreq) (.init s t out auto) ⟨⟨a, ancA, A⟩, ⟨b, ancB, B⟩, count b (cf_listOf s out a)⟩ hA hB hlink hauto hc hthr
    _ hdone
  simp only [Ans.net.injEq] at eg
  subst eg
  obtain ⟨pw, _, _, hg⟩ := hans
  simp only at hw
  obtain ⟨r, hr, hsrc, hmem⟩ := hg.ok.mem_of_weight_pos (Nat.lt_of_lt_of_le hlink hw)
  exact ⟨r, hr, hsrc, _, hmem, hw⟩

/-- **C16, network query, soundness**: for EVERY schedule, from every index with the shape invariant and list heads in
    range (both true of every reachable index and kept by every schedule), whatever the other generators are and do:
    if `get_webentities_links_iter(out, auto)` returns `g`, there is a duplicate-free list `pw` of (block, id) — the
    pages the query recorded — such that, in the FINAL index:
    * every recorded block is a page block of the tree and its id is the non-zero `we` field of the block of some
      stem-prefix of its path (`cnb_Rec`);
    * `g` has one row per source id, one entry per target id, positive weights (`NetOk`); every row key and every target
      key is a recorded id; self-links only if `auto`; every recorded id has its row; the two tallies of a row add up
      to the number of recorded pages of its id, and the number counted as crawled is at most the number of those
      that are crawled (`cnb_GraphOk`);
    * every weight `g[A][B]` is at most the number of links (with multiplicity; out-lists for `out = true`, in-lists
      otherwise) from recorded pages of id `A` to recorded pages of id `B` (`cnb_linkW`). -/
theorem C16_net_query_sound {s : State} {t : T} (hs : Shape s t) (hk : HeadsOk s) (reqs : List CoReq) (sched : Sched)
    (i : Nat) (out auto : Bool) (hreq : reqs[i]? = some (.queryNet out auto)) (a : Ans)
    (hdone : (i, CoOut.done a) ∈ (Sys.run (s, reqs.map CoReq.init) sched).2) :
    ∃ t', Shape (Sys.run (s, reqs.map CoReq.init) sched).1.1 t' ∧
      (∀ p b, (p, b) ∈ t.entries s [] → (p, b) ∈ t'.entries (Sys.run (s, reqs.map CoReq.init) sched).1.1 []) ∧
      ∃ g, a = .net g ∧ cnb_AnsFull (Sys.run (s, reqs.map CoReq.init) sched).1.1 t' out auto g := by
  obtain ⟨t', l, nf, V, L, own, hn, ho, ha, e⟩ := cnb_sched_sound_full sched (s, reqs.map CoReq.init) t hs hk i _ [] [] []
    (CoReq.init_get hreq) (.init s t out auto) a hdone
  have ho : nf.out = out := ho
  have ha : nf.auto = auto := ha
  subst ho ha
  exact ⟨t', l.shape', l.ext.keep, _, e, hn.ansFull⟩

/-- **C16, network query, soundness (keys and tallies)**: `C16_net_query_sound` without the bound on the weights
    (`cnb_AnsOk`) -/
theorem C16_net_query_sound_keys {s : State} {t : T} (hs : Shape s t) (hk : HeadsOk s) (reqs : List CoReq) (sched : Sched)
    (i : Nat) (out auto : Bool) (hreq : reqs[i]? = some (.queryNet out auto)) (a : Ans)
    (hdone : (i, CoOut.done a) ∈ (Sys.run (s, reqs.map CoReq.init) sched).2) :
    ∃ t', Shape (Sys.run (s, reqs.map CoReq.init) sched).1.1 t' ∧
      (∀ p b, (p, b) ∈ t.entries s [] → (p, b) ∈ t'.entries (Sys.run (s, reqs.map CoReq.init) sched).1.1 []) ∧
      ∃ g, a = .net g ∧ cnb_AnsOk (Sys.run (s, reqs.map CoReq.init) sched).1.1 t' auto g := by
  obtain ⟨t', h1, h2, g, eg, pw, p1, p2, p3, _⟩ := C16_net_query_sound hs hk reqs sched i out auto hreq a hdone
  exact ⟨t', h1, h2, g, eg, pw, p1, p2, p3⟩

/-- **C16, network query, soundness, from every reachable index** (statement: `C16_net_query_sound`) -/
theorem C16_net_query_sound_reachable {s : State} (hreach : Reachable s) (reqs : List CoReq) (sched : Sched)
    (i : Nat) (out auto : Bool) (hreq : reqs[i]? = some (.queryNet out auto)) (a : Ans)
    (hdone : (i, CoOut.done a) ∈ (Sys.run (s, reqs.map CoReq.init) sched).2) :
    ∃ t t', Shape s t ∧ Shape (Sys.run (s, reqs.map CoReq.init) sched).1.1 t' ∧
      (∀ p b, (p, b) ∈ t.entries s [] → (p, b) ∈ t'.entries (Sys.run (s, reqs.map CoReq.init) sched).1.1 []) ∧
      ∃ g, a = .net g ∧ cnb_AnsFull (Sys.run (s, reqs.map CoReq.init) sched).1.1 t' out auto g := by
  obtain ⟨t, hs, _⟩ := reachable_invariants hreach
  obtain ⟨t', h1, h2, h3⟩ := C16_net_query_sound hs (cfq_sumOk_of_reachable hreach).1 reqs sched i out auto hreq a hdone
  exact ⟨t, t', hs, h1, h2, h3⟩

/-- **C16, network query, completeness, from every reachable index**, the two pages and the blocks of their
    stem-prefixes named through the model's own look-up `lru_node` (statement: `C16_net_query_complete`) -/
theorem C16_net_query_complete_reachable {s : State} (hreach : Reachable s) (reqs : List CoReq) (sched : Sched)
    (i : Nat) (out auto : Bool) (hreq : reqs[i]? = some (.queryNet out auto))
    (pa pb : LRU) (a b A B : Nat) (nodesA nodesB : List Nat) (hpa0 : pa ≠ []) (hpb0 : pb ≠ [])
    (ha : s.lruNode pa = some a) (hb : s.lruNode pb = some b)
    (hpa : (s.cell a).flags.page = true) (hpb : (s.cell b).flags.page = true)
    (hnA : nodesA.length = pa.length ∧ ∀ k (hk : k < nodesA.length), s.lruNode (pa.take (k + 1)) = some nodesA[k])
    (hnB : nodesB.length = pb.length ∧ ∀ k (hk : k < nodesB.length), s.lruNode (pb.take (k + 1)) = some nodesB[k])
    (hA : A ≠ 0) (hB : B ≠ 0) (hauto : auto = true ∨ A ≠ B)
    (hlink : 0 < count b (cf_listOf s out a))
    (hthr : Throughout (fun s' => cnb_res s' 0 nodesA = A ∧ cnb_res s' 0 nodesB = B) (s, reqs.map CoReq.init) sched)
    (g : List NetRow) (hdone : (i, CoOut.done (.net g)) ∈ (Sys.run (s, reqs.map CoReq.init) sched).2) :
    ∃ r ∈ g, r.src = A ∧ ∃ w', (B, w') ∈ r.targets ∧ count b (cf_listOf s out a) ≤ w' := by
  obtain ⟨t, hs, _⟩ := reachable_invariants hreach
  have conv : ∀ (p : LRU) (nodes : List Nat), p ≠ [] →
      (nodes.length = p.length ∧ ∀ k (hk : k < nodes.length), s.lruNode (p.take (k + 1)) = some nodes[k]) →
      cnb_NodesOf s t p nodes := by
    intro p nodes hp0 ⟨h1, h2⟩
    refine ⟨h1, fun k hk => (lruNode_iff_entries hs _ ?_ _).mp (h2 k hk)⟩
    intro e
    have := congrArg List.length e
    rw [List.length_take] at this
    have hp : 0 < p.length := List.length_pos_iff.mpr hp0
    simp only [List.length_nil] at this
    omega
  exact C16_net_query_complete hs (cfq_sumOk_of_reachable hreach).1 reqs sched i out auto hreq pa pb a b A B nodesA nodesB
    ((lruNode_iff_entries hs pa hpa0 a).mp ha) ((lruNode_iff_entries hs pb hpb0 b).mp hb) hpa hpb
    (conv pa nodesA hpa0 hnA) (conv pb nodesB hpb0 hnB) hA hB hauto hlink hthr g hdone

/-- a checker for `Throughout` on concrete systems -/
def cnb_throughoutB (q : State → Bool) : Sys → Sched → Bool
  | σ, [] => q σ.1
  | σ, j :: rest => q σ.1 && cnb_throughoutB q (σ.step j).1 rest

theorem cnb_throughoutB_sound (q : State → Bool) : ∀ (sched : Sched) (σ : Sys), cnb_throughoutB q σ sched = true →
    Throughout (fun s => q s = true) σ sched
  | [], _, h => h
  | j :: rest, σ, h => by
    simp only [cnb_throughoutB, Bool.and_eq_true] at h
    exact ⟨h.1, cnb_throughoutB_sound q rest _ h.2⟩

/-! The hypotheses are satisfiable: the index of `Proofs/CoDrainExamples` (nested webentities, weighted links),
    a network query interleaved with a crawl batch that adds a page to webentity 1, a link to a page of webentity 2,
    and a page that creates webentity 5 -/
namespace NetEx
open DrainEx

def px : Bytes := b "s:http|h:com|h:a|p:x|"
def pb1 : Bytes := b "s:http|h:com|h:b|p:1|"
def reqs : List CoReq :=
  [.queryNet true false, .batch [(b "s:http|h:com|h:a|p:new|", [b "s:http|h:com|h:b|p:1|", b "s:http|h:net|h:d|"])]]
def sched : Sched := [0, 0, 1, 0, 0, 1, 0, 1, 0, 0, 0, 0, 1, 0, 0, 0, 0, 0, 0]
def answer : List NetRow :=
  [{ src := 1, targets := [(2, 2), (3, 1), (4, 1)], crawled := 2, uncrawled := 2 },
   { src := 3, targets := [], crawled := 1, uncrawled := 0 },
   { src := 2, targets := [(1, 2)], crawled := 0, uncrawled := 2 },
   { src := 4, targets := [], crawled := 0, uncrawled := 1 },
   { src := 5, targets := [], crawled := 0, uncrawled := 1 }]

/-- the two LRUs of the batch that `DrainEx.bytes` does not list -/
theorem bytes :
    b "s:http|h:com|h:a|p:new|" = pa ++ [112, 58, 110, 101, 119, 124] ∧
    b "s:http|h:net|h:d|" = [115, 58, 104, 116, 116, 112, 124, 104, 58, 110, 101, 116, 124, 104, 58, 100, 124] := by
  simp only [b]
  iterate 2 rw [String.toList_ofList]
  simp only [DrainEx.bytes]
  decide +kernel

theorem reachable_idx : Reachable idx := by
  rw [idx]
  simp only [DrainEx.bytes]
  exact reachable_fresh {} .domain [] _ (fun _ h => by simp at h)
    (by
      intro op hop
      simp only [List.mem_cons, List.mem_nil_iff, or_false] at hop
      rcases hop with rfl | rfl | rfl | rfl | rfl | rfl
      · trivial
      · show lruIter _ ≠ []; decide +kernel
      · show lruIter _ ≠ []; decide +kernel
      · show ∀ st : Bytes × Bytes, st ∈ _ → lruIter st.1 ≠ [] ∧ lruIter st.2 ≠ []; decide +kernel
      · trivial
      · show ∀ d : Bytes × List Bytes, d ∈ _ → lruIter d.1 ≠ [] ∧ ∀ x ∈ d.2, lruIter x ≠ []; decide +kernel)
    ⟨trivial, trivial, trivial, trivial, trivial, trivial, trivial⟩

/-- what is evaluated of the index and the schedule, in one run of the kernel so that the six requests behind `idx`
    and the nineteen sections are computed once: blocks 4 and 7 are the pages `px` and `pb1`, `[1, 2, 3, 4]` and
    `[1, 2, 6, 7]` the blocks of their stem-prefixes, two links lead from 4 to 7, the query's answer, and the two
    webentities the pages resolve to at every moment -/
theorem facts :
    (lruIter px ≠ [] ∧ lruIter pb1 ≠ []) ∧
    (idx.lruNode (lruIter px) = some 4 ∧ idx.lruNode (lruIter pb1) = some 7) ∧
    ((idx.cell 4).flags.page = true ∧ (idx.cell 7).flags.page = true) ∧
    (([1, 2, 3, 4] : List Nat).length = (lruIter px).length ∧
      ∀ k (hk : k < ([1, 2, 3, 4] : List Nat).length), idx.lruNode ((lruIter px).take (k + 1)) = some [1, 2, 3, 4][k]) ∧
    (([1, 2, 6, 7] : List Nat).length = (lruIter pb1).length ∧
      ∀ k (hk : k < ([1, 2, 6, 7] : List Nat).length), idx.lruNode ((lruIter pb1).take (k + 1)) = some [1, 2, 6, 7][k]) ∧
    count 7 (cf_listOf idx true 4) = 2 ∧
    (0, CoOut.done (.net answer)) ∈ (Sys.run (idx, reqs.map CoReq.init) sched).2 ∧
    cnb_throughoutB (fun s' => decide (cnb_res s' 0 [1, 2, 3, 4] = 1 ∧ cnb_res s' 0 [1, 2, 6, 7] = 2))
      (idx, reqs.map CoReq.init) sched = true := by
  rw [idx, reqs, px, pb1]
  simp only [DrainEx.bytes, bytes]
  decide +kernel

/-- the query returns at the 19th step, having seen the batch's new page of webentity 1 and the new webentity 5 -/
theorem done : (0, CoOut.done (.net answer)) ∈ (Sys.run (idx, reqs.map CoReq.init) sched).2 := facts.2.2.2.2.2.2.1

/-- at every moment page `…h:a|p:x|` (block 4) resolves to webentity 1 and page `…h:b|p:1|` (block 7) to webentity 2 -/
theorem stable : Throughout (fun s' => cnb_res s' 0 [1, 2, 3, 4] = 1 ∧ cnb_res s' 0 [1, 2, 6, 7] = 2)
    (idx, reqs.map CoReq.init) sched :=
  Throughout.imp (fun s h => by simpa using h) sched _
    (cnb_throughoutB_sound (fun s' => decide (cnb_res s' 0 [1, 2, 3, 4] = 1 ∧ cnb_res s' 0 [1, 2, 6, 7] = 2)) sched _
      facts.2.2.2.2.2.2.2)

theorem link_count : count 7 (cf_listOf idx true 4) = 2 := facts.2.2.2.2.2.1

/-- `C16_net_query_complete` applies: the two links `…h:a|p:x| → …h:b|p:1|` present from the start are in the answer -/
theorem complete_applies :
    ∃ r ∈ answer, r.src = 1 ∧ ∃ w', (2, w') ∈ r.targets ∧ count 7 (cf_listOf idx true 4) ≤ w' :=
  C16_net_query_complete_reachable reachable_idx reqs sched 0 true false rfl (lruIter px) (lruIter pb1) 4 7 1 2
    [1, 2, 3, 4] [1, 2, 6, 7] facts.1.1 facts.1.2 facts.2.1.1 facts.2.1.2 facts.2.2.1.1 facts.2.2.1.2
    facts.2.2.2.1 facts.2.2.2.2.1 (by decide) (by decide) (Or.inr (by decide)) (by rw [link_count]; decide)
    stable answer done

theorem sound_applies :
    ∃ t t', Shape idx t ∧ Shape (Sys.run (idx, reqs.map CoReq.init) sched).1.1 t' ∧
      (∀ p b, (p, b) ∈ t.entries idx [] → (p, b) ∈ t'.entries (Sys.run (idx, reqs.map CoReq.init) sched).1.1 []) ∧
      ∃ g, Ans.net answer = .net g ∧ cnb_AnsFull (Sys.run (idx, reqs.map CoReq.init) sched).1.1 t' true false g :=
  C16_net_query_sound_reachable reachable_idx reqs sched 0 true false rfl _ done

end NetEx

theorem cnb_res_congr {s s' : State} : ∀ (l : List Nat) (c : Nat), (∀ m ∈ l, (s'.cell m).we = (s.cell m).we) →
    cnb_res s' c l = cnb_res s c l
  | [], _, _ => rfl
  | m :: l, c, h => by
    rw [cnb_res_cons, cnb_res_cons, h m (by simp)]
    exact cnb_res_congr l _ (fun x hx => h x (List.mem_cons_of_mem _ hx))

/-- **C16, network query, completeness, the simple sufficient condition**: if no `we` field of the blocks of the
    stem-prefixes of the two pages is ever written during the execution, the link is counted under the ids the two
    pages resolve to when the query is created -/
theorem C16_net_query_complete_fields {s : State} {t : T} (hs : Shape s t) (hk : HeadsOk s) (reqs : List CoReq)
    (sched : Sched) (i : Nat) (out auto : Bool) (hreq : reqs[i]? = some (.queryNet out auto))
    (pa pb : LRU) (a b : Nat) (nodesA nodesB : List Nat)
    (ha : (pa, a) ∈ t.entries s []) (hb : (pb, b) ∈ t.entries s [])
    (hpa : (s.cell a).flags.page = true) (hpb : (s.cell b).flags.page = true)
    (hnA : cnb_NodesOf s t pa nodesA) (hnB : cnb_NodesOf s t pb nodesB)
    (hA : cnb_res s 0 nodesA ≠ 0) (hB : cnb_res s 0 nodesB ≠ 0)
    (hauto : auto = true ∨ cnb_res s 0 nodesA ≠ cnb_res s 0 nodesB)
    (hlink : 0 < count b (cf_listOf s out a))
    (hthr : Throughout (fun s' => ∀ m ∈ nodesA ++ nodesB, (s'.cell m).we = (s.cell m).we) (s, reqs.map CoReq.init) sched)
    (g : List NetRow) (hdone : (i, CoOut.done (.net g)) ∈ (Sys.run (s, reqs.map CoReq.init) sched).2) :
    ∃ r ∈ g, r.src = cnb_res s 0 nodesA ∧ ∃ w', (cnb_res s 0 nodesB, w') ∈ r.targets ∧
      count b (cf_listOf s out a) ≤ w' :=
  C16_net_query_complete hs hk reqs sched i out auto hreq pa pb a b _ _ nodesA nodesB ha hb hpa hpb hnA hnB hA hB hauto hlink
    (Throughout.imp (fun _ h => ⟨cnb_res_congr nodesA 0 (fun m hm => h m (List.mem_append_left _ hm)),
      cnb_res_congr nodesB 0 (fun m hm => h m (List.mem_append_right _ hm))⟩) sched _ hthr) g hdone

#print axioms cnb_sched_complete
#print axioms C16_net_query_sound
#print axioms C16_net_query_complete
#print axioms C16_net_query_sound_reachable
#print axioms C16_net_query_complete_reachable
#print axioms C16_net_query_complete_fields
#print axioms NetEx.complete_applies
#print axioms NetEx.sound_applies

end Traph
