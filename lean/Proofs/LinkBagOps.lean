import Proofs.LinkBag
/-! C03, per request: every write that is not a list write (page insertion, webentity edits,
    creation rules, reopening, and the page-insertion phases of `add_links` / `index_batch_crawl`) is a
    `PtrEq` step, hence keeps every bag.
    By kind of change `ptrEq_across`, by request (other than `clear` and the two link requests) `step_ptrEq`. -/
namespace Traph
open State

/-- no change but `addStubs` touches a stub or a head pointer -/
theorem ptrEq_across (ru : Bool) (wf : Prop) : Across false ru wf (fun _ => True) (fun _ _ => True) PtrEq where
  refl := PtrEq.refl
  trans := PtrEq.trans
  keep _ _ := trivial
  stable _ _ _ := trivial
  addLru s stems flag _ := ⟨ptrEq_addLru s stems flag, trivial⟩
  lookup _ _ _ _ _ := trivial
  setPage s x _ _ _ := ⟨ptrEq_modCell s x.node _ (fun _ => ⟨rfl, rfl⟩), trivial⟩
  isPage _ _ _ _ _ := trivial
  setCrawled s x _ _ := ptrEq_modCell s x.node _ (fun _ => ⟨rfl, rfl⟩)
  setRule _ s x _ _ _ := ptrEq_modCell s x.node _ (fun _ => ⟨rfl, rfl⟩)
  setWe s x _ _ _ _ := ptrEq_modCell s x.node _ (fun _ => ⟨rfl, rfl⟩)
  genId _ _ := PtrEq.of_eq rfl rfl
  addStubs hk := nomatch hk
  ram _ _ _ _ _ := PtrEq.of_eq rfl rfl

theorem Built.To.ptrEq {ru : Bool} {wf : Prop} {s s' : State} {P : List Answered → Prop}
    (h : Built.To false ru wf s [] s' P) : PtrEq s s' := h.across (ptrEq_across ru wf) trivial

theorem ptrEq_addPageCore (s : State) (lru : Bytes) (crawled : Bool) :
    PtrEq s (s.addPageCore lru crawled).1 := (built_addPageCore (Built.quiet s) lru crawled).ptrEq

theorem ptrEq_run (s : State) (a : Run) {i : Instr} (hi : ∀ p ts o, i ≠ .stubs p ts o) : PtrEq s (i.run s a).1 :=
  Instr.run_quiet PtrEq.refl PtrEq.trans ptrEq_addPageCore (fun s n => ptrEq_modCell s n _ fun _ => ⟨rfl, rfl⟩) s a hi

theorem ptrEq_ensurePageCached (s : State) (acc : LinkAcc) (l : Bytes) (crawled : Bool) :
    PtrEq s (s.ensurePageCached acc l crawled).1 := by
  have h := ptrEq_addPageCore s l crawled
  unfold ensurePageCached
  split
  · exact PtrEq.refl s
  · split <;> rename_i heq <;> rw [heq] at h <;> exact h

theorem ptrEq_installRules (rules : List (Bytes × Rule)) (s : State) (w : Bool) :
    PtrEq s (installRules s rules w).1 := (built_installRules rules w (Built.quiet s)).ptrEq

theorem linksOk_fresh (cfg : Config) (dflt : Rule) (rules : List (Bytes × Rule)) (log : List Write) :
    LinksOk (State.fresh cfg dflt rules log).1 ∧ (State.fresh cfg dflt rules log).1.links.size = 1 ∧
      ∀ o b, (State.fresh cfg dflt rules log).1.bag o b = [] := by
  unfold fresh
  have h0 : LinksOk ({ cfg := cfg, dflt := dflt, log := .linkHdr :: .hdr 0 :: log } : State) :=
    linksOk_of_init rfl rfl
  have p := ptrEq_installRules rules { cfg := cfg, dflt := dflt, log := .linkHdr :: .hdr 0 :: log } true
  refine ⟨p.linksOk h0, by rw [p.size]; rfl, fun o b => ?_⟩
  rw [p.bag]
  unfold State.bag
  rw [cell_of_trie_init rfl]
  cases o <;> exact lbWalk0_zero _

theorem step_ptrEq (s : State) (op : Op) (hop : ∀ d rs, op ≠ .clear d rs)
    (hl : ∀ ls, op ≠ .addLinks ls) (hb : ∀ d, op ≠ .batch d) : PtrEq s (s.step op).1 := by
  have hk : op.stubs = true → false = true := by
    cases op with
    | addLinks ls => exact absurd rfl (hl ls)
    | batch d => exact absurd rfl (hb d)
    | _ => exact id
  obtain ⟨_, b⟩ := built_step (k := false) (ru := true) (wf := False) s op hop (fun h => h.elim) hk (fun _ => rfl)
  exact (b.across (ptrEq_across _ _) trivial).1

#print axioms step_ptrEq

end Traph
