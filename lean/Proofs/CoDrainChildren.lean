import Proofs.CoDrainShape
/-! C16 — `get_webentity_child_webentities_iter` drained on a fixed index = `get_webentity_child_webentities`.
    Same plan as `Proofs/CoDrain.lean`, for the plain `dfs_iter` cursor (every popped node is yielded, so a `next()`
    takes at most two iterations: open the next prefix, pop). -/
namespace Traph
open State

def dfsFin (s : State) (start : Nat) (skip : Bool) : Nat → List (Nat × Bytes) → Prop
  | _, [] => True
  | 0, _ :: _ => False
  | f + 1, (b, lru) :: rest => dfsFin s start skip f (dfsPushSkip skip start b lru (lru ++ s.stemAt b) (s.cell b) rest)

theorem dfsGo_step (s : State) (st : Nat) (skip : Bool) (f b : Nat) (lru : Bytes) (rest : List (Nat × Bytes)) :
    s.dfsGo false st skip (f + 1) ((b, lru) :: rest) =
      (b, lru ++ s.stemAt b) :: s.dfsGo false st skip f (dfsPushSkip skip st b lru (lru ++ s.stemAt b) (s.cell b) rest) := by
  simp only [dfsGo, dfsPushSkip, Bool.false_or, decide_eq_true_eq]

def DfsFin (s : State) (skip : Bool) (ps : List Bytes) : Prop :=
  ∀ pf ∈ ps, ∀ nn, s.lruNode (lruIter pf) = some nn → dfsFin s nn skip (s.trie.size + 1) [(nn, lruDirname pf)]

def childGen (s : State) : Gen ChildSt Ans := .reader (fun _ q => childResume s q) (fun _ => 1)

/-- the ids the blocks of a walk add to the set -/
def childIds (s : State) (weid : Nat) (weids : List Nat) (l : List (Nat × Bytes)) : List Nat :=
  ((l.map fun bl => (s.cell bl.1).we).filter fun w => w ≠ 0 && w ≠ weid).foldl (fun acc x => insertSorted x acc) weids

theorem childIds_cons (s : State) (weid : Nat) (weids : List Nat) (b : Nat) (cur : Bytes) (l : List (Nat × Bytes)) :
    childIds s weid weids ((b, cur) :: l) =
      childIds s weid (if (s.cell b).we ≠ 0 && (s.cell b).we ≠ weid then insertSorted (s.cell b).we weids else weids) l := by
  simp only [childIds, List.map_cons, List.filter_cons]
  split <;> rfl

/-- the walk in progress: every popped node is yielded (one section each), then `hK` -/
theorem child_stack (s : State) (weid : Nat) (ps : List Bytes) (st : Nat) (F : List Nat → Ans) (Y : Nat)
    (hK : ∀ weids, (childGen s).Drains ⟨⟨ps, true, st, [], none⟩, weid, weids⟩ (F weids) 0 Y) :
    ∀ (f : Nat) (stk : List (Nat × Bytes)), dfsFin s st true f stk → ∀ weids,
      (childGen s).Drains ⟨⟨ps, true, st, stk, none⟩, weid, weids⟩ (F (childIds s weid weids (s.dfsGo false st true f stk)))
        0 (Y + f) := by
  intro f
  induction f with
  | zero =>
    intro stk hfin weids
    cases stk with
    | nil => simpa [dfsGo, childIds] using hK weids
    | cons p rest => exact absurd hfin (by simp [dfsFin])
  | succ f ih =>
    intro stk hfin weids
    cases stk with
    | nil => simpa [dfsGo, childIds] using (hK weids).mono (Nat.le_refl _) (Nat.le_add_right _ _)
    | cons p rest =>
      obtain ⟨b, lru⟩ := p
      simp only [dfsFin] at hfin
      rw [dfsGo_step]
      rw [childIds_cons]
      refine ((ih _ hfin _).congr (q := ⟨⟨ps, true, st, rest, some (b, lru, lru ++ s.stemAt b, s.cell b)⟩, weid,
        if (s.cell b).we ≠ 0 && (s.cell b).we ≠ weid then insertSorted (s.cell b).we weids else weids⟩)
        fun g => ?_).yield (fun g => ?_) Nat.one_pos
      · simp only [childGen, Gen.reader, childResume, DfsCur.fuel, DfsCur.next]
      · simp only [childGen, Gen.reader, childResume, DfsCur.fuel, DfsCur.next]

theorem foldl_forPrefixesStep_ok (s : State) {α} (f : Nat → Bytes → List α) (ps : List Bytes) (xs : List α) :
    ps.foldl (s.forPrefixesStep f) (.ok xs) = (ps.foldl (s.forPrefixesStep f) (.ok [])).map (xs ++ ·) := by
  rw [forPrefixes_go, forPrefixes_go]
  by_cases h : (ps.all fun p => (s.lruNode (lruIter p)).isSome) = true <;> simp [h, Except.map]

theorem child_prefixes (s : State) (weid : Nat) : ∀ (ps : List Bytes) (st : Nat) (weids : List Nat), DfsFin s true ps →
    (childGen s).Drains ⟨⟨ps, true, st, [], none⟩, weid, weids⟩
      (Ans.ofExcept .nats ((ps.foldl (s.forPrefixesStep fun n p =>
          ((s.dfsIter (some (n, p)) true).map fun bl => (s.cell bl.1).we).filter fun w => w ≠ 0 && w ≠ weid) (.ok [])).map
        fun l => l.foldl (fun acc x => insertSorted x acc) weids)) 0 (ps.length * (s.trie.size + 1))
  | [], st, weids, _ => (Gen.Drains.done (G := childGen s) (q := ⟨⟨[], true, st, [], none⟩, weid, weids⟩)
      (q' := ⟨⟨[], true, st, [], none⟩, weid, weids⟩) fun g => by
        simp only [childGen, Gen.reader, childResume, DfsCur.fuel, DfsCur.next]; rfl).mono (Nat.le_refl _) (Nat.zero_le _)
  | pf :: more, st, weids, hfin => by
    simp only [List.foldl_cons, forPrefixesStep, List.length_cons, Nat.succ_mul, List.nil_append]
    cases hn : s.lruNode (lruIter pf) with
    | none =>
      rw [foldl_forPrefixesStep_error]
      exact (Gen.Drains.failed (G := childGen s) (q' := ⟨⟨pf :: more, true, st, [], none⟩, weid, weids⟩) fun g => by
        simp only [childGen, Gen.reader, childResume, DfsCur.fuel, DfsCur.next, hn]).mono (Nat.le_refl _) (Nat.zero_le _)
    | some n =>
      have hf := hfin pf List.mem_cons_self n hn
      simp only [dfsFin] at hf
      -- the start block is popped in the iteration that opens the prefix
      have := child_stack s weid more n _ _ (fun weids => child_prefixes s weid more n weids
        fun q hq => hfin q (List.mem_cons_of_mem _ hq)) s.trie.size _ hf
        (if (s.cell n).we ≠ 0 && (s.cell n).we ≠ weid then insertSorted (s.cell n).we weids else weids)
      have key : ∀ r : Except Err (List Nat),
          Ans.ofExcept .nats ((r.map (((s.dfsIter (some (n, pf)) true).map fun bl => (s.cell bl.1).we).filter
            (fun w => w ≠ 0 && w ≠ weid) ++ ·)).map fun l => l.foldl (fun acc x => insertSorted x acc) weids) =
          Ans.ofExcept .nats (r.map fun l => l.foldl (fun acc x => insertSorted x acc)
            (childIds s weid weids (s.dfsIter (some (n, pf)) true))) := fun r => by
        cases r <;> simp [Except.map, childIds, List.foldl_append]
      rw [foldl_forPrefixesStep_ok, key, dfsIter, dfsGo_step, childIds_cons]
      refine ((this.congr (q := ⟨⟨more, true, n, [], some (n, lruDirname pf, lruDirname pf ++ s.stemAt n, s.cell n)⟩, weid,
        if (s.cell n).we ≠ 0 && (s.cell n).we ≠ weid then insertSorted (s.cell n).we weids else weids⟩) fun g => ?_).yield
        (fun g => ?_) Nat.one_pos).mono (Nat.le_refl _) (by omega)
      · simp only [childGen, Gen.reader, childResume, DfsCur.fuel, DfsCur.next]
      · simp only [childGen, Gen.reader, childResume, DfsCur.fuel, DfsCur.next, hn]

/-- **`get_webentity_child_webentities_iter` drained = `get_webentity_child_webentities`** (as sorted sets) -/
theorem children_drain (s : State) (weid : Nat) (ps : List Bytes) (hfin : DfsFin s true ps) (N : Nat)
    (hN : (s.trie.size + 1) * ps.length < N) :
    QSt.drain s N (.children { cur := { prefixes := ps, skip := true }, weid := weid }) = s.ask (.children weid ps) :=
  (QSt.drain_eq s .children (fun _ q => childResume s q) _ (fun _ => rfl) N _).trans
    ((child_prefixes s weid ps 0 [] hfin).drain Nat.one_pos (by rw [Nat.mul_comm]; exact hN))

theorem dfsFin_of_stackRep {s : State} (st : Nat) (skip : Bool) :
    ∀ (fuel : Nat) (ts : List (T × Bytes)), StackRep s ts → stackSize ts < fuel →
      dfsFin s st skip fuel (stackOf ts) := by
  refine StackRep.induction (fun _ => trivial) (fun _ _ _ h => h) ?_
  intro f a l c r lru ts hr hts ih
  obtain ⟨h1, h2, h3⟩ := hr.cell_eq
  obtain ⟨_, _, rl, rc, rr⟩ := hr
  rw [stackOf, dfsFin]
  unfold dfsPushSkip
  -- the siblings (none at the start node), then the child unless it is skipped
  rw [h1, h2, h3, stackOf_sibs_when (a ≠ st) rl rr lru ts]
  dsimp only
  rw [stackOf_cons rc, ← ite_not, stackOf_when]
  refine ih _ (((hts.cons (rr.when _) _).cons (rl.when _) _).cons (rc.when _) _) ?_
  simp only [stackSize_cons]
  exact Nat.add_le_add (c.size_when_le _) (Nat.add_le_add (l.size_when_le _)
    (Nat.add_le_add_right (r.size_when_le _) _))

theorem dfsFin_of_shape {s : State} {t : T} (h : Shape s t) (skip : Bool) (ps : List Bytes)
    (hwf : ∀ pf ∈ ps, lruIter pf ≠ []) : DfsFin s skip ps := by
  intro pf hpf nn hn
  obtain ⟨l, c, r, h1, hsz⟩ := prefix_rep h (hwf pf hpf) hn
  have := dfsFin_of_stackRep (s := s) nn skip (s.trie.size + 1) [(T.node nn l c r, lruDirname pf)]
    (StackRep.single h1 _) (by simp only [stackSize_cons, stackSize_nil]; omega)
  simpa [stackOf] using this

/-- **child webentities, unconditionally on a well-formed index** -/
theorem children_drain_shape {s : State} {t : T} (h : Shape s t) (weid : Nat) (ps : List Bytes)
    (hwf : ∀ pf ∈ ps, lruIter pf ≠ []) (N : Nat) (hN : (s.trie.size + 1) * ps.length < N) :
    QSt.drain s N (.children { cur := { prefixes := ps, skip := true }, weid := weid }) = s.ask (.children weid ps) :=
  children_drain s weid ps (dfsFin_of_shape h true ps hwf) N hN

#print axioms children_drain_shape

end Traph
