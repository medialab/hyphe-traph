import Proofs.CoDrain
import Proofs.TraverseDepth
import Proofs.DescendSpec
/-! C16 — the hypothesis `WeFin` of `Proofs/CoDrain.lean` ("every atomic walk ends within the atomic fuel") holds on every
    index that represents a search tree (`Shape`, proved of every reachable index): the drained generators give the
    atomic answers unconditionally there. -/
namespace Traph
open State

theorem weDfsFin_of_stackRep {s : State} (st : Nat) (d : Option Nat) :
    ∀ (fuel : Nat) (ts : List (T × Bytes × Nat)), StackRep s ts → stackSize ts < fuel →
      weDfsFin s st d fuel (stackOf ts) := by
  refine StackRep.induction (fun _ => trivial) (fun _ _ _ h => h) ?_
  intro f a l c r ⟨lru, lvl⟩ ts hr hts ih
  obtain ⟨_, _, rl, rc, rr⟩ := id hr
  rw [stackOf, weDfsFin, weDfsPushD_rep st d hr]
  exact ih _ (((hts.cons (rr.when _) _).cons (rl.when _) _).cons (rc.when _) _) (weDfs_push_size ..)

theorem prefix_rep {s : State} {t : T} (h : Shape s t) {pf : Bytes} {nn : Nat} (hne : lruIter pf ≠ [])
    (hn : s.lruNode (lruIter pf) = some nn) :
    ∃ l c r, Rep s (.node nn l c r) ∧ (T.node nn l c r).size ≤ s.trie.size := by
  obtain ⟨l, c, r, _, _, h1, _, _, h4, _⟩ := h.subtree_at ((lruNode_iff_entries h _ hne nn).mp hn)
  exact ⟨l, c, r, h1, h4⟩

theorem weFin_of_shape {s : State} {t : T} (h : Shape s t) (d : Option Nat) (ps : List Bytes)
    (hwf : ∀ pf ∈ ps, lruIter pf ≠ []) : WeFin s d ps := by
  intro pf hpf nn hn
  obtain ⟨l, c, r, h1, hsz⟩ := prefix_rep h (hwf pf hpf) hn
  have := weDfsFin_of_stackRep (s := s) nn d (s.trie.size + 1) [(T.node nn l c r, lruDirname pf, 0)]
    (StackRep.single h1 _) (by simp only [stackSize_cons, stackSize_nil]; omega)
  simpa [stackOf] using this

/-- **crawled pages, unconditionally on a well-formed index**: the drained generator = the atomic request -/
theorem crawled_drain_shape {s : State} {t : T} (h : Shape s t) (ps : List Bytes) (hwf : ∀ pf ∈ ps, lruIter pf ≠ [])
    (N : Nat) (hN : (s.trie.size + 2) * ps.length + 1 < N) :
    QSt.drain s N (.crawled { cur := { prefixes := ps } }) = s.ask (.crawledPages ps) :=
  crawled_drain s ps (weFin_of_shape h none ps hwf) N hN

/-- **most linked pages, unconditionally on a well-formed index** -/
theorem mostLinked_drain_shape {s : State} {t : T} (h : Shape s t) (ps : List Bytes) (k : Nat) (d : Option Nat)
    (hwf : ∀ pf ∈ ps, lruIter pf ≠ []) (N : Nat) (hN : (s.trie.size + 2) * ps.length < N) :
    QSt.drain s N (.mostLinked { cur := { prefixes := ps, depth := d }, k := k }) = s.ask (.mostLinked ps k d) :=
  mostLinked_drain s ps k d (weFin_of_shape h d ps hwf) N hN

#print axioms crawled_drain_shape
#print axioms mostLinked_drain_shape

end Traph
