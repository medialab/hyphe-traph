import Proofs.TrieEq
import Proofs.SizesLinks
import Proofs.InsertAttrs
/-! C03, the link multigraph as bags: `s.bag out b` (`out = true`: the out-list, `false`: the in-list).
    `LinksOk` makes the walk independent of its fuel. `PtrEq` is the frame of every write that is not a
    list write: same stub array, same head pointers.
    The list write itself, `LinkStore.add_links`: `addStubs_bag_any` (`addStubs_bag` for a block inside the trie). -/
namespace Traph
open State

theorem lbCount_append (t : Nat) (l₁ l₂ : List Nat) : count t (l₁ ++ l₂) = count t l₁ + count t l₂ := by
  unfold count; rw [List.filter_append, List.length_append]

theorem lbCount_reverse (t : Nat) (l : List Nat) : count t l.reverse = count t l := by
  unfold count; rw [List.filter_reverse, List.length_reverse]

theorem lbCount_map_concat {α : Type} (f : α → Nat) (t : Nat) (l : List α) (v : α) :
    count t ((l ++ [v]).map f) = count t (l.map f) + (if f v = t then 1 else 0) := by
  rw [List.map_append, lbCount_append, List.map_cons, List.map_nil, count_cons, count_nil, Nat.add_zero]

namespace State

/-- the other ends hanging off trie block `b`, newest first: the model's own walk (`link_nodes_iter`)
    from the head pointer kept in the block; a null pointer is the empty list -/
def bag (s : State) (out : Bool) (b : Nat) : List Nat :=
  s.walk0 (if out then (s.cell b).out else (s.cell b).inn)

abbrev outBag (s : State) (b : Nat) : List Nat := s.bag true b
abbrev inBag (s : State) (b : Nat) : List Nat := s.bag false b

end State

/-- acyclicity (`LinksWf`) and range: every head pointer kept in a trie block is a stub of the store -/
structure LinksOk (s : State) : Prop where
  wf  : s.LinksWf
  out : ∀ b, (s.cell b).out < s.links.size
  inn : ∀ b, (s.cell b).inn < s.links.size

theorem LinksOk.head {s : State} (h : LinksOk s) (o : Bool) (b : Nat) :
    (if o then (s.cell b).out else (s.cell b).inn) < s.links.size := by
  cases o
  · exact h.inn b
  · exact h.out b

theorem linksOk_of_init {s : State} (ht : s.trie = #[{}]) (hl : s.links = #[{}]) : LinksOk s := by
  have hwf : s.LinksWf := State.linksWf_congr (s := ({} : State)) hl State.linksWf_init
  refine ⟨hwf, fun b => ?_, fun b => ?_⟩ <;> rw [cell_of_trie_init ht, hl] <;> decide

theorem lbWalk0_unfold {s : State} (hwf : s.LinksWf) {h : Nat} (h0 : h ≠ 0) {st : Stub}
    (hs : s.links[h]? = some st) : s.walk0 h = st.target :: s.walk0 st.prev := by
  unfold State.walk0
  rw [if_pos h0, State.walk_unfold' s hwf h st hs]

theorem lbWalk0_zero (s : State) : s.walk0 0 = [] := by
  unfold State.walk0; rw [if_neg (by simp)]

theorem lbWalk0_congr {s s' : State} (h : s'.links = s.links) (i : Nat) : s'.walk0 i = s.walk0 i := by
  unfold State.walk0; rw [State.walk_congr h]

structure PtrEq (s s' : State) : Prop where
  links : s'.links = s.links
  out   : ∀ b, (s'.cell b).out = (s.cell b).out
  inn   : ∀ b, (s'.cell b).inn = (s.cell b).inn

theorem PtrEq.refl (s : State) : PtrEq s s := ⟨rfl, fun _ => rfl, fun _ => rfl⟩

theorem PtrEq.trans {a b c : State} (h1 : PtrEq a b) (h2 : PtrEq b c) : PtrEq a c :=
  ⟨h2.links.trans h1.links, fun x => (h2.out x).trans (h1.out x), fun x => (h2.inn x).trans (h1.inn x)⟩

theorem PtrEq.fst_of_eq {α : Type} {s : State} {p q : State × α} (h : PtrEq s p.1) (e : p = q) : PtrEq s q.1 :=
  e ▸ h

theorem PtrEq.bag {s s' : State} (h : PtrEq s s') (o : Bool) (b : Nat) : s'.bag o b = s.bag o b := by
  unfold State.bag
  rw [h.out, h.inn, lbWalk0_congr h.links]

theorem PtrEq.linksOk {s s' : State} (h : PtrEq s s') (hl : LinksOk s) : LinksOk s' :=
  ⟨State.linksWf_congr h.links hl.wf, fun b => by rw [h.out, h.links]; exact hl.out b,
    fun b => by rw [h.inn, h.links]; exact hl.inn b⟩

theorem PtrEq.size {s s' : State} (h : PtrEq s s') : s'.links.size = s.links.size := by rw [h.links]

theorem PtrEq.of_eq {s s' : State} (ht : s'.trie = s.trie) (hl : s'.links = s.links) : PtrEq s s' :=
  ⟨hl, fun b => by rw [State.cell_of_trie_eq ht], fun b => by rw [State.cell_of_trie_eq ht]⟩

theorem PtrEq.of_attrStep {s s' : State} (a : AttrStep s s') (hl : s'.links = s.links) : PtrEq s s' := by
  refine ⟨hl, fun b => ?_, fun b => ?_⟩
  · by_cases hb : b < s.trie.size
    · exact (a.old b hb).out
    · have hb' : s.trie.size ≤ b := Nat.le_of_not_lt hb
      rw [(a.new b hb').out, cell_of_size_le s b hb']
  · by_cases hb : b < s.trie.size
    · exact (a.old b hb).inn
    · have hb' : s.trie.size ≤ b := Nat.le_of_not_lt hb
      rw [(a.new b hb').inn, cell_of_size_le s b hb']

theorem ptrEq_modCell (s : State) (i : Nat) (f : Cell → Cell)
    (hf : ∀ c, (f c).out = c.out ∧ (f c).inn = c.inn) : PtrEq s (s.modCell i f) := by
  refine ⟨Traph.links_modCell s i f, fun b => ?_, fun b => ?_⟩
  · rw [cell_modCell]; split
    · exact (hf _).1
    · rfl
  · rw [cell_modCell]; split
    · exact (hf _).2
    · rfl

theorem ptrEq_foldl_modCell {α : Type} (g : α → Nat) (f : α → Cell → Cell)
    (hf : ∀ a c, (f a c).out = c.out ∧ (f a c).inn = c.inn) :
    ∀ (l : List α) (s : State), PtrEq s (l.foldl (fun st a => st.modCell (g a) (f a)) s)
  | [], s => PtrEq.refl s
  | a :: l, s => by
    rw [List.foldl_cons]
    exact (ptrEq_modCell s (g a) (f a) (hf a)).trans (ptrEq_foldl_modCell g f hf l _)

theorem ptrEq_addLru (s : State) (stems : LRU) (flag : Bool) : PtrEq s (s.addLru stems flag).1 :=
  PtrEq.of_attrStep (attrStep_addLru s stems flag) (links_addLru s stems flag)

def headOf (s : State) (o : Bool) (b : Nat) : Nat := if o then (s.cell b).out else (s.cell b).inn

theorem headOf_setHead {s s1 : State} (ht : s1.trie = s.trie) (page : Nat) (out : Bool) (nh : Nat) (o : Bool) (b : Nat) :
    headOf (s1.modCell page (fun c => if out then { c with out := nh } else { c with inn := nh })) o b =
      if o = out ∧ b = page ∧ page < s.trie.size then nh else headOf s o b := by
  unfold headOf
  rw [cell_modCell, State.cell_of_trie_eq ht, ht]
  by_cases e : page = b ∧ b < s.trie.size
  · obtain ⟨rfl, hp⟩ := e
    rw [if_pos (show page = page ∧ page < s.trie.size from ⟨rfl, hp⟩)]
    simp only [hp, and_true]
    cases o <;> cases out <;> rfl
  · rw [if_neg e, if_neg (show ¬(o = out ∧ b = page ∧ page < s.trie.size) from fun h => e ⟨h.2.1.symm, h.2.1 ▸ h.2.2⟩)]

/-- `LinkStore.add_links(page, targets, out)` prepends the submitted ends, newest first, to the one bag it is
    asked to extend, and leaves every other bag as it was; for a block number beyond the trie the stubs are
    appended and no head points to them -/
theorem addStubs_bag_any {s : State} (hl : LinksOk s) (page : Nat) (targets : List Nat) (out : Bool) :
    LinksOk (s.addStubs page targets out) ∧
    ∀ o b, (s.addStubs page targets out).bag o b =
      if o = out ∧ b = page ∧ page < s.trie.size then targets.reverse ++ s.bag o b else s.bag o b := by
  by_cases hne : targets = []
  · subst hne
    exact ⟨hl, fun o b => (ite_self _).symm⟩
  · have hhd := hl.head out page
    generalize hH : (if out = true then (s.cell page).out else (s.cell page).inn) = hd at hhd
    obtain ⟨a1, a2, a3, a4, a5, a6⟩ := State.addStubsGo_aux targets s hl.wf hd hhd
    obtain ⟨b1, b2⟩ := a6 hne
    rcases hg : s.addStubsGo hd targets with ⟨s1, nh⟩
    rw [hg] at a1 a2 a3 a4 a5 b1 b2
    simp only at a1 a2 a3 a4 a5 b1 b2
    have e : s.addStubs page targets out =
        s1.modCell page (fun c => if out then { c with out := nh } else { c with inn := nh }) := by
      unfold State.addStubs
      have he : ¬ targets.isEmpty = true := fun e => hne (List.isEmpty_iff.mp e)
      rw [if_neg he]
      simp only [hH, hg]
    rw [e]
    have hlk := Traph.links_modCell s1 page (fun c => if out = true then { c with out := nh } else { c with inn := nh })
    have hsz : s.links.size ≤ s1.links.size := a2 ▸ Nat.le_add_right _ _
    have hnh : nh < s1.links.size := b1 ▸ Nat.sub_lt (Nat.lt_of_lt_of_le hl.wf.1 hsz) Nat.one_pos
    have hhead : ∀ o b, headOf (s1.modCell page (fun c => if out = true then { c with out := nh } else { c with inn := nh })) o b <
        s1.links.size := fun o b => by
      rw [headOf_setHead a3]
      split
      · exact hnh
      · exact Nat.lt_of_lt_of_le (hl.head o b) hsz
    refine ⟨⟨State.linksWf_congr hlk a1, fun b => hlk ▸ hhead true b, fun b => hlk ▸ hhead false b⟩, fun o b => ?_⟩
    show State.walk0 _ (headOf _ o b) = if _ then _ ++ State.walk0 s (headOf s o b) else State.walk0 s (headOf s o b)
    rw [headOf_setHead a3, lbWalk0_congr hlk]
    split
    · next h => rw [h.1, h.2.1, a5, ← hH]; rfl
    · unfold State.walk0
      split
      · exact a4 _ (hl.head o b)
      · rfl

theorem addStubs_bag {s : State} (hl : LinksOk s) (page : Nat) (hp : page < s.trie.size)
    (targets : List Nat) (out : Bool) :
    LinksOk (s.addStubs page targets out) ∧
    ∀ o b, (s.addStubs page targets out).bag o b =
      if o = out ∧ b = page then targets.reverse ++ s.bag o b else s.bag o b := by
  have h := addStubs_bag_any hl page targets out
  simp only [hp, and_true] at h
  exact h

theorem addStubs_count {s : State} (hl : LinksOk s) (page : Nat) (hp : page < s.trie.size)
    (targets : List Nat) (out : Bool) (o : Bool) (b x : Nat) :
    count x ((s.addStubs page targets out).bag o b) =
      count x (s.bag o b) + (if o = out ∧ b = page then count x targets else 0) := by
  rw [(addStubs_bag hl page hp targets out).2]
  split
  · rw [lbCount_append, lbCount_reverse, Nat.add_comm]
  · rfl

/-- the block the page cache gives for a byte string (`0` when absent, as the model does) -/
def blkOf (pages : List (Bytes × Nat)) (l : Bytes) : Nat := (dictGet? pages l).getD 0

theorem blocksOf_eq (pages : List (Bytes × Nat)) (ls : List Bytes) :
    State.blocksOf pages ls = ls.map (blkOf pages) := rfl

/-- how many times the multimap files block `x` under a key of block `b` -/
def mcount (blk : Bytes → Nat) : List (Bytes × List Bytes) → Nat → Nat → Nat
  | [], _, _ => 0
  | (p, os) :: rest, b, x => (if blk p = b then count x (os.map blk) else 0) + mcount blk rest b x

def pcount (blk : Bytes → Nat) (links : List (Bytes × Bytes)) (a b : Nat) : Nat :=
  (links.filter (fun l => decide (blk l.1 = a ∧ blk l.2 = b))).length

@[simp] theorem pcount_nil (blk : Bytes → Nat) (a b : Nat) : pcount blk [] a b = 0 := rfl

theorem length_filter_cons {α : Type} (p : α → Prop) [DecidablePred p] (x : α) (l : List α) :
    ((x :: l).filter (fun y => decide (p y))).length =
      (if p x then 1 else 0) + (l.filter (fun y => decide (p y))).length := by
  rw [List.filter_cons]
  by_cases h : p x
  · rw [if_pos (decide_eq_true h), if_pos h, List.length_cons, Nat.add_comm]
  · rw [if_neg fun e => h (of_decide_eq_true e), if_neg h, Nat.zero_add]

theorem pcount_cons (blk : Bytes → Nat) (l : Bytes × Bytes) (links : List (Bytes × Bytes)) (a b : Nat) :
    pcount blk (l :: links) a b = (if blk l.1 = a ∧ blk l.2 = b then 1 else 0) + pcount blk links a b :=
  length_filter_cons (fun l : Bytes × Bytes => blk l.1 = a ∧ blk l.2 = b) l links

theorem pcount_append (blk : Bytes → Nat) (l₁ l₂ : List (Bytes × Bytes)) (a b : Nat) :
    pcount blk (l₁ ++ l₂) a b = pcount blk l₁ a b + pcount blk l₂ a b := by
  unfold pcount; rw [List.filter_append, List.length_append]

theorem pcount_row (blk : Bytes → Nat) (src : Bytes) (ts : List Bytes) (a b : Nat) :
    pcount blk (ts.map (fun x => (src, x))) a b = if blk src = a then count b (ts.map blk) else 0 := by
  induction ts with
  | nil => exact (ite_self _).symm
  | cons t ts ih =>
    rw [List.map_cons, pcount_cons, ih, List.map_cons, count_cons]
    by_cases h : blk src = a
    · simp only [h, true_and, if_true]
    · simp only [h, false_and, if_false]

/-- `defaultdict(list)[k].append(v)` files exactly one more pair -/
theorem mcount_multiAdd (blk : Bytes → Nat) (d : List (Bytes × List Bytes)) (k v : Bytes) (b x : Nat) :
    mcount blk (multiAdd d k v) b x = mcount blk d b x + (if blk k = b ∧ blk v = x then 1 else 0) := by
  induction d with
  | nil =>
    show (if blk k = b then count x [blk v] else 0) + 0 = 0 + _
    rw [Nat.add_zero, Nat.zero_add, count_cons, count_nil, Nat.add_zero]
    by_cases h1 : blk k = b
    · simp only [h1, true_and, if_true]
    · simp only [h1, false_and, if_false]
  | cons kv rest ih =>
    obtain ⟨k', vs⟩ := kv
    by_cases e : k' = k
    · subst e
      rw [multiAdd, if_pos rfl]
      show (if blk k' = b then count x ((vs ++ [v]).map blk) else 0) + mcount blk rest b x =
        (if blk k' = b then count x (vs.map blk) else 0) + mcount blk rest b x + _
      by_cases h1 : blk k' = b
      · simp only [h1, true_and, if_true, lbCount_map_concat]
        exact Nat.add_right_comm _ _ _
      · simp only [h1, false_and, if_false]; rfl
    · rw [multiAdd, if_neg e]
      show _ + mcount blk (multiAdd rest k v) b x = _ + mcount blk rest b x + _
      rw [ih, Nat.add_assoc]

theorem mcount_foldl_multiAdd {α : Type} (blk : Bytes → Nat) (key val : α → Bytes) :
    ∀ (l : List α) (d : List (Bytes × List Bytes)) (b x : Nat),
      mcount blk (l.foldl (fun d e => multiAdd d (key e) (val e)) d) b x =
        mcount blk d b x + (l.filter (fun e => decide (blk (key e) = b ∧ blk (val e) = x))).length
  | [], _, _, _ => rfl
  | e :: l, d, b, x => by
    rw [List.foldl_cons, mcount_foldl_multiAdd blk key val l, mcount_multiAdd,
      length_filter_cons (fun e => blk (key e) = b ∧ blk (val e) = x), Nat.add_assoc]

theorem lbKeys_multiAdd {β : Type} (P : Bytes → Prop) : ∀ (d : List (Bytes × List β)) (k : Bytes) (v : β),
    (∀ kv ∈ d, P kv.1) → P k → ∀ kv ∈ multiAdd d k v, P kv.1 := fun _ _ _ hd hk kv hm =>
  (multiAdd_all (Q := fun _ => True) (fun e he => ⟨hd e he, fun _ _ => trivial⟩) hk trivial kv hm).1

theorem flushLists_bag (out : Bool) (pages : List (Bytes × Nat)) :
    ∀ (lists : List (Bytes × List Bytes)) (s : State), LinksOk s →
      (∀ kv ∈ lists, blkOf pages kv.1 < s.trie.size) →
      LinksOk (State.flushLists out pages s lists) ∧
      ∀ o b x, count x ((State.flushLists out pages s lists).bag o b) =
        count x (s.bag o b) + (if o = out then mcount (blkOf pages) lists b x else 0) := by
  intro lists
  induction lists with
  | nil => exact fun s hl _ => ⟨hl, fun o b x => by split <;> rfl⟩
  | cons row rest ih =>
    obtain ⟨p, others⟩ := row
    intro s hl hr
    rw [State.flushLists]
    have hp : blkOf pages p < s.trie.size := hr (p, others) List.mem_cons_self
    obtain ⟨l2, c2⟩ := ih _ (addStubs_bag hl (blkOf pages p) hp _ out).1
      fun kv hkv => by rw [addStubs_trie_size]; exact hr kv (List.mem_cons_of_mem _ hkv)
    refine ⟨l2, fun o b x => ?_⟩
    show count x ((State.flushLists out pages (s.addStubs (blkOf pages p) _ out) rest).bag o b) =
      _ + if o = out then (if blkOf pages p = b then count x (others.map (blkOf pages)) else 0) + _ else 0
    rw [c2, addStubs_count hl (blkOf pages p) hp, blocksOf_eq, Nat.add_assoc]
    by_cases ho : o = out
    · simp only [ho, true_and, if_true, eq_comm (a := b)]
    · simp only [ho, false_and, if_false]

#print axioms addStubs_bag
#print axioms flushLists_bag

end Traph
