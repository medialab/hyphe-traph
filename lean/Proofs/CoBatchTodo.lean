import Proofs.CoSections
/-! C16 — the crawl batch drained alone, as one invariant of its loop. `cw_todo s b`: what `index_batch_crawl` still
    has to do from the private state `b` of its generator on the index `s`, as the run of a program of
    `Proofs/Prog.lean` (the rows not started and the in-list pass; inside a row, its remaining targets and then
    `cw_rowEnd`, the out-list being written from the blocks found so far). From a fresh generator that is the
    request itself (`batch_eq`). One iteration of the loop (`BatchStep`) leaves it as it is (`cw_todo_step`), up to a
    relation `Rel` on the index that the programs respect: equality, or equality but for the ghost write log. The
    machine differs from the request in one place: it goes by the crawled bit of its COPY of a source's node
    (`hmark`, `hsound`). -/
namespace Traph
open State

/-- the cache and the report of the generator as those of the atomic request: the page cache without its crawled
    bits (a new page is appended by both, a cached one keeps its place) -/
def cw_run (P : cw_Pg) (R : Report) : Run := ⟨P.map fun x => (x.1, x.2.1), R⟩

theorem cw_run_get (P : cw_Pg) (R : Report) (l : Bytes) : dictGet? (cw_run P R).pages l = (pagesGet P l).map (·.1) := by
  show dictGet? (P.map fun x => (x.1, x.2.1)) l = (dictGet? P l).map (·.1)
  induction P with
  | nil => rfl
  | cons kv rest ih =>
    obtain ⟨k, v⟩ := kv
    simp only [List.map_cons, Co.dictGet?_cons]
    by_cases e : k = l
    · rw [if_pos e, if_pos e]; rfl
    · rw [if_neg e, if_neg e]; exact ih

theorem cw_run_block (P : cw_Pg) (R : Report) (l : Bytes) : pageBlock P l = (dictGet? (cw_run P R).pages l).getD 0 := by
  rw [cw_run_get]; rfl

theorem cw_run_blocks (P : cw_Pg) (R : Report) (ls : List Bytes) : ls.map (pageBlock P) = blocksOf (cw_run P R).pages ls :=
  List.map_congr_left fun l _ => cw_run_block P R l

theorem cw_run_new {P : cw_Pg} {l : Bytes} (hg : pagesGet P l = none) (n : Nat) (c : Bool) (R : Report) :
    cw_run (pagesSet P l (n, c)) R = { pages := (cw_run P R).pages ++ [(l, n)], rep := R } := by
  suffices h : (dictSet P l (n, c)).map (fun x => (x.1, x.2.1)) = P.map (fun x => (x.1, x.2.1)) ++ [(l, n)] by
    unfold cw_run pagesSet; rw [h]
  induction P with
  | nil => rfl
  | cons kv rest ih =>
    obtain ⟨k, v⟩ := kv
    have hk : k ≠ l ∧ pagesGet rest l = none := by
      have h' : dictGet? ((k, v) :: rest) l = none := hg
      rw [Co.dictGet?_cons] at h'
      by_cases e : k = l
      · rw [if_pos e] at h'; cases h'
      · rw [if_neg e] at h'; exact ⟨e, h'⟩
    simp only [dictSet, if_neg hk.1, List.map_cons, List.cons_append, ih hk.2]

theorem cw_run_set {P : cw_Pg} {l : Bytes} {n : Nat} {c : Bool} (hg : pagesGet P l = some (n, c)) (c' : Bool)
    (R : Report) : cw_run (pagesSet P l (n, c')) R = cw_run P R := by
  suffices h : (dictSet P l (n, c')).map (fun x => (x.1, x.2.1)) = P.map fun x => (x.1, x.2.1) by
    unfold cw_run pagesSet; rw [h]
  induction P with
  | nil => cases hg
  | cons kv rest ih =>
    obtain ⟨k, v⟩ := kv
    have h' : dictGet? ((k, v) :: rest) l = some (n, c) := hg
    rw [Co.dictGet?_cons] at h'
    simp only [dictSet]
    by_cases e : k = l
    · rw [if_pos e] at h' ⊢
      cases h'; rfl
    · rw [if_neg e] at h' ⊢
      simp only [List.map_cons, ih h']

/-- the rows `data` and then the in-lists: `I` with the links of `links` (rows in progress) and of `data` -/
def cw_rows (data : List (Bytes × List Bytes)) (links : List (Bytes × Bytes)) (I : cw_In) : List Instr :=
  data.flatMap rowProg ++ flushProg false (inlOf (links ++ batchLinks data) I)

/-- the end of a row whose targets have been looked up: its out-list is written from the blocks found before (`tb`)
    and those of `ts`; then the other rows -/
def cw_rowEnd (src : Bytes) (tb : List Nat) (ts : List Bytes) (data : List (Bytes × List Bytes)) (I : cw_In) :
    State × Except Err Run → State × Except Err Run
  | (s, .error e) => (s, .error e)
  | (s, .ok a) =>
    exec (s.addStubs ((dictGet? a.pages src).getD 0) (tb ++ blocksOf a.pages ts) true) a
      (cw_rows data (ts.map fun x => (src, x)) I)

def cw_todo (s : State) (b : BatchSt) : State × Except Err Run :=
  match b.flush with
  | some L => exec s (cw_run b.pages b.rep) (flushProg false L)
  | none =>
    match b.cur with
    | none => exec s (cw_run b.pages b.rep) (cw_rows b.data [] b.inl)
    | some (src, ts, tb) =>
      cw_rowEnd src tb ts b.data (cw_pend b.inl src b.pendIn) (exec s (cw_run b.pages b.rep) (endsProg ts))

theorem cw_todo_init (s : State) (data : List (Bytes × List Bytes)) :
    Run.lift Run.rep (cw_todo s ⟨data, none, none, [], [], none, {}⟩) = s.batch data := (batch_eq s data).symm

theorem exec_row (s : State) (a : Run) (src : Bytes) (tgts : List Bytes) (more : List (Bytes × List Bytes)) (I : cw_In) :
    exec s a (cw_rows ((src, tgts) :: more) [] I) =
      match (Instr.ensure src true).run s a with
      | (s1, .error e) => (s1, .error e)
      | (s1, .ok a1) => cw_rowEnd src [] tgts more I (exec s1 a1 (endsProg tgts)) := by
  show exec s a ((.ensure src true :: (endsProg tgts ++ [.stubs src tgts true]) ++ more.flatMap rowProg) ++ _) = _
  rw [List.cons_append, List.cons_append, exec]
  rcases (Instr.ensure src true).run s a with ⟨s1, e | a1⟩
  · rfl
  · dsimp only
    rw [List.append_assoc, List.append_assoc, exec_append]
    rcases exec s1 a1 (endsProg tgts) with ⟨s2, e | a2⟩
    · rfl
    · rw [batchLinks_cons, List.nil_append]; rfl

theorem ensure_run_err {s s1 : State} {P : cw_Pg} (R : Report) {l : Bytes} {c : Bool} {n : Nat} {e : Err}
    (hg : pagesGet P l = none) (ha : s.addPageCore l c = (s1, n, .error e)) :
    (Instr.ensure l c).run s (cw_run P R) = (s1, .error e) := by
  simp only [Instr.run, cw_run_get, hg, Option.map_none, ha]

/-- "make sure the page is cached" is the instruction `ensure`: the same cache and report, and the same index but where
    the generator goes by its copy of the node of a source: it flags the block again if the copy is not flagged though
    the block is (`hmark`), and takes it for flagged if the copy is (`hsound`) -/
theorem CacheStep.run {Rel : State → State → Prop} (hrefl : ∀ s, Rel s s) {s s1 : State} {P P1 : cw_Pg} {R R1 : Report}
    {l : Bytes} {crawl new : Bool} {n : Nat} (c : CacheStep s P R l crawl s1 P1 R1 n new)
    (hmark : ∀ n, pagesGet P l = some (n, false) → (s.cell n).flags.crawled = true →
      Rel (s.modCell n fun c => { c with flags := { c.flags with crawled := true } }) s)
    (hsound : crawl = true → ∀ n, pagesGet P l = some (n, true) → (s.cell n).flags.crawled = true) :
    ∃ s', (Instr.ensure l crawl).run s (cw_run P R) = (s', .ok (cw_run P1 R1)) ∧ Rel s1 s' ∧
      dictGet? (cw_run P1 R1).pages l = some n := by
  cases c with
  | @new _ n r hg ha =>
    refine ⟨s1, ?_, hrefl _, ?_⟩
    · simp only [Instr.run, cw_run_get, hg, Option.map_none, ha, cw_run_new hg]; rfl
    · rw [cw_run_get, show pagesGet (pagesSet P l _) l = some _ from Co.dictGet?_dictSet_self P l _]; rfl
  | mark hc hg =>
    subst hc
    have hn : dictGet? (cw_run P R).pages l = some n := by rw [cw_run_get, hg]; rfl
    rw [cw_run_set hg]
    by_cases hb : (s.cell n).flags.crawled = true
    · exact ⟨s, by simp only [Instr.run, hn, hb, Bool.not_true, Bool.and_false, Bool.false_eq_true, if_false],
        hmark n hg hb, hn⟩
    · exact ⟨_, by simp only [Instr.run, hn, hb, Bool.not_false, Bool.and_self, if_true], hrefl _, hn⟩
  | @hit _ c hg hc =>
    have hn : dictGet? (cw_run P R).pages l = some n := by rw [cw_run_get, hg]; rfl
    refine ⟨s, ?_, hrefl _, hn⟩
    cases crawl with
    | false => simp only [Instr.run, hn, Bool.false_and, Bool.false_eq_true, if_false]
    | true =>
      cases hc rfl
      simp only [Instr.run, hn, hsound rfl n hg, Bool.not_true, Bool.and_false, Bool.false_eq_true, if_false]

def cw_Sim {α : Type} (Rel : State → State → Prop) (x y : State × α) : Prop := Rel x.1 y.1 ∧ x.2 = y.2

structure cw_Resp (Rel : State → State → Prop) : Prop where
  refl : ∀ s, Rel s s
  trans : ∀ {a b c : State}, Rel a b → Rel b c → Rel a c
  exec : ∀ {a b : State} (r : Run) (is : List Instr), Rel a b → cw_Sim Rel (exec a r is) (exec b r is)
  stubs : ∀ {a b : State} (p : Nat) (ts : List Nat) (o : Bool), Rel a b → Rel (a.addStubs p ts o) (b.addStubs p ts o)

theorem cw_rowEnd_sim {Rel : State → State → Prop} (hR : cw_Resp Rel) (src : Bytes) (tb : List Nat) (ts : List Bytes)
    (data : List (Bytes × List Bytes)) (I : cw_In) {x y : State × Except Err Run} (h : cw_Sim Rel x y) :
    cw_Sim Rel (cw_rowEnd src tb ts data I x) (cw_rowEnd src tb ts data I y) := by
  obtain ⟨sx, rx⟩ := x
  obtain ⟨sy, ry⟩ := y
  obtain ⟨h1, h2⟩ := h
  cases (h2 : rx = ry)
  cases rx with
  | error e => exact ⟨h1, rfl⟩
  | ok a => exact hR.exec _ _ (hR.stubs _ _ _ h1)

/-- a target that is in the cache passes from the list still to look up to the blocks found -/
theorem cw_rowEnd_cons (src t : Bytes) (tb : List Nat) (ts : List Bytes) (data : List (Bytes × List Bytes)) (I : cw_In)
    (s : State) (a : Run) {n : Nat} (hn : dictGet? a.pages t = some n) :
    cw_rowEnd src tb (t :: ts) data I (exec s a (endsProg ts)) =
      cw_rowEnd src (tb ++ [n]) ts data (multiAdd I t src) (exec s a (endsProg ts)) := by
  rcases h2 : exec s a (endsProg ts) with ⟨s2, e | a2⟩
  · rfl
  · have hb : blocksOf a2.pages (t :: ts) = n :: blocksOf a2.pages ts := by
      rw [blocksOf, List.map_cons, (exec_pagesLe _ h2).getD hn, hn]; rfl
    simp only [cw_rowEnd, hb, List.append_assoc, List.singleton_append]
    rfl

/-- the generator between two rows holds no in-link back, and the source of a row in progress is in its cache -/
def cw_Ok (b : BatchSt) : Prop :=
  (b.cur = none → b.pendIn = none) ∧ ∀ src ts tb, b.cur = some (src, ts, tb) → ∃ v, pagesGet b.pages src = some v

/-- **one iteration of the loop leaves what is still to do as it is**; the iteration that leaves the loop for good
    leaves what was still to do -/
theorem cw_todo_step {Rel : State → State → Prop} (hR : cw_Resp Rel) {s s1 : State} {b b1 : BatchSt} {o : Option CoOut}
    (st : BatchStep s b s1 b1 o) (ok : cw_Ok b)
    (hmark : ∀ l n, pagesGet b.pages l = some (n, false) → (s.cell n).flags.crawled = true →
      Rel (s.modCell n fun c => { c with flags := { c.flags with crawled := true } }) s)
    (hsound : b.cur = none → ∀ l n, pagesGet b.pages l = some (n, true) → (s.cell n).flags.crawled = true) :
    match o with
    | none | some .yielded => cw_Sim Rel (cw_todo s1 b1) (cw_todo s b)
    | some (.done a) => ∃ r, (cw_todo s b).2 = .ok r ∧ a = .report r.rep ∧ Rel s1 (cw_todo s b).1
    | some (.failed e) => (cw_todo s b).2 = .error e ∧ Rel s1 (cw_todo s b).1 := by
  cases st with
  | done data cur pendIn P I R => exact ⟨cw_run P R, rfl, rfl, hR.refl s⟩
  | flush data cur pendIn P I R t srcs rest =>
    have e : cw_todo s ⟨data, cur, pendIn, P, I, some ((t, srcs) :: rest), R⟩ =
        cw_todo (s.addStubs (pageBlock P t) (srcs.map (pageBlock P)) false) ⟨data, cur, pendIn, P, I, some rest, R⟩ := by
      rw [cw_run_block P R, cw_run_blocks P R]; rfl
    rw [e]; exact ⟨hR.refl _, rfl⟩
  | toFlush pendIn P I R => exact ⟨hR.refl _, rfl⟩
  | @src src P P1 R R1 _ n new tgts more pendIn I c =>
    cases ok.1 rfl
    obtain ⟨s', hrun, hrel, _⟩ := c.run hR.refl (hmark src) fun _ => hsound rfl src
    show cw_Sim Rel (cw_rowEnd src [] tgts more I (exec s1 (cw_run P1 R1) (endsProg tgts)))
      (exec s (cw_run P R) (cw_rows ((src, tgts) :: more) [] I))
    rw [exec_row, hrun]
    exact cw_rowEnd_sim hR _ _ _ _ _ (hR.exec _ _ hrel)
  | srcErr tgts more pendIn I R hg ha =>
    show (exec s (cw_run _ R) (cw_rows ((_, tgts) :: more) [] I)).2 = _ ∧ Rel _ (exec s (cw_run _ R) (cw_rows _ [] I)).1
    rw [exec_row, ensure_run_err R hg ha]
    exact ⟨rfl, hR.refl _⟩
  | tgtEnd data src tb pendIn P I R =>
    obtain ⟨⟨n, c⟩, hg⟩ := ok.2 src [] tb rfl
    have e : cw_todo (s.addStubs (pageBlock P src) tb true)
        ⟨data, none, none, pagesSet P src (pageBlock P src, (s.cell (pageBlock P src)).flags.crawled),
          cw_pend I src pendIn, none, R⟩ = cw_todo s ⟨data, some (src, [], tb), pendIn, P, I, none, R⟩ := by
      simp only [cw_todo, endsProg, List.map_nil, exec, cw_rowEnd, blocksOf, List.append_nil]
      rw [co_pageBlock_of_get hg, cw_run_set hg, cw_run_get, hg]; rfl
    rw [e]; exact ⟨hR.refl _, rfl⟩
  | @tgt t P P1 R R1 _ n new data src ts tb pendIn I c =>
    obtain ⟨s', hrun, hrel, hn⟩ := c.run hR.refl (hmark t) nofun
    have e0 : cw_todo s ⟨data, some (src, t :: ts, tb), pendIn, P, I, none, R⟩ =
        cw_rowEnd src (tb ++ [n]) ts data (multiAdd (cw_pend I src pendIn) t src) (exec s' (cw_run P1 R1) (endsProg ts)) := by
      show cw_rowEnd src tb (t :: ts) data _ (exec s (cw_run P R) (.ensure t false :: endsProg ts)) = _
      rw [exec, hrun]
      exact cw_rowEnd_cons src t tb ts data _ s' _ hn
    have e1 : cw_todo s1 ⟨data, some (src, ts, tb ++ [n]), bif new then some t else none, P1,
          bif new then cw_pend I src pendIn else multiAdd (cw_pend I src pendIn) t src, none, R1⟩ =
        cw_rowEnd src (tb ++ [n]) ts data (multiAdd (cw_pend I src pendIn) t src) (exec s1 (cw_run P1 R1) (endsProg ts)) := by
      cases new <;> rfl
    cases new <;> (rw [e1, e0]; exact cw_rowEnd_sim hR _ _ _ _ _ (hR.exec _ _ hrel))
  | tgtErr data src ts tb pendIn I R hg ha =>
    show (cw_rowEnd src tb _ data _ (exec s (cw_run _ R) (.ensure _ false :: endsProg ts))).2 = _ ∧
      Rel _ (cw_rowEnd src tb _ data _ (exec s (cw_run _ R) (.ensure _ false :: endsProg ts))).1
    rw [exec, ensure_run_err R hg ha]
    exact ⟨rfl, hR.refl _⟩

theorem cw_multiAdd_length {α β : Type} [DecidableEq α] : ∀ (d : List (α × List β)) (k : α) (v : β),
    (multiAdd d k v).length ≤ d.length + 1
  | [], k, v => by simp [multiAdd]
  | (k', vs) :: rest, k, v => by
    simp only [multiAdd]
    split
    · simp
    · have := cw_multiAdd_length rest k v
      simp only [List.length_cons]; omega

/-- targets still to come -/
def cw_nt (data : List (Bytes × List Bytes)) : Nat := (data.map (fun d => d.2.length)).sum

theorem cw_nt_cons (src : Bytes) (tgts : List Bytes) (more : List (Bytes × List Bytes)) :
    cw_nt ((src, tgts) :: more) = tgts.length + cw_nt more := by
  simp [cw_nt]

/-- yields still to come: one per target that is new, one per in-list (a target opens at most one) -/
def cw_ys (b : BatchSt) : Nat :=
  match b.flush, b.cur with
  | some L, _ => L.length
  | none, none => 2 * cw_nt b.data + b.inl.length
  | none, some (src, ts, _) => 2 * (ts.length + cw_nt b.data) + (cw_pend b.inl src b.pendIn).length

theorem CacheStep.cached {s s1 : State} {P P1 : cw_Pg} {R R1 : Report} {l : Bytes} {crawl new : Bool} {n : Nat}
    (c : CacheStep s P R l crawl s1 P1 R1 n new) :
    (∃ v, pagesGet P1 l = some v) ∧ ∀ x, (∃ v, pagesGet P x = some v) → ∃ v, pagesGet P1 x = some v := by
  have set : ∀ v, (∃ w, pagesGet (pagesSet P l v) l = some w) ∧
      ∀ x, (∃ w, pagesGet P x = some w) → ∃ w, pagesGet (pagesSet P l v) x = some w := fun v =>
    ⟨⟨v, Co.dictGet?_dictSet_self P l v⟩, fun x ⟨w, hw⟩ => Option.isSome_iff_exists.mp
      (Co.dictGet?_dictSet_isSome P l v x (Option.isSome_iff_exists.mpr ⟨w, hw⟩))⟩
  cases c with
  | new _ _ => exact set _
  | mark _ _ => exact set _
  | hit hg _ => exact ⟨⟨_, hg⟩, fun _ h => h⟩

theorem cw_step_meas {s s1 : State} {b b1 : BatchSt} {o : Option CoOut} (st : BatchStep s b s1 b1 o) (ok : cw_Ok b) :
    match o with
    | none => cw_Ok b1 ∧ batchWork b1 < batchWork b ∧ cw_ys b1 ≤ cw_ys b
    | some .yielded => cw_Ok b1 ∧ batchWork b1 ≤ batchWork b ∧ cw_ys b1 < cw_ys b
    | some _ => True := by
  cases st with
  | done => trivial
  | srcErr => trivial
  | tgtErr => trivial
  | flush data cur pendIn P I R t srcs rest => exact ⟨ok, Nat.le_refl _, Nat.lt_succ_self _⟩
  | toFlush pendIn P I R => exact ⟨ok, Nat.zero_lt_succ _, by simp [cw_ys, cw_nt]⟩
  | @src src P P1 R R1 _ n new tgts more pendIn I c =>
    cases ok.1 rfl
    refine ⟨⟨nofun, fun _ _ _ e => by cases e; exact c.cached.1⟩, ?_, ?_⟩
    · simp only [batchWork, List.map_cons, List.sum_cons]; omega
    · simp only [cw_ys, cw_nt_cons, cw_pend]; omega
  | tgtEnd data src tb pendIn P I R =>
    refine ⟨⟨fun _ => rfl, nofun⟩, ?_, ?_⟩
    · simp only [batchWork, List.length_nil]; omega
    · simp only [cw_ys, List.length_nil]; omega
  | @tgt t P P1 R R1 _ n new data src ts tb pendIn I c =>
    have hl := cw_multiAdd_length (cw_pend I src pendIn) t src
    have ok1 : ∀ pend' I', cw_Ok ⟨data, some (src, ts, tb ++ [n]), pend', P1, I', none, R1⟩ := fun _ _ =>
      ⟨nofun, fun _ _ _ e => by cases e; exact c.cached.2 src (ok.2 src _ _ rfl)⟩
    cases new with
    | false =>
      refine ⟨ok1 _ _, ?_, ?_⟩
      · simp only [batchWork, List.length_cons]; omega
      · show 2 * (ts.length + cw_nt data) + (multiAdd (cw_pend I src pendIn) t src).length ≤
          2 * (ts.length + 1 + cw_nt data) + (cw_pend I src pendIn).length
        omega
    | true =>
      refine ⟨ok1 _ _, ?_, ?_⟩
      · simp only [batchWork, List.length_cons]; omega
      · show 2 * (ts.length + cw_nt data) + (multiAdd (cw_pend I src pendIn) t src).length <
          2 * (ts.length + 1 + cw_nt data) + (cw_pend I src pendIn).length
        omega

/-- what a section from `s`, `b` leaves (`batchWork` does not grow: the next section has iterations enough) -/
def cw_Sec (Rel : State → State → Prop) (K : State → BatchSt → Prop) (s : State) (b : BatchSt) :
    State × BatchSt × CoOut → Prop
  | (s1, b1, .yielded) =>
    (K s1 b1 ∧ cw_Ok b1 ∧ batchWork b1 ≤ batchWork b) ∧ cw_Sim Rel (cw_todo s1 b1) (cw_todo s b) ∧ cw_ys b1 < cw_ys b
  | (s1, _, .done a) => ∃ r, (cw_todo s b).2 = .ok r ∧ a = .report r.rep ∧ Rel s1 (cw_todo s b).1
  | (s1, _, .failed e) => (cw_todo s b).2 = .error e ∧ Rel s1 (cw_todo s b).1

/-- **a section of the generator leaves what is still to do as it is**, as long as the iterations keep `K`, which says
    what the generator's copies of the nodes know of the index (`hmark`, `hsound` of `cw_todo_step`) -/
theorem cw_todo_run {Rel : State → State → Prop} (hR : cw_Resp Rel) (K : State → BatchSt → Prop)
    (hmark : ∀ s b, K s b → ∀ l n, pagesGet b.pages l = some (n, false) → (s.cell n).flags.crawled = true →
      Rel (s.modCell n fun c => { c with flags := { c.flags with crawled := true } }) s)
    (hsound : ∀ s b, K s b → b.cur = none → ∀ l n, pagesGet b.pages l = some (n, true) → (s.cell n).flags.crawled = true)
    (hK : ∀ {s s1 b b1 o}, K s b → cw_Ok b → BatchStep s b s1 b1 o → (o = none ∨ o = some .yielded) → K s1 b1)
    {f : Nat} {s : State} {b : BatchSt} {r : State × BatchSt × CoOut} (run : BatchRun f s b r) :
    K s b → cw_Ok b → batchWork b < f → cw_Sec Rel K s b r := by
  induction run with
  | fuel s b => exact fun _ _ h => absurd h (Nat.not_lt_zero _)
  | @stop f s s1 b b1 o st =>
    intro k ok _
    have h := cw_todo_step hR st ok (hmark s b k) (hsound s b k)
    cases o with
    | yielded =>
      obtain ⟨ok1, h1, h2⟩ := cw_step_meas st ok
      exact ⟨⟨hK k ok st (.inr rfl), ok1, h1⟩, h, h2⟩
    | done a => exact h
    | failed e => exact h
  | @loop f s s1 b b1 r st _ ih =>
    intro k ok hf
    obtain ⟨h1, h2⟩ := cw_todo_step hR st ok (hmark s b k) (hsound s b k)
    obtain ⟨ok1, m1, m2⟩ := cw_step_meas st ok
    have := ih (hK k ok st (.inl rfl)) ok1 (by omega)
    obtain ⟨s2, b2, o⟩ := r
    cases o with
    | yielded =>
      obtain ⟨⟨k2, ok2, i2⟩, sim, y2⟩ := this
      exact ⟨⟨k2, ok2, by omega⟩, ⟨hR.trans sim.1 h1, sim.2.trans h2⟩, by omega⟩
    | done a =>
      obtain ⟨r, e1, e2, rel⟩ := this
      exact ⟨r, h2 ▸ e1, e2, hR.trans rel h1⟩
    | failed e => exact ⟨h2 ▸ this.1, hR.trans this.2 h1⟩

end Traph
