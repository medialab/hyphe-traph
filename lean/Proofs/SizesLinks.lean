import Proofs.LinkLists
import Proofs.Frame
import Proofs.Kept
/-! C19, link store: trie writes never touch the link store; `addStubs` appends one stub per target;
    `flushLists` appends the total of the list lengths; `add_links` appends exactly two stubs per submitted
    link (one in the source's out-list, one in the target's in-list). -/
namespace Traph

theorem links_appendCells (cs : List Cell) (s : State) : (s.appendCells cs).links = s.links :=
  kept_links.appendCells cs s

theorem links_setHdr (s : State) (id : Nat) : (s.setHdr id).links = s.links := rfl

theorem links_genId (s : State) : s.genId.1.links = s.links := rfl

theorem links_addLru (s : State) (stems : LRU) (flag : Bool) : (s.addLru stems flag).1.links = s.links :=
  kept_links.addLru s stems flag

/-- no change but `addStubs` touches the link store -/
theorem links_across (ru : Bool) (wf : Prop) :
    Across false ru wf (fun _ => True) (fun _ _ => True) (fun s s' => s'.links = s.links) :=
  kept_links.across (fun _ _ => rfl) nofun (fun _ _ _ _ => rfl)

theorem Built.To.links {ru : Bool} {wf : Prop} {s s' : State} {P : List Answered → Prop}
    (h : Built.To false ru wf s [] s' P) : s'.links = s.links := h.across (links_across ru wf) trivial

theorem links_addPageCore (s : State) (lru : Bytes) (crawled : Bool) :
    (s.addPageCore lru crawled).1.links = s.links := (built_addPageCore (Built.quiet s) lru crawled).links

theorem linksWf_addLru {s : State} (hwf : s.LinksWf) (stems : LRU) (flag : Bool) :
    (s.addLru stems flag).1.LinksWf := State.linksWf_congr (links_addLru s stems flag) hwf

theorem linksWf_addPageTrie {s : State} (hwf : s.LinksWf) (stems : LRU) (crawled : Bool) :
    (s.addPageTrie stems crawled).1.LinksWf :=
  State.linksWf_congr (built_addPageTrie (Built.quiet s) stems crawled).links hwf

theorem linksWf_addPrefixes {s : State} (hwf : s.LinksWf) (ps : List Bytes) (best : Bool) :
    (s.addPrefixes ps best).1.LinksWf :=
  State.linksWf_congr (built_addPrefixes (Built.quiet s) ps best).links hwf

theorem linksWf_addPageCore {s : State} (hwf : s.LinksWf) (lru : Bytes) (crawled : Bool) :
    (s.addPageCore lru crawled).1.LinksWf := State.linksWf_congr (links_addPageCore s lru crawled) hwf

theorem linksWf_modCell {s : State} (hwf : s.LinksWf) (i : Nat) (f : Cell → Cell) :
    (s.modCell i f).LinksWf := State.linksWf_congr (links_modCell s i f) hwf

theorem addStubsGo_links_size : ∀ (targets : List Nat) (s : State) (tail : Nat),
    (s.addStubsGo tail targets).1.links.size = s.links.size + targets.length
  | [], _, _ => rfl
  | t :: ts, s, tail => by
    have hstep : s.addStubsGo tail (t :: ts) =
        (s.appendStub { target := t, prev := tail }).1.addStubsGo s.links.size ts := rfl
    rw [hstep, addStubsGo_links_size ts, State.links_appendStub, Array.size_push, List.length_cons]
    omega

/-- `LinkStore.add_links(page, targets, out)` appends exactly `targets.length` stubs -/
theorem addStubs_size (s : State) (page : Nat) (targets : List Nat) (out : Bool) :
    (s.addStubs page targets out).links.size = s.links.size + targets.length := by
  unfold State.addStubs
  split
  · next h => rw [List.isEmpty_iff.mp h]; rfl
  · simp only [links_modCell]
    exact addStubsGo_links_size _ _ _

theorem addStubs_nil (s : State) (page : Nat) (out : Bool) : s.addStubs page [] out = s := rfl

theorem addStubs_trie_size (s : State) (page : Nat) (targets : List Nat) (out : Bool) :
    (s.addStubs page targets out).trie.size = s.trie.size := by
  unfold State.addStubs
  split
  · rfl
  · simp only [trie_modCell_size]
    rw [addStubsGo_trie_eq]

theorem linksWf_addStubs {s : State} (hwf : s.LinksWf) (page : Nat) (targets : List Nat) (out : Bool)
    (hh : (if out then (s.cell page).out else (s.cell page).inn) < s.links.size) :
    (s.addStubs page targets out).LinksWf := by
  unfold State.addStubs
  split
  · exact hwf
  · exact State.linksWf_congr (links_modCell _ _ _) (State.addStubsGo_spec s hwf _ hh targets).1

def multiTotal {α β : Type} (d : List (α × List β)) : Nat := (d.map (fun kv => kv.2.length)).sum

@[simp] theorem multiTotal_nil {α β : Type} : multiTotal ([] : List (α × List β)) = 0 := rfl

theorem multiTotal_cons {α β : Type} (kv : α × List β) (d : List (α × List β)) :
    multiTotal (kv :: d) = kv.2.length + multiTotal d := by
  simp [multiTotal]

/-- `defaultdict(list)[k].append(v)` adds exactly one value -/
theorem multiAdd_total {α β : Type} [DecidableEq α] : ∀ (d : List (α × List β)) (k : α) (v : β),
    multiTotal (multiAdd d k v) = multiTotal d + 1
  | [], k, v => by simp [multiAdd, multiTotal]
  | (k', vs) :: rest, k, v => by
    unfold multiAdd
    split
    · rw [multiTotal_cons, multiTotal_cons]; simp only [List.length_append, List.length_singleton]; omega
    · rw [multiTotal_cons, multiTotal_cons, multiAdd_total rest k v]; omega

theorem blocksOf_length (pages : List (Bytes × Nat)) (ls : List Bytes) :
    (State.blocksOf pages ls).length = ls.length := by
  simp [State.blocksOf]

theorem flushLists_size (out : Bool) (pages : List (Bytes × Nat)) :
    ∀ (lists : List (Bytes × List Bytes)) (s : State),
      (State.flushLists out pages s lists).links.size = s.links.size + multiTotal lists
  | [], _ => rfl
  | (p, others) :: rest, s => by
    simp only [State.flushLists]
    rw [flushLists_size out pages rest, addStubs_size, blocksOf_length, multiTotal_cons]
    simp only
    omega

theorem links_run (s : State) (a : Run) {i : Instr} (hi : ∀ p ts o, i ≠ .stubs p ts o) :
    (i.run s a).1.links = s.links :=
  Instr.run_quiet (R := fun s s' => s'.links = s.links) (fun _ => rfl) (fun h1 h2 => h2.trans h1) links_addPageCore
    (fun s n => links_modCell s n _) s a hi

theorem links_exec (is : List Instr) (s : State) (a : Run) (h : ∀ i ∈ is, ∀ p ts o, i ≠ .stubs p ts o) :
    (exec s a is).1.links = s.links := by
  fun_induction exec s a is with
  | case1 => rfl
  | case2 s a i _ _ _ heq => have h1 := links_run s a (h i List.mem_cons_self); rw [heq] at h1; exact h1
  | case3 s a i _ _ _ heq ih =>
    have h1 := links_run s a (h i List.mem_cons_self)
    rw [heq] at h1
    exact (ih fun j hj => h j (List.mem_cons_of_mem _ hj)).trans h1

theorem multiTotal_append {α β : Type} (d e : List (α × List β)) : multiTotal (d ++ e) = multiTotal d + multiTotal e := by
  unfold multiTotal; rw [List.map_append, List.sum_append]

/-- a program that succeeds appends one stub per entry of the rows it writes -/
theorem exec_links_size : ∀ (is : List Instr) {s s' : State} {a a' : Run}, exec s a is = (s', .ok a') →
    s'.links.size =
      s.links.size + (multiTotal (is.flatMap (Instr.rows true)) + multiTotal (is.flatMap (Instr.rows false)))
  | [], _, _, _, _, h => by cases h; rfl
  | i :: is, s, _, a, _, h => by
    obtain ⟨s1, a1, h1, h2⟩ := exec_cons_ok h
    have e1 : s1.links.size = s.links.size + (multiTotal (i.rows true) + multiTotal (i.rows false)) := by
      cases i with
      | stubs p ts o =>
        cases h1
        rw [addStubs_size, blocksOf_length]
        cases o <;> simp [Instr.rows, multiTotal]
      | add l c al => have := links_run s a (i := .add l c al) nofun; rw [h1] at this; rw [this]; rfl
      | ensure l c => have := links_run s a (i := .ensure l c) nofun; rw [h1] at this; rw [this]; rfl
    rw [exec_links_size is h2, e1, List.flatMap_cons, List.flatMap_cons, multiTotal_append, multiTotal_append]
    omega

theorem multiTotal_foldl_multiAdd {α : Type} (key val : α → Bytes) :
    ∀ (l : List α) (d : List (Bytes × List Bytes)),
      multiTotal (l.foldl (fun d e => multiAdd d (key e) (val e)) d) = multiTotal d + l.length
  | [], _ => rfl
  | e :: l, d => by
    rw [List.foldl_cons, multiTotal_foldl_multiAdd key val l, multiAdd_total, List.length_cons, Nat.add_assoc,
      Nat.add_comm 1]

theorem addLinks_links_size (s : State) (pairs : List (Bytes × Bytes)) (r : Report)
    (hok : (s.addLinks pairs).2 = .ok r) :
    (s.addLinks pairs).1.links.size = s.links.size + 2 * pairs.length := by
  rw [addLinks_eq] at hok ⊢
  obtain ⟨a', ha, _⟩ := exec_of_lift_ok hok
  show (exec s {} (linksProg pairs)).1.links.size = _
  rw [exec_links_size _ ha, rows_linksProg, rows_linksProg, if_pos rfl, if_neg nofun, if_neg nofun, if_pos rfl,
    List.append_nil, List.nil_append, outlOf, inlOf, multiTotal_foldl_multiAdd, multiTotal_foldl_multiAdd, multiTotal_nil]
  omega

/-- a failing `add_links` (a page insertion raised) has written no stub at all -/
theorem addLinks_links_error (s : State) (pairs : List (Bytes × Bytes)) (e : Err)
    (herr : (s.addLinks pairs).2 = .error e) : (s.addLinks pairs).1.links = s.links := by
  have h1 := links_exec (scanProg pairs) s {} (scanProg_noStubs pairs)
  rw [addLinks_eq, linksProg, exec_append] at herr ⊢
  rcases hx : exec s {} (scanProg pairs) with ⟨s1, e1 | a1⟩
  · rw [hx] at h1; exact h1
  · rw [hx] at herr
    dsimp only at herr
    rw [exec_append, flushLists_eq] at herr
    dsimp only at herr
    rw [flushLists_eq] at herr
    cases herr

def batchLinkCount (data : List (Bytes × List Bytes)) : Nat := (data.map (fun d => d.2.length)).sum

theorem batchLinks_length : ∀ data : List (Bytes × List Bytes), (batchLinks data).length = batchLinkCount data
  | [] => rfl
  | d :: rest => by rw [batchLinks_cons, List.length_append, batchLinks_length rest, List.length_map]; rfl

/-- a successful `index_batch_crawl` appends exactly two stubs per (source, target) pair -/
theorem batch_links_size (s : State) (data : List (Bytes × List Bytes)) (r : Report)
    (hok : (s.batch data).2 = .ok r) :
    (s.batch data).1.links.size = s.links.size + 2 * batchLinkCount data := by
  rw [batch_eq] at hok ⊢
  obtain ⟨a', ha, _⟩ := exec_of_lift_ok hok
  show (exec s {} (batchProg data)).1.links.size = _
  rw [exec_links_size _ ha, rows_batchProg, rows_batchProg, if_pos rfl, if_neg nofun, if_neg nofun, if_pos rfl,
    List.append_nil, List.nil_append, inlOf, multiTotal_foldl_multiAdd, multiTotal_nil, batchLinks_length]
  show _ + (multiTotal data + (0 + multiTotal data)) = _ + 2 * multiTotal data
  omega

#print axioms links_addPageCore
#print axioms addStubs_size
#print axioms flushLists_size
#print axioms multiAdd_total
#print axioms addLinks_links_size

end Traph
