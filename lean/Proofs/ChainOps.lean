import Proofs.GraftChain
import Proofs.PageSet
import Proofs.SizesGrowth
/-! `add_lru`, `LRUTrie.add_page`, `__create_webentity` and (of a stored page only, `addPageCore_chain_known`)
    `__add_page` as chains of heap steps
    (`Chain`, Proofs/GraftChain.lean), on a non-empty trie, and the page marks they leave alone. -/
namespace Traph
open State Layout

theorem Ins.chain {stems : LRU} {flag : Bool} {s0 : State} {t0 : T} {p : LRU} {rest : List Stem} {n : Nat}
    {s : State} {t : T} (hsz : 1 < s0.trie.size) (i : Ins stems flag s0 t0 p rest n s t) :
    ∃ gs, Chain s0 s gs := by
  induction i with
  | walk w => exact ⟨[], .of_noStruct w.marked.noStruct⟩
  | first _ h1 _ => exact absurd h1 (Nat.ne_of_gt hsz)
  | @write _ x _ _ s _ q sl _ _ ch m _ hs hh _ _ _ ih =>
    obtain ⟨gs, c⟩ := ih
    exact ⟨_, c.trans ((Chain.of_graft (hh.graftStep hs x _ ch)).trans
      (.of_noStruct (noStruct_markCanHave _ s.trie.size m)))⟩

theorem addLru_chain {s : State} {t : T} (h : Shape s t) (hsz : 1 < s.trie.size) (stems : LRU) (flag : Bool) :
    ∃ gs, Chain s (s.addLru stems flag).1 gs := by
  by_cases hne : stems = []
  · subst hne; rw [addLru_nil]; exact ⟨[], Chain.refl s⟩
  · obtain ⟨_, i, _⟩ := addLru_ins h stems flag hne
    exact i.chain hsz

theorem pageSame_addLru (s : State) (stems : LRU) (flag : Bool) : PageSame s (s.addLru stems flag).1 :=
  pageSame_of_attrStep (attrStep_addLru s stems flag)

theorem addPageTrie_chain {s : State} {t : T} (h : Shape s t) (hsz : 1 < s.trie.size) (stems : LRU) (c : Bool) :
    ∃ gs, Chain s (s.addPageTrie stems c).1 gs := by
  obtain ⟨gs, ch⟩ := addLru_chain h hsz stems false
  have := ch.trans (Chain.of_noStruct (addPageTrie_noStruct s stems c).1)
  exact ⟨_, this⟩

theorem pageSame_addPageTrie_known {s : State} {t : T} (h : Shape s t) (stems : LRU) (hne : stems ≠ [])
    (b : Nat) (hb : (stems, b) ∈ t.entries s []) (hpg : (s.cell b).flags.page = true) :
    PageSame s (s.addPageTrie stems false).1 := by
  have hn := (addLru_known_no_growth h stems hne false b hb).2
  have hp := pageSame_addLru s stems false
  have hpb : ((s.addLru stems false).1.cell (s.addLru stems false).2.1).flags.page = true := by
    rw [hn, hp b]; exact hpg
  have e : (s.addPageTrie stems false).1 = (s.addLru stems false).1 := by
    unfold addPageTrie
    simp only [hpb, Bool.not_true, Bool.false_eq_true, if_false, Bool.false_and]
  rw [e]; exact hp

theorem addPrefixesScan_chain : ∀ (ps : List Bytes) (s : State) (t : T) (valid : List (Bytes × Nat)) (nInv : Nat),
    Shape s t → 1 < s.trie.size →
    ∃ gs, Chain s (s.addPrefixesScan ps valid nInv).1 gs ∧ PageSame s (s.addPrefixesScan ps valid nInv).1
  | [], s, t, valid, nInv, _, _ => ⟨[], by simp only [addPrefixesScan]; exact ⟨Chain.refl s, PageSame.refl s⟩⟩
  | p :: ps, s, t, valid, nInv, h, hsz => by
    obtain ⟨t1, k1, _⟩ := keeps_addLruIter h p true
    obtain ⟨g1, c1⟩ := addLru_chain h hsz (lruIter p) true
    have p1 := pageSame_addLru s (lruIter p) true
    rcases ha : s.addLru (lruIter p) true with ⟨s1, n, hh⟩
    rw [ha] at k1 c1 p1
    simp only at k1 c1 p1
    have hsz1 : 1 < s1.trie.size := Nat.lt_of_lt_of_le hsz c1.size_le
    simp only [addPrefixesScan, ha]
    split
    · obtain ⟨g2, c2, p2⟩ := addPrefixesScan_chain ps s1 t1 valid (nInv + 1) k1.shape hsz1
      exact ⟨_, c1.trans c2, p1.trans p2⟩
    · obtain ⟨g2, c2, p2⟩ := addPrefixesScan_chain ps s1 t1 (dictSet valid p n) nInv k1.shape hsz1
      exact ⟨_, c1.trans c2, p1.trans p2⟩

theorem addPrefixes_chain {s : State} {t : T} (h : Shape s t) (hsz : 1 < s.trie.size) (prefixes : List Bytes)
    (best : Bool) :
    ∃ gs, Chain s (s.addPrefixes prefixes best).1 gs ∧ PageSame s (s.addPrefixes prefixes best).1 := by
  obtain ⟨g1, c1, p1⟩ := addPrefixesScan_chain prefixes s t [] 0 h hsz
  rcases ha : s.addPrefixesScan prefixes [] 0 with ⟨s1, valid, nInv⟩
  rw [ha] at c1 p1
  simp only [addPrefixes, ha]
  split
  · exact ⟨_, c1, p1⟩
  · split
    · exact ⟨_, c1, p1⟩
    · have n2 : NoStruct s1 s1.genId.1 := noStruct_of_trie_eq rfl
      have q2 : PageSame s1 s1.genId.1 := pageSame_of_trie_eq rfl
      have n3 := noStruct_foldl_modCell (fun pn : Bytes × Nat => pn.2) (fun _ c => { c with we := s1.genId.2 })
        (fun _ _ => ⟨rfl, rfl, rfl, rfl, rfl⟩) valid s1.genId.1
      have q3 := pageSame_foldl_modCell (fun pn : Bytes × Nat => pn.2) (fun _ c => { c with we := s1.genId.2 })
        (fun _ _ => rfl) valid s1.genId.1
      refine ⟨_, c1.trans (Chain.of_noStruct (n2.trans n3)), p1.trans (q2.trans q3)⟩

theorem createWebentityAuto_chain {s : State} {t : T} (h : Shape s t) (hsz : 1 < s.trie.size) (pfx : Bytes) :
    ∃ gs, Chain s (s.createWebentityAuto pfx).1 gs ∧ PageSame s (s.createWebentityAuto pfx).1 := by
  obtain ⟨g1, c1, p1⟩ := addPrefixes_chain h hsz (lruVariations pfx) true
  unfold createWebentityAuto
  split <;> rename_i heq <;> rw [heq] at c1 p1 <;> exact ⟨_, c1, p1⟩

theorem addPageCore_chain_known {s : State} {t : T} (h : Shape s t) (hsz : 1 < s.trie.size) (lru : Bytes)
    (hne : lruIter lru ≠ []) (b : Nat) (hb : (lruIter lru, b) ∈ t.entries s [])
    (hpg : (s.cell b).flags.page = true) :
    ∃ gs, Chain s (s.addPageCore lru false).1 gs ∧ PageSame s (s.addPageCore lru false).1 := by
  obtain ⟨s2, res, e, hs2, _, _⟩ := addPageCore_cases s lru false
  obtain ⟨t1, x1, _⟩ := addPageTrie_step h (lruIter lru) false (lruIter_wf lru)
  obtain ⟨g1, c1⟩ := addPageTrie_chain h hsz (lruIter lru) false
  have p1 := pageSame_addPageTrie_known h (lruIter lru) hne b hb hpg
  rw [e]
  simp only
  rcases hs2 with rfl | ⟨x, rfl⟩
  · exact ⟨_, c1, p1⟩
  · obtain ⟨g2, c2, p2⟩ := createWebentityAuto_chain x1.shape (Nat.lt_of_lt_of_le hsz c1.size_le) x
    exact ⟨_, c1.trans c2, p1.trans p2⟩

end Traph
