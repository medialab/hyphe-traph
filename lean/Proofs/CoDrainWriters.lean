import Proofs.CoSchedules
import Proofs.LogIndep
import Proofs.RuleFuel
import Proofs.Drained
import Proofs.CoBatchTodo
/-! C16 — the two *writer* generators drained alone (`CoSt.drainW`) are the atomic requests:
    `index_batch_crawl_iter` (`CoSt.batch`) against `State.batch` — the same `State` when no two byte strings of the
    batch denote the same LRU (`cw_batch_drain_exact`; the hypothesis is needed: `cw_witness`), the same but for the ghost
    write log otherwise (`cw_batch_drain_eqv`) — and `add_webentity_creation_rule_iter` (`CoSt.rule`) against
    `State.addRule … true` (`cw_rule_drain`); each also as a run of the scheduler with that machine alone
    (`Sys.run (s, [c]) (List.replicate N 0)`: `cw_run_drain`, `cw_batch_run_*`, `cw_rule_run`). -/
namespace Traph
open State

/-- resume a machine until its output is not `.yielded`; `none`: still suspended after `N` sections -/
def CoSt.drainW : Nat → State → CoSt → State × Option CoOut
  | 0, s, _ => (s, none)
  | n + 1, s, c =>
    match c.resume s with
    | (s1, c1, .yielded) => CoSt.drainW n s1 c1
    | (s1, _, o) => (s1, some o)

/-- what the generator's last `next()` returns when the atomic request returns `x` -/
def cw_outcome : Except Err Report → CoOut
  | .ok r => .done (.report r)
  | .error e => .failed e

def cw_fin (x : State × Except Err Report) : State × Option CoOut := (x.1, some (cw_outcome x.2))

/-- a writer as a generator: its private state travels with the index; `F`: the iterations a section is given -/
def cw_gen {τ : Type} (run : Nat → State → τ → State × τ × CoOut) (F : Nat) : Gen (State × τ) (State × Option CoOut) where
  run := fun g q => (((run g q.1 q.2).1, (run g q.1 q.2).2.1), (run g q.1 q.2).2.2)
  fuelOf := fun _ => F
  ret := fun q o => (q.1, some o)
  out := fun q => (q.1, none)

theorem cw_drain_eq {τ : Type} (mk : τ → CoSt) (run : Nat → State → τ → State × τ × CoOut) (F : Nat)
    (h : ∀ s q, (mk q).resume s =
      ((run F s q).1, (match (run F s q).2.2 with | .yielded => mk (run F s q).2.1 | _ => .finished), (run F s q).2.2)) :
    ∀ N s q, CoSt.drainW N s (mk q) = (cw_gen run F).drain N (s, q)
  | 0, _, _ => rfl
  | N + 1, s, q => by
    rw [CoSt.drainW, h, Gen.drain_succ]
    show _ = goOn _ _ (((run F s q).1, (run F s q).2.1), (run F s q).2.2)
    rcases run F s q with ⟨s1, q1, o⟩
    cases o with
    | yielded => exact cw_drain_eq mk run F h N s1 q1
    | done a => rfl
    | failed e => rfl

def cw_batchGen : Gen (State × BatchSt) (State × Option CoOut) := cw_gen batchResume 1000000

/-! For a source that an earlier row has put into the page cache, `index_batch_crawl` reads the block to see whether
    it is flagged as crawled; the generator goes by its copy of the node, taken when the page was cached. So it may
    write a source block again that is flagged already (its copy is stale): the same block contents, one more entry in
    the ghost write log (`cw_Eqv`). -/

/-- is the source page known to be crawled? `uc`: ask the cached node copy, else: ask the index -/
def cw_test (uc : Bool) (s : State) (n : Nat) (c : Bool) : Bool := if uc then c else (s.cell n).flags.crawled

@[simp] theorem cw_test_true (s : State) (n : Nat) (c : Bool) : cw_test true s n c = c := rfl
@[simp] theorem cw_test_false (s : State) (n : Nat) (c : Bool) : cw_test false s n c = (s.cell n).flags.crawled := rfl

def cw_erase (s : State) : State := { s with log := [] }

theorem cw_erase_addLog (s : State) (l : List Write) : cw_erase (s.addLog l) = cw_erase s := rfl

def cw_Eqv (a b : State) : Prop := cw_erase a = cw_erase b

theorem cw_Eqv.refl (a : State) : cw_Eqv a a := rfl

theorem cw_eqv_map {f : State → State} (hf : ∀ s l, f (s.addLog l) = (f s).addLog l) {a b : State}
    (h : cw_Eqv a b) : cw_Eqv (f a) (f b) := by
  have ha : f a = (f (cw_erase a)).addLog a.log := hf (cw_erase a) a.log
  have hb : f b = (f (cw_erase b)).addLog b.log := hf (cw_erase b) b.log
  unfold cw_Eqv
  rw [ha, hb, cw_erase_addLog, cw_erase_addLog, h]

theorem cw_eqv_map2 {β : Type} {f : State → State × β} (hf : ∀ s l, f (s.addLog l) = ((f s).1.addLog l, (f s).2))
    {a b : State} (h : cw_Eqv a b) : cw_Eqv (f a).1 (f b).1 ∧ (f a).2 = (f b).2 := by
  have ha : f a = ((f (cw_erase a)).1.addLog a.log, (f (cw_erase a)).2) := hf (cw_erase a) a.log
  have hb : f b = ((f (cw_erase b)).1.addLog b.log, (f (cw_erase b)).2) := hf (cw_erase b) b.log
  unfold cw_Eqv
  rw [ha, hb, cw_erase_addLog, cw_erase_addLog, h]
  exact ⟨rfl, rfl⟩

theorem cw_setIfInBounds_same {α : Type} (a : Array α) (n : Nat) (c : α) (h : a[n]? = some c) :
    a.setIfInBounds n c = a := by
  apply Array.ext_getElem?
  intro i
  rw [Array.getElem?_setIfInBounds]
  split
  · rename_i e
    obtain ⟨rfl, _⟩ := e
    split
    · exact h.symm
    · rename_i hlt
      have := (Array.getElem?_eq_some_iff.mp h).1
      exact absurd this hlt
  · rfl

theorem cw_mark_id (c : Cell) (h : c.flags.crawled = true) : ({ c with flags := { c.flags with crawled := true } } : Cell) = c := by
  obtain ⟨ch, fl, we, l, r, cd, pa, o, i⟩ := c
  obtain ⟨a1, a2, a3, a4, a5, a6, a7, a8⟩ := fl
  simp only at h
  subst h
  rfl

theorem cw_eqv_mark (s : State) (n : Nat) (h : (s.cell n).flags.crawled = true) :
    cw_Eqv (s.modCell n (fun c => { c with flags := { c.flags with crawled := true } })) s := by
  unfold modCell
  cases hc : s.trie[n]? with
  | none => rfl
  | some c =>
    rw [cell_of_getElem? hc] at h
    simp only [cw_mark_id c h]
    unfold cw_Eqv cw_erase setCell
    simp only [cw_setIfInBounds_same s.trie n c hc]

theorem cw_Eqv.trans {a b c : State} (h1 : cw_Eqv a b) (h2 : cw_Eqv b c) : cw_Eqv a c := Eq.trans h1 h2

theorem cw_pagesGet_set {P : cw_Pg} {l l' : Bytes} {v w : Nat × Bool} (hg : pagesGet (pagesSet P l v) l' = some w) :
    (l' = l ∧ w = v) ∨ (l' ≠ l ∧ pagesGet P l' = some w) := by
  by_cases e : l' = l
  · subst e
    rw [show pagesGet (pagesSet P l' v) l' = some v from Co.dictGet?_dictSet_self P l' v] at hg
    exact .inl ⟨rfl, (Option.some.inj hg).symm⟩
  · rw [show pagesGet (pagesSet P l v) l' = pagesGet P l' from Co.dictGet?_dictSet_ne P l v l' e] at hg
    exact .inr ⟨e, hg⟩

/-- what the machine's cached node copies know: a cached crawled bit that is set is set in the index -/
def cw_W (s : State) (P : cw_Pg) : Prop :=
  0 < s.trie.size ∧ ∀ l n, pagesGet P l = some (n, true) → (s.cell n).flags.crawled = true

theorem cw_crawled_lt {s : State} {n : Nat} (h : (s.cell n).flags.crawled = true) : n < s.trie.size := by
  by_cases hlt : n < s.trie.size
  · exact hlt
  · exfalso
    rw [cell_of_size_le s n (Nat.le_of_not_lt hlt)] at h
    cases h

theorem cw_W.mono {s s' : State} {P : cw_Pg} (h : cw_W s P) (le : s ⊑ s') : cw_W s' P :=
  ⟨le.pos h.1, fun l n hg => (le.cell_le n (cw_crawled_lt (h.2 l n hg))).crawled (h.2 l n hg)⟩

theorem cw_W.set {s : State} {P : cw_Pg} (h : cw_W s P) (l : Bytes) (n : Nat) (c : Bool)
    (hc : c = true → (s.cell n).flags.crawled = true) : cw_W s (pagesSet P l (n, c)) := by
  refine ⟨h.1, fun l' n' hg => ?_⟩
  rcases cw_pagesGet_set hg with ⟨_, e⟩ | ⟨_, hg⟩
  · cases e; exact hc rfl
  · exact h.2 l' n' hg

/-- the same but for the source in progress (its cached bit is refreshed when its targets are done) -/
def cw_Wx (s : State) (P : cw_Pg) (x : Bytes) : Prop :=
  0 < s.trie.size ∧ ∀ l n, l ≠ x → pagesGet P l = some (n, true) → (s.cell n).flags.crawled = true

theorem cw_Wx.mono {s s' : State} {P : cw_Pg} {x : Bytes} (h : cw_Wx s P x) (le : s ⊑ s') : cw_Wx s' P x :=
  ⟨le.pos h.1, fun l n hx hg => (le.cell_le n (cw_crawled_lt (h.2 l n hx hg))).crawled (h.2 l n hx hg)⟩

theorem cw_Wx.set {s : State} {P : cw_Pg} {x : Bytes} (h : cw_Wx s P x) (l : Bytes) (n : Nat) (c : Bool)
    (hc : l ≠ x → c = true → (s.cell n).flags.crawled = true) : cw_Wx s (pagesSet P l (n, c)) x := by
  refine ⟨h.1, fun l' n' hx hg => ?_⟩
  rcases cw_pagesGet_set hg with ⟨rfl, e⟩ | ⟨_, hg⟩
  · cases e; exact hc hx rfl
  · exact h.2 l' n' hx hg

theorem cw_W.wx {s : State} {P : cw_Pg} (h : cw_W s P) (x : Bytes) : cw_Wx s P x :=
  ⟨h.1, fun l n _ hg => h.2 l n hg⟩

/-! If no two byte strings of the batch denote the same LRU, the copies' crawled bits are those of the index
    (`lru_iter` drops the bytes after the last separator, so two different byte strings may denote the same
    node: see `cw_witness` below). -/

/-- the byte strings the batch may submit: each cuts into at least one stem, no two into the same stems -/
structure cw_Uni (U : Bytes → Prop) : Prop where
  wf : ∀ l, U l → lruIter l ≠ []
  inj : ∀ l l', U l → U l' → lruIter l = lruIter l' → l = l'

/-- the cache of the machine running alone: every cached byte string is an entry of the tree at the cached
    block, which is a page, and the cached crawled bit *is* the bit of the block -/
structure cw_J (U : Bytes → Prop) (s : State) (t : T) (P : cw_Pg) : Prop where
  shape : Shape s t
  inv : Inv s t
  ent : ∀ l n c, pagesGet P l = some (n, c) →
    U l ∧ (lruIter l, n) ∈ t.entries s [] ∧ (s.cell n).flags.page = true ∧ c = (s.cell n).flags.crawled

theorem cw_J_entry {s s' : State} {t t' : T} {A : List (LRU × Bool × Bool)} (h : Shape s t) (x : Ext s t s' t')
    (le : s ⊑ s') (a : Adds s t s' t' A) {p : LRU} {n : Nat} {c : Bool}
    (h1 : (p, n) ∈ t.entries s []) (h2 : (s.cell n).flags.page = true) (h3 : c = (s.cell n).flags.crawled)
    (hA : c = false → ∀ y ∈ A, y.1 = p → y.2.2 = true → False) :
    (p, n) ∈ t'.entries s' [] ∧ (s'.cell n).flags.page = true ∧ c = (s'.cell n).flags.crawled := by
  have hlt := entry_lt h h1
  have cl := le.cell_le n hlt
  refine ⟨x.keep _ _ h1, cl.page h2, ?_⟩
  cases c with
  | true => exact (cl.crawled h3.symm).symm
  | false =>
    cases hc : (s'.cell n).flags.crawled with
    | false => rfl
    | true =>
      exfalso
      rcases a.may p ⟨n, x.keep _ _ h1, cl.page h2, hc⟩ with ⟨b, g1, _, g3⟩ | ⟨y, hy, e1, e2⟩
      · have := entries_path_injective h.ord h.nodup g1 h1
        subst this
        rw [g3] at h3
        exact Bool.noConfusion h3
      · exact hA rfl y hy e1 e2

theorem cw_J.step {U : Bytes → Prop} {s s' : State} {t t' : T} {A : List (LRU × Bool × Bool)} {P : cw_Pg}
    (h : cw_J U s t P) (x : Ext s t s' t') (le : s ⊑ s') (a : Adds s t s' t' A)
    (hA : ∀ l n, pagesGet P l = some (n, false) → ∀ y ∈ A, y.1 = lruIter l → y.2.2 = true → False) :
    cw_J U s' t' P := by
  refine ⟨x.shape, a.inv, fun l n c hg => ?_⟩
  obtain ⟨u, h1, h2, h3⟩ := h.ent l n c hg
  exact ⟨u, cw_J_entry h.shape x le a h1 h2 h3 (fun hc => by subst hc; exact hA l n hg)⟩

theorem cw_J.set {U : Bytes → Prop} {s : State} {t : T} {P : cw_Pg} (h : cw_J U s t P) {l : Bytes} {n : Nat}
    (u : U l) (h1 : (lruIter l, n) ∈ t.entries s []) (h2 : (s.cell n).flags.page = true) :
    cw_J U s t (pagesSet P l (n, (s.cell n).flags.crawled)) := by
  refine ⟨h.shape, h.inv, fun l' n' c' hg => ?_⟩
  rcases cw_pagesGet_set hg with ⟨rfl, e⟩ | ⟨_, hg⟩
  · cases e; exact ⟨u, h1, h2, rfl⟩
  · exact h.ent l' n' c' hg

theorem cw_J.new {U : Bytes → Prop} (hU : cw_Uni U) {s : State} {t : T} {P : cw_Pg} (h : cw_J U s t P) {l : Bytes}
    (u : U l) (hg : pagesGet P l = none) (c : Bool) :
    ∃ t', cw_J U (s.addPageCore l c).1 t'
      (pagesSet P l ((s.addPageCore l c).2.1, ((s.addPageCore l c).1.cell (s.addPageCore l c).2.1).flags.crawled)) := by
  obtain ⟨t', x, f⟩ := addPageCore_step h.shape l c
  obtain ⟨g1, g2, g3⟩ := f (hU.wf l u)
  have le := le_addPageCore s l c h.shape.live
  refine ⟨t', (h.step x le (g3 h.inv).1 (fun l' n' hg' y hy e _ => ?_)).set u g1 g2⟩
  simp only [List.mem_singleton] at hy
  subst hy
  simp only at e
  have := hU.inj _ _ u (h.ent l' n' false hg').1 e
  subst this
  rw [hg] at hg'
  cases hg'

/-! The iterations keep what is still to do (`cw_todo_run`) as long as they keep what the generator's copies of the
    nodes know of the index: `cw_KW` (a copy that says crawled is right) gives the request up to the write log,
    `cw_KJ` (every copy is right) gives it exactly. -/

theorem cw_resp_eq : cw_Resp Eq where
  refl := fun _ => rfl
  trans := Eq.trans
  exec := fun _ _ h => h ▸ ⟨rfl, rfl⟩
  stubs := fun _ _ _ h => h ▸ rfl

theorem cw_resp_eqv : cw_Resp cw_Eqv where
  refl := cw_Eqv.refl
  trans := cw_Eqv.trans
  exec := fun r is h => cw_eqv_map2 (f := fun s => exec s r is) (fun s l => exec_addLog s l r is) h
  stubs := fun p ts o h => cw_eqv_map (f := fun s => s.addStubs p ts o) (fun s l => addStubs_addLog s l _ _ _) h

/-- the copies that say crawled are right, the source in progress apart (its copy is taken again when its row ends) -/
def cw_KW (s : State) (b : BatchSt) : Prop :=
  match b.cur with
  | none => cw_W s b.pages
  | some (src, _, _) => cw_Wx s b.pages src

theorem cw_Wx.rowEnd {s : State} {P : cw_Pg} {src : Bytes} (h : cw_Wx s P src) (tb : List Nat) :
    cw_W (s.addStubs (pageBlock P src) tb true)
      (pagesSet P src (pageBlock P src, (s.cell (pageBlock P src)).flags.crawled)) := by
  have le := le_addStubs s (pageBlock P src) tb true
  refine ⟨le.pos h.1, fun l n hg => ?_⟩
  rcases cw_pagesGet_set hg with ⟨_, e⟩ | ⟨e, hg⟩
  · obtain ⟨rfl, hc⟩ := Prod.mk.inj e
    exact (le.cell_le _ (cw_crawled_lt hc.symm)).crawled hc.symm
  · exact (h.mono le).2 l n e hg

theorem cw_KW.step {s s1 : State} {b b1 : BatchSt} {o : Option CoOut} (k : cw_KW s b) (st : BatchStep s b s1 b1 o)
    (ho : o = none ∨ o = some .yielded) : cw_KW s1 b1 := by
  have mark : ∀ n, s ⊑ s.modCell n fun c => { c with flags := { c.flags with crawled := true } } := fun n =>
    le_modCell _ _ _ fun c _ => cellLe_flags_crawled c
  cases st with
  | done => rcases ho with h | h <;> cases h
  | srcErr => rcases ho with h | h <;> cases h
  | tgtErr => rcases ho with h | h <;> cases h
  | flush data cur pendIn P I R t srcs rest =>
    have le := le_addStubs s (pageBlock P t) (srcs.map (pageBlock P)) false
    cases cur with
    | none => exact cw_W.mono k le
    | some c => exact cw_Wx.mono k le
  | toFlush => exact k
  | @src src P P1 R R1 _ n new tgts more pendIn I c =>
    show cw_Wx s1 P1 src
    have k : cw_W s P := k
    cases c with
    | new hg ha =>
      have le := le_addPageCore s src true k.1
      rw [ha] at le
      exact ((k.wx src).mono le).set src n _ fun hx => absurd rfl hx
    | mark _ hg => exact ((k.wx src).mono (mark n)).set src n true fun hx => absurd rfl hx
    | hit => exact k.wx src
  | tgtEnd data src tb pendIn P I R => exact cw_Wx.rowEnd k tb
  | @tgt t P P1 R R1 _ n new data src ts tb pendIn I c =>
    show cw_Wx s1 P1 src
    have k : cw_Wx s P src := k
    cases c with
    | new hg ha =>
      have le := le_addPageCore s t false k.1
      rw [ha] at le
      exact (k.mono le).set t n _ fun _ hc => hc
    | mark hc => cases hc
    | hit => exact k

/-- every copy is right; the byte strings still to come are among those of `U` -/
def cw_KJ (U : Bytes → Prop) (s : State) (b : BatchSt) : Prop :=
  (∃ t, cw_J U s t b.pages) ∧ (∀ d ∈ b.data, U d.1 ∧ ∀ x ∈ d.2, U x) ∧
    ∀ src ts tb, b.cur = some (src, ts, tb) → ∀ x ∈ ts, U x

theorem cw_J.stubs {U : Bytes → Prop} {s : State} {t : T} {P : cw_Pg} (h : cw_J U s t P) (n : Nat) (tb : List Nat)
    (out : Bool) : cw_J U (s.addStubs n tb out) t P :=
  h.step (keeps_addStubs h.shape n tb out).ext (le_addStubs s n tb out) ((keeps_addStubs h.shape n tb out).adds h.inv)
    fun _ _ _ y hy => by simp at hy

theorem cw_J.rowEnd {U : Bytes → Prop} {s : State} {t : T} {P : cw_Pg} (h : cw_J U s t P) {src : Bytes} {n : Nat}
    {c : Bool} (hg : pagesGet P src = some (n, c)) (tb : List Nat) :
    cw_J U (s.addStubs (pageBlock P src) tb true)
      t (pagesSet P src (pageBlock P src, (s.cell (pageBlock P src)).flags.crawled)) := by
  obtain ⟨u, _, _, h3⟩ := h.ent src n c hg
  have j1 := h.stubs n tb true
  obtain ⟨_, g1, g2, g3⟩ := j1.ent src n c hg
  rw [co_pageBlock_of_get hg, ← h3, g3]
  exact j1.set u g1 g2

theorem cw_J.mark {U : Bytes → Prop} (hU : cw_Uni U) {s : State} {t : T} {P : cw_Pg} (h : cw_J U s t P) {src : Bytes}
    {n : Nat} (hg : pagesGet P src = some (n, false)) :
    cw_J U (s.modCell n fun c => { c with flags := { c.flags with crawled := true } }) t (pagesSet P src (n, true)) := by
  obtain ⟨u, h1, h2, _⟩ := h.ent src n false hg
  have hlt := entry_lt h.shape h1
  have x := ext_markCrawled h.shape n
  have le : s ⊑ s.modCell n (fun c => { c with flags := { c.flags with crawled := true } }) :=
    le_modCell _ _ _ (fun c _ => cellLe_flags_crawled c)
  have a := adds_markCrawled h.shape h.inv h1 h2
  have hcr : ((s.modCell n (fun c => { c with flags := { c.flags with crawled := true } })).cell n).flags.crawled = true := by
    rw [cell_modCell, if_pos ⟨rfl, hlt⟩]
  refine ⟨x.shape, a.inv, fun l' n' c' hg' => ?_⟩
  rcases cw_pagesGet_set hg' with ⟨rfl, e⟩ | ⟨e, hg'⟩
  · cases e
    exact ⟨u, x.keep _ _ h1, (le.cell_le _ hlt).page h2, hcr.symm⟩
  · obtain ⟨u', k1, k2, k3⟩ := h.ent l' n' c' hg'
    refine ⟨u', cw_J_entry h.shape x le a k1 k2 k3 (fun _ y hy e1 _ => ?_)⟩
    simp only [List.mem_singleton] at hy
    subst hy
    exact e (hU.inj _ _ u' u e1.symm)

theorem cw_KJ.step {U : Bytes → Prop} (hU : cw_Uni U) {s s1 : State} {b b1 : BatchSt} {o : Option CoOut}
    (k : cw_KJ U s b) (ok : cw_Ok b) (st : BatchStep s b s1 b1 o) (ho : o = none ∨ o = some .yielded) :
    cw_KJ U s1 b1 := by
  obtain ⟨⟨t, j⟩, kd, kc⟩ := k
  have cache : ∀ {P P1 : cw_Pg} {R R1 : Report} {l : Bytes} {crawl new : Bool} {n : Nat}, cw_J U s t P → U l →
      CacheStep s P R l crawl s1 P1 R1 n new → ∃ t1, cw_J U s1 t1 P1 := fun j u c => by
    cases c with
    | new hg ha =>
      obtain ⟨t1, j1⟩ := j.new hU u hg _
      rw [ha] at j1
      exact ⟨t1, j1⟩
    | mark _ hg => exact ⟨t, j.mark hU hg⟩
    | hit => exact ⟨t, j⟩
  cases st with
  | done => rcases ho with h | h <;> cases h
  | srcErr => rcases ho with h | h <;> cases h
  | tgtErr => rcases ho with h | h <;> cases h
  | flush data cur pendIn P I R t' srcs rest => exact ⟨⟨t, j.stubs _ _ _⟩, kd, kc⟩
  | toFlush => exact ⟨⟨t, j⟩, kd, kc⟩
  | @src src P P1 R R1 _ n new tgts more pendIn I c =>
    obtain ⟨usrc, utg⟩ := kd _ List.mem_cons_self
    exact ⟨cache j usrc c, fun d hd => kd d (List.mem_cons_of_mem _ hd), fun _ _ _ e => by cases e; exact utg⟩
  | tgtEnd data src tb pendIn P I R =>
    obtain ⟨⟨n, c⟩, hg⟩ := ok.2 src [] tb rfl
    exact ⟨⟨t, j.rowEnd hg tb⟩, kd, nofun⟩
  | @tgt t' P P1 R R1 _ n new data src ts tb pendIn I c =>
    exact ⟨cache j (kc src _ tb rfl t' List.mem_cons_self) c, kd,
      fun _ _ _ e => by cases e; exact fun x hx => kc src _ tb rfl x (List.mem_cons_of_mem _ hx)⟩

/-- **the crawl batch drained alone**, for a relation that the programs respect and a `K` that the iterations keep -/
theorem cw_drain_todo {Rel : State → State → Prop} (hR : cw_Resp Rel) (K : State → BatchSt → Prop)
    (hmark : ∀ s b, K s b → ∀ l n, pagesGet b.pages l = some (n, false) → (s.cell n).flags.crawled = true →
      Rel (s.modCell n fun c => { c with flags := { c.flags with crawled := true } }) s)
    (hsound : ∀ s b, K s b → b.cur = none → ∀ l n, pagesGet b.pages l = some (n, true) → (s.cell n).flags.crawled = true)
    (hK : ∀ {s s1 b b1 o}, K s b → cw_Ok b → BatchStep s b s1 b1 o → (o = none ∨ o = some .yielded) → K s1 b1)
    (s : State) (data : List (Bytes × List Bytes)) (k0 : K s (BatchSt.init data)) (N : Nat)
    (hF : batchWork (BatchSt.init data) < 1000000) (hN : 2 * cw_nt data < N) :
    Rel (CoSt.drainW N s (.batch (BatchSt.init data))).1 (s.batch data).1 ∧
      (CoSt.drainW N s (.batch (BatchSt.init data))).2 = some (cw_outcome (s.batch data).2) := by
  rw [cw_drain_eq .batch batchResume 1000000 (fun _ _ => rfl), ← cw_todo_init]
  refine Gen.drain_todo cw_batchGen (fun q => K q.1 q.2 ∧ cw_Ok q.2 ∧ batchWork q.2 < 1000000)
    (fun x y => Rel x.1 y.1 ∧ x.2 = y.2) (fun q => cw_fin (Run.lift Run.rep (cw_todo q.1 q.2))) (fun q => cw_ys q.2)
    (fun h1 h2 => ⟨hR.trans h1.1 h2.1, h1.2.trans h2.2⟩) (fun q ⟨k, ok, hf⟩ => ?_) N (s, BatchSt.init data)
    ⟨k0, ⟨fun _ => rfl, nofun⟩, hF⟩ (by show 2 * cw_nt data + 0 < N; omega)
  have h : cw_Sec Rel K q.1 q.2 _ := cw_todo_run hR K hmark hsound hK (batchResume_run 1000000 q.1 q.2) k ok hf
  simp only [cw_batchGen, cw_gen]
  generalize batchResume 1000000 q.1 q.2 = r at h ⊢
  obtain ⟨s1, b1, o⟩ := r
  cases o with
  | yielded =>
    obtain ⟨⟨k1, ok1, i1⟩, sim, y1⟩ := h
    exact ⟨⟨k1, ok1, Nat.lt_of_le_of_lt i1 hf⟩, ⟨sim.1, by simp only [cw_fin, Run.lift, sim.2]⟩, y1⟩
  | done a =>
    obtain ⟨r, e1, e2, rel⟩ := h
    exact ⟨rel, by simp only [cw_fin, Run.lift, e1, e2]; rfl⟩
  | failed e => exact ⟨h.2, by simp only [cw_fin, Run.lift, h.1]; rfl⟩

def cw_lrus (data : List (Bytes × List Bytes)) (l : Bytes) : Prop := ∃ d ∈ data, l = d.1 ∨ l ∈ d.2

theorem cw_Eqv_iff (a b : State) : cw_Eqv a b ↔
    a.hdrId = b.hdrId ∧ a.trie = b.trie ∧ a.links = b.links ∧ a.rules = b.rules ∧ a.dflt = b.dflt ∧ a.cfg = b.cfg := by
  obtain ⟨a1, a2, a3, a4, a5, a6, a7⟩ := a
  obtain ⟨b1, b2, b3, b4, b5, b6, b7⟩ := b
  simp only [cw_Eqv, cw_erase, State.mk.injEq, and_true]

/-- **The crawl batch, in general.** The generator drained alone, on any index with a header block, for a batch
    within the iteration bound of a section: it ends like `index_batch_crawl` (same report / same error) on
    an index that is the atomic one in every field except possibly the ghost write log. -/
theorem cw_batch_drain_eqv (s : State) (h0 : 0 < s.trie.size) (data : List (Bytes × List Bytes))
    (hF : 1 + (data.map (fun d => d.2.length + 2)).sum < 1000000) (N : Nat)
    (hN : 2 * (data.map (fun d => d.2.length)).sum < N) :
    (CoSt.drainW N s (.batch (BatchSt.init data))).2 = some (cw_outcome (s.batch data).2) ∧
      cw_Eqv (CoSt.drainW N s (.batch (BatchSt.init data))).1 (s.batch data).1 := by
  obtain ⟨h1, h2⟩ := cw_drain_todo cw_resp_eqv cw_KW (fun s _ _ _ n _ hb => cw_eqv_mark s n hb)
    (fun s b k hc l n hg => by unfold cw_KW at k; rw [hc] at k; exact k.2 l n hg) (fun k _ st ho => k.step st ho) s data
    (show cw_W s [] from ⟨h0, fun l n hg => by simp [pagesGet, dictGet?] at hg⟩) N
    (by show 1 + 0 + (data.map fun d => d.2.length + 2).sum < _; omega) hN
  exact ⟨h2, h1⟩

/-- **The crawl batch, exactly.** On a reachable index (`Shape`, `Inv`), for a well-formed batch (`CoReq.Wf`: every byte
    string cuts into at least one stem, the batch is within the iteration bound of a section) in which no two
    different byte strings denote the same LRU: the generator drained alone ends like `index_batch_crawl` on
    *the same* `State`, ghost write log included (the same primitive writes in the same order). -/
theorem cw_batch_drain_exact {s : State} {t : T} (hs : Shape s t) (hi : Inv s t) (data : List (Bytes × List Bytes))
    (hwf : (CoReq.batch data).Wf)
    (hinj : ∀ l l', cw_lrus data l → cw_lrus data l' → lruIter l = lruIter l' → l = l') (N : Nat)
    (hN : 2 * (data.map (fun d => d.2.length)).sum < N) :
    CoSt.drainW N s (.batch (BatchSt.init data)) = ((s.batch data).1, some (cw_outcome (s.batch data).2)) := by
  have hU : cw_Uni (cw_lrus data) := by
    refine ⟨fun l hl => ?_, hinj⟩
    obtain ⟨d, hd, e | e⟩ := hl
    · rw [e]; exact (hwf.1 d hd).1
    · exact (hwf.1 d hd).2 l e
  -- every copy being right, the generator never flags a block that is flagged
  obtain ⟨h1, h2⟩ := cw_drain_todo cw_resp_eq (cw_KJ (cw_lrus data))
    (fun s b ⟨⟨t, j⟩, _⟩ l n hg hb => absurd ((j.ent l n false hg).2.2.2.trans hb) Bool.false_ne_true)
    (fun s b ⟨⟨t, j⟩, _⟩ _ l n hg => (j.ent l n true hg).2.2.2.symm) (fun k ok st ho => k.step hU ok st ho) s data
    ⟨⟨t, hs, hi, fun l n c (hg : pagesGet [] l = _) => by simp [pagesGet, dictGet?] at hg⟩,
      fun d hd => ⟨⟨d, hd, .inl rfl⟩, fun x hx => ⟨d, hd, .inr hx⟩⟩, nofun⟩ N
    (by show 1 + 0 + (data.map fun d => d.2.length + 2).sum < _; have := hwf.2; omega) hN
  exact Prod.ext h1 h2

/-! The hypothesis "one byte string per LRU" cannot be dropped from the exact statement. `lru_iter` drops whatever
    follows the last separator: `a|` and `a|x` are the same LRU, hence the same block. Batch
    `[(z|, [a|, a|x]), (a|, []), (a|x, [])]` on the empty index: both targets are new, the machine caches two
    uncrawled copies of block 2; as a source, `a|` flags the block (both codes); then `a|x` finds its own cached copy
    unflagged and rewrites the block, while `batchSources` reads the block, finds it flagged and does not write.
    Same files, same report, one more `trieSet` in the machine's log. -/

def cw_b (s : List Char) : Bytes := s.map (·.toNat)
def cw_ws : State := (State.fresh {} .never [] []).1
def cw_wdata : List (Bytes × List Bytes) :=
  [(cw_b "z|".toList, [cw_b "a|".toList, cw_b "a|x".toList]), (cw_b "a|".toList, []), (cw_b "a|x".toList, [])]

theorem cw_ws_reachable : ∃ t, Shape cw_ws t ∧ Inv cw_ws t := by
  obtain ⟨t, h, f⟩ := fresh_spec {} .never [] []
  exact ⟨t, h, (f (fun _ hx => by simp at hx)).1⟩

/-- the witness batch is well formed: only the injectivity hypothesis of `cw_batch_drain_exact` fails -/
theorem cw_wdata_wf : (CoReq.batch cw_wdata).Wf := by
  refine ⟨?_, by decide +kernel⟩
  decide +kernel

/-- the witness: outcome and trie agree, the logs do not (16 writes against 15) -/
theorem cw_witness :
    (CoSt.drainW 10 cw_ws (.batch (BatchSt.init cw_wdata))).2 = some (cw_outcome (cw_ws.batch cw_wdata).2) ∧
    (CoSt.drainW 10 cw_ws (.batch (BatchSt.init cw_wdata))).1.trie = (cw_ws.batch cw_wdata).1.trie ∧
    (CoSt.drainW 10 cw_ws (.batch (BatchSt.init cw_wdata))).1.log.length = 16 ∧
    (cw_ws.batch cw_wdata).1.log.length = 15 ∧
    lruIter (cw_b "a|".toList) = lruIter (cw_b "a|x".toList) := by decide +kernel

theorem cw_witness_ne : CoSt.drainW 10 cw_ws (.batch (BatchSt.init cw_wdata)) ≠
    ((cw_ws.batch cw_wdata).1, some (cw_outcome (cw_ws.batch cw_wdata).2)) := by
  intro h
  have h3 := cw_witness.2.2.1
  rw [h, cw_witness.2.2.2.1] at h3
  exact absurd h3 (by decide)

theorem cw_run_finished : ∀ (N : Nat) (s : State),
    Sys.run (s, [CoSt.finished]) (List.replicate N 0)
      = ((s, [CoSt.finished]), List.replicate N (0, .failed (.other "StopIteration")))
  | 0, _ => rfl
  | N + 1, s => by
    rw [List.replicate_succ, Sys.run_cons_some (σ := (s, [CoSt.finished])) (c := .finished) _ rfl]
    simp only [CoSt.resume, List.set_cons_zero]
    rw [cw_run_finished N s]
    rfl

/-- the schedule that runs the only machine `N` times: its trace is `k` yields, the machine's final output,
    then `StopIteration`s; the final index is that of `CoSt.drainW` -/
theorem cw_run_drain : ∀ (N : Nat) (s : State) (c : CoSt) (s' : State) (o : CoOut),
    CoSt.drainW N s c = (s', some o) →
    ∃ k, k < N ∧ Sys.run (s, [c]) (List.replicate N 0) =
      ((s', [CoSt.finished]),
        List.replicate k (0, .yielded) ++ (0, o) :: List.replicate (N - k - 1) (0, .failed (.other "StopIteration"))) := by
  intro N
  induction N with
  | zero => intro s c s' o h; simp [CoSt.drainW] at h
  | succ N ih =>
    intro s c s' o h
    rw [List.replicate_succ, Sys.run_cons_some (σ := (s, [c])) (c := c) _ rfl]
    simp only [List.set_cons_zero]
    rw [CoSt.drainW] at h
    have hfin := resume_not_yielded s c
    rcases hr : c.resume s with ⟨s1, c1, o1⟩
    rw [hr] at h hfin
    cases o1 with
    | yielded =>
      simp only at h
      obtain ⟨k, hk, e⟩ := ih s1 c1 s' o h
      refine ⟨k + 1, by omega, ?_⟩
      simp only [e]
      rw [show N + 1 - (k + 1) - 1 = N - k - 1 by omega]
      rfl
    | done a =>
      simp only [Prod.mk.injEq, Option.some.injEq] at h
      obtain ⟨rfl, rfl⟩ := h
      have : c1 = .finished := hfin (by simp)
      subst this
      refine ⟨0, by omega, ?_⟩
      simp only [cw_run_finished]
      rfl
    | failed e =>
      simp only [Prod.mk.injEq, Option.some.injEq] at h
      obtain ⟨rfl, rfl⟩ := h
      have : c1 = .finished := hfin (by simp)
      subst this
      refine ⟨0, by omega, ?_⟩
      simp only [cw_run_finished]
      rfl

/-- `cw_batch_drain_exact` under the scheduler -/
theorem cw_batch_run_exact {s : State} {t : T} (hs : Shape s t) (hi : Inv s t) (data : List (Bytes × List Bytes))
    (hwf : (CoReq.batch data).Wf)
    (hinj : ∀ l l', cw_lrus data l → cw_lrus data l' → lruIter l = lruIter l' → l = l') (N : Nat)
    (hN : 2 * (data.map (fun d => d.2.length)).sum < N) :
    ∃ k, k < N ∧ Sys.run (s, [CoReq.init (.batch data)]) (List.replicate N 0) =
      (((s.batch data).1, [CoSt.finished]),
        List.replicate k (0, .yielded) ++ (0, cw_outcome (s.batch data).2) ::
          List.replicate (N - k - 1) (0, .failed (.other "StopIteration"))) :=
  cw_run_drain N s _ _ _ (cw_batch_drain_exact hs hi data hwf hinj N hN)

/-- `cw_batch_drain_eqv` under the scheduler -/
theorem cw_batch_run_eqv (s : State) (h0 : 0 < s.trie.size) (data : List (Bytes × List Bytes))
    (hF : 1 + (data.map (fun d => d.2.length + 2)).sum < 1000000) (N : Nat)
    (hN : 2 * (data.map (fun d => d.2.length)).sum < N) :
    ∃ k s', k < N ∧ cw_Eqv s' (s.batch data).1 ∧ Sys.run (s, [CoReq.init (.batch data)]) (List.replicate N 0) =
      ((s', [CoSt.finished]),
        List.replicate k (0, .yielded) ++ (0, cw_outcome (s.batch data).2) ::
          List.replicate (N - k - 1) (0, .failed (.other "StopIteration"))) := by
  obtain ⟨g1, g2⟩ := cw_batch_drain_eqv s h0 data hF N hN
  obtain ⟨k, hk, e⟩ := cw_run_drain N s (CoReq.init (.batch data)) _ _ (Prod.ext rfl g1)
  exact ⟨k, _, hk, g2, e⟩

def cw_ruleGen : Gen (State × RuleSt) (State × Option CoOut) :=
  cw_gen (fun _ s r => ruleResume s r) 1

/-- **the walk of the generator is the atomic walk**, whenever the latter ends within its fuel: from a
    started machine (`pend` = the node visited last, not expanded yet) the drain ends in the state and with the
    report of `addRuleLoop` run on the machine's pending stack -/
theorem cw_rule_sim (fuel : Nat) : ∀ (s : State) (r : RuleSt), r.started = true →
    LoopFin r.start fuel s r.pending r.rep →
    cw_ruleGen.Drains (s, r) (cw_fin (addRuleLoop r.start fuel s r.pending r.rep)) 0 fuel := by
  have hnil : ∀ fuel s (r : RuleSt) Y, r.started = true → r.pending = [] →
      cw_ruleGen.Drains (s, r) (cw_fin (addRuleLoop r.start fuel s [] r.rep)) 0 Y := fun fuel s r Y hst hk => by
    rw [addRuleLoop_nil]
    exact (Gen.Drains.done (G := cw_ruleGen) (q := (s, r)) (q' := (s, { r with stack := [], pend := none })) fun g => by
      simp only [cw_ruleGen, cw_gen, ruleResume_of_started hst, ruleBody_nil s hk]).mono (Nat.le_refl _) (Nat.zero_le _)
  induction fuel with
  | zero =>
    intro s r hst hfin
    cases hk : r.pending with
    | nil => exact hnil _ _ _ _ hst hk
    | cons x rest => rw [hk] at hfin; cases hfin
  | succ fuel ih =>
    intro s r hst hfin
    cases hk : r.pending with
    | nil => exact hnil _ _ _ _ hst hk
    | cons x rest =>
      obtain ⟨b, lru⟩ := x
      rw [hk] at hfin
      rw [addRuleLoop_succ_cons]
      cases hfin with
      | @error _ _ s1 _ _ _ _ e hv =>
        rw [hv]
        exact (Gen.Drains.failed (G := cw_ruleGen) (q := (s, r)) (q' := (s1, { r with stack := rest, pend := none }))
          fun g => by simp only [cw_ruleGen, cw_gen, ruleResume_of_started hst, ruleBody_cons s hk, hv]).mono
            (Nat.le_refl _) (Nat.zero_le _)
      | @ok _ _ s1 _ _ _ _ rep1 hv hrest =>
        rw [hv]
        exact (ih s1 { r with stack := rest, pend := some (b, lru, lru ++ s.stemAt b, s.cell b), rep := rep1 } hst hrest).yield
          (fun g => by simp only [cw_ruleGen, cw_gen, ruleResume_of_started hst, ruleBody_cons s hk, hv]) Nat.one_pos

/-- the machine after the prologue of its first section -/
def cw_started (s : State) (anchor : Bytes) (r : Rule) : RuleSt :=
  { started := true, anchor := anchor, rule := r, start := (s.rulePrologue anchor r).2,
    stack := [((s.rulePrologue anchor r).2, lruDirname anchor)], pend := none, rep := {} }

theorem cw_rule_first (s : State) (anchor : Bytes) (r : Rule) :
    ruleResume s (RuleSt.init anchor r) = ruleBody (s.rulePrologue anchor r).1 (cw_started s anchor r) := by
  rw [ruleResume_eq]; rfl

/-- **The rule installation, fuel-free form.** Whenever the atomic walk run with `fuel` empties its stack (or fails) before the
    fuel runs out, the rule generator drained alone (more than `fuel` sections) ends in the same `State` — log
    included — with the same report or error as that walk. No invariant is needed. -/
theorem cw_rule_drain_of_fin (s : State) (anchor : Bytes) (r : Rule) (fuel : Nat)
    (hfin : LoopFin (s.rulePrologue anchor r).2 fuel (s.rulePrologue anchor r).1
      [((s.rulePrologue anchor r).2, lruDirname anchor)] {}) (N : Nat) (hN : fuel < N) :
    CoSt.drainW N s (.rule (RuleSt.init anchor r)) =
      cw_fin (addRuleLoop (s.rulePrologue anchor r).2 fuel (s.rulePrologue anchor r).1
        [((s.rulePrologue anchor r).2, lruDirname anchor)] {}) :=
  -- the first section is the prologue and then the first round of the started machine
  (cw_drain_eq .rule (fun _ s r => ruleResume s r) 1 (fun _ _ => rfl) N s _).trans <|
  ((cw_rule_sim fuel (s.rulePrologue anchor r).1 (cw_started s anchor r) rfl hfin).congr
    (q := (s, RuleSt.init anchor r)) fun g => by
      simp only [cw_ruleGen, cw_gen, cw_rule_first, ruleResume_of_started (r := cw_started s anchor r) rfl]).drain
    Nat.one_pos hN

/-- **The rule installation.** On an index satisfying the invariants of reachable states (`Shape`, `Inv`, `SizeOk`), for an anchor
    that cuts into at least one stem: the rule generator drained alone ends in *the same* `State` as
    `add_webentity_creation_rule(anchor, rule)` (ghost write log included) with the same report or error. -/
theorem cw_rule_drain {s : State} {t : T} (h : Shape s t) (hi : Inv s t) (hz : SizeOk s t) (anchor : Bytes) (r : Rule)
    (hne : lruIter anchor ≠ []) (N : Nat)
    (hN : 8 * ((s.rulePrologue anchor r).1.trie.size + 2) * ((s.rulePrologue anchor r).1.trie.size + 2) < N) :
    CoSt.drainW N s (.rule (RuleSt.init anchor r)) =
      ((s.addRule anchor r true).1, some (cw_outcome (s.addRule anchor r true).2)) := by
  obtain ⟨t2, k2, hent⟩ := rulePrologue_keeps h anchor r
  rw [cw_rule_drain_of_fin s anchor r _
      (rule_walk k2.shape (k2.adds hi).inv (hent hne) _ (rule_fuel_ok h hi hz anchor r hne)).2 N hN,
    ← addRule_true_eq]
  rfl

theorem cw_rule_drain_ex {s : State} {t : T} (h : Shape s t) (hi : Inv s t) (hz : SizeOk s t) (anchor : Bytes) (r : Rule)
    (hne : lruIter anchor ≠ []) :
    ∃ N0, ∀ N, N0 ≤ N → CoSt.drainW N s (.rule (RuleSt.init anchor r)) =
      ((s.addRule anchor r true).1, some (cw_outcome (s.addRule anchor r true).2)) :=
  ⟨_, fun N hN => cw_rule_drain h hi hz anchor r hne N (Nat.lt_of_succ_le hN)⟩

/-- `cw_rule_drain` under the scheduler -/
theorem cw_rule_run {s : State} {t : T} (h : Shape s t) (hi : Inv s t) (hz : SizeOk s t) (anchor : Bytes) (r : Rule)
    (hne : lruIter anchor ≠ []) (N : Nat)
    (hN : 8 * ((s.rulePrologue anchor r).1.trie.size + 2) * ((s.rulePrologue anchor r).1.trie.size + 2) < N) :
    ∃ k, k < N ∧ Sys.run (s, [CoReq.init (.rule anchor r)]) (List.replicate N 0) =
      (((s.addRule anchor r true).1, [CoSt.finished]),
        List.replicate k (0, .yielded) ++ (0, cw_outcome (s.addRule anchor r true).2) ::
          List.replicate (N - k - 1) (0, .failed (.other "StopIteration"))) :=
  cw_run_drain N s _ _ _ (cw_rule_drain h hi hz anchor r hne N hN)

theorem cw_batch_drain_exact_ex {s : State} {t : T} (hs : Shape s t) (hi : Inv s t) (data : List (Bytes × List Bytes))
    (hwf : (CoReq.batch data).Wf)
    (hinj : ∀ l l', cw_lrus data l → cw_lrus data l' → lruIter l = lruIter l' → l = l') :
    ∃ N0, ∀ N, N0 ≤ N → CoSt.drainW N s (.batch (BatchSt.init data)) =
      ((s.batch data).1, some (cw_outcome (s.batch data).2)) :=
  ⟨_, fun N hN => cw_batch_drain_exact hs hi data hwf hinj N (Nat.lt_of_succ_le hN)⟩

/-- the injectivity hypothesis holds when every byte string of the batch is a flattened LRU (ends with its
    last separator) -/
theorem cw_batch_drain_exact_canon {s : State} {t : T} (hs : Shape s t) (hi : Inv s t) (data : List (Bytes × List Bytes))
    (hwf : (CoReq.batch data).Wf) (hcanon : ∀ l, cw_lrus data l → (lruIter l).flatten = l) (N : Nat)
    (hN : 2 * (data.map (fun d => d.2.length)).sum < N) :
    CoSt.drainW N s (.batch (BatchSt.init data)) = ((s.batch data).1, some (cw_outcome (s.batch data).2)) :=
  cw_batch_drain_exact hs hi data hwf
    (fun l l' hl hl' e => by rw [← hcanon l hl, ← hcanon l' hl', e]) N hN

end Traph

#print axioms Traph.cw_batch_drain_eqv
#print axioms Traph.cw_batch_drain_exact
#print axioms Traph.cw_witness
#print axioms Traph.cw_witness_ne
#print axioms Traph.cw_batch_run_exact
#print axioms Traph.cw_batch_run_eqv
#print axioms Traph.cw_rule_drain_of_fin
#print axioms Traph.cw_rule_drain
#print axioms Traph.cw_rule_run
