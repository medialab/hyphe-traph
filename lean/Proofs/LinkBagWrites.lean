import Proofs.LinkBagOps
import Proofs.PageSet
/-! C03, the two list-writing requests. `add_links(links)` adds to the bags — on the out side of the
    source block and on the in side of the target block — exactly the submitted pairs, and
    `index_batch_crawl(data)` exactly the pairs (source, target) of every row (`LinkStep`); blocks are
    the ones the model's own look-up (`lru_node`) gives for the submitted LRUs. Main theorems `addLinks_link`
    and `batch_link`, both instances of `prog_link` (a request given as a program of `Instr`, Prog). -/
namespace Traph
open State

/-- the page cache of a link request (submitted LRU ↦ block, `Run.pages`) tells the truth in `s`: the cached
    block is the one `lru_node` finds for that LRU -/
def CacheNode (s : State) (pages : List (Bytes × Nat)) : Prop :=
  ∀ l n, dictGet? pages l = some n → lruIter l ≠ [] ∧ s.lruNode (lruIter l) = some n

theorem PagesLe.blk {p p' : List (Bytes × Nat)} (h : PagesLe p p') {l : Bytes} {n : Nat}
    (hc : dictGet? p l = some n) : blkOf p' l = blkOf p l := by
  unfold blkOf; rw [hc, h l n hc]

theorem lruNode_ext {s s' : State} {t t' : T} (h : Shape s t) (x : Ext s t s' t') {p : LRU} (hne : p ≠ [])
    {n : Nat} (hn : s.lruNode p = some n) : s'.lruNode p = some n :=
  (lruNode_iff_entries x.shape p hne n).mpr (x.keep p n ((lruNode_iff_entries h p hne n).mp hn))

theorem lruNode_lt_size {s : State} {t : T} (h : Shape s t) {p : LRU} (hne : p ≠ []) {n : Nat}
    (hn : s.lruNode p = some n) : n < s.trie.size :=
  entry_lt h ((lruNode_iff_entries h p hne n).mp hn)

theorem CacheNode.mono {s s' : State} {t t' : T} {pages : List (Bytes × Nat)} (h : Shape s t)
    (x : Ext s t s' t') (hc : CacheNode s pages) : CacheNode s' pages :=
  fun l n hl => ⟨(hc l n hl).1, lruNode_ext h x (hc l n hl).1 (hc l n hl).2⟩

theorem CacheNode.lt {s : State} {t : T} {pages : List (Bytes × Nat)} (h : Shape s t)
    (hc : CacheNode s pages) {l : Bytes} {n : Nat} (hl : dictGet? pages l = some n) :
    blkOf pages l < s.trie.size := by
  have : blkOf pages l = n := by unfold blkOf; rw [hl]; rfl
  rw [this]
  exact lruNode_lt_size h (hc l n hl).1 (hc l n hl).2

theorem CacheNode.node {s : State} {pages : List (Bytes × Nat)} (hc : CacheNode s pages) {l : Bytes} {n : Nat}
    (hl : dictGet? pages l = some n) : s.lruNode (lruIter l) = some (blkOf pages l) := by
  have : blkOf pages l = n := by unfold blkOf; rw [hl]; rfl
  rw [this]; exact (hc l n hl).2

theorem cacheNode_nil (s : State) : CacheNode s [] := fun _ _ h => nomatch h

/-- one instruction later: the trie has only grown, the cache has only grown and is still true. Not `Instr.Cached`
    (Prog: the operands of a `stubs` are in the cache), the precondition beside which it stands in `run_link`. -/
structure Cached (s : State) (t : T) (p : List (Bytes × Nat)) (s' : State) (t' : T) (p' : List (Bytes × Nat)) :
    Prop where
  ext : Ext s t s' t'
  cache : CacheNode s' p'
  le : PagesLe p p'

theorem Cached.refl {s : State} {t : T} {p : List (Bytes × Nat)} (h : Shape s t) (hc : CacheNode s p) :
    Cached s t p s t p := ⟨Ext.refl h, hc, PagesLe.refl p⟩

theorem Cached.trans {s0 s1 s2 : State} {t0 t1 t2 : T} {p0 p1 p2 : List (Bytes × Nat)}
    (h1 : Cached s0 t0 p0 s1 t1 p1) (h2 : Cached s1 t1 p1 s2 t2 p2) : Cached s0 t0 p0 s2 t2 p2 :=
  ⟨h1.ext.trans h2.ext, h2.cache, h1.le.trans h2.le⟩

theorem Cached.of_ext {s s' : State} {t t' : T} {p : List (Bytes × Nat)} (h : Shape s t) (x : Ext s t s' t')
    (hc : CacheNode s p) : Cached s t p s' t' p := ⟨x, hc.mono h x, PagesLe.refl p⟩

/-- `__add_page(l, c)` leaves the page where the model's own look-up finds it -/
theorem addPageCore_node {s : State} {t : T} (h : Shape s t) (l : Bytes) (c : Bool) (hne : lruIter l ≠ []) :
    (s.addPageCore l c).1.lruNode (lruIter l) = some (s.addPageCore l c).2.1 := by
  obtain ⟨t1, x1, f1⟩ := addPageCore_step h l c
  exact (lruNode_iff_entries x1.shape _ hne _).mpr (f1 hne).1

/-- `new` are the submitted pairs, `blk` the block of each submitted end -/
structure LinkStep (s s' : State) (blk : Bytes → Nat) (new : List (Bytes × Bytes)) : Prop where
  ok   : LinksOk s'
  out  : ∀ a b, count b (s'.bag true a) = count b (s.bag true a) + pcount blk new a b
  inn  : ∀ a b, count a (s'.bag false b) = count a (s.bag false b) + pcount blk new a b
  size : s'.links.size = s.links.size + 2 * new.length
  node : ∀ st ∈ new, s'.lruNode (lruIter st.1) = some (blk st.1) ∧ s'.lruNode (lruIter st.2) = some (blk st.2)

theorem mcount_append (blk : Bytes → Nat) : ∀ (d e : List (Bytes × List Bytes)) (b x : Nat),
    mcount blk (d ++ e) b x = mcount blk d b x + mcount blk e b x
  | [], _, _, _ => (Nat.zero_add _).symm
  | (p, os) :: d, e, b, x => by
    show _ + mcount blk (d ++ e) b x = _ + mcount blk d b x + _
    rw [mcount_append blk d e, Nat.add_assoc]

theorem mcount_congr (blk blk' : Bytes → Nat) : ∀ (d : List (Bytes × List Bytes)),
    AllIn (fun l => blk' l = blk l) d → ∀ b x, mcount blk' d b x = mcount blk d b x
  | [], _, _, _ => rfl
  | (p, os) :: rest, h, b, x => by
    simp only [mcount]
    obtain ⟨e1, e2⟩ := h (p, os) (by simp)
    rw [mcount_congr blk blk' rest (fun y hy => h y (List.mem_cons_of_mem _ hy)) b x, e1, List.map_congr_left e2]

theorem run_link {s s1 : State} {t : T} {a a1 : Run} {i : Instr} (h : Shape s t) (hl : LinksOk s)
    (hc : CacheNode s a.pages) (hi : i.Cached a.pages) (hne : ∀ l ∈ i.lrus, lruIter l ≠ [])
    (he : i.run s a = (s1, .ok a1)) :
    ∃ t1, Cached s t a.pages s1 t1 a1.pages ∧ LinksOk s1 ∧
      ∀ o b x, count x (s1.bag o b) = count x (s.bag o b) + mcount (blkOf a.pages) (i.rows o) b x := by
  obtain ⟨t1, x1⟩ := (paged_run s a i).ext h
  have q := ptrEq_run s a (i := i)
  rw [he] at x1 q
  have quiet : (∀ p ts o, i ≠ .stubs p ts o) → LinksOk s1 ∧
      ∀ o b x, count x (s1.bag o b) = count x (s.bag o b) + mcount (blkOf a.pages) (i.rows o) b x := fun hq =>
    ⟨(q hq).linksOk hl, fun o b x => by
      rw [(q hq).bag]
      cases i with
      | stubs p ts out => exact absurd rfl (hq p ts out)
      | _ => rfl⟩
  cases Instr.ran he with
  | add _ => exact ⟨t1, .of_ext h x1 hc, quiet nofun⟩
  | hit _ => exact ⟨t1, .of_ext h x1 hc, quiet nofun⟩
  | @miss l c _ n _ hn hp =>
    refine ⟨t1, ⟨x1, fun l' n' hl' => ?_, pagesLe_append_single _ _ _⟩, quiet nofun⟩
    rw [dictGet?_append_single] at hl'
    cases h1 : dictGet? a.pages l' with
    | some x => rw [h1] at hl'; exact hc.mono h x1 l' n' (h1.trans hl')
    | none =>
      rw [h1] at hl'
      by_cases e : l = l'
      · rw [if_pos e] at hl'
        cases hl'; subst e
        have := addPageCore_node h l c (hne l (List.mem_singleton.mpr rfl))
        rw [hp] at this
        exact ⟨hne l (List.mem_singleton.mpr rfl), this⟩
      · rw [if_neg e] at hl'; cases hl'
  | @stubs p ts out =>
    have hlt : blkOf a.pages p < s.trie.size := by
      obtain ⟨n, hn⟩ := hi p List.mem_cons_self
      exact hc.lt h hn
    refine ⟨t1, .of_ext h x1 hc, (addStubs_bag hl _ hlt _ out).1, fun o b x => ?_⟩
    show count x ((s.addStubs (blkOf a.pages p) (blocksOf a.pages ts) out).bag o b) = _
    rw [addStubs_count hl _ hlt, blocksOf_eq]
    show _ = _ + mcount (blkOf a.pages) (if out = o then [(p, ts)] else []) b x
    by_cases ho : out = o
    · subst ho
      rw [if_pos rfl]
      show _ = _ + ((if blkOf a.pages p = b then _ else 0) + 0)
      simp only [true_and, Nat.add_zero, eq_comm (a := b)]
    · rw [if_neg ho, if_neg fun hh => ho hh.1.symm]
      rfl

theorem Instr.rows_allIn {pages : List (Bytes × Nat)} {i : Instr} (hi : i.Cached pages) (o : Bool) :
    AllIn (fun l => ∃ n, dictGet? pages l = some n) (i.rows o) := by
  cases i with
  | stubs p ts out =>
    show AllIn _ (if out = o then [(p, ts)] else [])
    split
    · intro e he
      cases List.mem_singleton.mp he
      exact ⟨hi p List.mem_cons_self, fun x hx => hi x (List.mem_cons_of_mem _ hx)⟩
    · exact fun _ he => nomatch he
  | _ => exact fun _ he => nomatch he

/-- the rows are read in the final cache: a row is cached when it is written, and the cache only grows -/
theorem exec_link : ∀ (is : List Instr) {s s' : State} {t : T} {a a' : Run}, Shape s t → LinksOk s →
    CacheNode s a.pages → Sound s a is → (∀ l ∈ is.flatMap Instr.lrus, lruIter l ≠ []) →
    exec s a is = (s', .ok a') →
    ∃ t', Cached s t a.pages s' t' a'.pages ∧ LinksOk s' ∧
      ∀ o b x, count x (s'.bag o b) = count x (s.bag o b) + mcount (blkOf a'.pages) (is.flatMap (Instr.rows o)) b x
  | [], _, _, t, _, _, h, hl, hc, _, _, he => by cases he; exact ⟨t, .refl h hc, hl, fun _ _ _ => rfl⟩
  | i :: is, s, s', t, a, a', h, hl, hc, hs, hne, he => by
    obtain ⟨s1, a1, h1, h2⟩ := exec_cons_ok he
    rw [List.flatMap_cons] at hne
    obtain ⟨t1, k1, l1, b1⟩ := run_link h hl hc hs.1 (fun l hl => hne l (List.mem_append_left _ hl)) h1
    obtain ⟨t2, k2, l2, b2⟩ := exec_link is k1.ext.shape l1 k1.cache (hs.2 s1 a1 h1)
      (fun l hl => hne l (List.mem_append_right _ hl)) h2
    refine ⟨t2, k1.trans k2, l2, fun o b x => ?_⟩
    rw [b2, b1, List.flatMap_cons, mcount_append, Nat.add_assoc,
      mcount_congr (blkOf a'.pages) (blkOf a.pages) (i.rows o) (AllIn.imp (Instr.rows_allIn hs.1 o) fun l ⟨n, hn⟩ =>
        (PagesLe.blk (k1.le.trans k2.le) hn).symm)]

theorem mcount_foldl_out (blk : Bytes → Nat) (links : List (Bytes × Bytes)) (a b : Nat) :
    mcount blk (outlOf links []) a b = pcount blk links a b :=
  show mcount blk (links.foldl _ []) a b = _ from (mcount_foldl_multiAdd blk (fun st => st.1) (fun st => st.2) links [] a b).trans (Nat.zero_add _)

theorem mcount_foldl_in (blk : Bytes → Nat) (links : List (Bytes × Bytes)) (b a : Nat) :
    mcount blk (inlOf links []) b a = pcount blk links a b :=
  show mcount blk (links.foldl _ []) b a = _ from ((mcount_foldl_multiAdd blk (fun st => st.2) (fun st => st.1) links [] b a).trans (Nat.zero_add _)).trans
    (congrArg _ (List.filter_congr fun _ _ => decide_eq_decide.mpr and_comm))

/-- a link request that is the program `is`, whose rows are those of the pairs `new` -/
theorem prog_link {s : State} {t : T} (h : Shape s t) (hl : LinksOk s) {is : List Instr} {new : List (Bytes × Bytes)}
    (hcl : Closed (fun _ => False) is) (hne : ∀ l ∈ is.flatMap Instr.lrus, lruIter l ≠ [])
    (hout : ∀ blk a b, mcount blk (is.flatMap (Instr.rows true)) a b = pcount blk new a b)
    (hin : ∀ blk a b, mcount blk (is.flatMap (Instr.rows false)) b a = pcount blk new a b)
    (hends : ∀ st ∈ new, ∃ i ∈ is, ∃ j ∈ is, st.1 ∈ i.ensures ∧ st.2 ∈ j.ensures)
    (hsz : ∀ r, (exec s {} is).2.map Run.rep = .ok r → (exec s {} is).1.links.size = s.links.size + 2 * new.length)
    (r : Report) (hok : (exec s {} is).2.map Run.rep = .ok r) :
    ∃ blk, LinkStep s (exec s {} is).1 blk new := by
  obtain ⟨a', ha, _⟩ := Except.map_eq_ok hok
  have he : exec s {} is = ((exec s {} is).1, .ok a') := Prod.ext rfl ha
  obtain ⟨t', k, l', b⟩ := exec_link is h hl (cacheNode_nil s) (hcl.sound _ s {} nofun) hne he
  refine ⟨blkOf a'.pages, l', fun a b' => ?_, fun a b' => ?_, hsz r hok, fun st hst => ?_⟩
  · rw [b, hout]
  · rw [b, hin]
  · obtain ⟨i, hi, j, hj, e1, e2⟩ := hends st hst
    obtain ⟨n1, hn1⟩ := exec_ensured e1 is he hi
    obtain ⟨n2, hn2⟩ := exec_ensured e2 is he hj
    exact ⟨k.cache.node hn1, k.cache.node hn2⟩

theorem addLinks_link {s : State} {t : T} (h : Shape s t) (hl : LinksOk s) (links : List (Bytes × Bytes))
    (hwf : ∀ st ∈ links, lruIter st.1 ≠ [] ∧ lruIter st.2 ≠ []) (r : Report)
    (hok : (s.addLinks links).2 = .ok r) :
    ∃ blk, LinkStep s (s.addLinks links).1 blk links := by
  have hsz := addLinks_links_size s links
  rw [addLinks_eq] at hok hsz ⊢
  refine prog_link h hl (closed_linksProg links) (linksProg_lrus_ne hwf) (fun blk a b => ?_) (fun blk a b => ?_)
    (fun st hst => ?_) hsz r hok
  · rw [rows_linksProg, if_pos rfl, if_neg nofun, List.append_nil, mcount_foldl_out]
  · rw [rows_linksProg, if_neg nofun, if_pos rfl, List.nil_append, mcount_foldl_in]
  · have hm : ∀ x, x = st.1 ∨ x = st.2 → Instr.ensure x false ∈ linksProg links := fun x hx =>
      List.mem_append_left _ (List.mem_flatMap.mpr ⟨st, hst, by rcases hx with rfl | rfl <;> simp⟩)
    exact ⟨_, hm _ (.inl rfl), _, hm _ (.inr rfl), List.mem_singleton.mpr rfl, List.mem_singleton.mpr rfl⟩

#print axioms addLinks_link

theorem mcount_rows (blk : Bytes → Nat) : ∀ (data : List (Bytes × List Bytes)) (a b : Nat),
    mcount blk data a b = pcount blk (batchLinks data) a b
  | [], _, _ => rfl
  | (src, tgts) :: rest, a, b => by
    rw [batchLinks_cons, pcount_append, pcount_row, ← mcount_rows blk rest]; rfl

theorem batch_link {s : State} {t : T} (h : Shape s t) (hl : LinksOk s) (data : List (Bytes × List Bytes))
    (hwf : ∀ d ∈ data, lruIter d.1 ≠ [] ∧ ∀ x ∈ d.2, lruIter x ≠ []) (r : Report)
    (hok : (s.batch data).2 = .ok r) :
    ∃ blk, LinkStep s (s.batch data).1 blk (batchLinks data) := by
  have hsz := batch_links_size s data
  rw [batch_eq] at hok hsz ⊢
  refine prog_link h hl (closed_batchProg data) (batchProg_lrus_ne hwf) (fun blk a b => ?_) (fun blk a b => ?_)
    (fun st hst => ?_) ?_ r hok
  · rw [rows_batchProg, if_pos rfl, if_neg nofun, List.append_nil, mcount_rows]
  · rw [rows_batchProg, if_neg nofun, if_pos rfl, List.nil_append, mcount_foldl_in]
  · obtain ⟨d, hd, hst⟩ := List.mem_flatMap.mp hst
    obtain ⟨x, hx, rfl⟩ := List.mem_map.mp hst
    have hr : ∀ i ∈ rowProg d, i ∈ batchProg data := fun i hi =>
      List.mem_append_left _ (List.mem_flatMap.mpr ⟨d, hd, hi⟩)
    exact ⟨_, hr (.ensure d.1 true) List.mem_cons_self, _,
      hr (.ensure x false) (List.mem_cons_of_mem _ (List.mem_append_left _ (List.mem_map.mpr ⟨x, hx, rfl⟩))),
      List.mem_singleton.mpr rfl, List.mem_singleton.mpr rfl⟩
  · exact fun r hr => (hsz r hr).trans (by rw [batchLinks_length])

#print axioms batch_link

end Traph
