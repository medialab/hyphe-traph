import Proofs.PageSet
/-! Two requests of the public API that are not constructors of `Op` are compositions of requests that are:
    `delete_webentity(…, check_for_corruption=False)` and `add_webentity_creation_rule(…, write_in_trie=False)`.
    Each is modelled on its own (Traph/Api.lean: `deleteUnchecked`, `addRule … false`; the driver executes them and the
    correspondence check compares them with the code) and shown to equal a run of `Op`s (`deleteUnchecked_eq_run`; the rule:
    `dr_addRule_ram_eq_reopen`, Proofs/DerivedReach.lean) — so every theorem
    about histories of `Op`s covers histories that use them. -/
namespace Traph
open State

/-- first occurrences, in order (the keys of the dict Python builds from the list) -/
def dedupKeys : List Bytes → List Bytes
  | [] => []
  | p :: ps => p :: (dedupKeys ps).filter (fun q => q ≠ p)

/-- the walk of `add_lru(_, False)` down the stored stems unmarks nothing: the state — ghost log included — stays -/
theorem dop_walk_same {stems p : LRU} {rest : List Stem} {n : Nat} {s0 s : State} {t0 : T}
    (w : Walk stems false s0 t0 p rest n s) : s = s0 := by
  induction w with
  | start => rfl
  | found _ _ ih => rw [Bool.and_false, Bool.false_and, markCanHave_false]; exact ih

theorem dop_addLru_located {s : State} {t : T} (hs : Shape s t) {stems : LRU} {b : Nat}
    (hb : s.lruNode stems = some b) : ∃ h', s.addLru stems false = (s, b, h') := by
  by_cases hne : stems = []
  · subst hne
    unfold lruNode at hb
    split at hb
    · cases hb
    · cases hb; exact ⟨_, addLru_nil s false⟩
  · have hm := (lruNode_iff_entries hs stems hne b).mp hb
    obtain ⟨_, i, _⟩ := addLru_ins hs stems false hne
    have w := i.of_stored hs hm
    exact ⟨_, Prod.ext (dop_walk_same w) (Prod.ext (entries_path_injective hs.ord hs.nodup (w.entry hne) hm) rfl)⟩

theorem dop_removePrefix_located {s : State} {t : T} (hs : Shape s t) {p : Bytes} {b : Nat}
    (hb : s.lruNode (lruIter p) = some b) :
    s.removePrefix p none = (s.modCell b (fun c => { c with we := 0 }), .ok ()) := by
  obtain ⟨h', e⟩ := dop_addLru_located hs hb
  simp [removePrefix, e]

theorem dop_lruNode_noStruct {s s' : State} {t : T} (h : Shape s t) (n : NoStruct s s') (p : LRU) :
    s'.lruNode p = s.lruNode p := by
  cases p with
  | nil => simp [lruNode, lruNodeGo, n.1]
  | cons x tl =>
    apply Option.ext; intro b
    rw [lruNode_iff_entries (n.shape h) _ (by simp), lruNode_iff_entries h _ (by simp), n.entries]

/-- the item the scan stores for a prefix -/
def dop_entry (s : State) (p : Bytes) : Bytes × Option Nat := (p, s.lruNode (lruIter p))

theorem dop_mem_dedupKeys (q : Bytes) : ∀ ps : List Bytes, q ∈ dedupKeys ps ↔ q ∈ ps
  | [] => by simp [dedupKeys]
  | p :: ps => by
    simp only [dedupKeys, List.mem_cons, List.mem_filter, dop_mem_dedupKeys q ps, decide_eq_true_eq]
    by_cases h : q = p <;> simp [h]

/-- storing the look-up of `p` in a dict of look-ups: a repeated key rewrites the value it already has -/
theorem dop_dictSet_map (s : State) (p : Bytes) : ∀ ks : List Bytes,
    dictSet (ks.map (dop_entry s)) p (s.lruNode (lruIter p)) =
      (if p ∈ ks then ks else ks ++ [p]).map (dop_entry s)
  | [] => by simp [dictSet, dop_entry]
  | k :: ks => by
    have ih := dop_dictSet_map s p ks
    by_cases hk : k = p
    · subst hk; simp [dictSet, dop_entry]
    · have hk' : ¬ p = k := fun e => hk e.symm
      simp only [List.map_cons, dictSet, dop_entry, if_neg hk, List.mem_cons, hk', false_or] at ih ⊢
      rw [ih]
      split <;> simp [dop_entry]

theorem dop_scan (s : State) : ∀ (ps ks : List Bytes),
    deleteScanUnchecked s ps (ks.map (dop_entry s)) =
      (ks ++ (dedupKeys ps).filter (fun q => q ∉ ks)).map (dop_entry s)
  | [], ks => by simp [deleteScanUnchecked, dedupKeys]
  | p :: ps, ks => by
    rw [deleteScanUnchecked, dop_dictSet_map, dop_scan s ps]
    congr 1
    by_cases hp : p ∈ ks
    · rw [if_pos hp]
      simp only [dedupKeys, List.filter_cons, hp, not_true_eq_false, decide_false, Bool.false_eq_true, if_false,
        List.filter_filter]
      congr 1
      apply List.filter_congr
      intro q _
      by_cases hq : q ∈ ks
      · simp [hq]
      · have : q ≠ p := fun e => hq (e ▸ hp)
        simp [hq, this]
    · rw [if_neg hp]
      simp only [dedupKeys, List.filter_cons, hp, not_false_eq_true, decide_true, if_true, List.filter_filter,
        List.append_assoc, List.singleton_append]
      congr 2
      apply List.filter_congr
      intro q _
      by_cases hq : q = p <;> simp [hq, hp]

theorem dop_scan_nil (s : State) (ps : List Bytes) :
    deleteScanUnchecked s ps [] = (dedupKeys ps).map (dop_entry s) := by
  have := dop_scan s ps []
  have hf : (dedupKeys ps).filter (fun q => decide (q ∉ ([] : List Bytes))) = dedupKeys ps :=
    List.filter_eq_self.mpr (fun q _ => by simp)
  rw [hf] at this
  simpa using this

/-- the write loop over located prefixes (looked up in the state it starts from), then any further items -/
theorem dop_writes : ∀ (l : List Bytes) (s : State) (t : T), Shape s t →
    (∀ q ∈ l, s.lruNode (lruIter q) ≠ none) → ∀ tail : List (Bytes × Option Nat),
    deleteWrites s (l.map (dop_entry s) ++ tail) =
      deleteWrites (s.run (l.map (fun q => Op.removePrefix q none))) tail
  | [], s, _, _, _, tail => rfl
  | p :: l, s, t, hs, hloc, tail => by
    cases hb : s.lruNode (lruIter p) with
    | none => exact absurd hb (hloc p (by simp))
    | some b =>
      have n := noStruct_setWe s b 0
      have hmap : l.map (dop_entry s) = l.map (dop_entry (s.modCell b (fun c => { c with we := 0 }))) :=
        List.map_congr_left (fun q _ => by simp only [dop_entry, dop_lruNode_noStruct hs n])
      have hstep : (s.step (Op.removePrefix p none)).1 = s.modCell b (fun c => { c with we := 0 }) := by
        simp only [step, dop_removePrefix_located hs hb]
      rw [List.map_cons, List.map_cons, run_cons, hstep, List.cons_append]
      conv => lhs; rw [dop_entry, hb]
      rw [deleteWrites, hmap]
      exact dop_writes l _ t (n.shape hs)
        (fun q hq => by rw [dop_lruNode_noStruct hs n]; exact hloc q (by simp [hq])) tail

theorem dop_split_first {α : Type} (P : α → Prop) [DecidablePred P] (l : List α) (h : ∃ x ∈ l, P x) :
    ∃ before x rest, l = before ++ x :: rest ∧ P x ∧ ∀ q ∈ before, ¬ P q := by
  obtain ⟨x, hx, px⟩ := h
  cases hf : l.find? (fun a => decide (P a)) with
  | none => exact absurd px (by simpa using List.find?_eq_none.mp hf x hx)
  | some y =>
    obtain ⟨py, before, rest, e, hb⟩ := List.find?_eq_some_iff_append.mp hf
    exact ⟨before, y, rest, e, by simpa using py, fun q hq => by simpa using hb q hq⟩

/-- the unchecked deletion whose prefixes are all in the index IS the run of `remove_prefix_from_webentity(p)` (no id
    given) over the distinct prefixes in order of first occurrence: same index, same write log, both succeed -/
theorem deleteUnchecked_eq_run {s : State} {t : T} (hs : Shape s t) (ps : List Bytes)
    (hloc : ∀ p ∈ ps, s.lruNode (lruIter p) ≠ none) :
    s.deleteUnchecked ps = (s.run ((dedupKeys ps).map (fun p => Op.removePrefix p none)), .ok ()) := by
  have h := dop_writes (dedupKeys ps) s t hs (fun q hq => hloc q ((dop_mem_dedupKeys q ps).mp hq)) []
  rw [List.append_nil] at h
  rw [deleteUnchecked, dop_scan_nil, h, deleteWrites]

/-- …and when some prefix is not in the index the request fails with Python's AttributeError after having detached
    exactly the distinct prefixes that come before the first such one -/
theorem deleteUnchecked_fail {s : State} {t : T} (hs : Shape s t) (ps : List Bytes)
    (hmiss : ∃ p ∈ ps, s.lruNode (lruIter p) = none) :
    ∃ before p rest, dedupKeys ps = before ++ p :: rest ∧ s.lruNode (lruIter p) = none ∧
      (∀ q ∈ before, s.lruNode (lruIter q) ≠ none) ∧
      s.deleteUnchecked ps = (s.run (before.map (fun q => Op.removePrefix q none)), .error (.other "AttributeError")) := by
  obtain ⟨before, p, rest, e, hp, hb⟩ := dop_split_first (fun q => s.lruNode (lruIter q) = none) (dedupKeys ps)
    (by obtain ⟨p, hp, hn⟩ := hmiss; exact ⟨p, (dop_mem_dedupKeys p ps).mpr hp, hn⟩)
  refine ⟨before, p, rest, e, hp, hb, ?_⟩
  rw [deleteUnchecked, dop_scan_nil, e, List.map_append, dop_writes before s t hs hb, List.map_cons]
  conv => lhs; rw [dop_entry, hp]
  rw [deleteWrites]

/-- a rule registered in RAM only changes the rule table and nothing else, and reports nothing -/
theorem addRule_ram (s : State) (a : Bytes) (r : Rule) :
    s.addRule a r false = ({ s with rules := dictSet s.rules a r }, .ok {}) := addRule_false_eq s a r

/-! `deleteUnchecked_eq_run` is not vacuous: two webentities (ids 1 and 2) on two distinct prefixes, a page below the
    first; the list of prefixes names the first prefix twice: the dict keeps `[pa, pb]`, both are located. -/
namespace DerivedEx

def b (s : String) : Bytes := s.toList.map (·.toNat)
def pa : Bytes := b "s:http|h:com|h:a|"
def pb : Bytes := b "s:http|h:com|h:b|"
def hist : List Op := [.create [pa], .create [pb], .addPage (b "s:http|h:com|h:a|p:x|") true]
def idx : State := (State.fresh {} .never [] []).1.run hist

theorem idx_shape : ∃ t, Shape idx t :=
  shape_run {} .never [] hist (fun op ho d rs e => by subst e; simp [hist] at ho)

/-- the index evaluated once: what `idx_located` says, and the state after the unchecked deletion -/
theorem idx_facts :
    ((∀ p ∈ [pa, pb, pa], idx.lruNode (lruIter p) ≠ none) ∧ pa ≠ pb ∧
      idx.ask (.webentityByPrefix pa) = .nat 1 ∧ idx.ask (.webentityByPrefix pb) = .nat 2 ∧
      dedupKeys [pa, pb, pa] = [pa, pb]) ∧
    (idx.deleteUnchecked [pa, pb, pa]).1.ask (.webentityByPrefix pa) = .err .traph ∧
    (idx.deleteUnchecked [pa, pb, pa]).1.ask (.webentityByPrefix pb) = .err .traph ∧
    (idx.deleteUnchecked [pa, pb, pa]).1.log.length = idx.log.length + 2 := by decide +kernel

theorem idx_located :
    (∀ p ∈ [pa, pb, pa], idx.lruNode (lruIter p) ≠ none) ∧ pa ≠ pb ∧
    idx.ask (.webentityByPrefix pa) = .nat 1 ∧ idx.ask (.webentityByPrefix pb) = .nat 2 ∧
    dedupKeys [pa, pb, pa] = [pa, pb] := idx_facts.1

example : idx.deleteUnchecked [pa, pb, pa] =
    (idx.run [.removePrefix pa none, .removePrefix pb none], .ok ()) := by
  obtain ⟨t, hs⟩ := idx_shape
  have h := deleteUnchecked_eq_run hs [pa, pb, pa] idx_located.1
  rw [idx_located.2.2.2.2] at h
  exact h

set_option maxRecDepth 1000000 in
/-- …and it is not a no-op: afterwards neither prefix carries a webentity (Python: `TraphException`) -/
example : (idx.deleteUnchecked [pa, pb, pa]).1.ask (.webentityByPrefix pa) = .err .traph ∧
    (idx.deleteUnchecked [pa, pb, pa]).1.ask (.webentityByPrefix pb) = .err .traph ∧
    (idx.deleteUnchecked [pa, pb, pa]).1.log.length = idx.log.length + 2 := idx_facts.2

end DerivedEx

end Traph

#print axioms Traph.deleteUnchecked_eq_run
#print axioms Traph.deleteUnchecked_fail
#print axioms Traph.addRule_ram
#print axioms Traph.DerivedEx.idx_shape
#print axioms Traph.DerivedEx.idx_located
