import Proofs.Resolve
import Proofs.MarksInv
/-! The walk `webentity_dfs_iter(node, lru, max_depth)` started at the node of a stored prefix, in terms of the
    finite map of the ghost tree, for either kind of depth limit (`WithinDepth` is the condition a limit adds):
    what the walk meets, and that it meets no block twice. -/
namespace Traph
open State

/-- the start LRU of the walk: the dirname of the prefix plus the stem of its node is the prefix itself
    (bytes after the last separator are dropped by `lru_iter`) -/
theorem pa_dirname_stem {s : State} {t : T} (h : Shape s t) {p : Bytes} {n : Nat}
    (hP : (lruIter p, n) ∈ t.entries s []) : lruDirname p ++ s.stemAt n = (lruIter p).flatten := by
  obtain ⟨q, e, _⟩ := entries_last_and_ptrs t [] _ n h.rep hP
  unfold lruDirname Traph.flatten
  rw [e]; simp

theorem forall_take_append {α : Type} (P q : List α) (Φ : List α → Prop) :
    (∀ j, P.length < j → j ≤ (P ++ q).length → Φ ((P ++ q).take j)) ↔
      ∀ k, 0 < k → k ≤ q.length → Φ (P ++ q.take k) := by
  have ht : ∀ k, (P ++ q).take (P.length + k) = P ++ q.take k := fun k => by
    rw [List.take_append, List.take_of_length_le (Nat.le_add_right _ _), Nat.add_sub_cancel_left]
  rw [List.length_append]
  constructor
  · intro h k hk1 hk2
    exact ht k ▸ h (P.length + k) (Nat.lt_add_of_pos_right hk1) (Nat.add_le_add_left hk2 _)
  · intro h j hj1 hj2
    have := h (j - P.length) (Nat.sub_pos_of_lt hj1) (Nat.sub_le_of_le_add (Nat.add_comm _ _ ▸ hj2))
    rwa [← ht, Nat.add_sub_cancel' (Nat.le_of_lt hj1)] at this

def WithinDepth (depth : Option Nat) (P X : LRU) : Prop :=
  match depth with
  | none => True
  | some d => X.length ≤ P.length + d

instance (depth : Option Nat) (P X : LRU) : Decidable (WithinDepth depth P X) := by
  unfold WithinDepth; split <;> infer_instance

theorem WithinDepth.mono {d d' : Nat} (hd : d ≤ d') {P X : LRU} (h : WithinDepth (some d) P X) :
    WithinDepth (some d') P X := by
  simp only [WithinDepth] at h ⊢; omega

theorem withinDepth_append (depth : Option Nat) (P q : LRU) :
    WithinDepth depth P (P ++ q) ↔ ∀ d ∈ depth, q.length ≤ d := by
  cases depth with
  | none => exact ⟨fun _ _ hm => (nomatch hm), fun _ => trivial⟩
  | some d =>
    simp only [WithinDepth, List.length_append, Nat.add_le_add_iff_left, Option.mem_def, Option.some.injEq,
      forall_eq']

/-- the walk of `webentity_dfs_iter` started at the node of the stored prefix `p`
    meets exactly the stored paths extending the prefix, by at most `max_depth` stems if there is a limit,
    such that no stem-prefix strictly longer than the prefix (the path itself included) carries a webentity;
    it reports the flattened path -/
theorem weDfs_opt_walk_iff {s : State} {t : T} (h : Shape s t) {p : Bytes} {n : Nat}
    (hP : (lruIter p, n) ∈ t.entries s []) (depth : Option Nat) (b : Nat) (lru : Bytes) :
    (b, lru) ∈ s.weDfs n p depth ↔
      ∃ X, (X, b) ∈ t.entries s [] ∧ lruIter p <+: X ∧ lru = X.flatten ∧
        (∀ j, (lruIter p).length < j → j ≤ X.length → ∀ b', (X.take j, b') ∈ t.entries s [] →
          (s.cell b').we = 0) ∧
        WithinDepth depth (lruIter p) X := by
  generalize hPe : lruIter p = P at hP
  have hdir : lruDirname p ++ s.stemAt n = P.flatten := by rw [← hPe]; exact pa_dirname_stem h (hPe ▸ hP)
  obtain ⟨l, c, r, lo', hi', h1, h2, h3, hsz, hiff⟩ := h.subtree_at hP
  have hc : ∀ q b, (P ++ q, b) ∈ c.entries s P ↔ ((P ++ q, b) ∈ t.entries s [] ∧ q ≠ []) := fun q b =>
    (hiff _ b).trans (and_congr_right fun _ =>
      ⟨fun ⟨x, rest, e⟩ => List.append_cancel_left e ▸ List.cons_ne_nil x rest,
        fun hq => let ⟨x, rest, e⟩ := List.exists_cons_of_ne_nil hq; ⟨x, rest, e ▸ rfl⟩⟩)
  rw [weDfs_opt_mem_iff h1 hsz h2 h3 P p depth b lru, hdir]
  have shift := fun q => forall_take_append P q (fun Y => ∀ b', (Y, b') ∈ t.entries s [] → (s.cell b').we = 0)
  constructor
  · rintro (⟨rfl, rfl⟩ | ⟨q, hne, hq, rfl, hz, hlen⟩)
    · exact ⟨P, hP, List.prefix_refl _, rfl, fun j hj1 hj2 => absurd (Nat.lt_of_lt_of_le hj1 hj2) (Nat.lt_irrefl _),
        (List.append_nil P ▸ (withinDepth_append depth P []).mpr (fun _ _ => Nat.zero_le _) :)⟩
    · refine ⟨P ++ q, ((hc q b).mp hq).1, List.prefix_append _ _, by rw [List.flatten_append],
        (shift q).mpr fun k hk1 hk2 b' hb' => hz k hk1 hk2 b' ((hc _ _).mpr ⟨hb', fun e => ?_⟩),
        (withinDepth_append depth P q).mpr hlen⟩
      rcases List.take_eq_nil_iff.mp e with e | e
      · exact absurd e (Nat.pos_iff_ne_zero.mp hk1)
      · exact hne e
  · rintro ⟨X, hX, ⟨q, rfl⟩, rfl, hz, hlen⟩
    by_cases hq : q = []
    · subst hq
      rw [List.append_nil] at hX
      have := entries_path_injective h.ord h.nodup hX hP
      subst this
      exact Or.inl ⟨rfl, by rw [List.append_nil]⟩
    · exact Or.inr ⟨q, hq, (hc q b).mpr ⟨hX, hq⟩, by rw [List.flatten_append],
        fun k hk1 hk2 b' hb' => (shift q).mp hz k hk1 hk2 b' ((hc _ _).mp hb').1,
        (withinDepth_append depth P q).mp hlen⟩

theorem wePreD_sublist_pre {s : State} (start : Nat) (md : Option Nat) : ∀ (u : T) (lru : Bytes) (lvl : Nat),
    (u.wePreD s start md lru lvl).Sublist (u.pre s lru)
  | .nil, _, _ => List.Sublist.refl _
  | .node a l c r, lru, lvl => by
    have ic := wePreD_sublist_pre (s := s) start md c (lru ++ s.stemAt a) (lvl + 1)
    have il := wePreD_sublist_pre (s := s) start md l lru lvl
    have ir := wePreD_sublist_pre (s := s) start md r lru lvl
    simp only [T.wePreD, T.pre]
    rw [List.append_assoc, ← List.cons_append]
    refine List.Sublist.append ?_ ?_
    · split
      · refine List.Sublist.cons_cons _ ?_
        split
        · exact ic
        · exact List.nil_sublist _
      · exact List.nil_sublist _
    · split
      · exact List.nil_sublist _
      · exact il.append ir

theorem weDfs_opt_addrs_nodup {s : State} {t : T} (h : Shape s t) {P : LRU} {n : Nat}
    (hP : (P, n) ∈ t.entries s []) (p : Bytes) (depth : Option Nat) :
    ((s.weDfs n p depth).map (·.1)).Nodup := by
  obtain ⟨l, c, r, _, _, h1, _, h3, h4, _⟩ := h.subtree_at hP
  rw [weDfs, weDfsGo_single h1 h4]
  exact List.Nodup.sublist ((wePreD_sublist_pre n depth _ _ 0).map (·.1)) ((pre_addrs_perm _ _).nodup_iff.mpr h3)

#print axioms weDfs_opt_walk_iff
#print axioms weDfs_opt_addrs_nodup

end Traph
