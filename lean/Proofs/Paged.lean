import Proofs.Built
/-! The page-submitting requests (`add_pages`, `add_links`, `index_batch_crawl`, the re-insertion walk of
    `add_webentity_creation_rule`) thread a write report through a sequence of `__add_page` calls: each call adds
    its own report to the accumulated one, and the first call that fails ends the request with its error. In
    between, blocks are marked as crawled and link stubs are written, which no report shows.
    `Paged s rep s' res`: such a sequence leads from `s`, with `rep` accumulated so far, to `s'` with answer `res`.
    The requests are walked once, here. A fact about the answers then only has to be followed through one
    `__add_page` and the two silent writes: `Paged.ids` (Ids), `Paged.keyErr` (PageSet), `Paged.repOk` (WeMapBulk),
    `Paged.rulesOk` (CoRulesOps). -/
namespace Traph
open State

theorem ofExcept_report {x : Except Err Report} {r : Report} (h : Ans.ofExcept .report x = .report r) :
    x = .ok r := by
  cases x with
  | error e => cases h
  | ok a => cases h; rfl

theorem ofExcept_report_ok {x : Except Err Report} (herr : ∀ e, x = .error e → e = .other "KeyError")
    (h : Ans.ofExcept .report x ≠ .err (.other "KeyError")) :
    ∃ r, x = .ok r ∧ Ans.ofExcept .report x = .report r := by
  cases x with
  | error e => rw [herr e rfl] at h; exact absurd rfl h
  | ok a => exact ⟨a, rfl, rfl⟩

theorem ofExcept_ok_of_noKeyErr {α : Type} {f : α → Ans} {x : Except Err α}
    (herr : ∀ e, x = .error e → e = .other "KeyError")
    (h : Ans.ofExcept f x ≠ .err (.other "KeyError")) : ∃ a, x = .ok a := by
  cases x with
  | error e => rw [herr e rfl] at h; exact absurd rfl h
  | ok a => exact ⟨a, rfl⟩

inductive Paged (s : State) (rep : Report) : State → Except Err Report → Prop
  | refl : Paged s rep s (.ok rep)
  | page {a rep1} (l : Bytes) (c : Bool) : Paged s rep a (.ok rep1) →
      Paged s rep (a.addPageCore l c).1 ((a.addPageCore l c).2.2.map rep1.add)
  | crawl {a res} (n : Nat) : Paged s rep a res →
      Paged s rep (a.modCell n fun c => { c with flags := { c.flags with crawled := true } }) res
  | stubs {a res} (page : Nat) (targets : List Nat) (out : Bool) : Paged s rep a res →
      Paged s rep (a.addStubs page targets out) res

theorem Paged.trans {a b c : State} {rep rep1 : Report} {res : Except Err Report}
    (h1 : Paged a rep b (.ok rep1)) (h2 : Paged b rep1 c res) : Paged a rep c res := by
  induction h2 with
  | refl => exact h1
  | page l c _ ih => exact ih.page l c
  | crawl n _ ih => exact ih.crawl n
  | stubs p t o _ ih => exact ih.stubs p t o

theorem paged_run (s : State) (a : Run) (i : Instr) :
    Paged s a.rep (i.run s a).1 ((i.run s a).2.map Run.rep) := by
  cases i with
  | add l c always =>
    have h1 : Paged s a.rep _ _ := .page l c .refl
    simp only [Instr.run]
    split
    · rename_i heq; rw [heq] at h1; exact h1
    · rename_i s1 n r heq
      rw [heq] at h1
      dsimp only
      split
      · exact h1.crawl n
      · exact h1
  | ensure l c =>
    have h1 : Paged s a.rep _ _ := .page l c .refl
    simp only [Instr.run]
    split
    · split <;> rename_i heq <;> rw [heq] at h1 <;> exact h1
    · split
      · exact Paged.refl.crawl _
      · exact .refl
  | stubs p ts out => exact Paged.refl.stubs _ _ out

theorem paged_exec (is : List Instr) (s : State) (a : Run) :
    Paged s a.rep (exec s a is).1 ((exec s a is).2.map Run.rep) := by
  fun_induction exec s a is with
  | case1 => exact .refl
  | case2 s a i _ _ _ heq => have h1 := paged_run s a i; rw [heq] at h1; exact h1
  | case3 s a i _ _ _ heq ih => have h1 := paged_run s a i; rw [heq] at h1; exact h1.trans ih

theorem paged_ensurePageCached (s : State) (acc : LinkAcc) (l : Bytes) (c : Bool) :
    Paged s acc.rep (s.ensurePageCached acc l c).1 ((s.ensurePageCached acc l c).2.map LinkAcc.rep) := by
  have h1 : Paged s acc.rep _ _ := .page l c .refl
  unfold ensurePageCached
  split
  · exact .refl
  · split <;> rename_i heq <;> rw [heq] at h1 <;> exact h1

theorem paged_addPagesGo (always : Bool) (ls : List Bytes) (s : State) (c : Bool) (rep : Report) :
    Paged s rep (addPagesGo always s ls c rep).1 (addPagesGo always s ls c rep).2 := by
  rw [addPagesGo_eq always c ls s { rep := rep }]; exact paged_exec _ s { rep := rep }

theorem paged_addLinks (s : State) (links : List (Bytes × Bytes)) :
    Paged s {} (s.addLinks links).1 (s.addLinks links).2 := by
  rw [addLinks_eq]; exact paged_exec _ s {}

theorem paged_batch (s : State) (data : List (Bytes × List Bytes)) :
    Paged s {} (s.batch data).1 (s.batch data).2 := by
  rw [batch_eq]; exact paged_exec _ s {}

theorem RuleRun.paged {start : Nat} {s : State} {stack : List (Nat × Bytes)} {rep : Report}
    {out : State × Except Err Report} (r : RuleRun start s stack rep out) : Paged s rep out.1 out.2 := by
  induction r with
  | stop => exact .refl
  | skip _ _ ih => exact ih
  | @fail s b lru _ rep _ _ _ _ ha =>
    have h1 : Paged s rep _ _ := .page (lru ++ s.stemAt b) false .refl
    rw [ha] at h1; exact h1
  | @page s b lru _ rep _ _ _ _ _ ha _ ih =>
    have h1 : Paged s rep _ _ := .page (lru ++ s.stemAt b) false .refl
    rw [ha] at h1; exact h1.trans ih

/-- a rule installation: after the prologue, the walk -/
theorem paged_addRule (s : State) (anchor : Bytes) (r : Rule) :
    Paged (s.rulePrologue anchor r).1 {} (s.addRule anchor r true).1 (s.addRule anchor r true).2 := by
  rw [addRule_true_eq]
  exact (addRuleLoop_run ..).paged

end Traph
