import Proofs.CoNetFold
import Proofs.CoDrainShape
import Proofs.Network
import Proofs.Dict
import Proofs.CoDrainSlow
/-! C16 — the two generators of `CoSt` with recomputed fuel, drained on a FIXED index, give the atomic answers.
    (`cf_pages_drain`: any well-formed prefix list; `cf_net_drain`: under `cf_SumOk`; both on an index with `Shape`.)
    Both through `Gen.Drains` (`Proofs/Drained`): the sections have enough of the model's fuel (`cf_pagesResume_fuel`,
    `cf_netResume_fuel`), so they may be given more (`Gen.drain_more_fuel`) and the iterations counted crudely. The
    second pass of the network query takes the iterations `netIter2_spec` says are left (`nt_second`). -/
namespace Traph
open State Layout

/-- `run_iterator` on a fixed index for any generator of `CoSt` (the index a read-only generator returns is
    the one it was given) -/
def cf_drain : Nat → State → CoSt → Ans
  | 0, _, _ => .err (.other "fuel")
  | n + 1, s, c =>
    match c.resume s with
    | (_, c1, .yielded) => cf_drain n s c1
    | (_, _, .done a) => a
    | (_, _, .failed e) => .err e

/-- as `QSt.drain_eq`, for a reading machine of `CoSt` -/
theorem cf_drain_eq {τ : Type} (s : State) (mk : τ → CoSt) (run : Nat → τ → τ × CoOut) (fuelOf : τ → Nat)
    (h : ∀ q, (mk q).resume s =
      (s, (match (run (fuelOf q) q).2 with | .yielded => mk (run (fuelOf q) q).1 | _ => .finished), (run (fuelOf q) q).2)) :
    ∀ N q, cf_drain N s (mk q) = (Gen.reader run fuelOf).drain N q
  | 0, _ => rfl
  | N + 1, q => by
    rw [cf_drain, h, Gen.drain_succ]
    show _ = goOn _ _ (run (fuelOf q) q)
    rcases run (fuelOf q) q with ⟨q1, o⟩
    cases o with
    | yielded => exact cf_drain_eq s mk run fuelOf h N q1
    | done a => rfl
    | failed e => rfl

theorem coIt_stable {σ : Type} {run : Nat → σ → σ × CoOut} {iter : σ → CoIt σ} (J : σ → Prop)
    (h0 : ∀ n, run 0 n = (n, .failed (.other "fuel")))
    (hs : ∀ F n, J n → run (F + 1) n = (iter n).run (run F)) (hJ : ∀ n n', J n → iter n = .cont n' → J n') :
    ∀ F n, J n → (run F n).2 ≠ .failed (.other "fuel") → ∀ k, run (F + k) n = run F n
  | 0, n, _, hne, _ => absurd (by rw [h0]) hne
  | F + 1, n, hn, hne, k => by
    rw [Nat.add_right_comm, hs _ n hn]
    rw [hs _ n hn] at hne ⊢
    cases hi : iter n with
    | cont n' => rw [hi] at hne; exact coIt_stable J h0 hs hJ F n' (hJ n n' hn hi) hne k
    | stop n' o => rfl

def pgGen (s : State) : Gen PagesSt Ans :=
  .reader (fun g p => pagesResume g s p) (fun p => (s.trie.size + 1) * (p.prefixes.length + 1))

theorem pgGen_stable (s : State) : (pgGen s).Stable := by
  intro g p hne k
  obtain ⟨g, rfl⟩ : ∃ g', g = g' + 1 := ⟨g - 1, by
    cases g with
    | zero => exact absurd (by simp [pgGen, Gen.reader, pagesResume]) hne
    | succ g => rfl⟩
  show pagesResume (g + 1 + k) s p = pagesResume (g + 1) s p
  rw [Nat.add_right_comm, pagesResume_norm, pagesResume_norm (fuel := g), Nat.add_right_comm]
  refine coIt_stable (run := fun F => pagesResume F s) (iter := pagesIter s) (fun p => p.pend = none) (fun _ => rfl)
    (fun F p hp => pagesResume_succ F s p hp) (fun p p' hp hi => ?_) _ _ rfl
    (by rw [← pagesResume_norm]; exact hne) k
  obtain ⟨prefixes, start, stack, pend, pages⟩ := p
  cases hp
  have := pagesIter_cases (s := s) (prefixes := prefixes) (start := start) (stack := stack) (pages := pages)
    (J := fun p' => p'.pend = none) (P := fun _ _ => True) (fun _ _ => trivial) (fun _ _ _ _ _ => trivial)
    (fun _ _ _ _ _ _ => rfl) (fun _ _ _ _ _ _ _ => trivial) (fun _ _ _ _ _ _ => rfl)
  rw [hi] at this
  exact this

/-- the same machine, its sections given enough iterations for the crude count below -/
def pgGen' (s : State) : Gen PagesSt Ans :=
  { pgGen s with fuelOf := fun p => (s.trie.size + 2) * (p.prefixes.length + 2) }

def cf_pageItems (s : State) (l : List (Nat × Bytes)) : List (Bytes × Bool) :=
  (l.filter (fun bl => (s.cell bl.1).flags.page)).map (fun bl => (bl.2, (s.cell bl.1).flags.crawled))

theorem cf_pageItems_append (s : State) (a b : List (Nat × Bytes)) :
    cf_pageItems s (a ++ b) = cf_pageItems s a ++ cf_pageItems s b := by
  simp [cf_pageItems]

theorem pg_stack (s : State) (ps : List Bytes) (st : Nat) (F : List (Bytes × Bool) → Ans) (B Y : Nat)
    (hK : ∀ pages, (pgGen' s).Drains ⟨ps, st, [], none, pages⟩ (F pages) B Y) :
    ∀ (f : Nat) (stk : List (Nat × Bytes × Nat)), weDfsFin s st none f stk →
      B + f < (s.trie.size + 2) * (ps.length + 2) → ∀ pages,
      (pgGen' s).Drains ⟨ps, st, stk, none, pages⟩ (F (pages ++ cf_pageItems s (s.weDfsGo st none f stk))) (B + f) (Y + f) := by
  intro f
  induction f with
  | zero =>
    intro stk hfin _ pages
    cases stk with
    | nil => simpa [weDfsGo_nil, cf_pageItems] using hK pages
    | cons p rest => exact absurd hfin (by simp [weDfsFin])
  | succ f ih =>
    intro stk hfin hf pages
    cases stk with
    | nil => simpa [weDfsGo_nil, cf_pageItems] using (hK pages).mono (Nat.le_add_right _ _) (Nat.le_add_right _ _)
    | cons p rest =>
      obtain ⟨b, lru, lvl⟩ := p
      have hfin' : weDfsFin s st none f (weDfsPush st b lru (lru ++ s.stemAt b) lvl (s.cell b) rest) := hfin
      have ih' := ih _ hfin' (by omega)
      rw [weDfsGo_step, cf_pageItems_append, ← List.append_assoc]
      by_cases hc : ((b = st || (s.cell b).we = 0) && (s.cell b).flags.page) = true
      · have hc' := hc
        simp only [Bool.and_eq_true] at hc'
        rw [if_pos hc'.1, show cf_pageItems s [(b, lru ++ s.stemAt b)] = [(lru ++ s.stemAt b, (s.cell b).flags.crawled)] by
          simp [cf_pageItems, hc'.2]]
        refine (((ih' _).congr (q := ⟨ps, st, rest, some (b, lru, lru ++ s.stemAt b, lvl, s.cell b), _⟩)
          fun g => by show pagesResume (g + 1) s _ = pagesResume (g + 1) s _; rw [pagesResume_norm]; rfl).yield (fun g => ?_) (by show _ < (s.trie.size + 2) * (ps.length + 2); omega)).mono
          (Nat.zero_le _) (by omega)
        simp only [pgGen', pgGen, Gen.reader, pagesResume, hc, if_true]
      · have : cf_pageItems s (if (b = st || (s.cell b).we = 0) = true then [(b, lru ++ s.stemAt b)] else []) = [] := by
          split
          · rename_i hrel
            have hp : (s.cell b).flags.page = false := by
              cases hpg : (s.cell b).flags.page with
              | false => rfl
              | true => exact absurd (by simp only [Bool.and_eq_true]; exact ⟨hrel, hpg⟩) hc
            simp [cf_pageItems, hp]
          · rfl
        rw [this, List.append_nil]
        refine ((ih' pages).cont fun g => ?_).mono (by omega) (by omega)
        simp only [pgGen', pgGen, Gen.reader, pagesResume, hc, Bool.false_eq_true, if_false]

theorem pg_prefixes (s : State) : ∀ (ps : List Bytes) (st : Nat) (pages : List (Bytes × Bool)), WeFin s none ps →
    (pgGen' s).Drains ⟨ps, st, [], none, pages⟩
      (Ans.ofExcept .pages (ps.foldl (s.forPrefixesStep (fun n p => cf_pageItems s (s.weDfs n p none))) (.ok pages)))
      (ps.length * (s.trie.size + 2)) (ps.length * (s.trie.size + 1))
  | [], st, pages, _ =>
    (Gen.Drains.done (G := pgGen' s) (q := ⟨[], st, [], none, pages⟩) (q' := ⟨[], st, [], none, pages⟩) fun g => by
      simp only [pgGen', pgGen, Gen.reader, pagesResume]).mono (Nat.zero_le _) (Nat.zero_le _)
  | pf :: more, st, pages, hwe => by
    simp only [List.foldl_cons, forPrefixesStep, List.length_cons, Nat.succ_mul]
    cases hn : s.lruNode (lruIter pf) with
    | none =>
      rw [foldl_forPrefixesStep_error]
      exact (Gen.Drains.failed (G := pgGen' s) (q' := ⟨pf :: more, st, [], none, pages⟩) fun g => by
        simp only [pgGen', pgGen, Gen.reader, pagesResume, hn]).mono (Nat.zero_le _) (Nat.zero_le _)
    | some n =>
      have hmul : (more.length + 2) * (s.trie.size + 2) = (s.trie.size + 2) * (more.length + 1 + 2) - (s.trie.size + 2) := by
        rw [Nat.mul_comm, Nat.mul_add (s.trie.size + 2) (more.length + 1) 2, Nat.mul_add (s.trie.size + 2) more.length 2,
          Nat.mul_add (s.trie.size + 2) more.length 1]; omega
      have := pg_stack s more n _ _ _ (fun pages => pg_prefixes s more n pages fun q hq => hwe q (List.mem_cons_of_mem _ hq))
        (s.trie.size + 1) _ (hwe pf List.mem_cons_self n hn) (by
          rw [Nat.mul_comm more.length, Nat.mul_add]; omega) pages
      refine (this.cont fun g => ?_).mono (by omega) (by omega)
      simp only [pgGen', pgGen, Gen.reader, pagesResume, hn]

/-- **the page query drained on a fixed index = the atomic request**, for EVERY well-formed prefix list
    (equal prefixes, prefixes below one another, … included: with the additive constant `cf_oldFuel` a section
    runs out of fuel there, `cf_old_pages_fuel_insufficient_*`, and the drained machine would answer
    `.err (.other "fuel")` where the atomic request answers `.pages []`; see `cf_pages_drain_dup`) -/
theorem cf_pages_drain {s : State} {t : T} (h : Shape s t) (ps : List Bytes) (hwf : ∀ pf ∈ ps, lruIter pf ≠ [])
    (N : Nat) (hN : ps.length * (s.trie.size + 2) < N) :
    cf_drain N s (.pages { prefixes := ps }) = s.ask (.pages ps) := by
  refine ((cf_drain_eq s .pages (fun g p => pagesResume g s p) (fun p => (s.trie.size + 1) * (p.prefixes.length + 1))
    (fun _ => rfl) N _).trans (Gen.drain_more_fuel (G := pgGen s) (pgGen_stable s)
      (fun p => (s.trie.size + 2) * (p.prefixes.length + 2)) (fun p => Nat.mul_le_mul (Nat.le_succ _) (Nat.le_succ _))
      (cf_PagesInv s t) (fun p hp => cf_pagesResume_fuel h hp) N _ (cf_PagesInv.init s t ps hwf))).trans ?_
  refine ((pg_prefixes s ps 0 [] (weFin_of_shape h none ps hwf)).drain (N := N) ?_ ?_).trans ?_
  · show _ < (s.trie.size + 2) * (ps.length + 2)
    rw [Nat.mul_comm, Nat.mul_add]; omega
  · exact Nat.lt_of_le_of_lt (Nat.mul_le_mul_left _ (Nat.le_succ _)) hN
  · simp [State.ask, webentityPages, forPrefixes, cf_pageItems]

/-- a block of the walk that is a page inside a webentity -/
def cf_isPW (s : State) (bw : Nat × Nat) : Bool := (s.cell bw.1).flags.page && bw.2 ≠ 0

def cf_touch1 (s : State) (g : List NetRow) (bw : Nat × Nat) : List NetRow :=
  netTouch g bw.2 (fun r => if (s.cell bw.1).flags.crawled then { r with crawled := r.crawled + 1 }
                            else { r with uncrawled := r.uncrawled + 1 })

def cf_ptrOf (s : State) (out : Bool) (bw : Nat × Nat) : Option (Nat × Nat) :=
  if (if out then (s.cell bw.1).out else (s.cell bw.1).inn) ≠ 0
  then some (bw.2, if out then (s.cell bw.1).out else (s.cell bw.1).inn) else none

/-- what the atomic request computes from the blocks `rest` of the walk still to come, the dictionary, the
    pointers and the graph built so far -/
def cf_netSpecP1 (s : State) (out auto : Bool) (rest : List (Nat × Nat)) (pageWe pointers : List (Nat × Nat))
    (graph : List NetRow) : List NetRow :=
  (pointers ++ (rest.filter (cf_isPW s)).filterMap (cf_ptrOf s out)).foldl
    (cf_netOuter s auto ((rest.filter (cf_isPW s)).foldl (fun d bw => dictSet d bw.1 bw.2) pageWe))
    ((rest.filter (cf_isPW s)).foldl (cf_touch1 s) graph)

def ntGen (s : State) : Gen NetSt Ans :=
  .reader (fun g n => netResume g s n) (fun n => s.trie.size + s.links.size + n.pointers.length + 3)

theorem ntGen_stable (s : State) : (ntGen s).Stable := fun g n hne k =>
  coIt_stable (run := fun F => netResume F s) (iter := netIter s) (fun _ => True) (fun _ => rfl)
    (fun F n _ => netResume_succ F s n) (fun _ _ _ _ => trivial) g n trivial hne k

/-- a crude count of the iterations of a section: a walk of `trie.size + 1` pops, a second pass over as many pointers -/
def ntBig (s : State) : Nat := (s.trie.size + 2) * (s.links.size + 3)

def ntGen' (s : State) : Gen NetSt Ans := { ntGen s with fuelOf := fun n => (ntGen s).fuelOf n + ntBig s }

theorem ntBig_gt (s : State) : (s.trie.size + 1) * (s.links.size + 2) + s.trie.size + 4 ≤ ntBig s := by
  unfold ntBig
  simp only [Nat.add_mul, Nat.mul_add]
  omega

theorem ntGen'_run (s : State) (g : Nat) (n : NetSt) : (ntGen' s).run (g + 1) n = (netIter s n).run ((ntGen' s).run g) :=
  netResume_succ g s n

/-- **the second pass, drained**: the iterations left are taken one by one (`netIter2_spec`), whatever they are -/
theorem nt_second (s : State) : ∀ (k : Nat) (n : NetSt) (ptrs : List (Nat × Nat)), n.phase2 = some ptrs →
    nf_left s n.curList ptrs = k → k < ntBig s → (ntGen' s).Drains n (.net (cf_netSpecP2 s n ptrs)) k k
  | k, n, ptrs, hp, hk, hlt => by
    have hrun : ∀ g, (ntGen' s).run (g + 1) n = (netIter2 s n ptrs).run ((ntGen' s).run g) := fun g => by
      rw [ntGen'_run]; unfold netIter; rw [hp]
    have hsp := netIter2_spec (s := s) hp
    -- the state an iteration leaves: one iteration fewer is left, the answer to come is the same
    have next : ∀ n', nf_Second s n ptrs n' →
        ∃ k', k = k' + 1 ∧ (ntGen' s).Drains n' (.net (cf_netSpecP2 s n ptrs)) k' k' := by
      rintro n' ⟨ptrs', src', cl', g', rfl, _, hspec, hmu⟩
      have hk' : nf_left s cl' ptrs' + 1 = k := hmu.trans hk
      exact ⟨_, hk'.symm, hspec ▸ nt_second s _ _ ptrs' rfl rfl (by omega)⟩
    cases hi : netIter2 s n ptrs with
    | cont n' =>
      rw [hi] at hsp
      obtain ⟨k', rfl, d⟩ := next n' hsp
      exact (d.cont fun g => by rw [hrun, hi]; rfl).mono (Nat.le_refl _) (Nat.le_succ _)
    | stop n' o =>
      rw [hi] at hsp
      rcases hsp with ⟨rfl, st⟩ | ⟨rfl, _⟩
      · obtain ⟨k', rfl, d⟩ := next n' st
        exact (d.yield (fun g => by rw [hrun, hi]; rfl) (by show k' < _ + ntBig s; omega)).mono (Nat.zero_le _)
          (Nat.le_refl _)
      · exact (Gen.Drains.done (G := ntGen' s) (q' := n') fun g => by rw [hrun, hi]; rfl).mono (Nat.zero_le _)
          (Nat.zero_le _)
termination_by k => k
decreasing_by omega

theorem nf_left_le (s : State) : ∀ ptrs : List (Nat × Nat), nf_left s [] ptrs ≤ ptrs.length * (s.links.size + 2)
  | [] => by simp [nf_left]
  | sh :: ptrs => by
    have ih := nf_left_le s ptrs
    have := cd_weighted_length_le s sh.2
    simp only [nf_left, List.map_cons, List.sum_cons, List.length_cons, List.length_nil, Nat.succ_mul] at ih ⊢
    omega

/-- the machine between two blocks of the walk of the first pass (`pend`: the page recorded last) -/
abbrev ntSt (out auto : Bool) (stk : List (Nat × Nat)) (pend : Option (Nat × Nat × Nat × Cell))
    (pageWe pointers : List (Nat × Nat)) (src : Nat) (graph : List NetRow) : NetSt :=
  ⟨out, auto, true, stk, pend, pageWe, pointers, none, src, [], graph⟩

/-- **the first pass, drained**: the machine records the pages among what `dfsWeGo` lists, then makes its second pass
    over the pointers it has (`nt_second`) -/
theorem nt_stack (s : State) (out auto : Bool) : ∀ (f : Nat) (stk : List (Nat × Nat)), dfsWeFin s f stk →
    ∀ (pageWe pointers : List (Nat × Nat)) (src : Nat) (graph : List NetRow), pointers.length + f ≤ s.trie.size + 1 →
      (ntGen' s).Drains (ntSt out auto stk none pageWe pointers src graph)
        (.net (cf_netSpecP1 s out auto (s.dfsWeGo f stk) pageWe pointers graph))
        (f + 1 + (s.trie.size + 1) * (s.links.size + 2)) (f + (s.trie.size + 1) * (s.links.size + 2)) := by
  -- the walk is over: the second pass, over at most `trie.size + 1` pointers
  have hnil : ∀ f pageWe pointers src graph, pointers.length ≤ s.trie.size + 1 →
      (ntGen' s).Drains (ntSt out auto [] none pageWe pointers src graph)
        (.net (cf_netSpecP1 s out auto (s.dfsWeGo f []) pageWe pointers graph))
        (1 + (s.trie.size + 1) * (s.links.size + 2)) ((s.trie.size + 1) * (s.links.size + 2)) := by
    intro f pageWe pointers src graph hpl
    have hk : nf_left s [] pointers ≤ (s.trie.size + 1) * (s.links.size + 2) :=
      Nat.le_trans (nf_left_le s pointers) (Nat.mul_le_mul_right _ hpl)
    have d := nt_second s _ ⟨out, auto, true, [], none, pageWe, pointers, some pointers, src, [], graph⟩ pointers rfl rfl
      (Nat.lt_of_le_of_lt hk (by have := ntBig_gt s; omega))
    have e : cf_netSpecP2 s ⟨out, auto, true, [], none, pageWe, pointers, some pointers, src, [], graph⟩ pointers =
        cf_netSpecP1 s out auto (s.dfsWeGo f []) pageWe pointers graph := by
      simp [cf_netSpecP2, cf_netSpecP1, dfsWeGo_nil]
    rw [e] at d
    exact ((d.mono hk hk).cont fun g => by rw [ntGen'_run]; rfl).mono (by omega) (Nat.le_refl _)
  intro f
  induction f with
  | zero =>
    intro stk hfin pageWe pointers src graph hpl
    cases stk with
    | nil => exact (hnil 0 _ _ _ _ hpl).mono (by omega) (by omega)
    | cons p rest => exact absurd hfin (by simp [dfsWeFin])
  | succ f ih =>
    intro stk hfin pageWe pointers src graph hpl
    cases stk with
    | nil => exact (hnil _ _ _ _ _ (by omega)).mono (by omega) (by omega)
    | cons p rest =>
      obtain ⟨b, we⟩ := p
      simp only [dfsWeFin] at hfin
      rw [dfsWeGo_step]
      generalize hcur : (if (s.cell b).we ≠ 0 then (s.cell b).we else we) = cur at hfin ⊢
      by_cases hc : ((s.cell b).flags.page && decide (cur ≠ 0)) = true
      · -- a page inside a webentity: recorded, with the head of its list if it has one; the section ends
        have hpw : cf_isPW s (b, cur) = true := hc
        have ih' := ih _ hfin (dictSet pageWe b cur)
          (if (if out = true then (s.cell b).out else (s.cell b).inn) ≠ 0 then
            pointers ++ [(cur, if out = true then (s.cell b).out else (s.cell b).inn)] else pointers) src
          (cf_touch1 s graph (b, cur)) (by
            have : ∀ (c : Prop) [Decidable c] (x : Nat × Nat), (if c then pointers ++ [x] else pointers).length ≤
                pointers.length + 1 := fun c _ x => by split <;> simp
            have := this ((if out = true then (s.cell b).out else (s.cell b).inn) ≠ 0)
              (cur, if out = true then (s.cell b).out else (s.cell b).inn)
            omega)
        have e : cf_netSpecP1 s out auto ((b, cur) :: s.dfsWeGo f (dfsWePush b we cur (s.cell b) rest)) pageWe pointers
            graph = cf_netSpecP1 s out auto (s.dfsWeGo f (dfsWePush b we cur (s.cell b) rest)) (dictSet pageWe b cur)
              (if (if out = true then (s.cell b).out else (s.cell b).inn) ≠ 0 then
                pointers ++ [(cur, if out = true then (s.cell b).out else (s.cell b).inn)] else pointers)
              (cf_touch1 s graph (b, cur)) := by
          simp only [cf_netSpecP1, List.filter_cons, hpw, if_true, List.foldl_cons, List.filterMap_cons]
          by_cases hne : (if out = true then (s.cell b).out else (s.cell b).inn) ≠ 0
          · simp only [cf_ptrOf, hne, if_true, ne_eq, not_false_eq_true, List.append_assoc, List.singleton_append]
          · simp only [cf_ptrOf, hne, if_false]
        rw [e]
        refine (((ih'.congr (q := ⟨out, auto, true, rest, some (b, we, cur, s.cell b), _, _, none, src, [], _⟩)
          fun g => by rw [ntGen'_run, ntGen'_run]; rfl).yield (fun g => ?_) ?_).mono (Nat.zero_le _) (by omega))
        · rw [ntGen'_run]
          simp only [netIter, netNorm, netIter1, if_true, hcur, hc]
          rfl
        · show _ < _ + ntBig s
          have := ntBig_gt s
          omega
      · have hpw : cf_isPW s (b, cur) = false := Bool.eq_false_iff.mpr hc
        have e : cf_netSpecP1 s out auto ((b, cur) :: s.dfsWeGo f (dfsWePush b we cur (s.cell b) rest)) pageWe pointers
            graph = cf_netSpecP1 s out auto (s.dfsWeGo f (dfsWePush b we cur (s.cell b) rest)) pageWe pointers graph := by
          simp only [cf_netSpecP1, List.filter_cons, hpw, Bool.false_eq_true, if_false]
        rw [e]
        refine ((ih _ hfin pageWe pointers src graph (by omega)).cont fun g => ?_).mono (by omega) (by omega)
        rw [ntGen'_run]
        simp only [netIter, netNorm, netIter1, if_true, hcur, hc, Bool.false_eq_true, if_false]
        rfl

theorem cf_dict_fold : ∀ (l : List (Nat × Nat)) (d : List (Nat × Nat)), (l.map (·.1)).Nodup → ∀ k,
    dictGet? (l.foldl (fun d bw => dictSet d bw.1 bw.2) d) k =
      (match dictGet? l k with | some v => some v | none => dictGet? d k)
  | [], d, _, k => by simp [dictGet?]
  | (a, v) :: l, d, hnd, k => by
    rw [List.map_cons, List.nodup_cons] at hnd
    rw [List.foldl_cons, cf_dict_fold l _ hnd.2 k, Co.dictGet?_cons]
    by_cases e : a = k
    · subst e
      have : dictGet? l a = none := by
        cases hg : dictGet? l a with
        | none => rfl
        | some w =>
          exfalso
          apply hnd.1
          unfold dictGet? at hg
          cases hf : l.find? (fun p => p.1 = a) with
          | none => simp [hf] at hg
          | some p =>
            have h1 := List.find?_some hf
            have h2 := List.mem_of_find?_eq_some hf
            simp only [decide_eq_true_eq] at h1
            exact List.mem_map.mpr ⟨p, h2, h1⟩
      rw [this, if_pos rfl]
      simp only
      exact Co.dictGet?_dictSet_self d a v
    · rw [if_neg e]
      cases dictGet? l k with
      | some w => rfl
      | none =>
        simp only
        exact Co.dictGet?_dictSet_ne d a v k (fun e' => e e'.symm)

theorem cf_netSpecP1_network {s : State} {t : T} (h : Shape s t) (out auto : Bool) :
    cf_netSpecP1 s out auto s.dfsWe [] [] [] = s.network out auto := by
  have hnd : ((s.dfsWe.filter (cf_isPW s)).map (·.1)).Nodup :=
    (dfsWe_keys_nodup h).sublist (List.filter_sublist.map _)
  have hD : ∀ k, dictGet? ((s.dfsWe.filter (cf_isPW s)).foldl (fun d bw => dictSet d bw.1 bw.2) []) k =
      dictGet? (s.dfsWe.filter (cf_isPW s)) k := by
    intro k
    rw [cf_dict_fold _ _ hnd k]
    cases dictGet? (s.dfsWe.filter (cf_isPW s)) k <;> rfl
  have hO : cf_netOuter s auto ((s.dfsWe.filter (cf_isPW s)).foldl (fun d bw => dictSet d bw.1 bw.2) []) =
      cf_netOuter s auto (s.dfsWe.filter (cf_isPW s)) := by
    funext g sh
    unfold cf_netOuter
    congr 1
    funext g' tw
    unfold cf_netInner
    rw [hD]
  unfold cf_netSpecP1
  rw [hO]
  rfl

/-- **the network query drained on a fixed index = the atomic request**, on an index with the shape
    invariant whose link store satisfies `cf_SumOk` (true of every reachable index) -/
theorem cf_net_drain {s : State} {t : T} (h : Shape s t) (hg : cf_SumOk s) (out auto : Bool) (N : Nat)
    (hN : (s.trie.size + 1) * (s.links.size + 3) < N) :
    cf_drain N s (.net { out := out, auto := auto }) = s.ask (.network out auto false) := by
  have hfin := h.dfsWeFin_root
  refine ((cf_drain_eq s .net (fun g n => netResume g s n) (fun n => s.trie.size + s.links.size + n.pointers.length + 3)
    (fun _ => rfl) N _).trans (Gen.drain_more_fuel (G := ntGen s) (ntGen_stable s) (fun n => (ntGen s).fuelOf n + ntBig s)
      (fun _ => Nat.le_add_right _ _)
      (cf_NetInv s t) (fun n hn => ⟨(cf_netResume_fuel h hg hn).1 _, (cf_netResume_fuel h hg hn).2⟩) N _
      (cf_NetInv.init s t out auto))).trans ?_
  -- a query that starts puts the root on its stack
  have d := (nt_stack s out auto _ _ hfin [] [] 0 [] (Nat.le_of_eq (Nat.zero_add _))).congr (q := { out := out, auto := auto })
    fun g => by rw [ntGen'_run, ntGen'_run]; rfl
  refine (d.drain (N := N) ?_ (by rw [Nat.mul_succ] at hN; omega)).trans ?_
  · show _ < _ + ntBig s
    have := ntBig_gt s
    omega
  · rw [show s.dfsWeGo (s.trie.size + 1) (if s.trie.size ≤ 1 then [] else [(1, 0)]) = s.dfsWe by
      unfold dfsWe; split <;> simp [dfsWeGo_nil], cf_netSpecP1_network h]
    simp [State.ask]

/-- **both generators with recomputed fuel: drained = atomic** for all sufficiently many `next()` -/
theorem cf_drain_atomic {s : State} {t : T} (h : Shape s t) (hg : cf_SumOk s) (ps : List Bytes)
    (hwf : ∀ pf ∈ ps, lruIter pf ≠ []) (out auto : Bool) :
    ∃ N0, ∀ N, N0 ≤ N →
      cf_drain N s (.pages { prefixes := ps }) = s.ask (.pages ps) ∧
      cf_drain N s (.net { out := out, auto := auto }) = s.ask (.network out auto false) :=
  ⟨ps.length * (s.trie.size + 2) + (s.trie.size + 1) * (s.links.size + 3) + 1, fun N hN =>
    ⟨cf_pages_drain h ps hwf N (by omega), cf_net_drain h hg out auto N (by omega)⟩⟩

/-- the same in every state reached from a fresh index by write requests (without `clear`, for the shape theorem used) -/
theorem cf_drain_atomic_run (cfg : Config) (dflt : Rule) (rules : List (Bytes × Rule)) (ops : List Op)
    (hop : ∀ op ∈ ops, ∀ d rs, op ≠ .clear d rs) (ps : List Bytes)
    (hwf : ∀ pf ∈ ps, lruIter pf ≠ []) (out auto : Bool) :
    ∃ N0, ∀ N, N0 ≤ N →
      cf_drain N ((State.fresh cfg dflt rules []).1.run ops) (.pages { prefixes := ps }) =
        ((State.fresh cfg dflt rules []).1.run ops).ask (.pages ps) ∧
      cf_drain N ((State.fresh cfg dflt rules []).1.run ops) (.net { out := out, auto := auto }) =
        ((State.fresh cfg dflt rules []).1.run ops).ask (.network out auto false) := by
  obtain ⟨t, h⟩ := shape_run cfg dflt rules ops hop
  exact cf_drain_atomic h (cf_sumOk_reachable cfg dflt rules ops) ps hwf out auto

/-- the index and the request (the same prefix twice) on which a section runs out of the additive fuel `cf_oldFuel`
    (`cf_old_pages_fuel_insufficient_dup`): the drained machine answers what the atomic request answers, `[]`
    (kernel-checked instance of `cf_pages_drain`) -/
theorem cf_pages_drain_dup :
    cf_drain 100 (cf_idx "a|b|c|") (.pages { prefixes := [cf_b "a|", cf_b "a|"] }) = .pages [] ∧
    (cf_idx "a|b|c|").ask (.pages [cf_b "a|", cf_b "a|"]) = .pages [] := by decide +kernel

/-- the same for the nested prefixes of `cf_old_pages_fuel_insufficient_nested` -/
theorem cf_pages_drain_nested :
    cf_drain 100 (cf_idx "a|b|c|d|") (.pages { prefixes := [cf_b "a|", cf_b "a|b|"] }) = .pages [] ∧
    (cf_idx "a|b|c|d|").ask (.pages [cf_b "a|", cf_b "a|b|"]) = .pages [] := by decide +kernel

#print axioms cf_pages_drain
#print axioms cf_net_drain
#print axioms cf_drain_atomic_run
#print axioms cf_pages_drain_dup
#print axioms cf_pages_drain_nested

end Traph
