import Proofs.WeResolve
import Proofs.Kept
/-! What the automatic creation inside `__add_page` decides is a function of the state BEFORE the insertion: the trie
    layer never touches the RAM part (`rules`, `dflt`), and the walk history returned by `add_page` is the one
    `follow_lru` computes before the insertion (`addPageTrie_hist`). What it decides to create is cut out of the LRU
    (`StemCut`). -/
namespace Traph
open State Layout

def RamEq (s s' : State) : Prop := s'.rules = s.rules ∧ s'.dflt = s.dflt

theorem kept_ram : Kept fun s => (s.rules, s.dflt) := ⟨fun _ _ => rfl, fun _ _ _ => rfl⟩

theorem RamEq.of_eq {s s' : State} (h : (s'.rules, s'.dflt) = (s.rules, s.dflt)) : RamEq s s' :=
  ⟨congrArg (·.1) h, congrArg (·.2) h⟩

theorem ramEq_addLru (s : State) (stems : LRU) (flag : Bool) : RamEq s (s.addLru stems flag).1 :=
  .of_eq (kept_ram.addLru s stems flag)

theorem rulePrologue_ram (s : State) (anchor : Bytes) (r : Rule) :
    (s.rulePrologue anchor r).1.rules = dictSet s.rules anchor r ∧ (s.rulePrologue anchor r).1.dflt = s.dflt := by
  unfold State.rulePrologue
  rw [rules_modCell, dflt_modCell, (ramEq_addLru _ _ _).1, (ramEq_addLru _ _ _).2]
  exact ⟨rfl, rfl⟩

theorem ramEq_addStubs (s : State) (page : Nat) (targets : List Nat) (out : Bool) :
    RamEq s (s.addStubs page targets out) := .of_eq (kept_ram.addStubs (fun _ _ => rfl) s page targets out)

/-- no change but the two that a request changing rules makes touches the RAM part -/
theorem Built.To.ramEq {k : Bool} {wf : Prop} {s s' : State} {P : List Answered → Prop}
    (b : Built.To k false wf s [] s' P) : RamEq s s' :=
  .of_eq (b.across (kept_ram.across (ru := false) (fun _ _ => rfl) (fun _ _ _ => rfl) nofun) trivial)

theorem ramEq_addPageTrie (s : State) (stems : LRU) (crawled : Bool) :
    RamEq s (s.addPageTrie stems crawled).1 :=
  (built_addPageTrie (.refl (k := false) (wf := False) s) stems crawled).ramEq

theorem ramEq_addPageCore (s : State) (lru : Bytes) (c : Bool) : RamEq s (s.addPageCore lru c).1 :=
  (built_addPageCore (.refl (k := false) (wf := False) s) lru c).ramEq

theorem addPageTrie_hist_eq (s : State) (stems : LRU) (c : Bool) :
    (s.addPageTrie stems c).2.2.we = (s.addLru stems false).2.2.we ∧
    (s.addPageTrie stems c).2.2.wePos = (s.addLru stems false).2.2.wePos ∧
    (s.addPageTrie stems c).2.2.rules = (s.addLru stems false).2.2.rules := by
  unfold addPageTrie
  rcases s.addLru stems false with ⟨s1, n, hh⟩
  dsimp only
  split
  · exact ⟨rfl, rfl, rfl⟩
  · split <;> exact ⟨rfl, rfl, rfl⟩

theorem addPageTrie_hist {s : State} {t : T} (h : Shape s t) (stems : LRU) (c : Bool) (hne : stems ≠ []) :
    (s.addPageTrie stems c).2.2.we = (s.followLru stems).2.we ∧
    (s.addPageTrie stems c).2.2.wePos = (s.followLru stems).2.wePos ∧
    (s.addPageTrie stems c).2.2.rules = (s.followLru stems).2.rules := by
  rw [← addLru_hist h stems false hne]
  exact addPageTrie_hist_eq s stems c

theorem lruIter_ne_nil_of_sep {b : Bytes} (h : sep ∈ b) : lruIter b ≠ [] := by
  rcases bytes_sep_cases b with hb | ⟨y, r, rfl, hy⟩
  · exact absurd h hb
  · rw [lruIter_stem y r hy]; exact List.cons_ne_nil _ _

theorem matchAt0_shape (r : Rule) (b m : Bytes) (h : r.matchAt0 b = some m) :
    ∃ n, m = ((lruIter b).take n).flatten := by
  unfold Rule.matchAt0 at h
  split at h
  · cases h
  · simp only at h
    split at h
    · cases h
    · split at h
      · cases h
      · simp only [Option.map_eq_some_iff] at h
        obtain ⟨n, _, e⟩ := h
        rename_i s0 tl heq _ _
        exact ⟨n, by rw [← e, heq]; rfl⟩

/-- `K` is cut out of `lru`: the first stems of one of its suffixes (the empty string included). What a rule search
    returns is (`search_cut`), hence so is whatever `__add_page` decides to create a webentity for
    (`autoDecision_some`): it contains a separator, and it is neither longer than `lru` nor has more stems. -/
def StemCut (lru K : Bytes) : Prop := ∃ b' n, b' <:+ lru ∧ K = ((lruIter b').take n).flatten

theorem StemCut.nil (lru : Bytes) : StemCut lru [] := ⟨lru, 0, List.suffix_refl _, rfl⟩

theorem StemCut.sep {lru K : Bytes} (h : StemCut lru K) (hne : K ≠ []) : sep ∈ K := by
  obtain ⟨b', n, _, rfl⟩ := h
  cases hl : (lruIter b').take n with
  | nil => rw [hl] at hne; simp at hne
  | cons x xs =>
    have hx : x ∈ lruIter b' := List.mem_of_mem_take (by rw [hl]; simp)
    obtain ⟨y, rfl, _⟩ := lruIter_wf b' x hx
    simp

theorem StemCut.eq_nil {lru K : Bytes} (h : StemCut lru K) (hs : Layout.sep ∉ lru) : K = [] := by
  obtain ⟨b', n, hb, rfl⟩ := h
  have : lruIter b' = [] := lruIter_tail b' fun hm => hs (hb.subset hm)
  rw [this, List.take_nil]; rfl

theorem searchGo_cut (r : Rule) : ∀ (fuel : Nat) (b m : Bytes), r.searchGo fuel b = some m → StemCut b m := by
  intro fuel
  induction fuel with
  | zero => intro _ _ h; simp [Rule.searchGo] at h
  | succ fuel ih =>
    intro b m h
    simp only [Rule.searchGo] at h
    split at h
    · rename_i m' hm
      cases h
      obtain ⟨n, e⟩ := matchAt0_shape r b m hm
      exact ⟨b, n, List.suffix_refl _, e⟩
    · split at h
      · cases h
      · obtain ⟨b', n, hb, e⟩ := ih _ m h
        exact ⟨b', n, hb.trans (List.suffix_cons _ _), e⟩

theorem search_cut {r : Rule} {b m : Bytes} (h : r.search b = some m) : StemCut b m := searchGo_cut r _ b m h

theorem sep_mem_replaceFirst (old new : Bytes) (hn : sep ∈ new) : ∀ (b : Bytes), sep ∈ b →
    sep ∈ replaceFirst old new b := by
  intro xs
  induction xs with
  | nil => intro h; simp at h
  | cons x xs ih =>
    intro h
    simp only [replaceFirst]
    split
    · exact List.mem_append_left _ hn
    · rcases List.mem_cons.mp h with e | h
      · rw [e]; exact List.mem_cons_self
      · exact List.mem_cons_of_mem _ (ih h)

theorem sep_mem_httpsVariation (b v : Bytes) (h : httpsVariation b = some v) (hb : sep ∈ b) : sep ∈ v := by
  unfold httpsVariation at h
  split at h
  · cases h; exact sep_mem_replaceFirst _ _ (by decide) b hb
  · split at h
    · cases h; exact sep_mem_replaceFirst _ _ (by decide) b hb
    · cases h

/-- `helpers.lru_variations`: the LRU and its scheme variation, then — when there are two or more host stems —
    both once more with `h:www` dropped or appended -/
theorem lruVariations_shape (b : Bytes) :
    lruVariations b = b :: (httpsVariation b).toList ∨
    ∃ hosts hosts', 2 ≤ hosts.length ∧ (hosts' = hosts.dropLast ∨ hosts' = hosts ++ [hWww]) ∧
      lruVariations b = (b :: (httpsVariation b).toList) ++ (b :: (httpsVariation b).toList).map
        (replaceFirst (joinWith sep hosts ++ [sep]) (joinWith sep hosts' ++ [sep])) := by
  rw [lruVariations_eq]
  dsimp only
  generalize (splitOn sep b).filter (fun s => startsWith s hPrefix) = hosts
  generalize hh' : (if hosts.getLast? == some hWww then hosts.dropLast else hosts ++ [hWww]) = hosts'
  have hh : hosts' = hosts.dropLast ∨ hosts' = hosts ++ [hWww] := by
    rw [← hh']; split
    · exact Or.inl rfl
    · exact Or.inr rfl
  split
  · exact Or.inl rfl
  · exact Or.inr ⟨hosts, hosts', by omega, hh, rfl⟩

theorem mem_lruVariations_self (b : Bytes) : b ∈ lruVariations b := by
  rcases lruVariations_shape b with e | ⟨_, _, _, _, e⟩ <;> rw [e]
  · exact List.mem_cons_self
  · exact List.mem_append_left _ List.mem_cons_self

theorem lruVariations_sep (b : Bytes) (hb : sep ∈ b) : ∀ v ∈ lruVariations b, sep ∈ v := by
  have hv : ∀ x ∈ b :: (httpsVariation b).toList, sep ∈ x := by
    intro x hx
    rcases List.mem_cons.mp hx with rfl | hx
    · exact hb
    · exact sep_mem_httpsVariation b x (Option.mem_toList.mp hx) hb
  intro v hm
  rcases lruVariations_shape b with e | ⟨_, hosts', _, _, e⟩ <;> rw [e] at hm
  · exact hv v hm
  · rcases List.mem_append.mp hm with hm | hm
    · exact hv v hm
    · obtain ⟨x, hx, rfl⟩ := List.mem_map.mp hm
      exact sep_mem_replaceFirst _ _ (by simp) x (hv x hx)

theorem lruVariations_ne_nil (b : Bytes) (hb : sep ∈ b) : ∀ v ∈ lruVariations b, lruIter v ≠ [] :=
  fun v hv => lruIter_ne_nil_of_sep (lruVariations_sep b hb v hv)

/-- one anchor of `longestCandidate`: its rule is looked up (a missing one is the KeyError) and searched -/
def candStep (s : State) (lru : Bytes) (acc : Option Bytes) (pos : Nat) : Option Bytes :=
  match acc with
  | none => none
  | some best =>
    match dictGet? s.rules (lru.take pos) with
    | none => none
    | some r =>
      match r.search lru with
      | some cand => if !cand.isEmpty && cand.length > best.length then some cand else some best
      | none => some best

theorem longestCandidate_eq (s : State) (lru : Bytes) (h : Hist) :
    s.longestCandidate lru h = h.rules.reverse.foldl (candStep s lru) (some []) := rfl

theorem foldl_candStep_none (s : State) (lru : Bytes) : ∀ l : List Nat, l.foldl (candStep s lru) none = none
  | [] => rfl
  | _ :: l => foldl_candStep_none s lru l

theorem foldl_candStep (s : State) (lru : Bytes) : ∀ (l : List Nat) (acc : Bytes), StemCut lru acc →
    (l.foldl (candStep s lru) (some acc) = none ∧ ∃ pos ∈ l, dictGet? s.rules (lru.take pos) = none) ∨
    ∃ best, l.foldl (candStep s lru) (some acc) = some best ∧ StemCut lru best := by
  intro l
  induction l with
  | nil => exact fun acc ha => Or.inr ⟨acc, rfl, ha⟩
  | cons pos l ih =>
    intro acc ha
    rw [List.foldl_cons]
    have next : ∀ b, StemCut lru b → candStep s lru (some acc) pos = some b →
        ((l.foldl (candStep s lru) (candStep s lru (some acc) pos) = none ∧
          ∃ p ∈ pos :: l, dictGet? s.rules (lru.take p) = none) ∨
        ∃ best, l.foldl (candStep s lru) (candStep s lru (some acc) pos) = some best ∧ StemCut lru best) :=
      fun b hb e => by
        rw [e]
        exact (ih b hb).imp_left fun ⟨e, p, hp, hn⟩ => ⟨e, p, List.mem_cons_of_mem _ hp, hn⟩
    cases hd : dictGet? s.rules (lru.take pos) with
    | none =>
      refine Or.inl ⟨?_, pos, List.mem_cons_self, hd⟩
      simp only [candStep, hd]
      exact foldl_candStep_none s lru l
    | some r =>
      cases hs : r.search lru with
      | none => exact next acc ha (by simp only [candStep, hd, hs])
      | some cand =>
        by_cases hc : (!cand.isEmpty && decide (cand.length > acc.length)) = true
        · exact next cand (search_cut hs) (by simp only [candStep, hd, hs, hc, if_true])
        · exact next acc ha (by simp only [candStep, hd, hs, hc]; rfl)

theorem longestCandidate_cases (s : State) (lru : Bytes) (h : Hist) :
    (s.longestCandidate lru h = none ∧ ∃ pos ∈ h.rules, dictGet? s.rules (lru.take pos) = none) ∨
    ∃ best, s.longestCandidate lru h = some best ∧ StemCut lru best :=
  (foldl_candStep s lru h.rules.reverse [] (.nil lru)).imp_left
    fun ⟨e, p, hp, hn⟩ => ⟨e, p, List.mem_reverse.mp hp, hn⟩

/-- the decision ladder of `__add_page` once the rule proposal `cand` is known. `E`: where the existing prefix ends;
    `d`: what the default rule proposes; `none`: create nothing. With an existing prefix a webentity is created iff the
    proposal is longer; without one, for the proposal if there is one, else for the default rule's -/
def ladder : Option Nat → Bytes → Option Bytes → Option Bytes
  | some p, cand, _ => if cand.length ≤ p then none else some cand
  | none, [], some (k :: ks) => some (k :: ks)
  | none, [], _ => none
  | none, cand, _ => some cand

theorem autoDecision_eq (s : State) (lru : Bytes) (h : Hist) :
    s.autoDecision lru h = (s.longestCandidate lru h).map fun cand => ladder h.wePos cand (s.dflt.search lru) := by
  unfold State.autoDecision
  cases s.longestCandidate lru h with
  | none => rfl
  | some cand =>
    cases h.wePos with
    | some p =>
      cases cand with
      | nil => rfl
      | cons c cs => simp only [Option.map_some, ladder, apply_ite some, decide_eq_true_eq]; rfl
    | none =>
      cases cand with
      | cons c cs => rfl
      | nil =>
        cases s.dflt.search lru with
        | none => rfl
        | some k => cases k <;> rfl

theorem ladder_some {E : Option Nat} {cand : Bytes} {d : Option Bytes} {K : Bytes} (h : ladder E cand d = some K) :
    K ≠ [] ∧ (K = cand ∨ d = some K) ∧ ∀ p, E = some p → p < K.length := by
  unfold ladder at h
  split at h
  · split at h
    · cases h
    · rename_i p _ _ hp
      cases h
      exact ⟨fun e => by simp [e] at hp, Or.inl rfl, fun q hq => by cases hq; omega⟩
  · cases h; exact ⟨nofun, Or.inr rfl, nofun⟩
  · cases h
  · rename_i hne _
    cases h
    exact ⟨hne, Or.inl rfl, nofun⟩

theorem autoDecision_some {s : State} {lru : Bytes} {h : Hist} {K : Bytes}
    (hd : s.autoDecision lru h = some (some K)) :
    K ≠ [] ∧ StemCut lru K ∧ ∀ p, h.wePos = some p → p < K.length := by
  rw [autoDecision_eq] at hd
  rcases longestCandidate_cases s lru h with ⟨e, _⟩ | ⟨cand, e, hc⟩ <;> rw [e] at hd
  · cases hd
  · obtain ⟨h1, h2, h3⟩ := ladder_some (Option.some.inj hd)
    exact ⟨h1, h2.elim (· ▸ hc) search_cut, h3⟩

end Traph
