import Proofs.PagesApi
import Proofs.TopK
import Proofs.LinkLists
/-! C20 at the API level: `get_webentity_most_linked_pages(weid, prefixes, pages_count = k, max_depth)`,
    asked with the full current prefix list of the webentity, in any order, in any state satisfying the invariants of reachable states.
    The answer is the ranking (`rank k pages`, a function on lists; `rank_spec` says all of it, ties and
    `k = 0` included) of the candidate list: a candidate = an indexed page resolving to `w`, at most `depth`
    stems below its anchor prefix (`C20_cand_mem`, `C20_cand_nodup`: the counted indegree of each of the `visits` of
    Proofs/PagesApi). The reported indegree (`indegreeEntries_header`):
    with the unchanged code (`cfg.lonelyIndegreeOne = true`) the reported number is *always* the number of
    distinct targets met by walking the stub list from the page's in-head, the head `0` being the header block
    read as a stub (finding D4). `C20_of_inv`: all of it in one statement. -/
namespace Traph
open State

/-- heap keys `(indegree, arrival, lru)` of the candidates, arrival numbers 1, 2, 3, … -/
def mlKeys (pages : List (Bytes × Nat)) : List (Nat × Nat × Bytes) :=
  (enumFrom 1 pages).map (fun ip => (ip.2.2, ip.1, ip.2.1))

/-- from a heap key back to the answer's (LRU, indegree) -/
def mlOut (x : Nat × Nat × Bytes) : Bytes × Nat := (x.2.2, x.1)

def rank (k : Nat) (pages : List (Bytes × Nat)) : List (Bytes × Nat) :=
  (topK k (mlKeys pages)).reverse.map mlOut

theorem mlKeys_length (pages : List (Bytes × Nat)) : (mlKeys pages).length = pages.length := by
  simp [mlKeys, enumFrom_length]

theorem mlKeys_out (pages : List (Bytes × Nat)) : (mlKeys pages).map mlOut = pages := by
  unfold mlKeys
  rw [List.map_map]
  have : (mlOut ∘ fun (ip : Nat × Bytes × Nat) => (ip.2.2, ip.1, ip.2.1)) = (·.2) := by
    funext ip; rfl
  rw [this, enumFrom_map_snd]

theorem mlKeys_nodup (pages : List (Bytes × Nat)) : ((mlKeys pages).map (·.2.1)).Nodup :=
  mostLinked_keys_nodup pages

theorem mem_mlKeys (pages : List (Bytes × Nat)) (x : Nat × Nat × Bytes) :
    x ∈ mlKeys pages ↔ ∃ i, pages[i]? = some (mlOut x) ∧ x.2.1 = i + 1 := by
  unfold mlKeys
  rw [List.mem_map]
  constructor
  · rintro ⟨⟨j, lru, m⟩, hmem, rfl⟩
    obtain ⟨hj, hi⟩ := (mem_enumFrom pages 1 j (lru, m)).mp hmem
    exact ⟨j - 1, hi, (Nat.sub_add_cancel hj).symm⟩
  · rintro ⟨i, hi, hx⟩
    obtain ⟨m, j, lru⟩ := x
    cases (show j = i + 1 from hx)
    exact ⟨(i + 1, lru, m), (mem_enumFrom pages 1 _ (lru, m)).mpr ⟨Nat.le_add_left 1 i, hi⟩, rfl⟩

theorem rank_length (k : Nat) (pages : List (Bytes × Nat)) :
    (rank k pages).length = min k pages.length := by
  unfold rank
  rw [List.length_map, List.length_reverse, topK_length k _ (mlKeys_nodup pages), mlKeys_length]

theorem rank_perm (k : Nat) (pages : List (Bytes × Nat)) :
    ∃ dropped, (rank k pages ++ dropped).Perm pages ∧
      ∀ x ∈ rank k pages, ∀ d ∈ dropped, d.2 ≤ x.2 := by
  obtain ⟨dr, inv⟩ := topK_inv k (mlKeys pages) (mlKeys_nodup pages)
  refine ⟨dr.map mlOut, ?_, ?_⟩
  · unfold rank
    have h1 : ((topK k (mlKeys pages)).reverse.map mlOut ++ dr.map mlOut).Perm
        ((topK k (mlKeys pages) ++ dr).map mlOut) := by
      rw [List.map_append]
      exact ((List.reverse_perm _).map mlOut).append_right _
    have h2 := inv.perm.map mlOut
    rw [mlKeys_out] at h2
    exact h1.trans h2
  · intro x hx d hd
    unfold rank at hx
    obtain ⟨x', hx', rfl⟩ := List.mem_map.mp hx
    obtain ⟨d', hd', rfl⟩ := List.mem_map.mp hd
    exact keyLt_fst_le (inv.low d' hd' x' (List.mem_reverse.mp hx'))

theorem rank_sorted (k : Nat) (pages : List (Bytes × Nat)) :
    ((rank k pages).map (·.2)).Pairwise (· ≥ ·) := by
  have := topK_reverse_nonincreasing k (mlKeys pages) (mlKeys_nodup pages)
  unfold rank
  rw [List.map_map]
  exact this

theorem rank_max (k : Nat) (pages : List (Bytes × Nat)) :
    ∀ c ∈ pages, c ∉ rank k pages → ∀ x ∈ rank k pages, c.2 ≤ x.2 := by
  obtain ⟨dropped, hp, hlow⟩ := rank_perm k pages
  intro c hc hnot x hx
  have : c ∈ rank k pages ++ dropped := hp.mem_iff.mpr hc
  rcases List.mem_append.mp this with h | h
  · exact absurd h hnot
  · exact hlow x hx c h

theorem rank_subset (k : Nat) (pages : List (Bytes × Nat)) : ∀ x ∈ rank k pages, x ∈ pages := by
  obtain ⟨dropped, hp, _⟩ := rank_perm k pages
  intro x hx
  exact hp.mem_iff.mp (List.mem_append_left _ hx)

theorem rank_nodup (k : Nat) (pages : List (Bytes × Nat)) (h : (pages.map (·.1)).Nodup) :
    ((rank k pages).map (·.1)).Nodup := by
  obtain ⟨dropped, hp, _⟩ := rank_perm k pages
  have := (hp.map (·.1)).nodup_iff.mpr h
  rw [List.map_append] at this
  exact (List.nodup_append.mp this).1

/-- `k = 0`: the empty answer (the code pushes, then pops because `len(pages) > 0`) -/
theorem rank_zero (pages : List (Bytes × Nat)) : rank 0 pages = [] := by
  apply List.eq_nil_of_length_eq_zero
  rw [rank_length]; omega

theorem rank_all (k : Nat) (pages : List (Bytes × Nat)) (h : pages.length ≤ k) :
    (rank k pages).Perm pages := by
  obtain ⟨dropped, hp, _⟩ := rank_perm k pages
  have hl := hp.length_eq
  rw [List.length_append, rank_length] at hl
  have : dropped = [] := List.eq_nil_of_length_eq_zero (by omega)
  subst this
  simpa using hp

/-- the complete specification of the answer, ties included: it is the image of a list `ks` of heap keys
    `(indegree, arrival, lru)` of candidates (arrival = 1-based position in the candidate list), in strictly
    decreasing order of `(indegree, arrival)`, and the key of every candidate left out is below every key
    kept. Hence among candidates of equal indegree the one met *later* by the walk is preferred, and
    listed first. -/
theorem rank_spec (k : Nat) (pages : List (Bytes × Nat)) :
    ∃ ks : List (Nat × Nat × Bytes), rank k pages = ks.map mlOut ∧
      (∀ x ∈ ks, ∃ i, pages[i]? = some (mlOut x) ∧ x.2.1 = i + 1) ∧
      ks.Pairwise (fun x y => keyLt y x) ∧
      ∀ i c, pages[i]? = some c → (c.2, i + 1, c.1) ∉ ks → ∀ x ∈ ks, keyLt (c.2, i + 1, c.1) x := by
  refine ⟨(topK k (mlKeys pages)).reverse, rfl, ?_, ?_, ?_⟩
  · intro x hx
    obtain ⟨dr, inv⟩ := topK_inv k (mlKeys pages) (mlKeys_nodup pages)
    exact (mem_mlKeys pages x).mp (inv.perm.mem_iff.mp (List.mem_append_left _ (List.mem_reverse.mp hx)))
  · rw [List.pairwise_reverse]
    exact topK_sorted k (mlKeys pages) (mlKeys_nodup pages)
  · intro i c hc hnot x hx
    have hmem : (c.2, i + 1, c.1) ∈ mlKeys pages := (mem_mlKeys pages _).mpr ⟨i, hc, rfl⟩
    exact topK_max k (mlKeys pages) (mlKeys_nodup pages) x (List.mem_reverse.mp hx) _ hmem
      (fun h => hnot (List.mem_reverse.mpr h))

/-- the candidates below one prefix node: the pages of its `weDfs` walk to `depth`, each with its reported indegree -/
def mlOne (s : State) (depth : Option Nat) (n : Nat) (p : Bytes) : List (Bytes × Nat) :=
  ((s.weDfs n p depth).filter (fun bl => (s.cell bl.1).flags.page)).map
    (fun bl => (bl.2, s.indegreeEntries (s.cell bl.1).inn))

theorem mostLinked_eq (s : State) (ps : List Bytes) (k : Nat) (depth : Option Nat) :
    s.mostLinked ps k depth = (s.forPrefixes ps (mlOne s depth)).map (rank k) := rfl

theorem mostLinked_ok_iff (s : State) (ps : List Bytes) (k : Nat) (depth : Option Nat)
    (l : List (Bytes × Nat)) :
    s.mostLinked ps k depth = .ok l ↔
      ∃ pages, s.forPrefixes ps (mlOne s depth) = .ok pages ∧ l = rank k pages :=
  forPrefixes_map_ok s ps (mlOne s depth) (rank k) l

theorem mostLinked_err (s : State) (ps : List Bytes) (k : Nat) (depth : Option Nat) (e : Err)
    (h : s.mostLinked ps k depth = .error e) : e = .traph ∧ ∃ p ∈ ps, s.lruNode (lruIter p) = none :=
  forPrefixes_map_err s ps (mlOne s depth) (rank k) e h

/-- `(lru, m)` is a candidate of webentity `w` under the depth limit: `lru` is the LRU of an indexed page
    that resolves to `w`, `m` is the number the code counts on the page's in-list, and the page lies at
    most `depth` stems below its anchor — the prefix of `w` it is reached from -/
def IsCandidate (s : State) (t : T) (w : Nat) (depth : Option Nat) (lru : Bytes) (m : Nat) : Prop :=
  lru = (lruIter lru).flatten ∧ s.retrieveWebentity lru = .ok w ∧
    (∃ b, (lruIter lru, b) ∈ t.entries s [] ∧ (s.cell b).flags.page = true ∧
      m = s.indegreeEntries (s.cell b).inn) ∧
    ∃ P, IsPrefixOf s w P ∧ IsAnchor s t P (lruIter lru) ∧ WithinDepth depth P (lruIter lru)

theorem IsCandidate.isPage {s : State} {t : T} {w : Nat} {depth : Option Nat} {lru : Bytes} {m : Nat}
    (h : IsCandidate s t w depth lru m) : IsPage s t (lruIter lru) := by
  obtain ⟨_, _, ⟨b, hb, hp, _⟩, _⟩ := h
  exact ⟨b, hb, hp⟩

theorem IsCandidate.indegree_unique {s : State} {t : T} (h : Shape s t) {w w' : Nat} {d d' : Option Nat}
    {lru : Bytes} {m m' : Nat} (h1 : IsCandidate s t w d lru m) (h2 : IsCandidate s t w' d' lru m') :
    m = m' := by
  obtain ⟨_, _, ⟨b, hb, _, e⟩, _⟩ := h1
  obtain ⟨_, _, ⟨b', hb', _, e'⟩, _⟩ := h2
  have := entries_path_injective h.ord h.nodup hb hb'
  subst this; rw [e, e']

theorem IsCandidate.to_none {s : State} {t : T} {w : Nat} {depth : Option Nat} {lru : Bytes} {m : Nat}
    (h : IsCandidate s t w depth lru m) : IsCandidate s t w none lru m := by
  obtain ⟨a, b, c, P, p1, p2, _⟩ := h
  exact ⟨a, b, c, P, p1, p2, trivial⟩

/-- without a depth limit the candidates are the pages of `C05`: the last conjunct of `IsCandidate`
    follows from the resolution -/
theorem isCandidate_none_iff {s : State} {t : T} (h : Shape s t) {w : Nat} (hw : w ≠ 0) (lru : Bytes)
    (m : Nat) :
    IsCandidate s t w none lru m ↔
      lru = (lruIter lru).flatten ∧ s.retrieveWebentity lru = .ok w ∧
        ∃ b, (lruIter lru, b) ∈ t.entries s [] ∧ (s.cell b).flags.page = true ∧
          m = s.indegreeEntries (s.cell b).inn := by
  constructor
  · rintro ⟨a, b, c, _⟩; exact ⟨a, b, c⟩
  · rintro ⟨hfl, hret, b, hX, hpg, hm⟩
    obtain ⟨P, hP, hA⟩ := anchor_of_resolution h hw hret
    exact ⟨hfl, hret, ⟨b, hX, hpg, hm⟩, P, hP, hA, trivial⟩

theorem C20_ok {s : State} {w : Nat} {ps : List Bytes} (hf : FullPrefixList s w ps) (k : Nat)
    (depth : Option Nat) : ∃ l, s.mostLinked ps k depth = .ok l :=
  forPrefixes_full_map_ok hf (mlOne s depth) (rank k)

theorem mlOne_visits {s : State} {ps : List Bytes} {depth : Option Nat} {pages : List (Bytes × Nat)}
    (hl : s.forPrefixes ps (mlOne s depth) = .ok pages) :
    pages = (visits s depth ps).map (fun bl => (bl.2, s.indegreeEntries (s.cell bl.1).inn)) :=
  forPrefixes_visits_map hl

/-- C20, the candidates: asked with its full prefix list (any order), the pages ranked for `w` are exactly
    the indexed pages that resolve to `w` and lie within the depth limit below their prefix, each with the
    number counted on its in-list -/
theorem C20_cand_mem {s : State} {t : T} (h : Shape s t) (hi : Traph.Inv s t) {w : Nat} {ps : List Bytes}
    (hf : FullPrefixList s w ps) {depth : Option Nat} {pages : List (Bytes × Nat)}
    (hl : s.forPrefixes ps (mlOne s depth) = .ok pages) (lru : Bytes) (m : Nat) :
    (lru, m) ∈ pages ↔ IsCandidate s t w depth lru m :=
  mlOne_visits hl ▸ visits_map_mem h hi hf depth (fun b => s.indegreeEntries (s.cell b).inn) lru m

/-- C20, no repetition among the candidates: if no prefix is given twice, no page is ranked twice -/
theorem C20_cand_nodup {s : State} {t : T} (h : Shape s t) (hi : Traph.Inv s t) {w : Nat} {ps : List Bytes}
    (hf : FullPrefixList s w ps) (hnd : (ps.map lruIter).Nodup) {depth : Option Nat}
    {pages : List (Bytes × Nat)} (hl : s.forPrefixes ps (mlOne s depth) = .ok pages) :
    (pages.map (·.1)).Nodup := by
  rw [mlOne_visits hl, List.map_map]
  exact visits_nodup h hi hf hnd depth

/-- a page with an in-list: the number of distinct source blocks on the list -/
theorem indegreeEntries_linked (s : State) (head : Nat) (h : head ≠ 0) :
    s.indegreeEntries head = (s.walk head).eraseDups.length := by
  unfold indegreeEntries
  rw [if_neg h, ← deduped_eq]
  simp [deduped]

/-- a page nobody links to, the unchanged code: 1 (finding D4) -/
theorem indegreeEntries_lonely_true (s : State) (h : s.cfg.lonelyIndegreeOne = true) :
    s.indegreeEntries 0 = 1 := by
  simp [indegreeEntries, h]

/-- a page nobody links to, the repaired code: 0 -/
theorem indegreeEntries_lonely_false (s : State) (h : s.cfg.lonelyIndegreeOne = false) :
    s.indegreeEntries 0 = 0 := by
  simp [indegreeEntries, h]

/-- in one expression: with the repair it is the number of distinct sources (`walk0` = the in-list, empty
    for the null head); without it, that number, but at least 1 -/
theorem indegreeEntries_eq (s : State) (head : Nat) :
    s.indegreeEntries head =
      if s.cfg.lonelyIndegreeOne && head == 0 then 1 else (s.walk0 head).eraseDups.length := by
  unfold walk0
  by_cases h : head = 0
  · subst h
    cases hc : s.cfg.lonelyIndegreeOne <;> simp [indegreeEntries, hc]
  · rw [indegreeEntries_linked s head h, if_pos h]
    have : (head == 0) = false := by simpa using h
    simp [this]

theorem indegreeEntries_repaired (s : State) (hc : s.cfg.lonelyIndegreeOne = false) (head : Nat) :
    s.indegreeEntries head = (s.walk0 head).eraseDups.length := by
  rw [indegreeEntries_eq, hc]; simp

theorem walk_header (s : State) (h : HeaderStub s) : ∃ x, s.walk 0 = [x] := by
  obtain ⟨st, h0, hp⟩ := h
  refine ⟨st.target, ?_⟩
  unfold walk walkGo
  rw [h0]
  simp [hp]

/-- D4 explained: with the unchanged code the reported number is, for *every* head, the number of distinct
    targets met by walking the stub list from that head — for the null head the walk reads the header block
    as one stub -/
theorem indegreeEntries_header (s : State) (hh : HeaderStub s) (hc : s.cfg.lonelyIndegreeOne = true)
    (head : Nat) : s.indegreeEntries head = (s.walk head).eraseDups.length := by
  by_cases h : head = 0
  · subst h
    obtain ⟨x, hx⟩ := walk_header s hh
    rw [indegreeEntries_lonely_true s hc, hx]
    simp [List.eraseDups_cons]
  · exact indegreeEntries_linked s head h

/-- C20: in a state with its invariants, asked for webentity `w` with its full prefix list (any order),
    any `k` and any depth limit, `get_webentity_most_linked_pages` answers a list `l` such that, `pages`
    being the list of candidates (the indexed pages resolving to `w` within the depth limit, with the
    number counted on their in-list; no repetition if no prefix is given twice):
    (a) `l` has `min k pages.length` entries;
    (b) `l`, completed by the candidates left out, is a rearrangement of `pages`; in particular every entry
        is a candidate;
    (c) `l` is in non-increasing order of indegree;
    (d) no candidate left out has a larger indegree than a listed one;
    (e) no page is listed twice if no prefix is given twice. -/
theorem C20_answer {s : State} {t : T} (h : Shape s t) (hi : Traph.Inv s t) {w : Nat} {ps : List Bytes}
    (hf : FullPrefixList s w ps) (k : Nat) (depth : Option Nat) :
    ∃ pages l, s.mostLinked ps k depth = .ok l ∧ l = rank k pages ∧
      (∀ lru m, (lru, m) ∈ pages ↔ IsCandidate s t w depth lru m) ∧
      ((ps.map lruIter).Nodup → (pages.map (·.1)).Nodup) ∧
      l.length = min k pages.length ∧
      (∃ dropped, (l ++ dropped).Perm pages ∧ ∀ x ∈ l, ∀ d ∈ dropped, d.2 ≤ x.2) ∧
      (∀ lru m, (lru, m) ∈ l → IsCandidate s t w depth lru m) ∧
      (l.map (·.2)).Pairwise (· ≥ ·) ∧
      (∀ lru m, IsCandidate s t w depth lru m → (lru, m) ∉ l → ∀ x ∈ l, m ≤ x.2) ∧
      ((ps.map lruIter).Nodup → (l.map (·.1)).Nodup) := by
  obtain ⟨l, hl⟩ := C20_ok hf k depth
  obtain ⟨pages, hpg, rfl⟩ := (mostLinked_ok_iff s ps k depth l).mp hl
  have hmem := C20_cand_mem h hi hf hpg
  refine ⟨pages, rank k pages, hl, rfl, hmem, fun hnd => C20_cand_nodup h hi hf hnd hpg, rank_length k pages,
    rank_perm k pages, fun lru m hm => (hmem lru m).mp (rank_subset k pages _ hm), rank_sorted k pages,
    fun lru m hc hn x hx => rank_max k pages (lru, m) ((hmem lru m).mpr hc) hn x hx,
    fun hnd => rank_nodup k pages (C20_cand_nodup h hi hf hnd hpg)⟩

/-- the answer does not depend on the candidates' order beyond ties: with `k` at least the number of
    candidates, the answer is the whole candidate list rearranged -/
theorem C20_all {s : State} {ps : List Bytes} {k : Nat} {depth : Option Nat} {pages l : List (Bytes × Nat)}
    (hpg : s.forPrefixes ps (mlOne s depth) = .ok pages) (hl : s.mostLinked ps k depth = .ok l)
    (hk : pages.length ≤ k) : l.Perm pages := by
  obtain ⟨pages', hpg', rfl⟩ := (mostLinked_ok_iff s ps k depth l).mp hl
  rw [hpg] at hpg'; cases hpg'
  exact rank_all k pages hk

/-- C20 in one statement, for an index state with its invariants (the header block of the link store being
    one of them): for every webentity id `w`, every full prefix list `ps` of `w` in any order, every `k`
    (`k = 0` included: the empty answer) and every depth limit, the request is answered as `C20_answer` says;
    the reported indegree of a listed page is the number of distinct source blocks on its in-list, and for a
    page without in-list 1 with the unchanged code (D4), 0 with the repair. -/
theorem C20_of_inv {s : State} {t : T} (h : Shape s t) (hi : Traph.Inv s t) (hh : HeaderStub s) :
    (∀ w ps k depth, FullPrefixList s w ps →
      ∃ pages l, s.mostLinked ps k depth = .ok l ∧ l = rank k pages ∧
        (∀ lru m, (lru, m) ∈ pages ↔ IsCandidate s t w depth lru m) ∧
        ((ps.map lruIter).Nodup → (pages.map (·.1)).Nodup) ∧
        l.length = min k pages.length ∧
        (∃ dropped, (l ++ dropped).Perm pages ∧ ∀ x ∈ l, ∀ d ∈ dropped, d.2 ≤ x.2) ∧
        (∀ lru m, (lru, m) ∈ l → IsCandidate s t w depth lru m) ∧
        (l.map (·.2)).Pairwise (· ≥ ·) ∧
        (∀ lru m, IsCandidate s t w depth lru m → (lru, m) ∉ l → ∀ x ∈ l, m ≤ x.2) ∧
        ((ps.map lruIter).Nodup → (l.map (·.1)).Nodup)) ∧
    (∀ head, head ≠ 0 → s.indegreeEntries head = (s.walk head).eraseDups.length) ∧
    (s.cfg.lonelyIndegreeOne = true → s.indegreeEntries 0 = 1 ∧
      ∀ head, s.indegreeEntries head = (s.walk head).eraseDups.length) ∧
    (s.cfg.lonelyIndegreeOne = false → s.indegreeEntries 0 = 0) ∧
    (∀ w, w ≠ 0 → FullPrefixList s w (prefixesOf s w) ∧ ((prefixesOf s w).map lruIter).Nodup) :=
  ⟨fun _ _ k depth hf => C20_answer h hi hf k depth,
    fun head hne => indegreeEntries_linked _ head hne,
    fun hc => ⟨indegreeEntries_lonely_true _ hc, fun head => indegreeEntries_header _ hh hc head⟩,
    fun hc => indegreeEntries_lonely_false _ hc,
    fun _ hw => prefixesOf_full h hi hw⟩

/-! The model on a concrete index: webentity 1 has the prefix `a|`; pages `a|`, `a|x|`, `a|y|`, `a|y|z|`, `a|y|z|w|`;
    links `x→y` (twice), `yz→y`, `x→x`, `x→yz`. The walk meets `a|`, `a|y|`, `a|y|z|`, `a|y|z|w|`, `a|x|` in this
    order. -/
section Examples

private def mA : Bytes := [97, 124]
private def mAX : Bytes := [97, 124, 120, 124]
private def mAY : Bytes := [97, 124, 121, 124]
private def mAYZ : Bytes := [97, 124, 121, 124, 122, 124]
private def mAYZW : Bytes := [97, 124, 121, 124, 122, 124, 119, 124]
private def mOps : List Op :=
  [.create [mA], .addPage mA true, .addPage mAYZW true,
   .addLinks [(mAX, mAY), (mAYZ, mAY), (mAX, mAX), (mAX, mAYZ), (mAX, mAY)]]
/-- the unchanged code -/
private def mS : State := (State.fresh {} .never [] []).1.run mOps
/-- the code with D4 repaired -/
private def mS' : State := (State.fresh { lonelyIndegreeOne := false } .never [] []).1.run mOps

/-- the model run once on either index; the examples below read the answers off -/
private theorem mS_eval :
    (mS.mostLinked [mA] 10 none).toOption = some [(mAY, 2), (mAX, 1), (mAYZW, 1), (mAYZ, 1), (mA, 1)] ∧
    (mS.mostLinked [mA] 3 none).toOption = some [(mAY, 2), (mAX, 1), (mAYZW, 1)] ∧
    (mS.mostLinked [mA] 10 (some 0)).toOption = some [(mA, 1)] ∧
    (mS.mostLinked [mA] 10 (some 1)).toOption = some [(mAY, 2), (mAX, 1), (mA, 1)] := by decide +kernel

private theorem mS_eval₂ :
    (mS.mostLinked [mA] 10 (some 2)).toOption = some [(mAY, 2), (mAX, 1), (mAYZ, 1), (mA, 1)] ∧
    (mS.mostLinked [mA] 0 none).toOption = some [] ∧
    (mS.mostLinked [mA, mA] 10 (some 0)).toOption = some [(mA, 1), (mA, 1)] ∧
    (mS.mostLinked [[98, 124]] 10 none).toOption = none := by decide +kernel

private theorem mS'_eval :
    (mS'.mostLinked [mA] 10 none).toOption = some [(mAY, 2), (mAX, 1), (mAYZ, 1), (mAYZW, 0), (mA, 0)] ∧
    (mS'.mostLinked [mA] 3 none).toOption = some [(mAY, 2), (mAX, 1), (mAYZ, 1)] := by decide +kernel

/-- distinct sources are counted once (`x→y` twice), a self-link counts; among equal indegrees the page
    met later comes first; the two pages nobody links to are reported with 1 (D4) -/
example : (mS.mostLinked [mA] 10 none).toOption
    = some [(mAY, 2), (mAX, 1), (mAYZW, 1), (mAYZ, 1), (mA, 1)] := mS_eval.1
/-- …and with 0 once D4 is repaired -/
example : (mS'.mostLinked [mA] 10 none).toOption
    = some [(mAY, 2), (mAX, 1), (mAYZ, 1), (mAYZW, 0), (mA, 0)] := mS'_eval.1
/-- D4 also changes *which* pages are listed: with `k = 3` the unchanged code lists `a|y|z|w|` (nobody
    links to it, reported 1, met later) and leaves out `a|y|z|` (one page links to it) -/
example : (mS.mostLinked [mA] 3 none).toOption = some [(mAY, 2), (mAX, 1), (mAYZW, 1)] := mS_eval.2.1
example : (mS'.mostLinked [mA] 3 none).toOption = some [(mAY, 2), (mAX, 1), (mAYZ, 1)] := mS'_eval.2
/-- the depth limit counts stems below the prefix: 0 = the prefix page alone, 1 = its children, … -/
example : (mS.mostLinked [mA] 10 (some 0)).toOption = some [(mA, 1)] := mS_eval.2.2.1
example : (mS.mostLinked [mA] 10 (some 1)).toOption = some [(mAY, 2), (mAX, 1), (mA, 1)] := mS_eval.2.2.2
example : (mS.mostLinked [mA] 10 (some 2)).toOption
    = some [(mAY, 2), (mAX, 1), (mAYZ, 1), (mA, 1)] := mS_eval₂.1
/-- `k = 0`: the empty answer -/
example : (mS.mostLinked [mA] 0 none).toOption = some [] := mS_eval₂.2.1
/-- a prefix given twice: every candidate is ranked twice -/
example : (mS.mostLinked [mA, mA] 10 (some 0)).toOption = some [(mA, 1), (mA, 1)] := mS_eval₂.2.2.1
/-- an unknown prefix: an error (the library's own, `mostLinked_err`) -/
example : (mS.mostLinked [[98, 124]] 10 none).toOption = none := mS_eval₂.2.2.2

end Examples

#print axioms rank_spec
#print axioms rank_perm
#print axioms mostLinked_ok_iff
#print axioms C20_cand_mem
#print axioms C20_cand_nodup
#print axioms indegreeEntries_header
#print axioms indegreeEntries_repaired
#print axioms C20_answer
#print axioms C20_of_inv

end Traph
