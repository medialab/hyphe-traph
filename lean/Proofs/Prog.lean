import Proofs.Dict
import Traph.Step
/-! The requests that submit several pages (`add_pages`, `add_links`, `index_batch_crawl`) as PROGRAMS over
    three instructions whose operands are the byte strings of the request's arguments: insert a page, insert a
    link end unless this request has inserted it before (the page cache), write stubs between cached pages.
    `exec` runs a program; the first `__add_page` that fails ends it. `State.prog s op` is a function of the
    arguments alone, and `step_prog`: the request IS `exec s {} (s.prog op)`. The control structure of the three
    requests is followed once, here, by equations; a statement about what such a request does with its
    arguments is then an induction over the program with one case per instruction: the templates are `built_exec`
    (Built) and `paged_exec` (Paged). A NEW such request supplies `xProg`, `x_eq`, a case in `State.prog` and
    `step_prog`, `closed_xProg`, `lrus_xProg`, `rows_xProg`, and `marks_xProg` (PageSet). -/
namespace Traph
open State

/-- first part of one round of `batchSources`: the source page is inserted, or flagged as crawled -/
def srcStep (s : State) (acc : LinkAcc) (src : Bytes) : State × Except Err LinkAcc :=
  match dictGet? acc.pages src with
  | none => s.ensurePageCached acc src true
  | some n =>
    if !(s.cell n).flags.crawled then
      (s.modCell n (fun c => { c with flags := { c.flags with crawled := true } }), .ok acc)
    else (s, .ok acc)

theorem batchSources_cons (s : State) (src : Bytes) (tgts : List Bytes) (rest : List (Bytes × List Bytes))
    (acc : LinkAcc) : batchSources s ((src, tgts) :: rest) acc =
      match srcStep s acc src with
      | (s1, .error e) => (s1, .error e)
      | (s1, .ok acc1) =>
        match batchTargets s1 src tgts acc1 [] with
        | (s2, .error e) => (s2, .error e)
        | (s2, .ok (acc2, tb)) =>
          batchSources (s2.addStubs ((dictGet? acc2.pages src).getD 0) tb true) rest acc2 := by
  rw [batchSources]; rfl

inductive Instr
  /-- `add_pages`: `__add_page(l, c)`, after which the page is flagged as crawled if `always` -/
  | add (l : Bytes) (c always : Bool)
  /-- an end of a link: `__add_page(l, c)` unless this request has inserted `l` before; the source of a crawl
      row (`c = true`) that was inserted before is flagged as crawled unless it is -/
  | ensure (l : Bytes) (c : Bool)
  /-- `LinkStore.add_links` from the cached block of `p` to those of `ts` -/
  | stubs (p : Bytes) (ts : List Bytes) (out : Bool)

/-- what a program carries along: the page cache of the request and its write report -/
structure Run where
  pages : List (Bytes × Nat) := []
  rep : Report := {}

def Instr.run (s : State) (a : Run) : Instr → State × Except Err Run
  | .add l c always =>
    match s.addPageCore l c with
    | (s1, _, .error e) => (s1, .error e)
    | (s1, n, .ok r) =>
      (if always then s1.modCell n (fun c => { c with flags := { c.flags with crawled := true } }) else s1,
        .ok { a with rep := a.rep.add r })
  | .ensure l c =>
    match dictGet? a.pages l with
    | none =>
      match s.addPageCore l c with
      | (s1, _, .error e) => (s1, .error e)
      | (s1, n, .ok r) => (s1, .ok { pages := a.pages ++ [(l, n)], rep := a.rep.add r })
    | some n =>
      if c && !(s.cell n).flags.crawled then
        (s.modCell n (fun c => { c with flags := { c.flags with crawled := true } }), .ok a)
      else (s, .ok a)
  | .stubs p ts out => (s.addStubs ((dictGet? a.pages p).getD 0) (blocksOf a.pages ts) out, .ok a)

/-- an instruction that writes no stubs is a page insertion, a crawl mark, or both: a reflexive and transitive relation
    that holds across these two holds across it -/
theorem Instr.run_quiet {R : State → State → Prop} (refl : ∀ s, R s s) (trans : ∀ {a b c}, R a b → R b c → R a c)
    (page : ∀ s l c, R s (s.addPageCore l c).1)
    (crawl : ∀ s n, R s (s.modCell n fun c => { c with flags := { c.flags with crawled := true } }))
    (s : State) (a : Run) {i : Instr} (hi : ∀ p ts o, i ≠ .stubs p ts o) : R s (i.run s a).1 := by
  cases i with
  | add l c always =>
    have h := page s l c
    simp only [Instr.run]
    split
    · rename_i heq; rw [heq] at h; exact h
    · rename_i heq
      rw [heq] at h
      dsimp only
      split
      · exact trans h (crawl _ _)
      · exact h
  | ensure l c =>
    have h := page s l c
    simp only [Instr.run]
    split
    · split <;> rename_i heq <;> rw [heq] at h <;> exact h
    · split
      · exact crawl _ _
      · exact refl s
  | stubs p ts o => exact absurd rfl (hi p ts o)

def exec : State → Run → List Instr → State × Except Err Run
  | s, a, [] => (s, .ok a)
  | s, a, i :: is =>
    match i.run s a with
    | (s1, .error e) => (s1, .error e)
    | (s1, .ok a1) => exec s1 a1 is

theorem exec_cons_ok {s s' : State} {a a' : Run} {i : Instr} {is : List Instr}
    (h : exec s a (i :: is) = (s', .ok a')) :
    ∃ s1 a1, i.run s a = (s1, .ok a1) ∧ exec s1 a1 is = (s', .ok a') := by
  rw [exec] at h
  split at h
  · cases h
  · rename_i s1 a1 heq; exact ⟨s1, a1, heq, h⟩

theorem exec_append (p q : List Instr) : ∀ (s : State) (a : Run), exec s a (p ++ q) =
    match exec s a p with
    | (s1, .error e) => (s1, .error e)
    | (s1, .ok a1) => exec s1 a1 q := by
  induction p with
  | nil => intro s a; rfl
  | cons i is ih =>
    intro s a
    rw [List.cons_append, exec, exec]
    split
    · rfl
    · exact ih _ _

def PagesLe (p p' : List (Bytes × Nat)) : Prop := ∀ l n, dictGet? p l = some n → dictGet? p' l = some n

theorem PagesLe.refl (p : List (Bytes × Nat)) : PagesLe p p := fun _ _ h => h
theorem PagesLe.trans {a b c : List (Bytes × Nat)} (h1 : PagesLe a b) (h2 : PagesLe b c) : PagesLe a c :=
  fun l n h => h2 l n (h1 l n h)

theorem PagesLe.getD {p p' : List (Bytes × Nat)} (h : PagesLe p p') {l : Bytes} {n : Nat}
    (hc : dictGet? p l = some n) : (dictGet? p' l).getD 0 = (dictGet? p l).getD 0 := by
  rw [hc, h l n hc]

theorem pagesLe_append_single (p : List (Bytes × Nat)) (l : Bytes) (n : Nat) : PagesLe p (p ++ [(l, n)]) :=
  fun l' n' h => by rw [dictGet?_append_single, h]

def Instr.ensures : Instr → List Bytes
  | .ensure l _ => [l]
  | _ => []

/-- what an instruction that succeeds has done -/
inductive Ran (s : State) (a : Run) : Instr → State → Run → Prop
  | add {l c always s1 n r} : s.addPageCore l c = (s1, n, .ok r) →
      Ran s a (.add l c always)
        (if always then s1.modCell n (fun c => { c with flags := { c.flags with crawled := true } }) else s1)
        { a with rep := a.rep.add r }
  | miss {l c s1 n r} : dictGet? a.pages l = none → s.addPageCore l c = (s1, n, .ok r) →
      Ran s a (.ensure l c) s1 { pages := a.pages ++ [(l, n)], rep := a.rep.add r }
  | hit {l c n} : dictGet? a.pages l = some n →
      Ran s a (.ensure l c)
        (if c && !(s.cell n).flags.crawled then
          s.modCell n (fun c => { c with flags := { c.flags with crawled := true } }) else s) a
  | stubs {p ts out} :
      Ran s a (.stubs p ts out) (s.addStubs ((dictGet? a.pages p).getD 0) (blocksOf a.pages ts) out) a

theorem Instr.ran {s s1 : State} {a a1 : Run} {i : Instr} (h : i.run s a = (s1, .ok a1)) : Ran s a i s1 a1 := by
  cases i with
  | add l c always =>
    simp only [Instr.run] at h
    split at h
    · cases h
    · rename_i heq; cases h; exact .add heq
  | ensure l c =>
    simp only [Instr.run] at h
    split at h
    · rename_i hn
      split at h
      · cases h
      · rename_i heq; cases h; exact .miss hn heq
    · rename_i n hn
      have : (s1, a1) = (if (c && !(s.cell n).flags.crawled) = true then
          s.modCell n (fun c => { c with flags := { c.flags with crawled := true } }) else s, a) := by
        split at h <;> cases h
        · rw [if_pos ‹_›]
        · rw [if_neg ‹_›]
      cases this
      exact .hit hn
  | stubs p ts out => cases h; exact .stubs

theorem Instr.run_pages {s s1 : State} {a a1 : Run} {i : Instr} (h : i.run s a = (s1, .ok a1)) :
    PagesLe a.pages a1.pages ∧ ∀ l ∈ i.ensures, ∃ n, dictGet? a1.pages l = some n := by
  cases Instr.ran h with
  | add _ => exact ⟨PagesLe.refl _, nofun⟩
  | @miss l _ _ n _ hn _ =>
    refine ⟨pagesLe_append_single _ _ _, fun l' hl' => ?_⟩
    cases List.mem_singleton.mp hl'
    exact ⟨n, by rw [dictGet?_append_single, hn, if_pos rfl]⟩
  | @hit _ _ n hn => exact ⟨PagesLe.refl _, fun l' hl' => by cases List.mem_singleton.mp hl'; exact ⟨n, hn⟩⟩
  | stubs => exact ⟨PagesLe.refl _, nofun⟩

theorem exec_pagesLe : ∀ (is : List Instr) {s s' : State} {a a' : Run}, exec s a is = (s', .ok a') →
    PagesLe a.pages a'.pages
  | [], _, _, _, _, h => by cases h; exact PagesLe.refl _
  | _ :: is, _, _, _, _, h => by
    obtain ⟨s1, a1, h1, h2⟩ := exec_cons_ok h
    exact (Instr.run_pages h1).1.trans (exec_pagesLe is h2)

theorem exec_ensured {s' : State} {a' : Run} {j : Instr} {l : Bytes} (hl : l ∈ j.ensures) :
    ∀ (is : List Instr) {s : State} {a : Run}, exec s a is = (s', .ok a') → j ∈ is →
      ∃ n, dictGet? a'.pages l = some n
  | [], _, _, _, hj => nomatch hj
  | _ :: is, _, _, h, hj => by
    obtain ⟨s1, a1, h1, h2⟩ := exec_cons_ok h
    rcases List.mem_cons.mp hj with rfl | hj
    · obtain ⟨n, hn⟩ := (Instr.run_pages h1).2 l hl
      exact ⟨n, exec_pagesLe is h2 l n hn⟩
    · exact exec_ensured hl is h2 hj

def pagesProg (ls : List Bytes) (c always : Bool) : List Instr := ls.map (.add · c always)

def endsProg (ts : List Bytes) : List Instr := ts.map (.ensure · false)

def scanProg (links : List (Bytes × Bytes)) : List Instr :=
  links.flatMap fun st => [.ensure st.1 false, .ensure st.2 false]

def flushProg (out : Bool) (d : List (Bytes × List Bytes)) : List Instr := d.map fun kv => .stubs kv.1 kv.2 out

/-- the out- and the in-lists `add_links` collects: a pair is filed under its source, resp. its target -/
def outlOf (links : List (Bytes × Bytes)) (d : List (Bytes × List Bytes)) : List (Bytes × List Bytes) :=
  links.foldl (fun d st => multiAdd d st.1 st.2) d
def inlOf (links : List (Bytes × Bytes)) (d : List (Bytes × List Bytes)) : List (Bytes × List Bytes) :=
  links.foldl (fun d st => multiAdd d st.2 st.1) d

theorem inlOf_append (a b : List (Bytes × Bytes)) (d : List (Bytes × List Bytes)) :
    inlOf (a ++ b) d = inlOf b (inlOf a d) := List.foldl_append

def linksProg (links : List (Bytes × Bytes)) : List Instr :=
  scanProg links ++ (flushProg true (outlOf links []) ++ flushProg false (inlOf links []))

/-- the pairs a crawl batch submits: every row's source with each of its targets (an empty target
    list submits nothing) -/
def batchLinks (data : List (Bytes × List Bytes)) : List (Bytes × Bytes) :=
  data.flatMap (fun d => d.2.map (fun x => (d.1, x)))

theorem batchLinks_cons (src : Bytes) (tgts : List Bytes) (rest : List (Bytes × List Bytes)) :
    batchLinks ((src, tgts) :: rest) = tgts.map (fun x => (src, x)) ++ batchLinks rest := by
  unfold batchLinks; rw [List.flatMap_cons]

/-- one row of a crawl batch: the source, its targets, and the row's out-list written at once -/
def rowProg (d : Bytes × List Bytes) : List Instr := .ensure d.1 true :: (endsProg d.2 ++ [.stubs d.1 d.2 true])

def batchProg (data : List (Bytes × List Bytes)) : List Instr :=
  data.flatMap rowProg ++ flushProg false (inlOf (batchLinks data) [])

/-! `Sound s a is`: when `is` runs from `s` and `a`, every byte string a `stubs` names is in the cache at that
moment. It follows from a property of the program alone (`Closed`), which the programs of the link requests
have. -/

/-- the ends a `stubs` names are keys of the page cache. Not the relation `Cached` of LinkBagWrites (cache and trie
    before and after an instruction); `run_link` takes the one and concludes the other. -/
def Instr.Cached (pages : List (Bytes × Nat)) : Instr → Prop
  | .stubs p ts _ => ∀ l ∈ p :: ts, ∃ n, dictGet? pages l = some n
  | _ => True

def Sound : State → Run → List Instr → Prop
  | _, _, [] => True
  | s, a, i :: is => i.Cached a.pages ∧ ∀ s1 a1, i.run s a = (s1, .ok a1) → Sound s1 a1 is

/-- every operand of a `stubs` is in `K` or has been `ensure`d earlier in the program -/
def Closed (K : Bytes → Prop) : List Instr → Prop
  | [] => True
  | i :: is => (∀ p ts o, i = .stubs p ts o → ∀ l ∈ p :: ts, K l) ∧ Closed (fun x => K x ∨ x ∈ i.ensures) is

theorem Closed.mono : ∀ {is : List Instr} {K K' : Bytes → Prop}, Closed K is → (∀ x, K x → K' x) → Closed K' is
  | [], _, _, _, _ => trivial
  | _ :: _, _, _, h, hk =>
    ⟨fun p ts o e l hl => hk l (h.1 p ts o e l hl), h.2.mono fun _ hx => hx.imp (hk _) id⟩

theorem Closed.sound : ∀ (is : List Instr) {K : Bytes → Prop} (s : State) (a : Run), Closed K is →
    (∀ l, K l → ∃ n, dictGet? a.pages l = some n) → Sound s a is
  | [], _, _, _, _, _ => trivial
  | i :: is, _, s, a, h, hk => by
    refine ⟨?_, fun s1 a1 h1 => Closed.sound is s1 a1 h.2 fun l hl => ?_⟩
    · cases i with
      | stubs p ts o => exact fun l hl => hk l (h.1 p ts o rfl l hl)
      | _ => trivial
    · obtain ⟨le, he⟩ := Instr.run_pages h1
      rcases hl with hl | hl
      · obtain ⟨n, hn⟩ := hk l hl; exact ⟨n, le l n hn⟩
      · exact he l hl

theorem Closed.append : ∀ {p q : List Instr} {K : Bytes → Prop}, Closed K p →
    Closed (fun x => K x ∨ ∃ i ∈ p, x ∈ i.ensures) q → Closed K (p ++ q)
  | [], _, _, _, hq => hq.mono fun _ hx => hx.elim id fun ⟨_, hi, _⟩ => nomatch hi
  | _ :: _, _, _, hp, hq =>
    ⟨hp.1, hp.2.append (hq.mono fun _ hx => hx.elim (fun h => .inl (.inl h)) fun ⟨j, hj, hx⟩ =>
      (List.mem_cons.mp hj).elim (fun e => .inl (.inr (e ▸ hx))) fun hj => .inr ⟨j, hj, hx⟩)⟩

theorem closed_of_noStubs : ∀ {is : List Instr} {K : Bytes → Prop}, (∀ i ∈ is, ∀ p ts o, i ≠ .stubs p ts o) →
    Closed K is
  | [], _, _ => trivial
  | _ :: _, _, h => ⟨fun p ts o e => absurd e (h _ List.mem_cons_self p ts o),
      closed_of_noStubs fun i hi => h i (List.mem_cons_of_mem _ hi)⟩

theorem closed_flushProg (out : Bool) : ∀ {d : List (Bytes × List Bytes)} {K : Bytes → Prop}, AllIn K d →
    Closed K (flushProg out d)
  | [], _, _ => trivial
  | (p, ts) :: _, _, h =>
    ⟨fun _ _ _ e l hl => by
      cases e
      rcases List.mem_cons.mp hl with rfl | hl
      · exact (h _ List.mem_cons_self).1
      · exact (h _ List.mem_cons_self).2 l hl,
     (closed_flushProg out fun e he => h e (List.mem_cons_of_mem _ he)).mono fun _ => .inl⟩

theorem closed_linksProg (links : List (Bytes × Bytes)) : Closed (fun _ => False) (linksProg links) := by
  have hK : ∀ st ∈ links, ∀ l, l = st.1 ∨ l = st.2 → ∃ i ∈ scanProg links, l ∈ i.ensures := fun st hst l hl =>
    hl.elim (fun e => ⟨.ensure st.1 false, List.mem_flatMap.mpr ⟨st, hst, by simp⟩, e ▸ List.mem_singleton.mpr rfl⟩)
      fun e => ⟨.ensure st.2 false, List.mem_flatMap.mpr ⟨st, hst, by simp⟩, e ▸ List.mem_singleton.mpr rfl⟩
  refine (closed_of_noStubs fun i hi p ts o e => ?_).append (.append ?_ (.mono ?_ fun _ => .inl))
  · obtain ⟨st, _, hi⟩ := List.mem_flatMap.mp hi
    subst e; simp at hi
  · exact closed_flushProg true (AllIn.foldl_multiAdd _ _ links (fun _ he => nomatch he) fun st hst =>
      ⟨.inr (hK st hst _ (.inl rfl)), .inr (hK st hst _ (.inr rfl))⟩)
  · exact closed_flushProg false (AllIn.foldl_multiAdd _ _ links (fun _ he => nomatch he) fun st hst =>
      ⟨.inr (hK st hst _ (.inr rfl)), .inr (hK st hst _ (.inl rfl))⟩)

theorem closed_batchProg (data : List (Bytes × List Bytes)) : Closed (fun _ => False) (batchProg data) := by
  have rows : ∀ (data : List (Bytes × List Bytes)) (K : Bytes → Prop), Closed K (data.flatMap rowProg) := by
    intro data
    induction data with
    | nil => exact fun _ => trivial
    | cons d rest ih =>
      intro K
      show Closed K (.ensure d.1 true :: ((endsProg d.2 ++ [.stubs d.1 d.2 true]) ++ rest.flatMap rowProg))
      refine ⟨fun _ _ _ e => (nomatch e), Closed.append (Closed.append (closed_of_noStubs fun i hi p ts o e => ?_) ?_) (ih _)⟩
      · obtain ⟨_, _, rfl⟩ := List.mem_map.mp hi; cases e
      · refine ⟨fun p ts o e l hl => ?_, trivial⟩
        cases e
        rcases List.mem_cons.mp hl with rfl | hl
        · exact .inl (.inr (List.mem_singleton.mpr rfl))
        · exact .inr ⟨.ensure l false, List.mem_map.mpr ⟨l, hl, rfl⟩, List.mem_singleton.mpr rfl⟩
  refine (rows data _).append (closed_flushProg false (AllIn.foldl_multiAdd _ _ _ (fun _ he => nomatch he) fun st hst => ?_))
  obtain ⟨d, hd, hst⟩ := List.mem_flatMap.mp hst
  obtain ⟨x, hx, rfl⟩ := List.mem_map.mp hst
  have hr : ∀ i ∈ rowProg d, i ∈ data.flatMap rowProg := fun i hi => List.mem_flatMap.mpr ⟨d, hd, hi⟩
  exact ⟨.inr ⟨.ensure x false, hr _ (List.mem_cons_of_mem _ (List.mem_append_left _ (List.mem_map.mpr ⟨x, hx, rfl⟩))),
      List.mem_singleton.mpr rfl⟩,
    .inr ⟨.ensure d.1 true, hr _ List.mem_cons_self, List.mem_singleton.mpr rfl⟩⟩

/-- the byte strings an instruction submits as pages -/
def Instr.lrus : Instr → List Bytes
  | .add l _ _ => [l]
  | .ensure l _ => [l]
  | .stubs _ _ _ => []

theorem ensures_sub_lrus (i : Instr) (l : Bytes) (h : l ∈ i.ensures) : l ∈ i.lrus := by
  cases i with
  | ensure _ _ => exact h
  | _ => nomatch h

theorem lrus_flushProg (out : Bool) (d : List (Bytes × List Bytes)) : (flushProg out d).flatMap Instr.lrus = [] := by
  induction d with
  | nil => rfl
  | cons kv d ih => exact ih

theorem lrus_pagesProg (ls : List Bytes) (c always : Bool) : (pagesProg ls c always).flatMap Instr.lrus = ls := by
  induction ls with
  | nil => rfl
  | cons l ls ih => exact congrArg (l :: ·) ih

theorem lrus_linksProg (links : List (Bytes × Bytes)) :
    (linksProg links).flatMap Instr.lrus = links.flatMap fun st => [st.1, st.2] := by
  rw [linksProg, List.flatMap_append, List.flatMap_append, lrus_flushProg, lrus_flushProg, List.append_nil,
    List.append_nil, scanProg, List.flatMap_assoc]
  rfl

theorem lrus_batchProg (data : List (Bytes × List Bytes)) :
    (batchProg data).flatMap Instr.lrus = data.flatMap fun d => d.1 :: d.2 := by
  rw [batchProg, List.flatMap_append, lrus_flushProg, List.append_nil, List.flatMap_assoc]
  congr 1
  funext d
  show d.1 :: (endsProg d.2 ++ [Instr.stubs d.1 d.2 true]).flatMap Instr.lrus = _
  rw [List.flatMap_append, endsProg, List.flatMap_map]
  simp [Instr.lrus]

theorem linksProg_lrus_ne {links : List (Bytes × Bytes)} (hwf : ∀ st ∈ links, lruIter st.1 ≠ [] ∧ lruIter st.2 ≠ []) :
    ∀ l ∈ (linksProg links).flatMap Instr.lrus, lruIter l ≠ [] := fun l hl => by
  rw [lrus_linksProg] at hl
  obtain ⟨st, hst, hl⟩ := List.mem_flatMap.mp hl
  simp only [List.mem_cons, List.not_mem_nil, or_false] at hl
  rcases hl with rfl | rfl
  · exact (hwf st hst).1
  · exact (hwf st hst).2

theorem batchProg_lrus_ne {data : List (Bytes × List Bytes)}
    (hwf : ∀ d ∈ data, lruIter d.1 ≠ [] ∧ ∀ x ∈ d.2, lruIter x ≠ []) :
    ∀ l ∈ (batchProg data).flatMap Instr.lrus, lruIter l ≠ [] := fun l hl => by
  rw [lrus_batchProg] at hl
  obtain ⟨d, hd, hl⟩ := List.mem_flatMap.mp hl
  rcases List.mem_cons.mp hl with rfl | hl
  · exact (hwf d hd).1
  · exact (hwf d hd).2 l hl

/-- the rows (page, other ends) an instruction writes in direction `o` -/
def Instr.rows (o : Bool) : Instr → List (Bytes × List Bytes)
  | .stubs p ts out => if out = o then [(p, ts)] else []
  | _ => []

theorem rows_of_noStubs (o : Bool) : ∀ (is : List Instr), (∀ i ∈ is, ∀ p ts out, i ≠ .stubs p ts out) →
    is.flatMap (Instr.rows o) = []
  | [], _ => rfl
  | i :: is, h => by
    rw [List.flatMap_cons, rows_of_noStubs o is fun j hj => h j (List.mem_cons_of_mem _ hj), List.append_nil]
    cases i with
    | stubs p ts out => exact absurd rfl (h _ List.mem_cons_self p ts out)
    | _ => rfl

theorem scanProg_noStubs (links : List (Bytes × Bytes)) : ∀ i ∈ scanProg links, ∀ p ts out, i ≠ .stubs p ts out :=
  fun i hi p ts o e => by
    obtain ⟨st, _, hi⟩ := List.mem_flatMap.mp hi
    subst e; simp at hi

theorem endsProg_noStubs (ts : List Bytes) : ∀ i ∈ endsProg ts, ∀ p ts' out, i ≠ .stubs p ts' out :=
  fun i hi p ts' o e => by obtain ⟨_, _, rfl⟩ := List.mem_map.mp hi; cases e

theorem rows_flushProg (out o : Bool) (d : List (Bytes × List Bytes)) :
    (flushProg out d).flatMap (Instr.rows o) = if out = o then d else [] := by
  induction d with
  | nil => exact (ite_self _).symm
  | cons kv d ih =>
    rw [flushProg, List.map_cons, List.flatMap_cons, ← flushProg, ih]
    show (if out = o then [(kv.1, kv.2)] else []) ++ _ = _
    split <;> rfl

/-- `add_links` writes the out-lists it collected, then the in-lists -/
theorem rows_linksProg (links : List (Bytes × Bytes)) (o : Bool) : (linksProg links).flatMap (Instr.rows o) =
    (if true = o then outlOf links [] else []) ++ if false = o then inlOf links [] else [] := by
  rw [linksProg, List.flatMap_append, List.flatMap_append, rows_of_noStubs o _ (scanProg_noStubs links),
    rows_flushProg, rows_flushProg, List.nil_append]

theorem rows_rowProg (o : Bool) : ∀ (data : List (Bytes × List Bytes)),
    (data.flatMap rowProg).flatMap (Instr.rows o) = if true = o then data else []
  | [] => (ite_self _).symm
  | d :: rest => by
    rw [List.flatMap_cons, List.flatMap_append, rows_rowProg o rest]
    show (Instr.ensure d.1 true :: (endsProg d.2 ++ [Instr.stubs d.1 d.2 true])).flatMap (Instr.rows o) ++ _ = _
    rw [List.flatMap_cons, List.flatMap_append, rows_of_noStubs o _ (endsProg_noStubs d.2)]
    show (if true = o then [(d.1, d.2)] else []) ++ [] ++ _ = _
    split <;> rfl

/-- a crawl batch writes each row's out-list as it goes, then the in-lists it collected -/
theorem rows_batchProg (data : List (Bytes × List Bytes)) (o : Bool) : (batchProg data).flatMap (Instr.rows o) =
    (if true = o then data else []) ++ if false = o then inlOf (batchLinks data) [] else [] := by
  rw [batchProg, List.flatMap_append, rows_flushProg, rows_rowProg]

def Run.lift {α : Type} (f : Run → α) (x : State × Except Err Run) : State × Except Err α := (x.1, x.2.map f)

/-- a request that is a program and succeeds: the program has run to its end -/
theorem exec_of_lift_ok {α : Type} {f : Run → α} {s : State} {a : Run} {is : List Instr} {r : α}
    (h : (Run.lift f (exec s a is)).2 = .ok r) : ∃ a', exec s a is = ((exec s a is).1, .ok a') ∧ f a' = r :=
  have ⟨a', ha, e⟩ := Except.map_eq_ok h
  ⟨a', Prod.ext rfl ha, e⟩

theorem addPagesGo_eq (always : Bool) (c : Bool) : ∀ (ls : List Bytes) (s : State) (a : Run),
    addPagesGo always s ls c a.rep = Run.lift Run.rep (exec s a (pagesProg ls c always))
  | [], _, _ => rfl
  | l :: ls, s, a => by
    rw [addPagesGo, pagesProg, List.map_cons, exec]
    simp only [Instr.run]
    rcases s.addPageCore l c with ⟨s1, n, e | r⟩
    · rfl
    · exact addPagesGo_eq always c ls _ { a with rep := a.rep.add r }

theorem flushLists_eq (out : Bool) (a : Run) : ∀ (d : List (Bytes × List Bytes)) (s : State),
    exec s a (flushProg out d) = (flushLists out a.pages s d, .ok a)
  | [], _ => rfl
  | (p, others) :: rest, s => by
    rw [flushProg, List.map_cons, exec, flushLists]
    exact flushLists_eq out a rest _

/-- the cache and the report of a link request's accumulator; `Run.acc`: a result of the model's link scans,
    cache and report from the program, the lists as given -/
def State.LinkAcc.run (acc : LinkAcc) : Run := ⟨acc.pages, acc.rep⟩
def Run.acc (outl inl : List (Bytes × List Bytes)) (a : Run) : LinkAcc :=
  { pages := a.pages, outl := outl, inl := inl, rep := a.rep }

theorem Run.acc_run (outl inl : List (Bytes × List Bytes)) (a : Run) : (a.acc outl inl).run = a := rfl

theorem Run.lift_ok {α : Type} (f : Run → α) (s : State) (a : Run) : Run.lift f (s, .ok a) = (s, .ok (f a)) := rfl

theorem ensurePageCached_eq (s : State) (acc : LinkAcc) (l : Bytes) :
    s.ensurePageCached acc l false = Run.lift (Run.acc acc.outl acc.inl) ((Instr.ensure l false).run s acc.run) := by
  simp only [ensurePageCached, Instr.run, Bool.false_and, LinkAcc.run]
  cases dictGet? acc.pages l with
  | some n => rfl
  | none => rcases s.addPageCore l false with ⟨s1, n, e | r⟩ <;> rfl

theorem srcStep_eq (s : State) (acc : LinkAcc) (l : Bytes) :
    srcStep s acc l = Run.lift (Run.acc acc.outl acc.inl) ((Instr.ensure l true).run s acc.run) := by
  simp only [srcStep, ensurePageCached, Instr.run, Bool.true_and, LinkAcc.run]
  cases hd : dictGet? acc.pages l with
  | some n => simp only; split <;> rfl
  | none => rcases s.addPageCore l true with ⟨s1, n, e | r⟩ <;> rfl

theorem addLinksScan_eq : ∀ (links : List (Bytes × Bytes)) (s : State) (acc : LinkAcc),
    addLinksScan s links acc =
      Run.lift (Run.acc (outlOf links acc.outl) (inlOf links acc.inl)) (exec s acc.run (scanProg links))
  | [], _, _ => rfl
  | (src, tgt) :: rest, s, acc => by
    rw [addLinksScan, ensurePageCached_eq]
    show _ = Run.lift _ (exec s acc.run (.ensure src false :: .ensure tgt false :: scanProg rest))
    rw [exec]
    rcases (Instr.ensure src false).run s acc.run with ⟨s1, e | a1⟩
    · rfl
    · dsimp only [Run.lift_ok]
      rw [ensurePageCached_eq, Run.acc_run, exec]
      rcases (Instr.ensure tgt false).run s1 a1 with ⟨s2, e | a2⟩
      · rfl
      · exact addLinksScan_eq rest s2 _

theorem addLinks_eq (s : State) (links : List (Bytes × Bytes)) :
    s.addLinks links = Run.lift Run.rep (exec s {} (linksProg links)) := by
  rw [addLinks, addLinksScan_eq, linksProg, exec_append]
  rw [show ({} : LinkAcc).run = ({} : Run) from rfl]
  rcases exec s {} (scanProg links) with ⟨s1, e | a1⟩
  · rfl
  · dsimp only [Run.lift_ok]
    rw [exec_append, flushLists_eq]
    dsimp only
    rw [flushLists_eq]
    rfl

theorem batchTargets_eq (src : Bytes) : ∀ (ts : List Bytes) (s : State) (acc : LinkAcc) (tb : List Nat),
    batchTargets s src ts acc tb =
      Run.lift (fun a => (a.acc acc.outl (inlOf (ts.map fun x => (src, x)) acc.inl),
        tb ++ blocksOf a.pages ts)) (exec s acc.run (endsProg ts))
  | [], _, _, tb => by rw [batchTargets]; simp only [blocksOf, List.map_nil, List.append_nil]; rfl
  | t :: ts, s, acc, tb => by
    rw [batchTargets, ensurePageCached_eq]
    show _ = Run.lift _ (exec s acc.run (.ensure t false :: endsProg ts))
    rw [exec]
    rcases h1 : (Instr.ensure t false).run s acc.run with ⟨s1, e | a1⟩
    · rfl
    · dsimp only [Run.lift_ok]
      rw [batchTargets_eq src ts s1]
      show Run.lift _ (exec s1 a1 (endsProg ts)) = _
      rcases h2 : exec s1 a1 (endsProg ts) with ⟨s2, e | a2⟩
      · rfl
      · obtain ⟨n, hn⟩ := (Instr.run_pages h1).2 t (List.mem_singleton.mpr rfl)
        dsimp only [Run.lift_ok, Run.acc]
        rw [← (exec_pagesLe _ h2).getD hn, List.append_assoc]
        rfl

theorem batchSources_eq : ∀ (data : List (Bytes × List Bytes)) (s : State) (acc : LinkAcc),
    batchSources s data acc =
      Run.lift (Run.acc acc.outl (inlOf (batchLinks data) acc.inl)) (exec s acc.run (data.flatMap rowProg))
  | [], _, _ => rfl
  | (src, tgts) :: rest, s, acc => by
    rw [batchSources_cons, srcStep_eq, List.flatMap_cons]
    show _ = Run.lift _ (exec s acc.run ((.ensure src true :: (endsProg tgts ++ [.stubs src tgts true])) ++ _))
    rw [List.cons_append, exec]
    rcases (Instr.ensure src true).run s acc.run with ⟨s1, e | a1⟩
    · rfl
    · dsimp only [Run.lift_ok]
      rw [batchTargets_eq, Run.acc_run, exec_append, exec_append]
      rcases exec s1 a1 (endsProg tgts) with ⟨s2, e | a2⟩
      · rfl
      · dsimp only [Run.lift_ok]
        rw [batchSources_eq rest, batchLinks_cons, inlOf_append]
        rfl

theorem batch_eq (s : State) (data : List (Bytes × List Bytes)) :
    s.batch data = Run.lift Run.rep (exec s {} (batchProg data)) := by
  rw [batch, batchSources_eq, batchProg, exec_append]
  rw [show ({} : LinkAcc).run = ({} : Run) from rfl]
  rcases exec s {} (data.flatMap rowProg) with ⟨s1, e | a1⟩
  · rfl
  · dsimp only [Run.lift_ok]
    rw [flushLists_eq]
    rfl

/-- the program of a request that submits several pages: a function of its arguments (and of the `add_pages` switch) -/
def State.prog (s : State) : Op → List Instr
  | .addPages ls c => pagesProg ls c s.cfg.addPagesAlwaysCrawled
  | .addLinks links => linksProg links
  | .batch data => batchProg data
  | _ => []

/-- `add_pages`, `add_links` and `index_batch_crawl` are their programs (`add_page` is the single `__add_page`) -/
theorem step_prog (s : State) (op : Op)
    (hop : (∃ ls c, op = .addPages ls c) ∨ (∃ ls, op = .addLinks ls) ∨ ∃ d, op = .batch d) :
    s.step op = ((exec s {} (s.prog op)).1, .ofExcept .report ((exec s {} (s.prog op)).2.map Run.rep)) := by
  rcases hop with ⟨ls, c, rfl⟩ | ⟨ls, rfl⟩ | ⟨d, rfl⟩
  · show ((s.addPages ls c).1, Ans.ofExcept .report (s.addPages ls c).2) = _
    rw [addPages, addPagesGo_eq _ _ _ _ {}]; rfl
  · show ((s.addLinks ls).1, Ans.ofExcept .report (s.addLinks ls).2) = _
    rw [addLinks_eq]; rfl
  · show ((s.batch d).1, Ans.ofExcept .report (s.batch d).2) = _
    rw [batch_eq]; rfl

end Traph
