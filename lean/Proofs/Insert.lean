import Proofs.InsertStep
/-! `add_lru` against the ghost tree. `Grow`: the shape is kept and the finite map extended by prefixes of the stems.
    `Walk`, `Ins`: what `add_lru` does, said once — the stems found on the way down, each found block unmarked if
    asked; then one new node per stem that was not found, each hooked into a hole of the tree as it is then
    (`addLru_run`, which also gives the history `add_lru` returns: that of `follow_lru` in the state it starts in).
    What `add_lru` keeps or establishes is an induction over `Ins` that never looks at the two loops:
    `Ins.grow`, `Ins.inv` here, the accounting in `Proofs/Sizes`, the marks in `Proofs/MarksInsert`, the chain of heap
    steps in `Proofs/ChainOps`. `Hole` comes from GraftHole (the graft at a hole: GraftSpec); `NoStruct`, `GraftStep`,
    `Marked`, `slotPar` from InsertStep. -/
namespace Traph
open State

structure Grow (stems : LRU) (s : State) (t : T) (s' : State) (t' : T) : Prop where
  shape : Shape s' t'
  size : s.trie.size ≤ s'.trie.size
  keep : ∀ p b, (p, b) ∈ t.entries s [] → (p, b) ∈ t'.entries s' []
  new : ∀ p b, (p, b) ∈ t'.entries s' [] → (p, b) ∈ t.entries s [] ∨
      (s.trie.size ≤ b ∧ ∃ k, 0 < k ∧ k ≤ stems.length ∧ p = stems.take k)
  stem : ∀ a, a < s.trie.size → s'.stemAt a = s.stemAt a

theorem Grow.refl {stems : LRU} {s : State} {t : T} (h : Shape s t) : Grow stems s t s t :=
  ⟨h, Nat.le_refl _, fun _ _ hm => hm, fun _ _ hm => Or.inl hm, fun _ _ => rfl⟩

theorem Grow.trans {stems : LRU} {s0 s1 s2 : State} {t0 t1 t2 : T}
    (h1 : Grow stems s0 t0 s1 t1) (h2 : Grow stems s1 t1 s2 t2) : Grow stems s0 t0 s2 t2 where
  shape := h2.shape
  size := Nat.le_trans h1.size h2.size
  keep := fun p b hm => h2.keep p b (h1.keep p b hm)
  new := fun p b hm => by
    rcases h2.new p b hm with h | ⟨hb, hk⟩
    · exact h1.new p b h
    · exact Or.inr ⟨Nat.le_trans h1.size hb, hk⟩
  stem := fun a ha => by rw [h2.stem a (Nat.lt_of_lt_of_le ha h1.size), h1.stem a ha]

theorem Grow.of_noStruct {stems : LRU} {s s' : State} {t : T} (h : Shape s t) (n : NoStruct s s') :
    Grow stems s t s' t := by
  have e : t.entries s' [] = t.entries s [] := n.entries t []
  exact ⟨n.shape h, Nat.le_of_eq n.1.symm, fun p b hm => by rw [e]; exact hm,
    fun p b hm => by rw [e] at hm; exact Or.inl hm, fun a _ => n.stemAt a⟩

theorem Hole.graftStep {s : State} {t : T} {q : Nat} {sl : Slot} {pre' : LRU} {lo' hi' : Option Stem}
    (hh : Hole s q sl t [] none none pre' lo' hi') (hs : Shape s t) (x : Stem) (par : Nat) (ch : Bool) :
    GraftStep s ((s.writeNew x par ch).1.modCell q (fun c => c.setSlot sl s.trie.size)) q sl x := by
  obtain ⟨c, hcq, hslot⟩ := hh.slot_empty hs.rep
  exact graftStep_write s q sl x par ch c hcq hslot hs.closed

theorem Grow.graft_hole {stems : LRU} {s s' : State} {t : T} {q : Nat} {sl : Slot} {x : Stem}
    {pre' : LRU} {lo' hi' : Option Stem}
    (h : Shape s t) (hh : Hole s q sl t [] none none pre' lo' hi')
    (b1 : ∀ y, lo' = some y → lexLt y x = true) (b2 : ∀ y, hi' = some y → lexLt x y = true)
    (g : GraftStep s s' q sl x)
    (hk : ∃ k, 0 < k ∧ k ≤ stems.length ∧ pre' ++ [x] = stems.take k) :
    Grow stems s t s' (t.graft q sl s.trie.size) ∧
    (pre' ++ [x], s.trie.size) ∈ (t.graft q sl s.trie.size).entries s' [] ∧
    (t.graft q sl s.trie.size).childOf s.trie.size = .nil := by
  have hlt := h.rep.lt_size
  have hb : s.trie.size ∉ t.addrs := fun hm => Nat.lt_irrefl _ (hlt _ hm)
  have hst : ∀ a ∈ t.addrs, s'.stemAt a = s.stemAt a := fun a ha => g.stems a (hlt a ha)
  have hperm := hh.graft_entries (b := s.trie.size) h.nodup hst g.stemNew
  have hsz : 1 < s.trie.size := Nat.lt_of_not_le fun hle => by
    obtain rfl := h.eq_nil hle
    exact nomatch hh.mem
  have hsz' := g.size_lt
  refine ⟨⟨⟨Nat.zero_lt_of_lt hsz', g.rep h.rep, ?_, ?_, ?_, g.closed⟩, Nat.le_of_lt hsz', ?_, ?_, g.stems⟩, ?_, ?_⟩
  · exact hh.graft_ord h.nodup hst g.stemNew h.ord b1 b2
  · exact (hh.graft_addrs h.nodup).nodup_iff.mpr (List.nodup_cons.mpr ⟨hb, h.nodup⟩)
  · rw [T.root_graft, h.root, if_neg (by omega), if_neg (by omega)]
  · exact fun p b hm => hperm.symm.subset (List.mem_cons_of_mem _ hm)
  · intro p b hm
    rcases List.mem_cons.mp (hperm.subset hm) with e | e
    · obtain ⟨e1, e2⟩ := Prod.mk.inj e
      obtain ⟨k, k1, k2, k3⟩ := hk
      exact Or.inr ⟨Nat.le_of_eq e2.symm, k, k1, k2, e1.trans k3⟩
    · exact Or.inl e
  · exact hperm.symm.subset (by simp)
  · exact T.childOf_graft_new t hb

/-- What a property `I` of heap and ghost tree needs in order to survive `add_lru`, whose writes are: the first
    node of an empty trie; the clearing of a `noChild` flag; the write pair at a hole of the tree, the new node
    carrying the parent expected at the slot. -/
structure InsInv (I : State → T → Prop) : Prop where
  first : ∀ (s : State) (stem : Stem), s.trie.size = 1 → I s .nil →
    I (s.writeNew stem 0 false).1 (.node 1 .nil .nil .nil)
  mark : ∀ {s : State} {t : T} (n : Nat) (b : Bool), I s t → I (s.markCanHave n b) t
  write : ∀ {s : State} {t : T} {q : Nat} {sl : Slot} {pre' : LRU} {lo' hi' : Option Stem} (x : Stem) (ch : Bool),
    Shape s t → Hole s q sl t [] none none pre' lo' hi' → I s t →
    I ((s.writeNew x (slotPar s q sl) ch).1.modCell q (fun c => c.setSlot sl s.trie.size))
      (t.graft q sl s.trie.size)

theorem InsInv.trivial : InsInv (fun _ _ => True) := ⟨fun _ _ _ _ => ⟨⟩, fun _ _ _ => ⟨⟩, fun _ _ _ _ _ => ⟨⟩⟩

section
variable {I : State → T → Prop} (hI : InsInv I)
include hI

theorem InsInv.marked {s s' : State} {t : T} (hi : I s t) (m : Marked s s') : I s' t := by
  induction m with
  | refl => exact hi
  | step n b _ ih => exact hI.mark n b ih

end

theorem shape_single {s : State} (h1 : 1 < s.trie.size) (c : Cell) (hc : s.trie[1]? = some c)
    (hl : c.left = 0) (hch : c.child = 0) (hr : c.right = 0) (hcl : TailClosed s) :
    Shape s (.node 1 .nil .nil .nil) where
  live := Nat.lt_trans Nat.zero_lt_one h1
  rep := ⟨Nat.one_ne_zero, ⟨c, hc, hl, hch, hr⟩, trivial, trivial, trivial⟩
  ord := ⟨nofun, nofun, trivial, trivial, trivial⟩
  nodup := by simp [T.addrs]
  root := by rw [if_neg (Nat.not_le_of_lt h1)]; rfl
  closed := hcl

theorem grow_first {s : State} (h : Shape s .nil) (hsz : s.trie.size = 1) (stem : Stem) (rest : List Stem) :
    Grow (stem :: rest) s .nil (s.writeNew stem 0 false).1 (.node 1 .nil .nil .nil) ∧
      (s.writeNew stem 0 false).1.cell 1 = headCell stem 0 false ∧
      ([stem], 1) ∈ (T.node 1 .nil .nil .nil).entries (s.writeNew stem 0 false).1 [] := by
  have hhead : (s.writeNew stem 0 false).1.trie[1]? = some (headCell stem 0 false) :=
    hsz ▸ getElem?_writeNew_head s stem 0 false
  have hlt : 1 < (s.writeNew stem 0 false).1.trie.size := hsz ▸ size_lt_writeNew s stem 0 false
  have hstem1 : (s.writeNew stem 0 false).1.stemAt 1 = stem := hsz ▸ stemAt_writeNew' s stem 0 false
  have hent : ([stem], 1) ∈ (T.node 1 .nil .nil .nil).entries (s.writeNew stem 0 false).1 [] := by
    rw [T.entries_leaf, hstem1]; exact List.mem_singleton_self _
  refine ⟨⟨shape_single hlt _ hhead rfl rfl rfl (TailClosed.writeNew s stem 0 false), ?_, nofun, ?_, ?_⟩,
    by rw [State.cell, hhead]; rfl, hent⟩
  · rw [hsz]; exact Nat.le_of_lt hlt
  · intro p b hm
    rw [T.entries_leaf, hstem1, List.mem_singleton, Prod.mk.injEq] at hm
    exact Or.inr ⟨by rw [hsz, hm.2]; exact Nat.le_refl 1, 1, Nat.one_pos, Nat.succ_pos _, hm.1⟩
  · intro a ha
    exact stemAt_writeNew_other s stem 0 false a ha h.closed

/-- The first phase of `add_lru` in a trie that has nodes, against the ghost tree `t0` of the state `s0` it starts
    in: the stems `p` have been found, the last of them at block `n`, and `rest` are still to come. A block found is
    unmarked when `flag` is set and stems remain below it. -/
inductive Walk (stems : LRU) (flag : Bool) (s0 : State) (t0 : T) : LRU → List Stem → Nat → State → Prop
  | start : Walk stems flag s0 t0 [] stems 0 s0
  | found {p : LRU} {x : Stem} {rest : List Stem} {n a : Nat} {s : State} :
      Walk stems flag s0 t0 p (x :: rest) n s → (p ++ [x], a) ∈ t0.entries s0 [] →
      Walk stems flag s0 t0 (p ++ [x]) rest a
        (s.markCanHave a (!rest.isEmpty && flag && (s.cell a).flags.noChild))

/-- `add_lru` as a run against the ghost tree: the walk; then for every stem left a new node, written with the
    parent its slot asks for, hooked into a hole of the tree whose bounds enclose the stem, and ending up unmarked
    exactly when `flag` is set and stems remain below it (`ch`: created unmarked, `m`: unmarked afterwards). The first
    node of an empty trie hangs nowhere. -/
inductive Ins (stems : LRU) (flag : Bool) (s0 : State) (t0 : T) : LRU → List Stem → Nat → State → T → Prop
  | walk {p : LRU} {rest : List Stem} {n : Nat} {s : State} :
      Walk stems flag s0 t0 p rest n s → Ins stems flag s0 t0 p rest n s t0
  | first {x : Stem} {rest : List Stem} : stems = x :: rest → s0.trie.size = 1 → t0 = .nil →
      Ins stems flag s0 t0 [x] rest 1 ((s0.writeNew x 0 false).1.markCanHave 1 (!rest.isEmpty && flag))
        (.node 1 .nil .nil .nil)
  | write {p : LRU} {x : Stem} {rest : List Stem} {n : Nat} {s : State} {t : T} {q : Nat} {sl : Slot}
      {lo hi : Option Stem} (ch m : Bool) :
      Ins stems flag s0 t0 p (x :: rest) n s t → Shape s t → Hole s q sl t [] none none p lo hi →
      (∀ y, lo = some y → lexLt y x = true) → (∀ y, hi = some y → lexLt x y = true) →
      (ch || m) = (!rest.isEmpty && flag) →
      Ins stems flag s0 t0 (p ++ [x]) rest s.trie.size
        (((s.writeNew x (slotPar s q sl) ch).1.modCell q (fun c => c.setSlot sl s.trie.size)).markCanHave
          s.trie.size m)
        (t.graft q sl s.trie.size)

section
variable {stems : LRU} {flag : Bool} {s0 : State} {t0 : T}

theorem Walk.marked {p : LRU} {rest : List Stem} {n : Nat} {s : State} (w : Walk stems flag s0 t0 p rest n s) :
    Marked s0 s := by
  induction w with
  | start => exact .refl _
  | found _ _ ih => exact .step _ _ ih

theorem Walk.append {p : LRU} {rest : List Stem} {n : Nat} {s : State} (w : Walk stems flag s0 t0 p rest n s) :
    p ++ rest = stems := by
  induction w with
  | start => rfl
  | found _ _ ih => rw [List.append_assoc]; exact ih

theorem Ins.append {p : LRU} {rest : List Stem} {n : Nat} {s : State} {t : T}
    (i : Ins stems flag s0 t0 p rest n s t) : p ++ rest = stems := by
  induction i with
  | walk w => exact w.append
  | first e _ _ => exact e.symm
  | write _ _ _ _ _ _ _ _ ih => rw [List.append_assoc]; exact ih


theorem Walk.entry {p : LRU} {rest : List Stem} {n : Nat} {s : State} (w : Walk stems flag s0 t0 p rest n s)
    (hp : p ≠ []) : (p, n) ∈ t0.entries s0 [] := by
  cases w with
  | start => exact absurd rfl hp
  | found _ h => exact h

theorem Ins.grow {p : LRU} {rest : List Stem} {n : Nat} {s : State} {t : T} (h0 : Shape s0 t0)
    (i : Ins stems flag s0 t0 p rest n s t) : Grow stems s0 t0 s t ∧ (p ≠ [] → (p, n) ∈ t.entries s []) := by
  induction i with
  | walk w =>
    have m := w.marked.noStruct
    exact ⟨.of_noStruct h0 m, fun hp => by rw [m.entries]; exact w.entry hp⟩
  | @first x rest e hsz ht =>
    subst e ht
    obtain ⟨gr, _, hent⟩ := grow_first h0 hsz x rest
    have m := noStruct_markCanHave (s0.writeNew x 0 false).1 1 (!rest.isEmpty && flag)
    exact ⟨gr.trans (.of_noStruct gr.shape m), fun _ => by rw [m.entries]; exact hent⟩
  | @write p x rest n s t q sl lo hi ch m i hs hh b1 b2 _ ih =>
    obtain ⟨gr, hent, _⟩ := Grow.graft_hole (stems := stems) hs hh b1 b2 (hh.graftStep hs x (slotPar s q sl) ch)
      (take_of_append i.append)
    have ns := noStruct_markCanHave ((s.writeNew x (slotPar s q sl) ch).1.modCell q
      (fun c => c.setSlot sl s.trie.size)) s.trie.size m
    exact ⟨(ih.1.trans gr).trans (.of_noStruct gr.shape ns),
      fun _ => by rw [ns.entries]; exact hent⟩

theorem Ins.inv {I : State → T → Prop} {p : LRU} {rest : List Stem} {n : Nat} {s : State} {t : T} (hI : InsInv I)
    (hi : I s0 t0) (i : Ins stems flag s0 t0 p rest n s t) : I s t := by
  induction i with
  | walk w => exact hI.marked hi w.marked
  | first _ hsz ht => exact hI.mark _ _ (hI.first s0 _ hsz (ht ▸ hi))
  | write ch _ _ hs hh _ _ _ ih => exact hI.mark _ _ (hI.write _ ch hs hh ih)

end

/-- the path of a hole, extended by a stem its bounds enclose, is not stored (the graft performed in thought would
    store it twice) -/
theorem Hole.not_entry {s : State} {t : T} {q : Nat} {sl : Slot} {p : LRU} {lo hi : Option Stem} {x : Stem}
    (hs : Shape s t) (hh : Hole s q sl t [] none none p lo hi) (b1 : ∀ y, lo = some y → lexLt y x = true)
    (b2 : ∀ y, hi = some y → lexLt x y = true) : ¬ ∃ b, (p ++ [x], b) ∈ t.entries s [] := by
  rintro ⟨b, hb⟩
  obtain ⟨gr, hent, _⟩ := Grow.graft_hole (stems := p ++ [x]) hs hh b1 b2 (hh.graftStep hs x 0 false)
    (take_of_append rfl)
  have e := entries_path_injective gr.shape.ord gr.shape.nodup (gr.keep _ _ hb) hent
  exact absurd (e ▸ hs.rep.lt_size b (entries_addr_mem t [] _ b hb)) (Nat.lt_irrefl _)

section
variable {stems : LRU} {flag : Bool} {s0 : State} {t0 : T} {p : LRU} {rest : List Stem} {n : Nat} {s : State} {t : T}

theorem Ins.not_stored {x : Stem} {q : Nat} {sl : Slot} {lo hi : Option Stem} (h0 : Shape s0 t0)
    (i : Ins stems flag s0 t0 p (x :: rest) n s t) (hs : Shape s t) (hh : Hole s q sl t [] none none p lo hi)
    (b1 : ∀ y, lo = some y → lexLt y x = true) (b2 : ∀ y, hi = some y → lexLt x y = true) :
    ¬ ∃ b, (p ++ [x], b) ∈ t0.entries s0 [] :=
  fun ⟨b, hb⟩ => hh.not_entry hs b1 b2 ⟨b, (i.grow h0).1.keep _ _ hb⟩

/-- when the stems consumed are stored, nothing has been written -/
theorem Ins.of_stored (h0 : Shape s0 t0) (i : Ins stems flag s0 t0 p rest n s t) {b : Nat}
    (hb : (p, b) ∈ t0.entries s0 []) : Walk stems flag s0 t0 p rest n s := by
  cases i with
  | walk w => exact w
  | first _ _ ht => subst ht; exact nomatch hb
  | write _ _ i hs hh b1 b2 _ => exact absurd ⟨b, hb⟩ (i.not_stored h0 hs hh b1 b2)

/-! The history `add_lru` returns is that of `follow_lru` in the state it starts in: a found block is visited as
`follow_lru` visits it (`Walk.visit`: its webentity and rule flag are those of the start, only `noChild` flags have been
cleared); a stem that is not stored adds nothing to either (`followLru_unstored`; the new block `add_lru` visits for it
is blank). -/

theorem Walk.visit {x : Stem} {a : Nat} (h0 : Shape s0 t0) (w : Walk stems flag s0 t0 p (x :: rest) n s)
    (ha : (p ++ [x], a) ∈ t0.entries s0 []) :
    (s0.followLru p).2.visit (s.cell a) (p.flatten.length + x.length) = (s0.followLru (p ++ [x])).2 := by
  rw [followLru_snoc, State.visitAt, (lruNode_iff_entries h0 _ (List.append_ne_nil_of_right_ne_nil _ (List.cons_ne_nil _ _)) a).mpr ha,
    w.marked.visit, List.flatten_append, List.length_append, List.flatten_singleton]

theorem followLru_unstored {x : Stem} (h0 : Shape s0 t0) (hn : ¬ ∃ b, (p ++ [x], b) ∈ t0.entries s0 []) :
    (s0.followLru (p ++ [x])).2 = (s0.followLru p).2 := by
  rw [followLru_snoc, State.visitAt]
  cases hl : s0.lruNode (p ++ [x]) with
  | none => rfl
  | some b =>
    exact absurd ⟨b, (lruNode_iff_entries h0 _ (List.append_ne_nil_of_right_ne_nil _ (List.cons_ne_nil _ _)) b).mp hl⟩ hn

theorem visit_write_new (s : State) (q : Nat) (sl : Slot) (x : Stem) (par : Nat) (ch : Bool) (v : Nat) (h : Hist)
    (pos : Nat) : h.visit (((s.writeNew x par ch).1.modCell q (fun c => c.setSlot sl v)).cell s.trie.size) pos = h := by
  rw [cell_modCell]; split
  · cases sl <;> (rw [cell_writeNew_head]; rfl)
  · rw [cell_writeNew_head]; rfl

/-- one new node, with what the next one needs: the shape invariant again, the hole below the new node, and that
    `follow_lru` would not have found it -/
theorem Ins.write_hole {x : Stem} {q : Nat} {sl : Slot} {lo hi : Option Stem} (ch m : Bool) (h0 : Shape s0 t0)
    (i : Ins stems flag s0 t0 p (x :: rest) n s t) (hs : Shape s t)
    (hh : Hole s q sl t [] none none p lo hi) (b1 : ∀ y, lo = some y → lexLt y x = true)
    (b2 : ∀ y, hi = some y → lexLt x y = true) (e : (ch || m) = (!rest.isEmpty && flag)) {S : State}
    (hS : S = ((s.writeNew x (slotPar s q sl) ch).1.modCell q (fun c => c.setSlot sl s.trie.size)).markCanHave
      s.trie.size m) :
    Ins stems flag s0 t0 (p ++ [x]) rest s.trie.size S (t.graft q sl s.trie.size) ∧
      Shape S (t.graft q sl s.trie.size) ∧
      Hole S s.trie.size .C (t.graft q sl s.trie.size) [] none none (p ++ [x]) none none ∧
      (s0.followLru (p ++ [x])).2 = (s0.followLru p).2 := by
  subst hS
  have g := hh.graftStep hs x (slotPar s q sl) ch
  obtain ⟨gr, hent, hco⟩ := Grow.graft_hole (stems := stems) hs hh b1 b2 g (take_of_append i.append)
  have ns := noStruct_markCanHave ((s.writeNew x (slotPar s q sl) ch).1.modCell q
    (fun c => c.setSlot sl s.trie.size)) s.trie.size m
  have hs' := ns.shape gr.shape
  refine ⟨.write ch m i hs hh b1 b2 e, hs', T.child_hole _ [] none none hs'.nodup ?_ hco,
    followLru_unstored h0 (i.not_stored h0 hs hh b1 b2)⟩
  rw [ns.entries]
  exact hent

/-- where the first loop of `add_lru` has got to, as it answers it (state, block, stems left, history): at block
    `D.2.1`, and when stems are to come the place of its first child is a hole of the tree; the history is the one
    `follow_lru` gives for the stems consumed -/
def InsAt (stems : LRU) (flag : Bool) (s0 : State) (t0 : T) (D : State × Nat × List Stem × Hist) : Prop :=
  ∃ p t, Ins stems flag s0 t0 p D.2.2.1 D.2.1 D.1 t ∧ Shape D.1 t ∧
    (D.2.2.1 ≠ [] → Hole D.1 D.2.1 .C t [] none none p none none) ∧ D.2.2.2 = (s0.followLru p).2

theorem InsAt.intro {h : Hist} (i : Ins stems flag s0 t0 p rest n s t) (hs : Shape s t)
    (hole : rest ≠ [] → Hole s n .C t [] none none p none none) (hh : h = (s0.followLru p).2) :
    InsAt stems flag s0 t0 (s, n, rest, h) := ⟨p, t, i, hs, hole, hh⟩

end

theorem markCanHave_false (s : State) (n : Nat) : s.markCanHave n false = s := rfl

theorem noChild_write_new (s : State) (q : Nat) (sl : Slot) (x : Stem) (par : Nat) (ch : Bool) (v : Nat) :
    (((s.writeNew x par ch).1.modCell q (fun c => c.setSlot sl v)).cell s.trie.size).flags.noChild = !ch := by
  rw [cell_modCell]; split
  · cases sl <;> (rw [cell_writeNew_head]; rfl)
  · rw [cell_writeNew_head]; rfl

section
variable {stems : LRU} {flag : Bool} {s0 : State} {t0 : T}

/-- The first loop, started at the root of a sibling tree `u` of the ghost tree that lies below the stems `p` found
    so far (its entries are entries, its holes are holes of the whole tree), level by level: the head stem is missing
    among the siblings (one is written, and the loop stops at it); or it is found at `a`, which is the last stem, or
    has no child tree (the loop stops at `a`), or has one (the loop goes on in it). -/
theorem addLruDescend_ins (h0 : Shape s0 t0) : ∀ (rest : List Stem) (s : State) (u : T) (p : LRU) (pos : Nat)
    (h : Hist), Rep s u → u ≠ .nil → u.size ≤ s.trie.size → rest ≠ [] →
    ∀ n, Walk stems flag s0 t0 p rest n s → (∀ e ∈ u.entries s0 p, e ∈ t0.entries s0 []) →
    (∀ {q sl pre' lo' hi'}, Hole s0 q sl u p none none pre' lo' hi' → Hole s0 q sl t0 [] none none pre' lo' hi') →
    pos = p.flatten.length → h = (s0.followLru p).2 →
    InsAt stems flag s0 t0 (addLruDescend flag s rest u.root true pos h) := by
  intro rest
  induction rest with
  | nil => intro _ _ _ _ _ _ _ _ hne; exact absurd rfl hne
  | cons stem rest ih =>
    intro s u p pos h hr hne hsz _ n w lE lH hpos hh
    subst hpos hh
    have m := w.marked.noStruct
    have hs := m.shape h0
    have hfs := findSib_eq_find (s := s) (stem := stem) u (s.trie.size + 1) hr hne (Nat.le_succ_of_le hsz)
    have hf0 := T.find_congr m.stemAt stem u
    cases hf : u.find s stem with
    | corrupt => exact absurd hf (T.find_ne_corrupt u hne)
    | missing q sl =>
      rw [hf] at hfs hf0
      obtain ⟨lo', hi', hh, b1, b2⟩ := T.find_hole u p none none q sl hf0.symm nofun nofun
      have hole := (lH hh).frame fun a _ => m.stemAt a
      have hg := hole.graftStep hs stem (s.cell q).parent false
      rw [addLruDescend_cons_stop flag s stem rest u.root true _ _ _ _ (ensureStem_missing s u.root stem q sl hfs)
        (Or.inr hg.cell_child_new), noChild_write_new, Bool.not_false, Bool.and_true, visit_write_new]
      obtain ⟨i, hs', hole', hist⟩ := Ins.write_hole false (!rest.isEmpty && flag) h0 (.walk w) hs hole b1 b2
        (Bool.false_or _) (by rw [slotPar_sibling s q (T.find_missing_slot u q sl hf)])
      exact .intro i hs' (fun _ => hole') hist.symm
    | found a =>
      rw [hf] at hfs hf0
      obtain ⟨hmem, hst⟩ := T.find_sound u a hf0.symm
      obtain ⟨hrc, cell, hcell, hch⟩ := Rep.childAt u a hr hmem
      have hcella : s.cell a = cell := cell_of_getElem? hcell
      have ha := lE _ (hst ▸ T.sib_entry u p a hmem)
      have w' := w.found ha
      have m' := w'.marked.noStruct
      have he := ensureStem_found s u.root stem a hfs
      cases rest with
      | nil =>
        rw [addLruDescend_cons_stop flag s stem [] u.root true _ _ _ _ he (Or.inl rfl)]
        exact .intro (.walk w') (m'.shape h0) (fun hr => absurd rfl hr) (w.visit h0 ha)
      | cons x rest =>
        cases hc : u.childAt a with
        | nil =>
          rw [hc] at hch
          rw [addLruDescend_cons_stop flag s stem _ u.root true _ _ _ _ he (Or.inr (by rw [hcella, hch]; rfl))]
          exact .intro (.walk w') (m'.shape h0)
            (fun _ => (hst ▸ lH (Hole.of_childAt_nil u p none none hmem hc)).frame fun b _ => m'.stemAt b)
            (w.visit h0 ha)
        | node a' l' c' r' =>
          rw [hc] at hch hrc
          rw [addLruDescend_cons_go flag s stem _ u.root true _ _ _ _ he (List.cons_ne_nil _ _)
            (by rw [hcella, hch]; exact hrc.1), hcella, hch]
          have hns := noStruct_markCanHave s a (!(x :: rest).isEmpty && flag && cell.flags.noChild)
          have hsz' : (T.node a' l' c' r').size ≤ s.trie.size := hc ▸ Nat.le_trans (T.childAt_size u a) hsz
          refine ih _ (.node a' l' c' r') (p ++ [stem]) _ _ (hns.rep hrc) nofun (by rw [hns.1]; exact hsz')
            (List.cons_ne_nil _ _) a (hcella ▸ w')
            (fun e he => lE e (T.childAt_entries u p a hmem (by rw [hc, hst]; exact he)))
            (fun hh => lH (Hole.of_childAt u p none none hmem (by rw [hc, hst]; exact hh))) ?_ ?_
          · rw [List.flatten_append, List.length_append, List.flatten_singleton]
          · exact hcella ▸ w.visit h0 ha

/-- the second loop: a node for every stem left, each the first child of the one before -/
theorem addLruCreate_ins (h0 : Shape s0 t0) (rest : List Stem) : ∀ (n : Nat) (S : State) (p : LRU) (t : T),
    Ins stems flag s0 t0 p rest n S t → Shape S t → (rest ≠ [] → Hole S n .C t [] none none p none none) →
    ∃ t, Ins stems flag s0 t0 stems [] (addLruCreate flag S rest n).2 (addLruCreate flag S rest n).1 t ∧
      Shape (addLruCreate flag S rest n).1 t ∧ (s0.followLru p).2 = (s0.followLru stems).2 := by
  induction rest with
  | nil =>
    intro n S p t i hs _
    obtain rfl : p = stems := List.append_nil p ▸ i.append
    exact ⟨t, i, hs, rfl⟩
  | cons x rest ih =>
    intro n S p t i hs hole
    rw [addLruCreate_cons]
    obtain ⟨i', hs', hole', hist⟩ := Ins.write_hole (!rest.isEmpty && flag) false h0 i hs
      (hole (List.cons_ne_nil _ _)) nofun nofun (Bool.or_false _) (markCanHave_false _ _).symm
    exact hist ▸ ih _ _ _ _ i' hs' fun _ => hole'

theorem addLru_eq (s : State) (stems : LRU) (flag : Bool) (D : State × Nat × List Stem × Hist)
    (hD : D = addLruDescend flag s stems 1 (decide (s.trie.size > 1)) 0 {}) :
    s.addLru stems flag = ((addLruCreate flag D.1 D.2.2.1 D.2.1).1, (addLruCreate flag D.1 D.2.2.1 D.2.1).2, D.2.2.2) := by
  subst hD; rfl

end

/-- `add_lru` is a run of `Ins` from the state and ghost tree it starts in, to the end of the stems; the history it
    returns is that of `follow_lru` before it -/
theorem addLru_run {s : State} {t : T} (h : Shape s t) (stems : LRU) (flag : Bool) (hne : stems ≠ []) :
    (∃ t', Ins stems flag s t stems [] (s.addLru stems flag).2.1 (s.addLru stems flag).1 t' ∧
      Shape (s.addLru stems flag).1 t') ∧ (s.addLru stems flag).2.2 = (s.followLru stems).2 := by
  have key : ∀ D : State × Nat × List Stem × Hist,
      D = addLruDescend flag s stems 1 (decide (s.trie.size > 1)) 0 {} →
      InsAt stems flag s t D := by
    intro D hD
    by_cases hsz : s.trie.size ≤ 1
    · -- empty trie: the first node is written by `ensureStem`
      have hsz1 : s.trie.size = 1 := Nat.le_antisymm hsz h.live
      obtain rfl := h.eq_nil hsz
      cases stems with
      | nil => exact absurd rfl hne
      | cons x rest =>
        obtain ⟨gr1, hcell, hent⟩ := grow_first h hsz1 x rest
        have he : s.ensureStem 1 false x = ((s.writeNew x 0 false).1, 1) :=
          (ensureStem_absent s 1 x).trans (Prod.ext rfl ((writeNew_idx s x 0 false).trans hsz1))
        rw [decide_eq_false (Nat.not_lt_of_le hsz), addLruDescend_cons_stop flag s x rest 1 false 0 {} _ _ he
          (Or.inr (by rw [hcell]; rfl)), hcell, show (headCell x 0 false).flags.noChild = true from rfl,
          Bool.and_true] at hD
        subst hD
        have ns := noStruct_markCanHave (s.writeNew x 0 false).1 1 (!rest.isEmpty && flag)
        have hs' := ns.shape gr1.shape
        refine .intro (.first rfl hsz1 rfl) hs' (fun _ => T.child_hole _ [] none none hs'.nodup ?_ rfl) ?_
        · rw [ns.entries]
          exact hent
        · unfold State.followLru; rw [if_pos hsz]; rfl
    · obtain ⟨hroot, htne⟩ := h.root_one hsz
      rw [decide_eq_true (Nat.lt_of_not_le hsz), ← hroot] at hD
      subst hD
      exact addLruDescend_ins h stems s t [] 0 {} h.rep htne h.size_le hne 0 .start (fun _ he => he)
        (fun hh => hh) rfl (followLru_nil s).symm
  rw [addLru_eq s stems flag _ rfl]
  obtain ⟨p, t1, i1, hs1, hole, hh⟩ := key _ rfl
  obtain ⟨t', i, hs', hist⟩ := addLruCreate_ins h _ _ _ _ _ i1 hs1 hole
  exact ⟨⟨t', i, hs'⟩, hh.trans hist⟩

theorem addLru_ins {s : State} {t : T} (h : Shape s t) (stems : LRU) (flag : Bool) (hne : stems ≠ []) :
    ∃ t', Ins stems flag s t stems [] (s.addLru stems flag).2.1 (s.addLru stems flag).1 t' ∧
      Shape (s.addLru stems flag).1 t' := (addLru_run h stems flag hne).1

theorem addLru_hist {s : State} {t : T} (h : Shape s t) (stems : LRU) (flag : Bool) (hne : stems ≠ []) :
    (s.addLru stems flag).2.2 = (s.followLru stems).2 := (addLru_run h stems flag hne).2

theorem addLru_grow_inv {I : State → T → Prop} (hI : InsInv I) {s : State} {t : T} (h : Shape s t) (hi : I s t)
    (stems : LRU) (flag : Bool) (hne : stems ≠ []) :
    ∃ t', Grow stems s t (s.addLru stems flag).1 t' ∧ I (s.addLru stems flag).1 t' ∧
      (stems, (s.addLru stems flag).2.1) ∈ t'.entries (s.addLru stems flag).1 [] := by
  obtain ⟨t', i, _⟩ := addLru_ins h stems flag hne
  exact ⟨t', (i.grow h).1, i.inv hI hi, (i.grow h).2 hne⟩

theorem addLru_grow {s : State} {t : T} (h : Shape s t) (stems : LRU) (flag : Bool) (hne : stems ≠ []) :
    ∃ t', Grow stems s t (s.addLru stems flag).1 t' ∧
      (stems, (s.addLru stems flag).2.1) ∈ t'.entries (s.addLru stems flag).1 [] := by
  obtain ⟨t', gr, _, hent⟩ := addLru_grow_inv InsInv.trivial h trivial stems flag hne
  exact ⟨t', gr, hent⟩

theorem addLru_shape {s : State} {t : T} (h : Shape s t) (stems : LRU) (flag : Bool) (hne : stems ≠ []) :
    let s' := (s.addLru stems flag).1
    let n  := (s.addLru stems flag).2.1
    ∃ t', Shape s' t' ∧
      (stems, n) ∈ t'.entries s' [] ∧
      (∀ p b, (p, b) ∈ t.entries s [] → (p, b) ∈ t'.entries s' []) ∧
      (∀ p b, (p, b) ∈ t'.entries s' [] → (p, b) ∈ t.entries s [] ∨
          (s.trie.size ≤ b ∧ ∃ k, 0 < k ∧ k ≤ stems.length ∧ p = stems.take k)) ∧
      (∀ a, a < s.trie.size → s'.stemAt a = s.stemAt a) := by
  intro s' n
  obtain ⟨t', gr, hent⟩ := addLru_grow h stems flag hne
  exact ⟨t', gr.shape, hent, gr.keep, gr.new, gr.stem⟩

theorem shape_of_trie_init (s : State) (h : s.trie = #[{}]) : Shape s .nil where
  live := by rw [h]; simp
  rep := trivial
  ord := trivial
  nodup := by simp [T.addrs]
  root := by rw [h]; simp
  closed := by unfold TailClosed State.cell; rw [h]; rfl

theorem shape_init : Shape ({} : State) .nil := shape_of_trie_init _ rfl

theorem shape_fresh (cfg : Config) (dflt : Rule) (log : List Write) :
    Shape (State.fresh cfg dflt [] log).1 .nil := shape_of_trie_init _ rfl

#print axioms addLru_shape
#print axioms shape_init
#print axioms shape_fresh

end Traph
