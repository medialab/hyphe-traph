import Proofs.CoLinkSym
import Proofs.ReachableAll
/-! C16 — the final state of any complete schedule is the state of the requests applied one after another.

    Blocks differ between schedules (the order in which pages are created is the order of the sections), so the
    comparison is made at the level of LRUs: page set, crawled set, and the weight `get_page_links` reports for
    every ordered pair of pages. `C16_final_links_sequential` compares the multigraphs, `C16_final_state` puts it
    together over every reachable start state. -/
namespace Traph
open State Layout

theorem cfin_links_filterMap : ∀ (reqs : List CoReq), (reqs.filterMap CoReq.op).flatMap Op.links = reqs.flatMap CoReq.links
  | [] => rfl
  | r :: reqs => by
    rw [List.flatMap_cons, ← cfin_links_filterMap reqs]
    cases ho : r.op with
    | none => rw [List.filterMap_cons_none ho, CoReq.links_of_op_none r ho, List.nil_append]
    | some o => rw [List.filterMap_cons_some ho, List.flatMap_cons, CoReq.links_op r o ho]

theorem cfin_nsub_perm {L₁ L₂ : List (Bytes × Bytes)} (h : L₁.Perm L₂) (p q : LRU) : nsub L₁ p q = nsub L₂ p q := by
  unfold nsub
  exact (h.filter _).length_eq

/-- the requests applied one after another, as atomic requests: the reached index is read back through `LinkView`
    for `L0` plus the links of the requests in that order -/
theorem cfin_sequential_view {s : State} {t : T} {L0 : List (Bytes × Bytes)} (hs : Shape s t) (hi : Inv s t)
    (hr : RulesOk s) (hp : ParOk s t 0) (g : Graph s t L0) (reqs : List CoReq) (hwf : ∀ r ∈ reqs, r.Wf)
    (hcanon : ∀ r ∈ reqs, r.Canon) :
    ∃ t'', LinkView (s.run (reqs.filterMap CoReq.op)) t'' (L0 ++ reqs.flatMap CoReq.links) := by
  obtain ⟨hnc, hopwf⟩ := cfin_ops_ok reqs hwf
  have hok := noKeyErr_of_rulesOk reqs s t hs hr hwf hcanon
  obtain ⟨t'', h2, i2, g2⟩ := run_graph (reqs.filterMap CoReq.op) s t L0 hs hi g hnc hopwf hok
  obtain ⟨t3, h3, p3⟩ := LinkBag.run_parKeeps (reqs.filterMap CoReq.op) s hnc t hs hp
  have e : t3 = t'' := Shape.unique h3 h2
  subst e
  rw [cfin_links_filterMap] at g2
  exact ⟨t3, h2, i2, p3, g2⟩

/-- **C16, the final link multigraph is the sequential one**: for every complete schedule and every order `reqs'` in
    which the requests could be applied one after another, both final indexes are read back through `LinkView`,
    every ordered pair of LRUs has been submitted the same number of times in both, the page sets agree, and
    `get_page_links` (any switches) reports the same triples (page, page, weight) for every page — as sets of
    triples, each triple once on either side. -/
theorem C16_final_links_sequential {s : State} {t : T} {L0 : List (Bytes × Bytes)} (hs : Shape s t) (hi : Inv s t)
    (hr : RulesOk s) (hp : ParOk s t 0) (g : Graph s t L0) (reqs : List CoReq) (hwf : ∀ r ∈ reqs, r.Wf)
    (hcanon : ∀ r ∈ reqs, r.Canon) (sched : Sched)
    (hdone : ∀ i r, reqs[i]? = some r → r.op ≠ none →
      ∃ a, (i, CoOut.done a) ∈ (Sys.run (s, reqs.map CoReq.init) sched).2)
    (reqs' : List CoReq) (hperm : reqs'.Perm reqs) :
    ∃ t' t'', LinkView (Sys.run (s, reqs.map CoReq.init) sched).1.1 t' (L0 ++ reqs.flatMap CoReq.links) ∧
      LinkView (s.run (reqs'.filterMap CoReq.op)) t'' (L0 ++ reqs'.flatMap CoReq.links) ∧
      (∀ p q, nsub (L0 ++ reqs.flatMap CoReq.links) p q = nsub (L0 ++ reqs'.flatMap CoReq.links) p q) ∧
      (∀ p, IsPage (Sys.run (s, reqs.map CoReq.init) sched).1.1 t' p ↔ IsPage (s.run (reqs'.filterMap CoReq.op)) t'' p) ∧
      (∀ p, IsCrawled (Sys.run (s, reqs.map CoReq.init) sched).1.1 t' p ↔
        IsCrawled (s.run (reqs'.filterMap CoReq.op)) t'' p) ∧
      (∀ p, IsPage (Sys.run (s, reqs.map CoReq.init) sched).1.1 t' p → ∀ incIn incInt incOut,
        ((Sys.run (s, reqs.map CoReq.init) sched).1.1.pageLinks p.flatten incIn incInt incOut).Perm
          ((s.run (reqs'.filterMap CoReq.op)).pageLinks p.flatten incIn incInt incOut)) := by
  obtain ⟨t', v, _⟩ := C16_final_graph hs hi hr hp g reqs hwf hcanon sched hdone
  have hwf' : ∀ r ∈ reqs', r.Wf := fun r hr' => hwf r (hperm.mem_iff.mp hr')
  have hcanon' : ∀ r ∈ reqs', r.Canon := fun r hr' => hcanon r (hperm.mem_iff.mp hr')
  obtain ⟨t'', v'⟩ := cfin_sequential_view hs hi hr hp g reqs' hwf' hcanon'
  obtain ⟨u', u'', hu', hu'', hpg, hcr⟩ :=
    C16_final_pages_sequential_rulesOk hs hi hr reqs hwf hcanon sched hdone reqs' hperm
  have e1 : u' = t' := Shape.unique hu' v.shape
  have e2 : u'' = t'' := Shape.unique hu'' v'.shape
  subst e1 e2
  have hns : ∀ p q, nsub (L0 ++ reqs.flatMap CoReq.links) p q = nsub (L0 ++ reqs'.flatMap CoReq.links) p q :=
    fun p q => cfin_nsub_perm ((hperm.symm.flatMap_right CoReq.links).append_left L0) p q
  refine ⟨u', u'', v, v', hns, hpg, hcr, fun p hpp incIn incInt incOut => ?_⟩
  have hpp' := (hpg p).mp hpp
  rw [List.perm_ext_iff_of_nodup (v.pageLinks_nodup hpp incIn incInt incOut)
    (v'.pageLinks_nodup hpp' incIn incInt incOut)]
  intro x
  rw [v.mem_pageLinks hpp, v'.mem_pageLinks hpp']
  simp only [hns]

/-- **C16, the final bags, block by block**: once every writer has returned, whatever the schedule, the out-list of
    block `a` holds block `b` exactly as many times as the pair (LRU of `a`, LRU of `b`) occurs in `L0` plus the links
    of the requests, and so does the in-list of `b` for `a` -/
theorem C16_final_bags {s : State} {t : T} {L0 : List (Bytes × Bytes)} (hs : Shape s t) (hi : Inv s t)
    (hr : RulesOk s) (hp : ParOk s t 0) (g : Graph s t L0) (reqs : List CoReq) (hwf : ∀ r ∈ reqs, r.Wf)
    (hcanon : ∀ r ∈ reqs, r.Canon) (sched : Sched)
    (hdone : ∀ i r, reqs[i]? = some r → r.op ≠ none →
      ∃ a, (i, CoOut.done a) ∈ (Sys.run (s, reqs.map CoReq.init) sched).2) :
    ∃ t', Graph (Sys.run (s, reqs.map CoReq.init) sched).1.1 t' (L0 ++ reqs.flatMap CoReq.links) ∧
      (∀ a b, count b ((Sys.run (s, reqs.map CoReq.init) sched).1.1.bag true a) =
        ncount (Sys.run (s, reqs.map CoReq.init) sched).1.1 (L0 ++ reqs.flatMap CoReq.links) a b) ∧
      (∀ a b, count a ((Sys.run (s, reqs.map CoReq.init) sched).1.1.bag false b) =
        ncount (Sys.run (s, reqs.map CoReq.init) sched).1.1 (L0 ++ reqs.flatMap CoReq.links) a b) ∧
      (Sys.run (s, reqs.map CoReq.init) sched).1.1.links.size = 1 + 2 * (L0 ++ reqs.flatMap CoReq.links).length := by
  obtain ⟨t', v, _⟩ := C16_final_graph hs hi hr hp g reqs hwf hcanon sched hdone
  exact ⟨t', v.graph, v.graph.out, v.graph.inn, v.graph.size⟩

/-- **C16, THE FINAL STATE, every schedule, every reachable start state.** Let `s` be any index reached from a fresh
    one by a history of well-formed requests following the API's discipline (`Reachable`), `reqs` any long-running
    requests (crawl batches, rule installations, queries of all nine kinds) that are well formed (`CoReq.Wf`) with
    complete rule anchors (`CoReq.Canon`), `sched` ANY schedule after which every writer has returned, and `reqs'`
    any order in which the requests could have been applied one after another. Then

      1. no writer ever failed (the only failure event of a writer is `StopIteration` of an exhausted generator);
      2. the final index is well formed and its rule flags are backed by RAM rules;
      3. its pages and crawled pages are those of the sequential run;
      4. every ordered pair of pages is linked with the same multiplicity as in the sequential run, and
         `get_page_links` answers the same triples for every page and all switches;
      5. inbound/outbound symmetry holds: block by block the out-lists and the in-lists are the same multigraph. -/
theorem C16_final_state {s : State} (hreach : Reachable s) (reqs : List CoReq) (hwf : ∀ r ∈ reqs, r.Wf)
    (hcanon : ∀ r ∈ reqs, r.Canon) (sched : Sched)
    (hdone : ∀ i r, reqs[i]? = some r → r.op ≠ none →
      ∃ a, (i, CoOut.done a) ∈ (Sys.run (s, reqs.map CoReq.init) sched).2)
    (reqs' : List CoReq) (hperm : reqs'.Perm reqs) :
    (∀ i r e, reqs[i]? = some r → r.op ≠ none →
      (i, CoOut.failed e) ∈ (Sys.run (s, reqs.map CoReq.init) sched).2 → e = .other "StopIteration") ∧
    ∃ L0 t' t'', LinkView (Sys.run (s, reqs.map CoReq.init) sched).1.1 t' (L0 ++ reqs.flatMap CoReq.links) ∧
      LinkView (s.run (reqs'.filterMap CoReq.op)) t'' (L0 ++ reqs'.flatMap CoReq.links) ∧
      RulesOk (Sys.run (s, reqs.map CoReq.init) sched).1.1 ∧
      (∀ p, IsPage (Sys.run (s, reqs.map CoReq.init) sched).1.1 t' p ↔ IsPage (s.run (reqs'.filterMap CoReq.op)) t'' p) ∧
      (∀ p, IsCrawled (Sys.run (s, reqs.map CoReq.init) sched).1.1 t' p ↔
        IsCrawled (s.run (reqs'.filterMap CoReq.op)) t'' p) ∧
      (∀ p q, nsub (L0 ++ reqs.flatMap CoReq.links) p q = nsub (L0 ++ reqs'.flatMap CoReq.links) p q) ∧
      (∀ p, IsPage (Sys.run (s, reqs.map CoReq.init) sched).1.1 t' p → ∀ incIn incInt incOut,
        ((Sys.run (s, reqs.map CoReq.init) sched).1.1.pageLinks p.flatten incIn incInt incOut).Perm
          ((s.run (reqs'.filterMap CoReq.op)).pageLinks p.flatten incIn incInt incOut)) ∧
      (∀ a b, count b ((Sys.run (s, reqs.map CoReq.init) sched).1.1.outBag a) =
        count a ((Sys.run (s, reqs.map CoReq.init) sched).1.1.inBag b)) := by
  obtain ⟨t, hs, hi, _, hp, _, _, _, hr, _, _, L0, g⟩ := reachable_invariants hreach
  obtain ⟨okf, hnf⟩ := C16_no_writer_fails hs hi hr reqs hwf hcanon sched
  obtain ⟨t', t'', v, v', hns, hpg, hcr, hpl⟩ :=
    C16_final_links_sequential hs hi hr hp g reqs hwf hcanon sched hdone reqs' hperm
  exact ⟨hnf, L0, t', t'', v, v', okf, hpg, hcr, hns, hpl, v.graph.symm⟩

#print axioms C16_final_bags
#print axioms C16_final_links_sequential
#print axioms C16_final_state

/-! The hypotheses are satisfiable: `C16_final_state` instantiated on the two-source batch of `SymEx`. -/

namespace SymEx

theorem reachable_s0 : Reachable s0 :=
  reachable_fresh {} .never [] [] (fun _ h => by simp at h) (fun _ h => by simp at h) trivial

theorem reqs_wf : ∀ r ∈ reqs, r.Wf := by
  intro r hr
  simp only [reqs, List.mem_singleton] at hr
  subst hr
  show (∀ d ∈ [(pA, [pB]), (pC, [pD])], lruIter d.1 ≠ [] ∧ ∀ x ∈ d.2, lruIter x ≠ []) ∧ _
  simp only [bytes]
  decide +kernel

theorem reqs_canon : ∀ r ∈ reqs, r.Canon := by
  intro r hr
  simp only [reqs, List.mem_singleton] at hr
  subst hr
  trivial

theorem all_done : ∀ i r, reqs[i]? = some r → r.op ≠ none →
    ∃ a, (i, CoOut.done a) ∈ (Sys.run (s0, reqs.map CoReq.init) [0, 0, 0, 0, 0]).2 := by
  intro i r hi _
  rw [trace]
  cases i with
  | zero => exact ⟨.report { pages := 4, we := [] }, by simp⟩
  | succ n => simp [reqs] at hi

theorem final_state_applies :
    ∀ a b, count b (fin.outBag a) = count a (fin.inBag b) := by
  -- `fin` unfolded first, as `after` in `Phantom.index_states`
  rw [fin]
  exact (C16_final_state reachable_s0 reqs reqs_wf reqs_canon [0, 0, 0, 0, 0] all_done reqs
    (List.Perm.refl _)).2.choose_spec.choose_spec.choose_spec.2.2.2.2.2.2.2

end SymEx

end Traph
