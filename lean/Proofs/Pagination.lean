import Proofs.PagPaths
/-! The paginated in-order traversal, called with the number of a route, returns exactly the
    items that sort after the node at the end of the route (`inorderGo_resume_route`); in particular it
    resumes exactly after the token's item (`inorderGo_resume`). A route (`Digits`, `T.routeLru`, Proofs/PagPaths) is a
    list of L=1 / C=2 / R=3 steps from the start node, its number `foldl base4Append 0`. Used downstream:
    `weInorder_resume(_route)`, `resume_no_repeat_no_skip`. -/
namespace Traph
open State

/-- no path at or below `path` is pruned by `can_follow_path` -/
def NoPrune (cmp : Bytes) (path : Nat) : Prop :=
  ∀ ds, Digits ds → canFollowPath cmp (ds.foldl base4Append path) = true

theorem NoPrune.here {cmp : Bytes} {path : Nat} (h : NoPrune cmp path) : canFollowPath cmp path = true :=
  h [] (by intro d hd; simp at hd)

theorem NoPrune.step {cmp : Bytes} {path : Nat} (h : NoPrune cmp path) (d : Nat) (hd : d = 1 ∨ d = 2 ∨ d = 3) :
    NoPrune cmp (base4Append path d) := by
  intro ds hds
  exact h (d :: ds) (by intro e he; simp at he; rcases he with rfl | he; exact hd; exact hds e he)

theorem noPrune_nil (path : Nat) : NoPrune [] path := by
  intro ds _
  simp [canFollowPath, lexLt_nil_right]

/-- where nothing is pruned, the paginated traversal is literally the filter of the un-paginated one -/
theorem inorderGo_noprune {s : State} (start : Nat) (cmp plru : Bytes) :
    ∀ (fuel b : Nat) (lru : Bytes) (path : Nat), NoPrune cmp path →
      s.inorderGo start (some (cmp, plru)) fuel b lru path
        = (s.inorderGo start none fuel b lru path).filter (fun it => lexLt plru it.2.1) := by
  intro fuel
  induction fuel with
  | zero => intro _ _ _ _; rfl
  | succ f ih =>
    intro b lru path hn
    have fi : ∀ (c : Prop) [Decidable c] (l : List (Nat × Bytes × Nat)),
        List.filter (fun it => lexLt plru it.2.1) (if c then l else []) =
          if c then List.filter (fun it => lexLt plru it.2.1) l else [] := by
      intro c _ l; split <;> rfl
    simp only [inorderGo_succ, pagPrunes, pagKeeps, hn.here, Bool.not_true, Bool.false_eq_true, if_false, if_true,
      List.filter_append, fi, List.filter_cons, List.filter_nil,
      ih _ _ _ (hn.step 1 (by simp)), ih _ _ _ (hn.step 2 (by simp)), ih _ _ _ (hn.step 3 (by simp))]
    rfl

theorem inorderGo_filter {s : State} (start : Nat) (plru : Bytes) (fuel b : Nat) (lru : Bytes) (path : Nat) :
    s.inorderGo start (some ([], plru)) fuel b lru path
      = (s.inorderGo start none fuel b lru path).filter (fun it => lexLt plru it.2.1) :=
  inorderGo_noprune start [] plru fuel b lru path (noPrune_nil path)

theorem dc_lt {d e : Nat} (hd : d = 1 ∨ d = 2 ∨ d = 3) (he : e = 1 ∨ e = 2 ∨ e = 3) (h : d < e) :
    digitChar d < digitChar e := by
  obtain ⟨d1, d2, d3⟩ := digitChar_123
  rcases hd with rfl | rfl | rfl <;> rcases he with rfl | rfl | rfl <;> simp only [d1, d2, d3] <;> omega

theorem canFollowPath_route (cmp : Bytes) (E : List Nat) (hE : Digits E) :
    canFollowPath cmp (E.foldl base4Append 0) = !lexLt (E.map digitChar) (cmp.take E.length) := by
  cases E with
  | nil => simp [canFollowPath, lexLt]
  | cons d rest =>
    have hne := path_ne_zero d rest hE
    have := intToBase4_path (d :: rest) hE (by simp)
    simp only [canFollowPath, if_neg hne]
    rw [this]; simp

theorem canFollow_prefix (E D' : List Nat) (hE : Digits E) :
    canFollowPath ((E ++ D').map digitChar) (E.foldl base4Append 0) = true := by
  rw [canFollowPath_route _ _ hE, List.map_append, List.take_left' (by simp)]
  simp [lexLt_irrefl]

theorem canFollow_beyond (D E' : List Nat) (h : Digits (D ++ E')) :
    canFollowPath (D.map digitChar) ((D ++ E').foldl base4Append 0) = true := by
  rw [canFollowPath_route _ _ h, List.take_of_length_le (by simp), List.map_append]
  have := lexLt_append_left (D.map digitChar) (E'.map digitChar) []
  rw [List.append_nil] at this
  rw [this, lexLt_nil_right]; rfl

theorem canFollow_after (P D' E' : List Nat) (d e : Nat) (hd : d = 1 ∨ d = 2 ∨ d = 3) (hlt : d < e)
    (h : Digits (P ++ e :: E')) :
    canFollowPath ((P ++ d :: D').map digitChar) ((P ++ e :: E').foldl base4Append 0) = true := by
  have he : e = 1 ∨ e = 2 ∨ e = 3 := h e (by simp)
  have := dc_lt hd he hlt
  rw [canFollowPath_route _ _ h]
  simp only [List.map_append, List.map_cons, List.take_append, List.length_append, List.length_map, List.length_cons]
  rw [List.take_of_length_le (by simp), Nat.add_sub_cancel_left, List.take_succ_cons, lexLt_append_left]
  have h1 : ¬ digitChar e < digitChar d := Nat.lt_asymm this
  have h2 : ¬ digitChar e = digitChar d := fun e => Nat.lt_irrefl _ (e ▸ this)
  simp [lexLt, h1, h2]

theorem canFollow_before (P D' : List Nat) (d e : Nat) (hd : d = 1 ∨ d = 2 ∨ d = 3) (hlt : e < d)
    (h : Digits (P ++ [e])) :
    canFollowPath ((P ++ d :: D').map digitChar) ((P ++ [e]).foldl base4Append 0) = false := by
  have he : e = 1 ∨ e = 2 ∨ e = 3 := h e (by simp)
  have := dc_lt he hd hlt
  rw [canFollowPath_route _ _ h]
  simp only [List.map_append, List.map_cons, List.take_append, List.length_append, List.length_map, List.length_cons,
    List.map_nil, List.length_nil]
  rw [List.take_of_length_le (by simp), Nat.add_sub_cancel_left, List.take_succ_cons, lexLt_append_left]
  simp [lexLt, this]

theorem foldl_route (E ds : List Nat) :
    ds.foldl base4Append (E.foldl base4Append 0) = (E ++ ds).foldl base4Append 0 := by
  rw [List.foldl_append]

/-- at or below the token's node nothing is pruned -/
theorem noPrune_beyond (D E' : List Nat) (h : Digits (D ++ E')) :
    NoPrune (D.map digitChar) ((D ++ E').foldl base4Append 0) := by
  intro ds hds
  rw [foldl_route, List.append_assoc]
  exact canFollow_beyond D (E' ++ ds) (by rw [← List.append_assoc]; exact h.append hds)

/-- after a divergence to the right of the token's route nothing is pruned -/
theorem noPrune_after (P D' : List Nat) (d e : Nat) (hd : d = 1 ∨ d = 2 ∨ d = 3) (hlt : d < e)
    (h : Digits (P ++ [e])) :
    NoPrune ((P ++ d :: D').map digitChar) ((P ++ [e]).foldl base4Append 0) := by
  intro ds hds
  have e1 : P ++ [e] ++ ds = P ++ e :: ds := by simp
  rw [foldl_route, e1]
  exact canFollow_after P D' ds d e hd hlt (by rw [← e1]; exact h.append hds)

/-- an item of the walk (`T.weInorder`): (block, full LRU, path number) -/
abbrev Item := Nat × Bytes × Nat

def SortedItems (l : List Item) : Prop := (l.map (·.2.1)).Pairwise (fun a b => lexLt a b = true)

theorem SortedItems.left {X Y : List Item} (h : SortedItems (X ++ Y)) : SortedItems X := by
  unfold SortedItems at h; rw [List.map_append, List.pairwise_append] at h; exact h.1

theorem SortedItems.right {X Y : List Item} (h : SortedItems (X ++ Y)) : SortedItems Y := by
  unfold SortedItems at h; rw [List.map_append, List.pairwise_append] at h; exact h.2.1

theorem SortedItems.cross {X Y : List Item} (h : SortedItems (X ++ Y)) :
    ∀ x ∈ X, ∀ y ∈ Y, lexLt x.2.1 y.2.1 = true := by
  unfold SortedItems at h; rw [List.map_append, List.pairwise_append] at h
  intro x hx y hy
  exact h.2.2 _ (List.mem_map.mpr ⟨x, hx, rfl⟩) _ (List.mem_map.mpr ⟨y, hy, rfl⟩)

theorem filter_nil_of_before (cur0 : Bytes) (X : List Item) (h : ∀ x ∈ X, lexLt x.2.1 cur0 = true) :
    X.filter (fun it => lexLt cur0 it.2.1) = [] := by
  rw [List.filter_eq_nil_iff]
  intro x hx
  rw [lexLt_asymm (h x hx)]; simp

/-! The three kinds of slot of a node on the route `E`, when the comparison path continues with the digit `e`
    (or ends at the node): a slot `d > e`, or any slot below the end of the route, is not pruned, nor is anything
    below it; a slot `d < e` is pruned, and holds only items before the end of the route; the slot `e` is the
    claim for the subtree. Each gives the hypothesis of `inorderGo_slot`. -/

theorem slot_noprune {s : State} (start : Nat) {cmp : Bytes} (cur0 : Bytes) {f : Nat} {u : T} (hr : Rep s u)
    (hf : u.height ≤ f) (x : Bytes) {path : Nat} (hn : NoPrune cmp path) (hne : u ≠ .nil) :
    s.inorderGo start (some (cmp, cur0)) f u.root x path
      = (u.weInorder s start x path).filter (fun it => lexLt cur0 it.2.1) := by
  rw [inorderGo_noprune start cmp cur0 f _ x path hn, inorderGo_eq_weInorder start u f x path hr hne hf]

theorem slot_pruned {s : State} (start : Nat) {cmp : Bytes} (cur0 : Bytes) (f : Nat) (u : T) (x : Bytes) {path : Nat}
    (hp : canFollowPath cmp path = false)
    (hb : ∀ it ∈ u.weInorder s start x path, lexLt it.2.1 cur0 = true) :
    s.inorderGo start (some (cmp, cur0)) f u.root x path
      = (u.weInorder s start x path).filter (fun it => lexLt cur0 it.2.1) := by
  rw [filter_nil_of_before _ _ hb]
  cases f with
  | zero => rfl
  | succ f => rw [inorderGo_succ, if_pos (by rw [pagPrunes, hp]; rfl)]

/-- resuming at a route: with the comparison path of a route that stays inside the tree, the paginated traversal
    is the un-paginated one filtered by the LRU at the end of the route — whether or not that node is itself an
    item of the walk -/
theorem inorderGo_resume_route {s : State} (start : Nat) (cur0 : Bytes) :
    ∀ (t : T) (lo hi : Option Stem) (lru : Bytes) (E D : List Nat) (fuel : Nat), Rep s t → t.height ≤ fuel →
      OrdT s t lo hi → AllWf s t → Digits E → Digits D → t.routeLru s D lru = some cur0 →
      s.inorderGo start (some (cmpOf ((E ++ D).foldl base4Append 0), cur0)) fuel t.root lru (E.foldl base4Append 0)
        = (t.weInorder s start lru (E.foldl base4Append 0)).filter (fun it => lexLt cur0 it.2.1) := by
  intro t
  induction t with
  | nil => intro _ _ _ _ _ _ _ _ _ _ _ _ h; cases h
  | node a l c r ihl ihc ihr =>
    intro lo hi lru E D fuel hr hf ho hw hE hD hroute
    obtain ⟨x1, _, x3⟩ := node_cross (lru := lru) ho hw
    obtain ⟨_, _, ol, or_, oc⟩ := ho
    obtain ⟨h1, h2, h3⟩ := hr.cell_eq
    obtain ⟨_, _, rl, rc, rr⟩ := hr
    obtain ⟨f, rfl⟩ := Nat.exists_eq_add_of_le' (Nat.le_trans (Nat.le_add_right 1 _) hf)
    have hM : max l.height (max c.height r.height) ≤ f :=
      Nat.le_of_add_le_add_left (Nat.add_comm f 1 ▸ hf : 1 + _ ≤ 1 + f)
    have fl := (Nat.max_le.mp hM).1
    obtain ⟨fc, fr⟩ := Nat.max_le.mp (Nat.max_le.mp hM).2
    have step : ∀ d, base4Append (E.foldl base4Append 0) d = (E ++ [d]).foldl base4Append 0 := by
      intro d; rw [List.foldl_append]; rfl
    have d1 : (1 : Nat) = 1 ∨ (1 : Nat) = 2 ∨ (1 : Nat) = 3 := Or.inl rfl
    have d2 : (2 : Nat) = 1 ∨ (2 : Nat) = 2 ∨ (2 : Nat) = 3 := Or.inr (Or.inl rfl)
    have d3 : (3 : Nat) = 1 ∨ (3 : Nat) = 2 ∨ (3 : Nat) = 3 := Or.inr (Or.inr rfl)
    have hE1 : Digits (E ++ [1]) := hE.append (Digits.nil.cons d1)
    have hE2 : Digits (E ++ [2]) := hE.append (Digits.nil.cons d2)
    have hE3 : Digits (E ++ [3]) := hE.append (Digits.nil.cons d3)
    have eapp : ∀ e D', (E ++ [e]) ++ D' = E ++ e :: D' := fun e D' => by rw [List.append_assoc]; rfl
    -- the subtree a route enters: the claim for that subtree
    have into : ∀ (e : Nat) (D' : List Nat) (u : T) (x : Bytes), Digits (E ++ [e]) → Digits D' →
        (∀ (E D : List Nat), Digits E → Digits D → u.routeLru s D x = some cur0 →
          s.inorderGo start (some (cmpOf ((E ++ D).foldl base4Append 0), cur0)) f u.root x (E.foldl base4Append 0)
            = (u.weInorder s start x (E.foldl base4Append 0)).filter (fun it => lexLt cur0 it.2.1)) →
        u.routeLru s D' x = some cur0 → u ≠ .nil →
        s.inorderGo start (some ((E ++ e :: D').map digitChar, cur0)) f u.root x ((E ++ [e]).foldl base4Append 0)
          = (u.weInorder s start x ((E ++ [e]).foldl base4Append 0)).filter (fun it => lexLt cur0 it.2.1) := by
      intro e D' u x hEe hD' ih hr _
      have := ih (E ++ [e]) D' hEe hD' hr
      rwa [eapp, cmpOf_path _ (eapp e D' ▸ hEe.append hD')] at this
    rw [cmpOf_path _ (hE.append hD), T.root_node, inorderGo_succ,
      if_neg (by rw [pagPrunes, canFollow_prefix E D hE]; exact Bool.false_ne_true), h1, h2, h3, T.weInorder]
    simp only [step, pagKeeps]
    cases D with
    | nil =>
      -- the route ends at this node: nothing at or below it is pruned
      rw [List.append_nil]
      exact node_assemble (fun it => lexLt cur0 it.2.1) a start ((s.cell a).we = 0) (a, lru ++ s.stemAt a, _) _ _ _ _ _ _
        (inorderGo_slot _ _ rl _ _ (slot_noprune start cur0 rl fl lru (noPrune_beyond E [1] hE1)))
        (inorderGo_slot _ _ rc _ _ (slot_noprune start cur0 rc fc _ (noPrune_beyond E [2] hE2)))
        (inorderGo_slot _ _ rr _ _ (slot_noprune start cur0 rr fr lru (noPrune_beyond E [3] hE3)))
    | cons d D' =>
      simp only [T.routeLru] at hroute
      rcases hD d List.mem_cons_self with rfl | rfl | rfl
      · -- the route goes into the left subtree
        rw [if_pos rfl] at hroute
        exact node_assemble (fun it => lexLt cur0 it.2.1) a start ((s.cell a).we = 0) (a, lru ++ s.stemAt a, _) _ _ _ _ _ _
          (inorderGo_slot _ _ rl _ _ (into 1 D' l lru hE1 hD.tail
            (fun E D => ihl _ _ lru E D f rl fl ol hw.left) hroute))
          (inorderGo_slot _ _ rc _ _ (slot_noprune start cur0 rc fc _ (noPrune_after E D' 1 2 d1 (by decide) hE2)))
          (inorderGo_slot _ _ rr _ _ (slot_noprune start cur0 rr fr lru (noPrune_after E D' 1 3 d1 (by decide) hE3)))
      · -- the route goes into the child subtree: the left subtree is pruned, and sorts before the end
        rw [if_neg (by decide), if_pos rfl] at hroute
        have hu := route_under c D' _ cur0 hroute
        exact node_assemble (fun it => lexLt cur0 it.2.1) a start ((s.cell a).we = 0) (a, lru ++ s.stemAt a, _) _ _ _ _ _ _
          (inorderGo_slot _ _ rl _ _ fun _ => slot_pruned start cur0 f l lru
            (canFollow_before E D' 2 1 d2 (by decide) hE1) fun x hx =>
              x1 _ _ (weInorder_under start l lru _ x hx) (hu.up.mono (by intro y hy; simp at hy; simp [hy])))
          (inorderGo_slot _ _ rc _ _ (into 2 D' c _ hE2 hD.tail
            (fun E D => ihc _ _ _ E D f rc fc oc hw.child) hroute))
          (inorderGo_slot _ _ rr _ _ (slot_noprune start cur0 rr fr lru (noPrune_after E D' 2 3 d2 (by decide) hE3)))
      · -- the route goes into the right subtree: left and child subtrees are pruned, and sort before the end
        rw [if_neg (by decide), if_neg (by decide)] at hroute
        have hu := route_under r D' _ cur0 hroute
        exact node_assemble (fun it => lexLt cur0 it.2.1) a start ((s.cell a).we = 0) (a, lru ++ s.stemAt a, _) _ _ _ _ _ _
          (inorderGo_slot _ _ rl _ _ fun _ => slot_pruned start cur0 f l lru
            (canFollow_before E D' 3 1 d3 (by decide) hE1) fun x hx =>
              x1 _ _ (weInorder_under start l lru _ x hx) (hu.mono (by intro y hy; simp [hy])))
          (inorderGo_slot _ _ rc _ _ fun _ => slot_pruned start cur0 f c _
            (canFollow_before E D' 3 2 d3 (by decide) hE2) fun x hx =>
              x3 _ _ (weInorder_under start c _ _ x hx).up hu)
          (inorderGo_slot _ _ rr _ _ (into 3 D' r lru hE3 hD.tail
            (fun E D => ihr _ _ lru E D f rr fr or_ hw.right) hroute))

/-- from the start node, the traversal paginated with the token of item `(b0, cur0, p0)` returns
    exactly the items of the un-paginated traversal that sort after `cur0` -/
theorem inorderGo_resume {s : State} {a : Nat} {l c r : T} {lo hi : Option Stem}
    (hr : Rep s (.node a l c r)) (ho : OrdT s (.node a l c r) lo hi) (hw : AllWf s (.node a l c r))
    (lru : Bytes) {b0 : Nat} {cur0 : Bytes} {p0 : Nat}
    (hmem : (b0, cur0, p0) ∈ (T.node a l c r).weInorder s a lru 0)
    (fuel : Nat) (hf : (T.node a l c r).height ≤ fuel) :
    s.inorderGo a (some (if p0 = 0 then [] else intToBase4 p0, cur0)) fuel a lru 0
      = ((T.node a l c r).weInorder s a lru 0).filter (fun it => lexLt cur0 it.2.1) := by
  obtain ⟨D, hD, (hp0 : p0 = _), hroute⟩ := weInorder_routeLru a _ lru 0 _ hmem
  have := inorderGo_resume_route (s := s) a cur0 (.node a l c r) lo hi lru [] D fuel hr hf ho hw Digits.nil hD hroute
  rwa [List.nil_append, ← hp0] at this

theorem sorted_filter_after (pre post : List Item) (it : Item) (hs : SortedItems (pre ++ it :: post)) :
    (pre ++ it :: post).filter (fun x => lexLt it.2.1 x.2.1) = post := by
  have hpre : ∀ x ∈ pre, lexLt x.2.1 it.2.1 = true := fun x hx => hs.cross x hx it (by simp)
  have hpost : ∀ x ∈ post, lexLt it.2.1 x.2.1 = true := by
    have := hs.right
    unfold SortedItems at this
    rw [List.map_cons, List.pairwise_cons] at this
    intro x hx
    exact this.1 _ (List.mem_map.mpr ⟨x, hx, rfl⟩)
  rw [List.filter_append, filter_nil_of_before _ pre hpre, List.filter_cons, lexLt_irrefl]
  simp only [Bool.false_eq_true, if_false, List.nil_append]
  exact List.filter_eq_self.mpr (fun x hx => hpost x hx)

theorem sorted_partition (c : Bytes) : ∀ (L : List Item), SortedItems L →
    L = L.filter (fun it => !lexLt c it.2.1) ++ L.filter (fun it => lexLt c it.2.1)
  | [], _ => rfl
  | x :: L, hs => by
    have hs' : SortedItems L := by
      unfold SortedItems at hs ⊢
      rw [List.map_cons, List.pairwise_cons] at hs; exact hs.2
    by_cases hx : lexLt c x.2.1 = true
    · have hall : ∀ y ∈ L, lexLt c y.2.1 = true := by
        intro y hy
        unfold SortedItems at hs
        rw [List.map_cons, List.pairwise_cons] at hs
        exact lexLt_trans hx (hs.1 _ (List.mem_map.mpr ⟨y, hy, rfl⟩))
      have h1 : (x :: L).filter (fun it => !lexLt c it.2.1) = [] := by
        rw [List.filter_eq_nil_iff]
        intro y hy
        rcases List.mem_cons.mp hy with rfl | hy
        · simp [hx]
        · simp [hall y hy]
      have h2 : (x :: L).filter (fun it => lexLt c it.2.1) = x :: L := by
        rw [List.filter_eq_self]
        intro y hy
        rcases List.mem_cons.mp hy with rfl | hy
        · exact hx
        · exact hall y hy
      rw [h1, h2]; rfl
    · have hx' : lexLt c x.2.1 = false := by simpa using hx
      have ih := sorted_partition c L hs'
      rw [List.filter_cons, List.filter_cons]
      simp only [hx', Bool.not_false, if_true, Bool.false_eq_true, if_false, List.cons_append]
      rw [← ih]

theorem sorted_split (L : List Item) (hs : SortedItems L) (tok : Item) (hm : tok ∈ L) :
    ∃ pre, L = pre ++ tok :: L.filter (fun it => lexLt tok.2.1 it.2.1) ∧
      ∀ it ∈ pre, lexLt it.2.1 tok.2.1 = true := by
  obtain ⟨pre, post, rfl⟩ := List.append_of_mem hm
  exact ⟨pre, by rw [sorted_filter_after pre post tok hs], fun it hit => hs.cross it hit tok List.mem_cons_self⟩

/-- no repeat, no skip: the un-paginated traversal is the items before the token's item, that item, and
    then exactly the resumed traversal -/
theorem resume_no_repeat_no_skip {s : State} {a : Nat} {l c r : T} {lo hi : Option Stem}
    (hr : Rep s (.node a l c r)) (ho : OrdT s (.node a l c r) lo hi) (hw : AllWf s (.node a l c r))
    (lru : Bytes) {b0 : Nat} {cur0 : Bytes} {p0 : Nat}
    (hmem : (b0, cur0, p0) ∈ (T.node a l c r).weInorder s a lru 0)
    (fuel : Nat) (hf : (T.node a l c r).height ≤ fuel) :
    ∃ pre, (T.node a l c r).weInorder s a lru 0
        = pre ++ (b0, cur0, p0) :: s.inorderGo a (some (if p0 = 0 then [] else intToBase4 p0, cur0)) fuel a lru 0 ∧
      ∀ it ∈ pre, lexLt it.2.1 cur0 = true := by
  rw [inorderGo_resume hr ho hw lru hmem fuel hf]
  exact sorted_split _ (weInorder_sorted a _ lo hi lru 0 ho hw) _ hmem

/-- the same as a partition by the pivot `cur0`: (items with lru ≤ cur0) ++ resumed -/
theorem resume_partition {s : State} {a : Nat} {l c r : T} {lo hi : Option Stem}
    (hr : Rep s (.node a l c r)) (ho : OrdT s (.node a l c r) lo hi) (hw : AllWf s (.node a l c r))
    (lru : Bytes) {b0 : Nat} {cur0 : Bytes} {p0 : Nat}
    (hmem : (b0, cur0, p0) ∈ (T.node a l c r).weInorder s a lru 0)
    (fuel : Nat) (hf : (T.node a l c r).height ≤ fuel) :
    (T.node a l c r).weInorder s a lru 0
      = ((T.node a l c r).weInorder s a lru 0).filter (fun it => !lexLt cur0 it.2.1)
        ++ s.inorderGo a (some (if p0 = 0 then [] else intToBase4 p0, cur0)) fuel a lru 0 := by
  rw [inorderGo_resume hr ho hw lru hmem fuel hf]
  exact sorted_partition cur0 _ (weInorder_sorted a _ lo hi lru 0 ho hw)

/-- `webentity_inorder_iter` called with the number of a route that stays inside the tree
    raises no exception and returns exactly the items of the walk sorting after the LRU at the end of the route -/
theorem weInorder_resume_route {s : State} {a : Nat} {l c r : T} {lo hi : Option Stem}
    (hr : Rep s (.node a l c r)) (ho : OrdT s (.node a l c r) lo hi) (hw : AllWf s (.node a l c r))
    (hsz : (T.node a l c r).size ≤ s.trie.size) (startLru : Bytes) {D : List Nat} (hD : Digits D) {cur0 : Bytes}
    (hroute : (T.node a l c r).routeLru s D (lruDirname startLru) = some cur0) :
    s.weInorder a startLru (some (D.foldl base4Append 0))
      = some (((T.node a l c r).weInorder s a (lruDirname startLru) 0).filter (fun it => lexLt cur0 it.2.1)) := by
  have hh := T.height_le_size (T.node a l c r)
  have hfp := followPath_of_routeLru _ D (lruDirname startLru) cur0 hr hD hroute
  rw [← cmpOf_path D hD] at hfp
  simp only [T.root_node, cmpOf] at hfp
  have h2 := inorderGo_resume_route (s := s) a cur0 (.node a l c r) lo hi (lruDirname startLru) [] D
    (s.trie.size + 1) hr (by omega) ho hw Digits.nil hD hroute
  simp only [T.root_node, List.nil_append, List.foldl_nil, cmpOf] at h2
  simp only [State.weInorder, hfp, h2]

/-- end to end: `webentity_inorder_iter(start, lru, pagination_path)` with the path of an item of the
    un-paginated traversal does not raise and returns the items after that item -/
theorem weInorder_resume {s : State} {a : Nat} {l c r : T} {lo hi : Option Stem}
    (hr : Rep s (.node a l c r)) (ho : OrdT s (.node a l c r) lo hi) (hw : AllWf s (.node a l c r))
    (hsz : (T.node a l c r).size ≤ s.trie.size) (startLru : Bytes) {b0 : Nat} {cur0 : Bytes} {p0 : Nat}
    (hmem : (b0, cur0, p0) ∈ (T.node a l c r).weInorder s a (lruDirname startLru) 0) :
    s.weInorder a startLru (some p0)
      = some (((T.node a l c r).weInorder s a (lruDirname startLru) 0).filter (fun it => lexLt cur0 it.2.1)) := by
  obtain ⟨D, hD, (hp0 : p0 = _), hroute⟩ := weInorder_routeLru a _ _ 0 _ hmem
  rw [hp0]
  exact weInorder_resume_route hr ho hw hsz startLru hD hroute

end Traph

section
open Traph
#print axioms inorderGo_filter
#print axioms inorderGo_noprune
#print axioms inorderGo_resume_route
#print axioms inorderGo_resume
#print axioms resume_no_repeat_no_skip
#print axioms resume_partition
#print axioms weInorder_resume_route
#print axioms weInorder_resume
end
