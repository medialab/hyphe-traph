import Proofs.CoRules
/-! `RulesOk` (every flagged rule anchor is a key of the RAM dictionary) holds of a fresh index whose constructor
    rules have complete LRUs as anchors, and is preserved by every atomic write request in `Op.keepsRules`: all but
    `remove_webentity_creation_rule`, reopening, `clear`, and a rule installation whose anchor is not a complete LRU
    (`rulesOk_run`; for every disciplined request, `StepOk`: `rulesOk_step_all`, Proofs/Discipline.lean). -/
namespace Traph
open State Layout

theorem rulesOk_of_trie_init (s : State) (ht : s.trie = #[{}]) : RulesOk s := by
  intro p b hne hnode _
  unfold State.lruNode at hnode
  rw [if_pos (by rw [ht]; decide)] at hnode
  cases hnode

theorem Paged.rulesOk {s s' : State} {rep : Report} {res : Except Err Report} (h : Paged s rep s' res) {t : T}
    (hs : Shape s t) (ok : RulesOk s) : (∃ t', Shape s' t' ∧ RulesOk s') ∧ ∃ r, res = .ok r := by
  induction h with
  | refl => exact ⟨⟨t, hs, ok⟩, _, rfl⟩
  | @page a rep1 l c _ ih =>
    obtain ⟨⟨t1, h1, ok1⟩, _⟩ := ih
    obtain ⟨r, hr⟩ := addPageCore_ok h1 ok1 l c
    exact ⟨(built_addPageCore (.refl (k := false) (wf := False) a) l c).rulesOk h1 ok1, rep1.add r, by rw [hr]; rfl⟩
  | crawl n _ ih =>
    obtain ⟨⟨t1, h1, ok1⟩, hr⟩ := ih
    exact ⟨rulesOk_flagWrite h1 n _ (fun _ => ⟨rfl, rfl, rfl, rfl, rfl⟩) (fun _ => rfl) ok1, hr⟩
  | stubs p ts o _ ih =>
    obtain ⟨⟨t1, h1, ok1⟩, hr⟩ := ih
    exact ⟨⟨t1, (keeps_addStubs h1 p ts o).shape, rulesOk_addStubs h1 p ts o ok1⟩, hr⟩

theorem rulesOk_ensurePageCached {s : State} {t : T} (h : Shape s t) (acc : LinkAcc) (l : Bytes) (c : Bool)
    (ok : RulesOk s) : RulesOk (s.ensurePageCached acc l c).1 :=
  have ⟨⟨_, _, ok'⟩, _⟩ := (paged_ensurePageCached s acc l c).rulesOk h ok
  ok'

theorem ensurePageCached_ok {s : State} {t : T} (h : Shape s t) (ok : RulesOk s) (acc : LinkAcc) (l : Bytes)
    (c : Bool) : ∃ acc', (s.ensurePageCached acc l c).2 = .ok acc' :=
  have ⟨_, _, hr⟩ := (paged_ensurePageCached s acc l c).rulesOk h ok
  have ⟨acc', e, _⟩ := Except.map_eq_ok hr
  ⟨acc', e⟩

theorem batch_ok {s : State} {t : T} (h : Shape s t) (ok : RulesOk s) (data : List (Bytes × List Bytes)) :
    ∃ r, (s.batch data).2 = .ok r := ((paged_batch s data).rulesOk h ok).2

/-- `add_webentity_creation_rule(prefix, pattern)` with a complete LRU as prefix keeps `RulesOk` and does not
    fail: once the anchor is installed, the re-insertion walk changes no rule -/
theorem addRule_sound {s : State} {t : T} (h : Shape s t) (ok : RulesOk s) (anchor : Bytes) (r : Rule)
    (hne : lruIter anchor ≠ []) (hcanon : (lruIter anchor).flatten = anchor) :
    RulesOk (s.addRule anchor r true).1 ∧ ∃ rp, (s.addRule anchor r true).2 = .ok rp := by
  obtain ⟨t2, k2, _⟩ := rulePrologue_keeps h anchor r
  exact ((paged_addRule s anchor r).rulesOk k2.shape (rulesOk_installAnchor h anchor r hne hcanon ok)).imp
    (fun ⟨_, _, ok3⟩ => ok3) id

theorem rulesOk_addRule {s : State} {t : T} (h : Shape s t) (anchor : Bytes) (r : Rule)
    (hne : lruIter anchor ≠ []) (hcanon : (lruIter anchor).flatten = anchor) (ok : RulesOk s) :
    RulesOk (s.addRule anchor r true).1 := (addRule_sound h ok anchor r hne hcanon).1

theorem addRule_ok {s : State} {t : T} (h : Shape s t) (ok : RulesOk s) (anchor : Bytes) (r : Rule)
    (hne : lruIter anchor ≠ []) (hcanon : (lruIter anchor).flatten = anchor) :
    ∃ rp, (s.addRule anchor r true).2 = .ok rp := (addRule_sound h ok anchor r hne hcanon).2

theorem rulesOk_installRules (rules : List (Bytes × Rule)) (s : State) (t : T) (h : Shape s t)
    (hc : ∀ ar ∈ rules, lruIter ar.1 ≠ [] ∧ (lruIter ar.1).flatten = ar.1) (ok : RulesOk s) :
    RulesOk (installRules s rules true).1 :=
  have ⟨_, _, ok'⟩ := installRules_ind (P := fun s => ∃ t, Shape s t ∧ RulesOk s) true rules s
    (fun s ar har ⟨_, h, ok⟩ =>
      have ⟨t1, x1⟩ := (built_addRule (.refl (k := false) (wf := False) s) ar.1 ar.2 true).ext h
      ⟨t1, x1.shape, rulesOk_addRule h ar.1 ar.2 (hc ar har).1 (hc ar har).2 ok⟩) ⟨t, h, ok⟩
  ok'

theorem rulesOk_fresh (cfg : Config) (dflt : Rule) (rules : List (Bytes × Rule)) (log : List Write)
    (hc : ∀ ar ∈ rules, lruIter ar.1 ≠ [] ∧ (lruIter ar.1).flatten = ar.1) :
    RulesOk (State.fresh cfg dflt rules log).1 := by
  have h0 : Shape ({ cfg := cfg, dflt := dflt, log := .linkHdr :: .hdr 0 :: log } : State) .nil :=
    shape_of_trie_init _ rfl
  exact rulesOk_installRules rules _ .nil h0 hc (rulesOk_of_trie_init _ rfl)

def Op.keepsRules : Op → Prop
  | .addRule a _ => lruIter a ≠ [] ∧ (lruIter a).flatten = a
  | .removeRule _ => False
  | .reopen _ _ => False
  | .clear _ _ => False
  | _ => True

theorem Op.keepsRules_ne_clear {op : Op} (h : op.keepsRules) : ∀ d rs, op ≠ .clear d rs := by
  intro d rs e; subst e; exact h

theorem rulesOk_step {s : State} {t : T} (h : Shape s t) (op : Op) (hop : op.keepsRules) (ok : RulesOk s) :
    RulesOk (s.step op).1 := by
  cases hrc : op.ruleChange with
  | false =>
    obtain ⟨N, b⟩ := built_step (k := true) (ru := false) (wf := False) s op (Op.keepsRules_ne_clear hop)
      False.elim (fun _ => rfl) (fun e => by rw [hrc] at e; cases e)
    have ⟨_, _, ok'⟩ := (b.across (rulesOk_across true False) trivial).1 t h ok
    exact ok'
  | true =>
    cases op with
    | addRule a r => simp only [step_addRule]; exact rulesOk_addRule h a r hop.1 hop.2 ok
    | removeRule a => exact absurd hop id
    | reopen d rs => exact absurd hop id
    | _ => cases hrc

theorem rulesOk_run_from : ∀ (ops : List Op) (s : State) (t : T), Shape s t → (∀ op ∈ ops, op.keepsRules) →
    RulesOk s → RulesOk (s.run ops) := by
  intro ops
  induction ops with
  | nil => exact fun _ _ _ _ ok => ok
  | cons op ops ih =>
    intro s t h hk ok
    obtain ⟨t1, h1, _⟩ := shape_step_any s t h op (Op.keepsRules_ne_clear (hk op (by simp)))
    rw [run_cons]
    exact ih _ t1 h1 (fun o ho => hk o (by simp [ho])) (rulesOk_step h op (hk op (by simp)) ok)

theorem rulesOk_run (cfg : Config) (dflt : Rule) (rules : List (Bytes × Rule)) (ops : List Op)
    (hc : ∀ ar ∈ rules, lruIter ar.1 ≠ [] ∧ (lruIter ar.1).flatten = ar.1) (hk : ∀ op ∈ ops, op.keepsRules) :
    RulesOk ((State.fresh cfg dflt rules []).1.run ops) := by
  obtain ⟨t0, h0, _⟩ := fresh_spec cfg dflt rules []
  exact rulesOk_run_from ops _ t0 h0 hk (rulesOk_fresh cfg dflt rules [] hc)

#print axioms rulesOk_fresh
#print axioms rulesOk_step
#print axioms rulesOk_run
#print axioms batch_ok
#print axioms addRule_ok

end Traph
