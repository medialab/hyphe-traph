import Proofs.LayoutOk
import Proofs.StorageSim
import Proofs.Chunks
/-! Round-trip theorems for the binary codec of `Traph/Bytes.lean`: field by field, then, through `storeBlocks`, block by
    block for the two files: `decodeCell_encodeCell`, `decodeStub_encodeStub` under `Cell.Wf` / `Stub.Wf`;
    `decodeTrieImage_encodeTrie`, `decodeLinksImage_encodeLinks` under `State.WfImage`. -/
namespace Traph
open Layout LayoutOk

theorem ofLE_toLE (n k : Nat) (h : n < 256 ^ k) : ofLE (toLE n k) = n := by
  induction k generalizing n with
  | zero =>
    have : n = 0 := by simpa using h
    subst this; rfl
  | succ k ih =>
    have h' : n / 256 < 256 ^ k := by
      apply Nat.div_lt_of_lt_mul
      rw [Nat.pow_succ] at h
      omega
    simp only [toLE, ofLE, ih _ h']
    omega

theorem toLE_bytes (n k : Nat) : ∀ b ∈ toLE n k, b < 256 := by
  induction k generalizing n with
  | zero => intro b hb; simp [toLE] at hb
  | succ k ih =>
    intro b hb
    simp only [toLE, List.mem_cons] at hb
    rcases hb with rfl | hb
    · omega
    · exact ih _ b hb

theorem b2n_le (b : Bool) : b2n b ≤ 1 := by cases b <;> decide

theorem bitAt_zero (b : Bool) (r : Nat) : bitAt (b2n b + 2 * r) 0 = b := by
  rw [bitAt, Nat.pow_zero, Nat.div_one, Nat.add_mul_mod_self_left]
  cases b <;> rfl

theorem bitAt_succ (b : Bool) (r i : Nat) : bitAt (b2n b + 2 * r) (i + 1) = bitAt r i := by
  rw [bitAt, bitAt, Nat.pow_succ, Nat.mul_comm (2 ^ i), ← Nat.div_div_eq_div_mul,
    Nat.add_mul_div_left _ _ (by decide), Nat.div_eq_of_lt (Nat.lt_succ_of_le (b2n_le b)), Nat.zero_add]

/-- the flag byte is the binary numeral whose digits are the flags, lowest first -/
theorem Flags.encode_eq (f : Flags) :
    f.encode = b2n f.page + 2 * (b2n f.crawled + 2 * (b2n f.linked + 2 * (b2n f.deleted + 2 * (b2n f.rule +
      2 * (b2n f.hasTail + 2 * (b2n f.isTail + 2 * (b2n f.noChild + 2 * 0))))))) := by
  simp only [Flags.encode, fPage, fCrawled, fLinked, fDeleted, fRule, fHasTail, fIsTail, fNoChild,
    Nat.mul_add, ← Nat.mul_assoc, Nat.reduceMul, Nat.reducePow, Nat.mul_zero, Nat.add_zero, Nat.one_mul, Nat.add_assoc, Nat.mul_comm (b2n _)]

theorem Flags.decode_encode (f : Flags) : Flags.decode f.encode = f := by
  rw [Flags.encode_eq]
  simp only [Flags.decode, fPage, fCrawled, fLinked, fDeleted, fRule, fHasTail, fIsTail, fNoChild,
    bitAt_succ, bitAt_zero]

theorem Flags.encode_lt (f : Flags) : f.encode < 256 :=
  have le (b : Bool) (w : Nat) : b2n b * w ≤ w := by simpa using Nat.mul_le_mul_right w (b2n_le b)
  calc f.encode
      ≤ 2 ^ fPage + 2 ^ fCrawled + 2 ^ fLinked + 2 ^ fDeleted + 2 ^ fRule + 2 ^ fHasTail + 2 ^ fIsTail +
        2 ^ fNoChild :=
        Nat.add_le_add (Nat.add_le_add (Nat.add_le_add (Nat.add_le_add (Nat.add_le_add (Nat.add_le_add
          (Nat.add_le_add (le _ _) (le _ _)) (le _ _)) (le _ _)) (le _ _)) (le _ _)) (le _ _)) (le _ _)
    _ < 256 := by decide

@[simp] theorem zeros_length (n : Nat) : (zeros n).length = n := by simp [zeros]

theorem zeros_bytes (n : Nat) : ∀ b ∈ zeros n, b < 256 := by
  intro b hb
  simp [zeros] at hb
  omega

theorem encodePascal_length (f : Nat) (s : Bytes) (hf : 0 < f) : (encodePascal f s).length = f := by
  simp only [encodePascal, List.length_cons, List.length_append, zeros_length, List.length_take]
  omega

theorem encodePascal_bytes (f : Nat) (s : Bytes) (hf : f ≤ 256) (hs : ∀ b ∈ s, b < 256) :
    ∀ b ∈ encodePascal f s, b < 256 := by
  intro b hb
  simp only [encodePascal, List.cons_append, List.mem_cons, List.mem_append] at hb
  rcases hb with rfl | hb | hb
  · simp only [List.length_take]; omega
  · exact hs b (List.mem_of_mem_take hb)
  · exact zeros_bytes _ b hb

theorem decodePascal_encodePascal (f : Nat) (s rest : Bytes) (h : s.length ≤ f - 1) :
    decodePascal f (encodePascal f s ++ rest) = s := by
  have hs : s.take (f - 1) = s := List.take_of_length_le h
  simp only [encodePascal, decodePascal, hs, List.cons_append, List.append_assoc]
  rw [List.take_take, Nat.min_eq_left h, List.take_left']
  rfl

theorem slice_mid (pre x post : Bytes) (off w : Nat) (h1 : pre.length = off) (h2 : x.length = w) :
    slice (pre ++ x ++ post) off w = x := by
  subst h1 h2
  simp [slice]

theorem slice_last (pre x : Bytes) (off w : Nat) (h1 : pre.length = off) (h2 : x.length = w) :
    slice (pre ++ x) off w = x := by
  have := slice_mid pre x [] off w h1 h2
  simpa using this

/-- the fields fit their widths: the stem chunk (of bytes < 256) its slot, the id 32 bits, every pointer as a byte offset 64 bits -/
def Cell.Wf (c : Cell) : Prop :=
  c.chunk.length ≤ Layout.stemCap ∧ (∀ b ∈ c.chunk, b < 256) ∧ c.we < 2 ^ 32 ∧
  c.left * Layout.trieBlock < 2 ^ 64 ∧ c.right * Layout.trieBlock < 2 ^ 64 ∧
  c.child * Layout.trieBlock < 2 ^ 64 ∧ c.parent * Layout.trieBlock < 2 ^ 64 ∧
  c.out * Layout.linkBlock < 2 ^ 64 ∧ c.inn * Layout.linkBlock < 2 ^ 64

/-- the length does not depend on well-formedness (over-long chunks are truncated, numbers wrap) -/
theorem encodeCell_length' (c : Cell) : (encodeCell c).length = Layout.trieBlock := by
  simp +decide only [encodeCell, List.length_append, encodePascal_length, zeros_length, toLE_length,
    List.length_singleton]

theorem encodeCell_length (c : Cell) (h : c.Wf) : (encodeCell c).length = Layout.trieBlock :=
  have _ := h
  encodeCell_length' c

theorem encodeCell_bytes (c : Cell) (h : c.Wf) : ∀ b ∈ encodeCell c, b < 256 := by
  obtain ⟨_, hb, _⟩ := h
  simp only [encodeCell, List.forall_mem_append]
  refine ⟨⟨⟨⟨⟨⟨⟨⟨⟨⟨⟨?_, ?_⟩, ?_⟩, ?_⟩, ?_⟩, ?_⟩, ?_⟩, ?_⟩, ?_⟩, ?_⟩, ?_⟩, ?_⟩
  · exact encodePascal_bytes _ _ (by decide) hb
  · exact zeros_bytes _
  · intro b hb; simp only [List.mem_singleton] at hb; subst hb; exact Flags.encode_lt _
  · exact zeros_bytes _
  · exact toLE_bytes _ _
  · exact zeros_bytes _
  all_goals exact toLE_bytes _ _

theorem zeros_zero : zeros 0 = [] := rfl

theorem slice_append_left (l r : Bytes) (off w : Nat) (h : off + w ≤ l.length) :
    slice (l ++ r) off w = slice l off w := by
  rw [slice, slice, List.drop_append_of_le_length (Nat.le_trans (Nat.le_add_right _ _) h),
    List.take_append_of_le_length (by rw [List.length_drop]; exact Nat.le_sub_of_add_le' h)]

theorem headD_drop (b : Bytes) (off : Nat) : (b.drop off).headD 0 = (slice b off 1).headD 0 := by
  rw [slice]; cases b.drop off <;> rfl

theorem pow32 : (2 : Nat) ^ 32 = 256 ^ 4 := by decide
theorem pow64 : (2 : Nat) ^ 64 = 256 ^ 8 := by decide

theorem ptr_roundtrip (i blk : Nat) (hb : 0 < blk) (h : i * blk < 2 ^ 64) :
    ofLE (toLE (i * blk) 8) / blk = i := by
  rw [ofLE_toLE _ _ (by rw [← pow64]; exact h)]
  exact Nat.mul_div_cancel _ hb

theorem decodeCell_encodeCell (c : Cell) (h : c.Wf) : decodeCell (encodeCell c) = c := by
  obtain ⟨h1, _, hwe, hl, hr, hc, hp, ho, hi⟩ := h
  have e1 : decodePascal stemField ((encodeCell c).drop offStem) = c.chunk := by
    simp only [encodeCell, List.append_assoc, offStem, List.drop_zero]
    exact decodePascal_encodePascal _ _ _ h1
  unfold decodeCell
  rw [e1, headD_drop]
  /- A field of an encoded block is read by cutting off the fields after it (`slice_append_left`, as long as its
     side condition holds) until it is the last (`slice_last`); the side conditions are closed sums of widths of
     the generated layout, which `decide` evaluates. -/
  simp +decide only [encodeCell, slice_append_left, slice_last, List.length_append, encodePascal_length,
    zeros_length, toLE_length, List.length_singleton]
  rw [List.headD_cons, Flags.decode_encode, ofLE_toLE _ _ (by rw [← pow32]; exact hwe),
    ptr_roundtrip _ _ (by decide) hl, ptr_roundtrip _ _ (by decide) hr,
    ptr_roundtrip _ _ (by decide) hc, ptr_roundtrip _ _ (by decide) hp,
    ptr_roundtrip _ _ (by decide) ho, ptr_roundtrip _ _ (by decide) hi]

/-- both pointers, as byte offsets, fit 64 bits -/
def Stub.Wf (s : Stub) : Prop :=
  s.target * Layout.trieBlock < 2 ^ 64 ∧ s.prev * Layout.linkBlock < 2 ^ 64

theorem encodeStub_length' (s : Stub) : (encodeStub s).length = Layout.linkBlock := by
  simp +decide only [encodeStub, List.length_append, toLE_length]

theorem encodeStub_length (s : Stub) (h : s.Wf) : (encodeStub s).length = Layout.linkBlock :=
  have _ := h
  encodeStub_length' s

theorem decodeStub_encodeStub (s : Stub) (h : s.Wf) : decodeStub (encodeStub s) = s := by
  obtain ⟨ht, hp⟩ := h
  have e1 : slice (encodeStub s) offTarget widthTarget = toLE (s.target * trieBlock) widthTarget :=
    slice_mid [] (toLE _ _) _ _ _ rfl (toLE_length _ _)
  have e2 : slice (encodeStub s) offPrev widthPrev = toLE (s.prev * linkBlock) widthPrev :=
    slice_last _ _ _ _ (toLE_length _ _) (toLE_length _ _)
  unfold decodeStub
  rw [e1, e2, ptr_roundtrip _ _ (by decide) ht, ptr_roundtrip _ _ (by decide) hp]

theorem decodeTrieHeaderId_encode (id : Nat) (h : id < 2 ^ 32) :
    decodeTrieHeaderId (encodeTrieHeader id) = id := by
  have e : slice (encodeTrieHeader id) hdrOffId hdrWidthId = toLE id hdrWidthId := by
    simp +decide only [encodeTrieHeader, slice_append_left, slice_last, List.length_append, zeros_length,
      toLE_length]
  unfold decodeTrieHeaderId
  rw [e]
  exact ofLE_toLE _ _ (by rw [← pow32]; exact h)

/-- cutting a file into blocks is the loop that cuts a stem into chunks -/
theorem blocksGo_eq_chunksGo : blocksGo = chunksGo := by
  funext n fuel b
  induction fuel generalizing b with
  | zero => rfl
  | succ f ih => rw [blocksGo, chunksGo, ih]

theorem blocks_flatten (n : Nat) (hn : 0 < n) (l : List Bytes) (h : ∀ x ∈ l, x.length = n) :
    blocks n l.flatten = l := by
  have hk : (l.length * n + n - 1) / n = l.length := by
    rw [Nat.add_sub_assoc hn, Nat.add_comm, Nat.add_mul_div_right _ _ hn, Nat.div_eq_of_lt (Nat.sub_lt hn Nat.one_pos),
      Nat.zero_add]
  rw [blocks, blocksGo_eq_chunksGo, chunksGo_eq n hn _ _ (Nat.lt_succ_self _), flatten_length_of_uniform n l h, hk]
  -- piece `i` of the concatenation of `n`-byte blocks is block `i`
  refine List.ext_getElem (by rw [List.length_map, List.length_range]) fun i _ hi => ?_
  rw [List.getElem_map, List.getElem_range, piece, flatten_take_drop n l h, List.getElem?_eq_getElem hi]
  rfl

theorem map_roundtrip {α β : Type} (f : α → β) (g : β → α) (l : List α) (h : ∀ x ∈ l, g (f x) = x) :
    (l.map f).map g = l := by
  induction l with
  | nil => rfl
  | cons x xs ih =>
    simp only [List.map_cons, h x (by simp), ih (fun y hy => h y (by simp [hy]))]

/-- both stores have their header block, the id counter fits 32 bits, every other block is `Wf` -/
def State.WfImage (s : State) : Prop :=
  0 < s.trie.size ∧ 0 < s.links.size ∧ s.hdrId < 2 ^ 32 ∧
  (∀ c ∈ s.trie.toList.drop 1, c.Wf) ∧ (∀ b ∈ s.links.toList.drop 1, b.Wf)

/-- the blocks of a store whose decoded content is `a`: the header block, then the encoding of every entry after
    entry 0 (which stands for the header block) -/
def storeBlocks {α : Type} (hdr : Bytes) (enc : α → Bytes) (a : Array α) : List Bytes :=
  if a.size = 0 then [] else hdr :: (a.toList.drop 1).map enc

section store
variable {α : Type} (hdr : Bytes) (enc : α → Bytes) (a : Array α)

theorem storeBlocks_pos (h : a.size ≠ 0) : storeBlocks hdr enc a = hdr :: (a.toList.drop 1).map enc := if_neg h

theorem storeBlocks_length : (storeBlocks hdr enc a).length = a.size := by
  unfold storeBlocks
  split
  · rename_i h; rw [h]; rfl
  · rename_i h
    rw [List.length_cons, List.length_map, List.length_drop, Array.length_toList]
    exact Nat.sub_add_cancel (Nat.pos_of_ne_zero h)

theorem storeBlocks_mem {x : Bytes} (h : x ∈ storeBlocks hdr enc a) : x = hdr ∨ ∃ c, x = enc c := by
  unfold storeBlocks at h
  split at h
  · cases h
  · rcases List.mem_cons.mp h with rfl | h
    · exact Or.inl rfl
    · obtain ⟨c, _, rfl⟩ := List.mem_map.mp h
      exact Or.inr ⟨c, rfl⟩

theorem storeBlocks_uniform {bs : Nat} (hh : hdr.length = bs) (he : ∀ c, (enc c).length = bs) :
    ∀ x ∈ storeBlocks hdr enc a, x.length = bs := fun x hx => by
  rcases storeBlocks_mem hdr enc a hx with rfl | ⟨c, rfl⟩
  · exact hh
  · exact he c

end store

theorem encodeTrie_blocks (s : State) :
    encodeTrie s = (storeBlocks (encodeTrieHeader s.hdrId) encodeCell s.trie).flatten := by
  unfold encodeTrie storeBlocks
  split <;> rfl

theorem encodeLinks_blocks (s : State) : encodeLinks s = (storeBlocks encodeLinkHeader encodeStub s.links).flatten := by
  unfold encodeLinks storeBlocks
  split <;> rfl

theorem trieBlocks_uniform (s : State) :
    ∀ x ∈ encodeTrieHeader s.hdrId :: (s.trie.toList.drop 1).map encodeCell, x.length = trieBlock := by
  intro x hx
  rcases List.mem_cons.mp hx with rfl | hx
  · exact encodeTrieHeader_length _
  · obtain ⟨c, _, rfl⟩ := List.mem_map.mp hx
    exact encodeCell_length' c

theorem linkBlocks_uniform (s : State) :
    ∀ x ∈ encodeLinkHeader :: (s.links.toList.drop 1).map encodeStub, x.length = linkBlock := by
  intro x hx
  rcases List.mem_cons.mp hx with rfl | hx
  · exact encodeLinkHeader_length
  · obtain ⟨c, _, rfl⟩ := List.mem_map.mp hx
    exact encodeStub_length' c

/-- the trie file of ANY state is `trie.size` blocks of 128 bytes: the encoders are fixed-width (over-long chunks
    are truncated, numbers wrap), so no capacity hypothesis is needed for the LENGTHS -/
theorem encodeTrie_length' (s : State) : (encodeTrie s).length = s.trie.size * Layout.trieBlock := by
  rw [encodeTrie_blocks, flatten_length_of_uniform _ _ (storeBlocks_uniform _ _ _ (encodeTrieHeader_length _) encodeCell_length'),
    storeBlocks_length]

theorem encodeLinks_length' (s : State) : (encodeLinks s).length = s.links.size * Layout.linkBlock := by
  rw [encodeLinks_blocks, flatten_length_of_uniform _ _ (storeBlocks_uniform _ _ _ encodeLinkHeader_length encodeStub_length'),
    storeBlocks_length]

theorem encodeTrie_length (s : State) (h : s.WfImage) :
    (encodeTrie s).length = s.trie.size * Layout.trieBlock :=
  have _ := h
  encodeTrie_length' s

theorem encodeLinks_length (s : State) (h : s.WfImage) :
    (encodeLinks s).length = s.links.size * Layout.linkBlock :=
  have _ := h
  encodeLinks_length' s

theorem decodeTrieImage_encodeTrie (s : State) (h : s.WfImage) :
    decodeTrieImage (encodeTrie s) = (s.hdrId, (({} : Cell) :: s.trie.toList.drop 1).toArray) := by
  obtain ⟨_, _, hid, hc, _⟩ := id h
  unfold decodeTrieImage
  rw [encodeTrie_blocks, blocks_flatten _ (by decide) _ (storeBlocks_uniform _ _ _ (encodeTrieHeader_length _) encodeCell_length'),
    storeBlocks_pos _ _ _ (Nat.ne_of_gt h.1)]
  simp only []
  rw [decodeTrieHeaderId_encode _ hid,
    map_roundtrip encodeCell decodeCell _ (fun c hm => decodeCell_encodeCell c (hc c hm))]

theorem decodeLinksImage_encodeLinks (s : State) (h : s.WfImage) :
    decodeLinksImage (encodeLinks s) = (({} : Stub) :: s.links.toList.drop 1).toArray := by
  obtain ⟨_, _, _, _, hb⟩ := id h
  unfold decodeLinksImage
  rw [encodeLinks_blocks, blocks_flatten _ (by decide) _ (storeBlocks_uniform _ _ _ encodeLinkHeader_length encodeStub_length'),
    storeBlocks_pos _ _ _ (Nat.ne_of_gt h.2.1)]
  simp only []
  rw [map_roundtrip encodeStub decodeStub _ (fun c hm => decodeStub_encodeStub c (hb c hm))]

#print axioms decodeCell_encodeCell
#print axioms decodeStub_encodeStub
#print axioms decodeTrieImage_encodeTrie
#print axioms decodeLinksImage_encodeLinks

end Traph
