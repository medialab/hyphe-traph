import Proofs.FrameOps
/-! The ghost tree of the shape invariant (`Shape` itself is in Tst): `T` carries addresses only; `Rep s t` says every
    labelled node is a live head cell whose left/child/right pointers are the roots of the three
    subtrees; `OrdT` orders every sibling tree by its stems; the sibling search of the heap is the pure `T.find`
    on a represented tree (`findSib_eq_find`, outcomes in `T.find_spec`); `T.graft` is the ghost counterpart of the
    write pair "append the pointee, then rewrite the pointer". -/
namespace Traph
open State

inductive T where
  | nil : T
  | node (a : Nat) (l c r : T) : T
deriving Repr

def T.root : T → Nat
  | .nil => 0
  | .node a _ _ _ => a

@[simp] theorem T.root_nil : T.nil.root = 0 := rfl
@[simp] theorem T.root_node (a l c r) : (T.node a l c r).root = a := rfl

def T.addrs : T → List Nat
  | .nil => []
  | .node a l c r => a :: (l.addrs ++ c.addrs ++ r.addrs)

section
variable {x a : Nat} {l c r : T}

theorem T.mem_addrs_node : x ∈ (T.node a l c r).addrs ↔ x = a ∨ x ∈ l.addrs ∨ x ∈ c.addrs ∨ x ∈ r.addrs := by
  rw [T.addrs, List.mem_cons, List.mem_append, List.mem_append, or_assoc]

theorem T.mem_addrs_self : a ∈ (T.node a l c r).addrs := T.mem_addrs_node.mpr (.inl rfl)

theorem T.mem_addrs_left (h : x ∈ l.addrs) : x ∈ (T.node a l c r).addrs := T.mem_addrs_node.mpr (.inr (.inl h))

theorem T.mem_addrs_child (h : x ∈ c.addrs) : x ∈ (T.node a l c r).addrs :=
  T.mem_addrs_node.mpr (.inr (.inr (.inl h)))

theorem T.mem_addrs_right (h : x ∈ r.addrs) : x ∈ (T.node a l c r).addrs :=
  T.mem_addrs_node.mpr (.inr (.inr (.inr h)))
end

theorem T.forall_mem_node {P : Nat → Prop} {a : Nat} {l c r : T} (h : ∀ x ∈ (T.node a l c r).addrs, P x) :
    P a ∧ (∀ x ∈ l.addrs, P x) ∧ (∀ x ∈ c.addrs, P x) ∧ (∀ x ∈ r.addrs, P x) :=
  ⟨h a T.mem_addrs_self, fun x hx => h x (T.mem_addrs_left hx), fun x hx => h x (T.mem_addrs_child hx),
    fun x hx => h x (T.mem_addrs_right hx)⟩

theorem T.nodup_node {a : Nat} {l c r : T} (h : (T.node a l c r).addrs.Nodup) :
    a ∉ l.addrs ∧ a ∉ c.addrs ∧ a ∉ r.addrs ∧ l.addrs.Nodup ∧ c.addrs.Nodup ∧ r.addrs.Nodup ∧
    (∀ x ∈ l.addrs, x ∉ c.addrs) ∧ (∀ x ∈ l.addrs, x ∉ r.addrs) ∧ (∀ x ∈ c.addrs, x ∉ r.addrs) := by
  simp only [T.addrs, List.nodup_cons, List.mem_append, not_or, List.nodup_append] at h
  obtain ⟨⟨⟨hal, hac⟩, har⟩, ⟨⟨ndl, ndc, dlc⟩, ndr, dlcr⟩⟩ := h
  exact ⟨hal, hac, har, ndl, ndc, ndr, fun x hx hx' => dlc x hx x hx' rfl,
    fun x hx hx' => dlcr x (Or.inl hx) x hx' rfl, fun x hx hx' => dlcr x (Or.inr hx) x hx' rfl⟩

theorem T.not_mem_node {b a : Nat} {l c r : T} (h : b ∉ (T.node a l c r).addrs) :
    b ≠ a ∧ b ∉ l.addrs ∧ b ∉ c.addrs ∧ b ∉ r.addrs := by
  rw [T.mem_addrs_node, not_or, not_or, not_or] at h
  exact h

def Rep (s : State) : T → Prop
  | .nil => True
  | .node a l c r =>
      a ≠ 0 ∧ (∃ cell, s.trie[a]? = some cell ∧ cell.left = l.root ∧ cell.child = c.root ∧ cell.right = r.root)
      ∧ Rep s l ∧ Rep s c ∧ Rep s r

/-- graft a fresh leaf `b` at slot `s` of (every) node labelled `q` whose slot is empty -/
def T.graft (q : Nat) (s : Slot) (b : Nat) : T → T
  | .nil => .nil
  | .node a l c r =>
      let l' := if a = q ∧ s = .L ∧ l.root = 0 then T.node b .nil .nil .nil else l.graft q s b
      let c' := if a = q ∧ s = .C ∧ c.root = 0 then T.node b .nil .nil .nil else c.graft q s b
      let r' := if a = q ∧ s = .R ∧ r.root = 0 then T.node b .nil .nil .nil else r.graft q s b
      .node a l' c' r'

theorem T.root_graft (q s b) (t : T) : (t.graft q s b).root = t.root := by
  cases t <;> rfl

theorem Cell.slot_setSlot (c : Cell) (sl k : Slot) (v : Nat) :
    (c.setSlot sl v).slot k = if sl = k then v else c.slot k := by
  cases sl <;> cases k <;> rfl

theorem Rep.frame {s s' : State} {t : T} (hr : Rep s t)
    (hag : ∀ a ∈ t.addrs, s'.trie[a]? = s.trie[a]?) : Rep s' t := by
  induction t with
  | nil => trivial
  | node a l c r ihl ihc ihr =>
    obtain ⟨ha, ⟨cell, hc, h1, h2, h3⟩, rl, rc, rr⟩ := hr
    obtain ⟨hga, hgl, hgc, hgr⟩ := T.forall_mem_node hag
    exact ⟨ha, ⟨cell, hga.trans hc, h1, h2, h3⟩, ihl rl hgl, ihc rc hgc, ihr rr hgr⟩

theorem Rep.lt_size {s : State} {t : T} (hr : Rep s t) : ∀ a ∈ t.addrs, a < s.trie.size := by
  induction t with
  | nil => exact fun _ h => nomatch h
  | node a l c r ihl ihc ihr =>
    obtain ⟨_, ⟨cell, hc, _⟩, rl, rc, rr⟩ := hr
    intro x hx
    rcases T.mem_addrs_node.mp hx with rfl | hx | hx | hx
    · exact (Array.getElem?_eq_some_iff.mp hc).1
    · exact ihl rl x hx
    · exact ihc rc x hx
    · exact ihr rr x hx


/-- the structural write pair of `__ensure_stem_from_siblings` / `add_lru`, abstractly: `s'` agrees with
    `s` on every old block except `q`, whose empty slot `sl` now points to the fresh block `b`, whose own
    three pointers are null -/
theorem Rep.graft_write {s s' : State} {t : T} (hr : Rep s t) (q : Nat) (sl : Slot) (b : Nat)
    (hb : b = s.trie.size)
    (cq : Cell) (hcq : s.trie[q]? = some cq) (hslot : cq.slot sl = 0)
    (hq' : s'.trie[q]? = some (cq.setSlot sl b))
    (hold : ∀ a, a < s.trie.size → a ≠ q → s'.trie[a]? = s.trie[a]?)
    (fresh : Cell) (hf : s'.trie[b]? = some fresh) (hfresh : fresh.left = 0 ∧ fresh.child = 0 ∧ fresh.right = 0)
    (hsz : 0 < s.trie.size) :
    Rep s' (t.graft q sl b) := by
  subst hb
  have hlt := hr.lt_size
  induction t with
  | nil => trivial
  | node a l c r ihl ihc ihr =>
    obtain ⟨ha, ⟨cell, hc, h1, h2, h3⟩, rl, rc, rr⟩ := hr
    obtain ⟨_, hltl, hltc, hltr⟩ := T.forall_mem_node hlt
    have hal : a < s.trie.size := (Array.getElem?_eq_some_iff.mp hc).1
    have leaf : Rep s' (T.node s.trie.size .nil .nil .nil) :=
      ⟨by omega, ⟨fresh, hf, hfresh.1, hfresh.2.1, hfresh.2.2⟩, trivial, trivial, trivial⟩
    -- the block of `a` after the write, and for the subtree `x` in its slot `k`: what takes the place of `x` is
    -- represented, and the slot points to it
    obtain ⟨cell', hc', hk⟩ : ∃ cell', s'.trie[a]? = some cell' ∧ ∀ (k : Slot) (x : T), cell.slot k = x.root →
        Rep s' (x.graft q sl s.trie.size) →
        Rep s' (if a = q ∧ sl = k ∧ x.root = 0 then T.node s.trie.size .nil .nil .nil
          else x.graft q sl s.trie.size) ∧
        cell'.slot k = (if a = q ∧ sl = k ∧ x.root = 0 then T.node s.trie.size .nil .nil .nil
          else x.graft q sl s.trie.size).root := by
      by_cases haq : a = q
      · subst haq
        obtain rfl : cell = cq := Option.some.inj (hc.symm.trans hcq)
        refine ⟨_, hq', fun k x hx ih => ?_⟩
        rw [Cell.slot_setSlot]
        by_cases hk : sl = k
        · subst hk
          rw [if_pos ⟨rfl, rfl, hx ▸ hslot⟩, if_pos rfl]; exact ⟨leaf, rfl⟩
        · rw [if_neg (fun h => hk h.2.1), if_neg hk, T.root_graft]; exact ⟨ih, hx⟩
      · refine ⟨cell, (hold a hal haq).trans hc, fun k x hx ih => ?_⟩
        rw [if_neg (fun h => haq h.1), T.root_graft]; exact ⟨ih, hx⟩
    obtain ⟨rl', pl⟩ := hk .L l h1 (ihl rl hltl)
    obtain ⟨rc', pc⟩ := hk .C c h2 (ihc rc hltc)
    obtain ⟨rr', pr⟩ := hk .R r h3 (ihr rr hltr)
    exact ⟨ha, ⟨cell', hc', pl, pc, pr⟩, rl', rc', rr'⟩

theorem Rep.of_ptrs_eq {s s' : State} {t : T} (hr : Rep s t)
    (h : ∀ a ∈ t.addrs, ∀ c, s.trie[a]? = some c → ∃ c', s'.trie[a]? = some c' ∧ c'.left = c.left ∧ c'.child = c.child ∧ c'.right = c.right) :
    Rep s' t := by
  induction t with
  | nil => trivial
  | node a l c r ihl ihc ihr =>
    obtain ⟨ha, ⟨cell, hc, h1, h2, h3⟩, rl, rc, rr⟩ := hr
    obtain ⟨h0, hl, hc0, hr0⟩ := T.forall_mem_node h
    obtain ⟨c', hc', e1, e2, e3⟩ := h0 cell hc
    exact ⟨ha, ⟨c', hc', e1.trans h1, e2.trans h2, e3.trans h3⟩, ihl rl hl, ihc rc hc0, ihr rr hr0⟩

/-- Python's `<` on `bytes` is the lexicographic order of lists: its order properties are those of `List` -/
theorem lexLt_iff : ∀ a b : Bytes, lexLt a b = true ↔ a < b
  | [], [] => by simp [lexLt]
  | [], _ :: _ => by simp [lexLt]
  | _ :: _, [] => by simp [lexLt]
  | a :: as, b :: bs => by simp [lexLt, List.cons_lt_cons_iff, lexLt_iff as bs]

theorem lexLt_irrefl (a : Bytes) : lexLt a a = false :=
  Bool.eq_false_iff.mpr fun h => List.lt_irrefl a ((lexLt_iff a a).mp h)

theorem lexLt_trans {a b c : Bytes} (h1 : lexLt a b = true) (h2 : lexLt b c = true) : lexLt a c = true :=
  (lexLt_iff a c).mpr (List.lt_trans ((lexLt_iff a b).mp h1) ((lexLt_iff b c).mp h2))

theorem lexLt_tri (a b : Bytes) : lexLt a b = true ∨ a = b ∨ lexLt b a = true := by
  rw [lexLt_iff, lexLt_iff]
  by_cases h : a < b
  · exact .inl h
  · rcases List.le_iff_lt_or_eq.mp (List.not_lt.mp h) with h | h
    · exact .inr (.inr h)
    · exact .inr (.inl h.symm)

theorem lexLt_asymm {a b : Bytes} (h : lexLt a b = true) : lexLt b a = false :=
  Bool.eq_false_iff.mpr fun h' => List.lt_asymm ((lexLt_iff a b).mp h) ((lexLt_iff b a).mp h')

/-- sibling closure: the l/r-reachable part of the tree -/
def T.sibs : T → List Nat
  | .nil => []
  | .node a l _ r => l.sibs ++ a :: r.sibs

section
variable {x a : Nat} {l c r : T}

theorem T.mem_sibs_node : x ∈ (T.node a l c r).sibs ↔ x ∈ l.sibs ∨ x = a ∨ x ∈ r.sibs := by
  rw [T.sibs, List.mem_append, List.mem_cons]

theorem T.mem_sibs_self : a ∈ (T.node a l c r).sibs := T.mem_sibs_node.mpr (.inr (.inl rfl))

theorem T.mem_sibs_left (h : x ∈ l.sibs) : x ∈ (T.node a l c r).sibs := T.mem_sibs_node.mpr (.inl h)

theorem T.mem_sibs_right (h : x ∈ r.sibs) : x ∈ (T.node a l c r).sibs := T.mem_sibs_node.mpr (.inr (.inr h))
end

/-- every sibling tree is a strict binary search tree on the stems stored at its nodes, the outermost one within the
    bounds `lo`, `hi`; a child tree starts without bounds. The field `ord` of `Shape`. -/
def OrdT (s : State) : T → Option Stem → Option Stem → Prop
  | .nil, _, _ => True
  | .node a l c r, lo, hi =>
      (∀ x, lo = some x → lexLt x (s.stemAt a) = true) ∧
      (∀ x, hi = some x → lexLt (s.stemAt a) x = true) ∧
      OrdT s l lo (some (s.stemAt a)) ∧ OrdT s r (some (s.stemAt a)) hi ∧ OrdT s c none none

def T.size : T → Nat
  | .nil => 0
  | .node _ l c r => 1 + l.size + c.size + r.size

/-- search inside one sibling tree of the ghost tree (pure, structural) -/
def T.find (s : State) (stem : Stem) : T → Find
  | .nil => .corrupt
  | .node a l _ r =>
    if s.stemAt a = stem then .found a
    else if lexLt stem (s.stemAt a) then
      (match l with | .nil => .missing a .L | _ => l.find s stem)
    else
      (match r with | .nil => .missing a .R | _ => r.find s stem)

theorem T.size_left_lt (a : Nat) (l c r : T) : l.size < (T.node a l c r).size := by
  simp only [T.size]; omega

theorem T.size_child_lt (a : Nat) (l c r : T) : c.size < (T.node a l c r).size := by
  simp only [T.size]; omega

theorem T.size_right_lt (a : Nat) (l c r : T) : r.size < (T.node a l c r).size := by
  simp only [T.size]; omega

theorem Rep.root_ne_zero {s : State} : ∀ {t : T}, Rep s t → t ≠ .nil → t.root ≠ 0
  | .nil, _, hn => absurd rfl hn
  | .node _ _ _ _, hr, _ => hr.1

theorem T.find_cases (s : State) (stem : Stem) (a : Nat) (l c r : T) :
    (s.stemAt a = stem ∧ (T.node a l c r).find s stem = .found a) ∨
    (s.stemAt a ≠ stem ∧ lexLt stem (s.stemAt a) = true ∧
      ((l = .nil ∧ (T.node a l c r).find s stem = .missing a .L) ∨
       (l ≠ .nil ∧ (T.node a l c r).find s stem = l.find s stem))) ∨
    (s.stemAt a ≠ stem ∧ lexLt stem (s.stemAt a) = false ∧
      ((r = .nil ∧ (T.node a l c r).find s stem = .missing a .R) ∨
       (r ≠ .nil ∧ (T.node a l c r).find s stem = r.find s stem))) := by
  simp only [T.find]
  by_cases e : s.stemAt a = stem
  · exact .inl ⟨e, if_pos e⟩
  · rw [if_neg e]
    cases hlt : lexLt stem (s.stemAt a) with
    | true =>
      refine .inr (.inl ⟨e, rfl, ?_⟩)
      cases l with
      | nil => exact .inl ⟨rfl, rfl⟩
      | node _ _ _ _ => exact .inr ⟨nofun, rfl⟩
    | false =>
      refine .inr (.inr ⟨e, rfl, ?_⟩)
      cases r with
      | nil => exact .inl ⟨rfl, rfl⟩
      | node _ _ _ _ => exact .inr ⟨nofun, rfl⟩

theorem findSib_eq_find {s : State} {stem : Stem} :
    ∀ (t : T) (f : Nat), Rep s t → t ≠ .nil → t.size ≤ f → s.findSib stem f t.root = t.find s stem := by
  intro t
  induction t with
  | nil => intro f _ hn; exact absurd rfl hn
  | node a l c r ihl _ ihr =>
    intro f hr _ hf
    obtain ⟨ha, ⟨cell, hc, h1, h2, h3⟩, rl, rc, rr⟩ := hr
    cases f with
    | zero => exact absurd (Nat.lt_of_lt_of_le (T.size_left_lt a l c r) hf) (Nat.not_lt_zero _)
    | succ f =>
      have hfl : l.size ≤ f := Nat.le_of_lt_succ (Nat.lt_of_lt_of_le (T.size_left_lt a l c r) hf)
      have hfr : r.size ≤ f := Nat.le_of_lt_succ (Nat.lt_of_lt_of_le (T.size_right_lt a l c r) hf)
      show s.findSib stem (f + 1) a = _
      rw [findSib_succ_eq, hc]
      simp only [T.find]
      by_cases e : s.stemAt a = stem
      · rw [if_pos e, if_pos e]
      · rw [if_neg e, if_neg e]
        by_cases lt : lexLt stem (s.stemAt a) = true
        · rw [if_pos lt, if_pos lt]
          cases l with
          | nil => exact if_neg (fun h : cell.left ≠ 0 => h h1)
          | node a' l' c' r' => rw [if_pos (h1 ▸ rl.1), h1]; exact ihl f rl nofun hfl
        · rw [if_neg lt, if_neg lt]
          cases r with
          | nil => exact if_neg (fun h : cell.right ≠ 0 => h h3)
          | node a' l' c' r' => rw [if_pos (h3 ▸ rr.1), h3]; exact ihr f rr nofun hfr

theorem OrdT.below {s : State} : ∀ (t : T) lo x, OrdT s t lo (some x) → ∀ y ∈ t.sibs, lexLt (s.stemAt y) x = true := by
  intro t
  induction t with
  | nil => intro _ _ _ y hy; exact nomatch hy
  | node d l' _ r' il _ ir =>
    intro lo x ho y hy
    obtain ⟨_, hhi, ol', or', _⟩ := ho
    rcases T.mem_sibs_node.mp hy with hy | rfl | hy
    · exact lexLt_trans (il _ _ ol' y hy) (hhi x rfl)
    · exact hhi x rfl
    · exact ir _ _ or' y hy

theorem OrdT.above {s : State} : ∀ (t : T) hi x, OrdT s t (some x) hi → ∀ y ∈ t.sibs, lexLt x (s.stemAt y) = true := by
  intro t
  induction t with
  | nil => intro _ _ _ y hy; exact nomatch hy
  | node d l' _ r' il _ ir =>
    intro hi x ho y hy
    obtain ⟨hlo, _, ol', or', _⟩ := ho
    rcases T.mem_sibs_node.mp hy with hy | rfl | hy
    · exact il _ _ ol' y hy
    · exact hlo x rfl
    · exact lexLt_trans (hlo x rfl) (ir _ _ or' y hy)

theorem T.find_found {s : State} {stem : Stem} :
    ∀ (t : T) (lo hi), OrdT s t lo hi → ∀ a ∈ t.sibs, s.stemAt a = stem → t.find s stem = .found a := by
  intro t
  induction t with
  | nil => intro _ _ _ a ha; exact nomatch ha
  | node b l c r ihl _ ihr =>
    intro lo hi ho a ha hs
    obtain ⟨_, _, ol, or_, _⟩ := ho
    -- the stem at `b` decides on which side `a` is
    have side : a ∈ l.sibs → lexLt stem (s.stemAt b) = true := fun h => hs ▸ OrdT.below l lo _ ol a h
    have side' : a ∈ r.sibs → lexLt (s.stemAt b) stem = true := fun h => hs ▸ OrdT.above r hi _ or_ a h
    rcases List.mem_append.mp ha with ha | ha
    · rcases T.find_cases s stem b l c r with ⟨e, _⟩ | ⟨_, _, ⟨rfl, _⟩ | ⟨_, e⟩⟩ | ⟨_, hlt, _⟩
      · rw [e, lexLt_irrefl] at side; exact absurd (side ha) nofun
      · exact nomatch ha
      · rw [e]; exact ihl _ _ ol a ha hs
      · rw [side ha] at hlt; exact nomatch hlt
    · rcases List.mem_cons.mp ha with rfl | ha
      · rcases T.find_cases s stem a l c r with ⟨_, e⟩ | ⟨e, _⟩ | ⟨e, _⟩
        · exact e
        · exact absurd hs e
        · exact absurd hs e
      · rcases T.find_cases s stem b l c r with ⟨e, _⟩ | ⟨_, hlt, _⟩ | ⟨_, _, ⟨rfl, _⟩ | ⟨_, e⟩⟩
        · rw [e, lexLt_irrefl] at side'; exact absurd (side' ha) nofun
        · rw [lexLt_asymm (side' ha)] at hlt; exact nomatch hlt
        · exact nomatch ha
        · rw [e]; exact ihr _ _ or_ a ha hs

theorem T.find_spec {s : State} {stem : Stem} : ∀ u : T,
    (∀ a, u.find s stem = .found a → a ∈ u.sibs ∧ s.stemAt a = stem) ∧
    (∀ q sl, u.find s stem = .missing q sl → q ∈ u.sibs ∧ sl ≠ .C) ∧
    (u.find s stem = .corrupt → u = .nil) := by
  intro u
  induction u with
  | nil => exact ⟨nofun, nofun, fun _ => rfl⟩
  | node b l c r ihl _ ihr =>
    rcases T.find_cases s stem b l c r with ⟨hs, e⟩ | ⟨_, _, ⟨_, e⟩ | ⟨hl, e⟩⟩ | ⟨_, _, ⟨_, e⟩ | ⟨hr, e⟩⟩ <;> rw [e]
    · exact ⟨fun a h => by cases h; exact ⟨T.mem_sibs_self, hs⟩, nofun, nofun⟩
    · exact ⟨nofun, fun q sl h => by cases h; exact ⟨T.mem_sibs_self, nofun⟩, nofun⟩
    · exact ⟨fun a h => ⟨T.mem_sibs_left (ihl.1 a h).1, (ihl.1 a h).2⟩,
        fun q sl h => ⟨T.mem_sibs_left (ihl.2.1 q sl h).1, (ihl.2.1 q sl h).2⟩, fun h => absurd (ihl.2.2 h) hl⟩
    · exact ⟨nofun, fun q sl h => by cases h; exact ⟨T.mem_sibs_self, nofun⟩, nofun⟩
    · exact ⟨fun a h => ⟨T.mem_sibs_right (ihr.1 a h).1, (ihr.1 a h).2⟩,
        fun q sl h => ⟨T.mem_sibs_right (ihr.2.1 q sl h).1, (ihr.2.1 q sl h).2⟩, fun h => absurd (ihr.2.2 h) hr⟩

theorem T.find_sound {s : State} {stem : Stem} : ∀ (t : T) a, t.find s stem = .found a → a ∈ t.sibs ∧ s.stemAt a = stem :=
  fun t => (T.find_spec t).1

theorem T.find_missing_slot {s : State} {stem : Stem} :
    ∀ (u : T) (q : Nat) (sl : Slot), u.find s stem = .missing q sl → sl ≠ .C :=
  fun u q sl h => ((T.find_spec u).2.1 q sl h).2

theorem T.find_ne_corrupt {s : State} {stem : Stem} : ∀ u : T, u ≠ .nil → u.find s stem ≠ .corrupt :=
  fun u hne h => hne ((T.find_spec u).2.2 h)

theorem T.graft_of_not_mem (q : Nat) (sl : Slot) (b : Nat) :
    ∀ (t : T), q ∉ t.addrs → t.graft q sl b = t := by
  intro t
  induction t with
  | nil => intro _; rfl
  | node a l c r ihl ihc ihr =>
    intro hq
    obtain ⟨hqa, hql, hqc, hqr⟩ := T.not_mem_node hq
    have : ¬ a = q := fun e => hqa e.symm
    simp [T.graft, this, ihl hql, ihc hqc, ihr hqr]

theorem T.sibs_subset_addrs : ∀ (t : T) x, x ∈ t.sibs → x ∈ t.addrs := by
  intro t
  induction t with
  | nil => intro x hx; exact nomatch hx
  | node a l c r ihl _ ihr =>
    intro x hx
    rcases T.mem_sibs_node.mp hx with hx | rfl | hx
    · exact T.mem_addrs_left (ihl x hx)
    · exact T.mem_addrs_self
    · exact T.mem_addrs_right (ihr x hx)

theorem T.find_missing_mem {s : State} {stem : Stem} :
    ∀ (t : T) q sl, t.find s stem = .missing q sl → q ∈ t.sibs := by
  intro t q sl hf
  exact ((T.find_spec t).2.1 q sl hf).1

theorem OrdT.frame {s s' : State} : ∀ (t : T) lo hi, OrdT s t lo hi →
    (∀ a ∈ t.addrs, s'.stemAt a = s.stemAt a) → OrdT s' t lo hi := by
  intro t
  induction t with
  | nil => intro _ _ _ _; trivial
  | node a l c r ihl ihc ihr =>
    intro lo hi ho hag
    obtain ⟨h1, h2, ol, or_, oc⟩ := ho
    obtain ⟨ha, hl, hc, hr⟩ := T.forall_mem_node hag
    refine ⟨?_, ?_, ?_, ?_, ihc _ _ oc hc⟩
    · intro x hx; rw [ha]; exact h1 x hx
    · intro x hx; rw [ha]; exact h2 x hx
    · rw [ha]; exact ihl _ _ ol hl
    · rw [ha]; exact ihr _ _ or_ hr

end Traph
