import Proofs.LayoutOk
import Proofs.VariationsBridge
/-! Round trips of the pagination-token helpers of `Traph/Helpers.lean` (`parseToken_buildToken`); and the step sequence
    (digits 1 to 3) behind a token's base-4 path number is determined by the number, from any starting number
    (`foldl_base4_inj`). -/
namespace Traph
open Layout

theorem digitChar_eq (d : Nat) (h : d < base64.length) : digitChar d = base64[d] := by
  rw [digitChar, List.getD_eq_getElem?_getD, List.getElem?_eq_getElem h]
  rfl

/-- the alphabet has no repeated character, so a character's position is its digit -/
theorem base64Index_digitChar (d : Nat) (h : d < 64) : base64Index (digitChar d) = some d := by
  have hl : d < base64.length := by rw [LayoutOk.base64_ok.1]; exact h
  simp only [base64Index, digitChar_eq d hl, LayoutOk.base64_ok.2.idxOf_getElem d hl, if_pos hl]

theorem digitChar_dec_all : ∀ d, d < 10 → digitChar d = 48 + d := by decide

theorem digitChar_big (d : Nat) (h : 64 ≤ d) : digitChar d = 0 := by
  unfold digitChar
  rw [List.getD_eq_getElem?_getD, List.getElem?_eq_none (show base64.length ≤ d from h)]
  rfl

theorem hash_not_mem_base64 : 35 ∉ base64 := by decide

theorem digitChar_ne_hash (d : Nat) : digitChar d ≠ 35 := by
  by_cases h : d < 64
  · have hl : d < base64.length := by rw [LayoutOk.base64_ok.1]; exact h
    intro e
    exact hash_not_mem_base64 (e ▸ digitChar_eq d hl ▸ List.getElem_mem hl)
  · rw [digitChar_big d (by omega)]; decide

def fromDigits (b : Nat) (ds : List Nat) : Nat := ds.foldl (fun acc d => acc * b + d) 0

theorem fromDigits_concat (b : Nat) (ds : List Nat) (d : Nat) :
    fromDigits b (ds ++ [d]) = fromDigits b ds * b + d := by
  simp [fromDigits, List.foldl_append]

/-- the digit list computed by `toBaseGo`, most significant first -/
def digitsGo (b : Nat) : Nat → Nat → List Nat
  | 0, _ => []
  | fuel + 1, x => if x = 0 then [] else digitsGo b fuel (x / b) ++ [x % b]

theorem toBaseGo_eq (b : Nat) : ∀ (fuel x : Nat) (acc : Bytes),
    toBaseGo b fuel x acc = (digitsGo b fuel x).map digitChar ++ acc := by
  intro fuel
  induction fuel with
  | zero => intro x acc; simp [toBaseGo, digitsGo]
  | succ fuel ih =>
    intro x acc
    by_cases hx : x = 0
    · simp [toBaseGo, digitsGo, hx]
    · simp [toBaseGo, digitsGo, hx, ih]

theorem digitsGo_zero (b fuel : Nat) : digitsGo b fuel 0 = [] := by
  cases fuel <;> simp [digitsGo]

theorem digitsGo_lt (b : Nat) (hb : 0 < b) : ∀ (fuel x : Nat), ∀ d ∈ digitsGo b fuel x, d < b := by
  intro fuel
  induction fuel with
  | zero => intro x d hd; simp [digitsGo] at hd
  | succ fuel ih =>
    intro x d hd
    by_cases hx : x = 0
    · simp [digitsGo, hx] at hd
    · simp only [digitsGo, hx, if_false, List.mem_append, List.mem_singleton] at hd
      rcases hd with hd | hd
      · exact ih _ d hd
      · rw [hd]; exact Nat.mod_lt _ hb

theorem fromDigits_digitsGo (b : Nat) (hb : 2 ≤ b) : ∀ (fuel x : Nat), x < fuel →
    fromDigits b (digitsGo b fuel x) = x := by
  intro fuel
  induction fuel with
  | zero => intro x h; omega
  | succ fuel ih =>
    intro x h
    by_cases hx : x = 0
    · simp [digitsGo, hx, fromDigits]
    · have hq : x / b < x := Nat.div_lt_self (by omega) (by omega)
      simp only [digitsGo, hx, if_false]
      rw [fromDigits_concat, ih (x / b) (by omega)]
      exact Nat.div_add_mod' x b

theorem digitsGo_head (b : Nat) (hb : 2 ≤ b) : ∀ (fuel x : Nat), x < fuel → x ≠ 0 →
    ∃ d rest, digitsGo b fuel x = d :: rest ∧ d ≠ 0 := by
  intro fuel
  induction fuel with
  | zero => intro x h; omega
  | succ fuel ih =>
    intro x h hx
    have hq : x / b < x := Nat.div_lt_self (by omega) (by omega)
    simp only [digitsGo, hx, if_false]
    by_cases hq0 : x / b = 0
    · refine ⟨x % b, [], ?_, ?_⟩
      · rw [hq0, digitsGo_zero]; rfl
      · have hlt : x < b := (Nat.div_eq_zero_iff_lt (by omega)).mp hq0
        rw [Nat.mod_eq_of_lt hlt]; exact hx
    · obtain ⟨d, rest, he, hd⟩ := ih (x / b) (by omega) hq0
      exact ⟨d, rest ++ [x % b], by rw [he]; rfl, hd⟩

theorem toBase_spec (b x : Nat) (hb : 2 ≤ b) (hb' : b ≤ 64) :
    ∃ ds : List Nat, toBase b x = ds.map digitChar ∧ (∀ d ∈ ds, d < b) ∧ fromDigits b ds = x ∧
      ds ≠ [] ∧ (x ≠ 0 → ds.head? ≠ some 0) := by
  by_cases hx : x = 0
  · refine ⟨[0], ?_, ?_, ?_, ?_, ?_⟩
    · simp [toBase, hx]
    · intro d hd; simp at hd; omega
    · simp [fromDigits, hx]
    · simp
    · intro h; exact absurd hx h
  · obtain ⟨d, rest, he, hd⟩ := digitsGo_head b hb (x + 1) x (by omega) hx
    refine ⟨digitsGo b (x + 1) x, ?_, ?_, ?_, ?_, ?_⟩
    · simp [toBase, hx, toBaseGo_eq]
    · exact digitsGo_lt b (by omega) _ _
    · exact fromDigits_digitsGo b hb _ _ (by omega)
    · rw [he]; simp
    · intro _; rw [he]; simpa using hd

theorem base64ToInt_map (ds : List Nat) (h : ∀ d ∈ ds, d < 64) :
    base64ToInt (ds.map digitChar) = some (fromDigits 64 ds) := by
  unfold base64ToInt fromDigits
  generalize (0 : Nat) = a
  induction ds generalizing a with
  | nil => rfl
  | cons d ds ih =>
    simp only [List.map_cons, List.foldl_cons]
    rw [base64Index_digitChar d (h d (by simp))]
    exact ih (fun e he => h e (by simp [he])) _

theorem base64ToInt_intToBase64 (x : Nat) : base64ToInt (intToBase64 x) = some x := by
  obtain ⟨ds, he, hlt, hfd, _, _⟩ := toBase_spec 64 x (by omega) (by omega)
  rw [intToBase64, he, base64ToInt_map ds hlt, hfd]

theorem decFold_map (ds : List Nat) (h : ∀ d ∈ ds, d < 10) (a : Nat) :
    (ds.map digitChar).foldl (fun acc c => match acc with
      | some x => if 48 ≤ c ∧ c ≤ 57 then some (x * 10 + (c - 48)) else none
      | none => none) (some a) = some (ds.foldl (fun acc d => acc * 10 + d) a) := by
  induction ds generalizing a with
  | nil => rfl
  | cons d ds ih =>
    have hd : d < 10 := h d (by simp)
    simp only [List.map_cons, List.foldl_cons]
    rw [digitChar_dec_all d hd]
    have hc : 48 ≤ 48 + d ∧ 48 + d ≤ 57 := by omega
    rw [if_pos hc, Nat.add_sub_cancel_left]
    exact ih (fun e he => h e (by simp [he])) _

theorem decToNat_natToDec (n : Nat) : decToNat? (natToDec n) = some n := by
  obtain ⟨ds, he, hlt, hfd, hne, _⟩ := toBase_spec 10 n (by omega) (by omega)
  rw [natToDec, he]
  unfold decToNat?
  have hemp : (ds.map digitChar).isEmpty = false := by
    cases ds with
    | nil => exact absurd rfl hne
    | cons _ _ => rfl
  rw [hemp]
  simp only [Bool.false_eq_true, if_false]
  exact (decFold_map ds hlt 0).trans (congrArg some hfd)

theorem map_digitChar_no_hash (ds : List Nat) : (35 : Nat) ∉ ds.map digitChar := by
  intro hm
  obtain ⟨d, _, hd⟩ := List.mem_map.mp hm
  exact digitChar_ne_hash d hd

theorem natToDec_no_hash (n : Nat) : (35 : Nat) ∉ natToDec n := by
  obtain ⟨ds, he, _⟩ := toBase_spec 10 n (by omega) (by omega)
  rw [natToDec, he]; exact map_digitChar_no_hash ds

theorem intToBase64_no_hash (x : Nat) : (35 : Nat) ∉ intToBase64 x := by
  obtain ⟨ds, he, _⟩ := toBase_spec 64 x (by omega) (by omega)
  rw [intToBase64, he]; exact map_digitChar_no_hash ds

theorem parseToken_buildToken (i path : Nat) : parseToken (buildToken i path) = some (i, path) := by
  unfold parseToken buildToken
  rw [splitOn_two 35 _ _ (natToDec_no_hash i) (intToBase64_no_hash path)]
  simp only [decToNat_natToDec, base64ToInt_intToBase64]

theorem foldl_digit_ge (b : Nat) (hb : 0 < b) : ∀ (ds : List Nat) (a : Nat),
    a ≤ ds.foldl (fun acc d => acc * b + d) a := by
  intro ds
  induction ds with
  | nil => intro a; exact Nat.le_refl _
  | cons d ds ih =>
    intro a
    simp only [List.foldl_cons]
    have h1 : a ≤ a * b := Nat.le_mul_of_pos_right a hb
    exact Nat.le_trans (by omega) (ih (a * b + d))

theorem fromDigits_pos (b : Nat) (hb : 0 < b) (d : Nat) (rest : List Nat) (hd : d ≠ 0) :
    fromDigits b (d :: rest) ≠ 0 := by
  have := foldl_digit_ge b hb rest (0 * b + d)
  simp only [fromDigits, List.foldl_cons]
  omega

/-- uniqueness of the representation: a digit list without a leading zero is what `digitsGo` computes -/
theorem digitsGo_fromDigits (b : Nat) (hb : 2 ≤ b) : ∀ (fuel : Nat) (ds : List Nat),
    (∀ d ∈ ds, d < b) → (∀ d rest, ds = d :: rest → d ≠ 0) → fromDigits b ds < fuel →
    digitsGo b fuel (fromDigits b ds) = ds := by
  intro fuel
  induction fuel with
  | zero => intro ds _ _ h; omega
  | succ fuel ih =>
    intro ds hlt hhead hf
    rcases List.eq_nil_or_concat ds with hnil | ⟨init, last, hcat⟩
    · subst hnil; simp [fromDigits, digitsGo]
    · obtain rfl : ds = init ++ [last] := hcat.trans (List.concat_eq_append ..)
      have hl : last < b := hlt last (by simp)
      have hx : fromDigits b (init ++ [last]) ≠ 0 := by
        cases init with
        | nil => exact fromDigits_pos b (by omega) last [] (hhead last [] rfl)
        | cons d rest => exact fromDigits_pos b (by omega) d (rest ++ [last]) (hhead d _ rfl)
      have hq : fromDigits b (init ++ [last]) / b = fromDigits b init := by
        rw [fromDigits_concat, Nat.add_comm, Nat.add_mul_div_right _ _ (by omega : 0 < b),
          Nat.div_eq_of_lt hl, Nat.zero_add]
      have hm : fromDigits b (init ++ [last]) % b = last := by
        rw [fromDigits_concat, Nat.add_comm, Nat.add_mul_mod_self_right, Nat.mod_eq_of_lt hl]
      have hlt' : fromDigits b (init ++ [last]) / b < fromDigits b (init ++ [last]) :=
        Nat.div_lt_self (by omega) (by omega)
      simp only [digitsGo, hx, if_false]
      rw [hm, hq]
      rw [ih init (fun d hd => hlt d (by simp [hd]))
        (fun d rest he => hhead d (rest ++ [last]) (by rw [he]; rfl)) (by omega)]

theorem path_eq_fromDigits (ops : List Nat) : ops.foldl base4Append 0 = fromDigits 4 ops := rfl

theorem path_digits (ops : List Nat) (h : ∀ d ∈ ops, d = 1 ∨ d = 2 ∨ d = 3) (fuel : Nat)
    (hf : fromDigits 4 ops < fuel) : digitsGo 4 fuel (fromDigits 4 ops) = ops := by
  apply digitsGo_fromDigits 4 (by omega) fuel ops _ _ hf
  · intro d hd; have := h d hd; omega
  · intro d rest he; have := h d (by simp [he]); omega

theorem intToBase4_path (ops : List Nat) (h : ∀ d ∈ ops, d = 1 ∨ d = 2 ∨ d = 3) (hne : ops ≠ []) :
    intToBase4 (ops.foldl base4Append 0) = ops.map digitChar := by
  rw [path_eq_fromDigits]
  have hx : fromDigits 4 ops ≠ 0 := by
    cases ops with
    | nil => exact absurd rfl hne
    | cons d rest =>
      have := h d (by simp)
      exact fromDigits_pos 4 (by omega) d rest (by omega)
  unfold intToBase4 toBase
  rw [if_neg hx, toBaseGo_eq, path_digits ops h _ (by omega)]
  simp

theorem exists_digits (path : Nat) : ∃ E : List Nat, fromDigits 4 E = path ∧ (∀ d ∈ E, d < 4) ∧
    (∀ d rest, E = d :: rest → d ≠ 0) := by
  by_cases hp : path = 0
  · exact ⟨[], by simp [fromDigits, hp], by simp, by simp⟩
  · obtain ⟨d, rest, he, hd⟩ := digitsGo_head 4 (by omega) (path + 1) path (by omega) hp
    refine ⟨digitsGo 4 (path + 1) path, fromDigits_digitsGo 4 (by omega) _ _ (by omega),
      digitsGo_lt 4 (by omega) _ _, ?_⟩
    intro d' rest' he'
    rw [he] at he'
    cases he'
    exact hd

theorem foldl_eq_fromDigits (E ds : List Nat) :
    ds.foldl base4Append (fromDigits 4 E) = fromDigits 4 (E ++ ds) := by
  simp only [fromDigits, List.foldl_append]
  rfl

theorem foldl_base4_inj (path : Nat) (d₁ d₂ : List Nat) (h₁ : ∀ d ∈ d₁, d = 1 ∨ d = 2 ∨ d = 3)
    (h₂ : ∀ d ∈ d₂, d = 1 ∨ d = 2 ∨ d = 3)
    (he : d₁.foldl base4Append path = d₂.foldl base4Append path) : d₁ = d₂ := by
  obtain ⟨E, hE, hlt, hhead⟩ := exists_digits path
  rw [← hE, foldl_eq_fromDigits, foldl_eq_fromDigits] at he
  have ok : ∀ ds, (∀ d ∈ ds, d = 1 ∨ d = 2 ∨ d = 3) →
      (∀ d ∈ E ++ ds, d < 4) ∧ (∀ d rest, E ++ ds = d :: rest → d ≠ 0) := by
    intro ds hds
    refine ⟨?_, ?_⟩
    · intro d hd
      rcases List.mem_append.mp hd with hd | hd
      · exact hlt d hd
      · have := hds d hd; omega
    · intro d rest hdr
      cases E with
      | nil =>
        have := hds d (by simp at hdr; simp [hdr]); omega
      | cons e E' =>
        simp only [List.cons_append, List.cons.injEq] at hdr
        exact hdr.1 ▸ hhead e E' rfl
  have e1 := digitsGo_fromDigits 4 (by omega) (fromDigits 4 (E ++ d₁) + 1) (E ++ d₁) (ok d₁ h₁).1 (ok d₁ h₁).2 (by omega)
  have e2 := digitsGo_fromDigits 4 (by omega) (fromDigits 4 (E ++ d₁) + 1) (E ++ d₂) (ok d₂ h₂).1 (ok d₂ h₂).2 (by omega)
  rw [← he] at e2
  exact List.append_cancel_left (e1.symm.trans e2)

theorem path_injective (o₁ o₂ : List Nat) (h₁ : ∀ d ∈ o₁, d = 1 ∨ d = 2 ∨ d = 3)
    (h₂ : ∀ d ∈ o₂, d = 1 ∨ d = 2 ∨ d = 3) :
    o₁.foldl base4Append 0 = o₂.foldl base4Append 0 → o₁ = o₂ :=
  foldl_base4_inj 0 o₁ o₂ h₁ h₂

#print axioms parseToken_buildToken
#print axioms intToBase4_path
#print axioms path_injective

end Traph
