import Proofs.Built
import Proofs.MarksInsert
/-! C13: every change a write request is built from (`Proofs/Built.lean`) preserves "there is a ghost
    tree with the shape invariant and the mark invariant" (`MInv`): a webentity id other than 0 is only ever
    written into a block that `add_lru(_, True)` answered earlier in the request, and such a block stays
    `Settable` (all its proper ancestors unmarked) until then (`minv_across`).
    Under the two invariants the pruned walk from any node of the tree is exact: `C13_children_exact_of_shape`. -/
namespace Traph
open State

def MInv (s : State) : Prop := ∃ t, Shape s t ∧ MarkOk s t

theorem minv_of_trie_init (s : State) (h : s.trie = #[{}]) : MInv s :=
  ⟨.nil, shape_of_trie_init s h, trivial⟩

theorem minv_init : MInv ({} : State) := minv_of_trie_init _ rfl

/-- `b` is the node stored under `p`, and every node stored under a proper prefix of `p` is unmarked -/
def Anc (s : State) (t : T) (p : LRU) (b : Nat) : Prop :=
  (p, b) ∈ t.entries s [] ∧
    ∀ k, 0 < k → k < p.length → ∀ a, (p.take k, a) ∈ t.entries s [] → (s.cell a).flags.noChild = false

/-- block 1 (the top of the tree, or no node at all), or a node all of whose ancestors are unmarked -/
def Settable (s : State) (t : T) (n : Nat) : Prop := n = 1 ∨ ∃ p, Anc s t p n

/-- later insertions keep a node settable: its path and the paths of its ancestors stay where they are,
    and flags are only ever cleared -/
theorem Anc.grow {stems : LRU} {s s' : State} {t t' : T} {p : LRU} {b : Nat} (ha : Anc s t p b)
    (hs : Shape s t) (gr : Grow stems s t s' t') (hle : s ⊑ s') : Anc s' t' p b := by
  refine ⟨gr.keep _ _ ha.1, fun k hk0 hk a hent => ?_⟩
  obtain ⟨a0, h0⟩ := entries_prefix_closed t [] p b ha.1 k (by simpa using hk0) (Nat.le_of_lt hk)
  have h1 := gr.keep _ _ h0
  have e : a = a0 := entries_path_injective gr.shape.ord gr.shape.nodup hent h1
  subst e
  exact hle.noChild_false (hs.rep.lt_size a (entries_addr_mem _ _ _ _ h0)) (ha.2 k hk0 hk a h0)

theorem Settable.grow {stems : LRU} {s s' : State} {t t' : T} {n : Nat} (h : Settable s t n)
    (hs : Shape s t) (gr : Grow stems s t s' t') (hle : s ⊑ s') : Settable s' t' n := by
  rcases h with h | ⟨p, h⟩
  · exact Or.inl h
  · exact Or.inr ⟨p, h.grow hs gr hle⟩

theorem Settable.of_noStruct {s s' : State} {t : T} {n : Nat} (h : Settable s t n) (ns : NoStruct s s')
    (hnc : ∀ j, (s'.cell j).flags.noChild = (s.cell j).flags.noChild) : Settable s' t n := by
  rcases h with h | ⟨p, h1, h2⟩
  · exact Or.inl h
  · have e : t.entries s' [] = t.entries s [] := ns.entries t []
    refine Or.inr ⟨p, by rw [e]; exact h1, fun k hk0 hk a ha => ?_⟩
    rw [e] at ha
    rw [hnc]; exact h2 k hk0 hk a ha

theorem Settable.setWe {s : State} {t : T} {n : Nat} (h : Settable s t n) (m w : Nat) :
    Settable (s.modCell m (fun c => { c with we := w })) t n :=
  h.of_noStruct (noStruct_setWe s m w) (fun j => by rw [flags_setWe])

theorem setWe_root_markOk {s : State} {t : T} (hs : Shape s t) (hm : MarkOk s t) (w : Nat) :
    MarkOk (s.modCell 1 (fun c => { c with we := w })) t := by
  cases t with
  | nil => trivial
  | node a l c r =>
    have hroot := hs.root
    by_cases hsz : s.trie.size ≤ 1
    · rw [if_pos hsz] at hroot
      exact absurd hroot hs.rep.1
    · rw [if_neg hsz] at hroot
      simp only [T.root_node] at hroot
      subst hroot
      refine setWe_markOk hs hm (p := [s.stemAt 1]) (b := 1) ?_ ?_ w
      · exact entry_self (pre := [])
      · intro k hk0 hk; simp at hk; omega

theorem Settable.markOk {s : State} {t : T} {n : Nat} (h : Settable s t n) (hs : Shape s t)
    (hm : MarkOk s t) (w : Nat) : MarkOk (s.modCell n (fun c => { c with we := w })) t := by
  rcases h with rfl | ⟨p, h1, h2⟩
  · exact setWe_root_markOk hs hm w
  · exact setWe_markOk hs hm h1 h2 w

def MKeeps (s s' : State) : Prop :=
  ∀ t, Shape s t → MarkOk s t → ∃ t', Shape s' t' ∧ MarkOk s' t' ∧ ∀ n, Settable s t n → Settable s' t' n

theorem MKeeps.refl (s : State) : MKeeps s s := fun t hs hm => ⟨t, hs, hm, fun _ h => h⟩

theorem MKeeps.trans {a b c : State} (h1 : MKeeps a b) (h2 : MKeeps b c) : MKeeps a c := fun t hs hm =>
  have ⟨t1, hs1, hm1, k1⟩ := h1 t hs hm
  have ⟨t2, hs2, hm2, k2⟩ := h2 t1 hs1 hm1
  ⟨t2, hs2, hm2, fun n h => k2 n (k1 n h)⟩

theorem MKeeps.minv {s s' : State} (h : MKeeps s s') : MInv s → MInv s' := fun ⟨t, hs, hm⟩ =>
  have ⟨t', hs', hm', _⟩ := h t hs hm
  ⟨t', hs', hm'⟩

theorem MKeeps.of_noStruct {s s' : State} (ns : NoStruct s s')
    (hwe : ∀ b, (s.cell b).we = 0 → (s'.cell b).we = 0)
    (hnc : ∀ b, (s'.cell b).flags.noChild = (s.cell b).flags.noChild) : MKeeps s s' := fun t hs hm =>
  ⟨t, ns.shape hs, hm.of_cells hwe (fun b h => hnc b ▸ h), fun _ h => h.of_noStruct ns hnc⟩

theorem MKeeps.of_trie_eq {s s' : State} (e : s'.trie = s.trie) : MKeeps s s' := by
  have hc := cell_of_trie_eq e
  exact .of_noStruct ⟨by rw [e], fun i c hc => ⟨c, by rw [e]; exact hc, rfl, rfl, rfl, rfl, rfl⟩⟩
    (fun b h => by rw [hc]; exact h) (fun b => by rw [hc])

theorem MKeeps.modCell (s : State) (i : Nat) (f : Cell → Cell)
    (hf : ∀ c, (f c).left = c.left ∧ (f c).right = c.right ∧ (f c).child = c.child ∧
      (f c).chunk = c.chunk ∧ (f c).flags.hasTail = c.flags.hasTail)
    (hwe : ∀ c, c.we = 0 → (f c).we = 0) (hnc : ∀ c, (f c).flags.noChild = c.flags.noChild) :
    MKeeps s (s.modCell i f) := by
  refine .of_noStruct (noStruct_modCell s i f hf) (fun b h => ?_) (fun b => ?_) <;> rw [cell_modCell] <;> split
  · exact hwe _ h
  · exact h
  · exact hnc _
  · rfl

theorem MKeeps.setWe (s : State) (n w : Nat) (h : w ≠ 0 → ∀ t, Shape s t → Settable s t n) :
    MKeeps s (s.modCell n fun c => { c with we := w }) := fun t hs hm => by
  refine ⟨t, shape_setWe hs n w, ?_, fun _ hm => hm.setWe n w⟩
  rcases Nat.decEq w 0 with h0 | h0
  · exact (h h0 t hs).markOk hs hm w
  · subst h0; exact clearWe_markOk hm n

theorem MKeeps.addLru (s : State) (stems : LRU) (flag : Bool) : MKeeps s (s.addLru stems flag).1 := fun t hs hm => by
  cases stems with
  | nil => exact ⟨t, hs, hm, fun _ h => h⟩
  | cons x r =>
    obtain ⟨t', gr, hm', _⟩ := addLru_markOk hs hm (x :: r) (by simp) flag
    exact ⟨t', gr.shape, hm', fun _ h => h.grow hs gr (addLru_le s (x :: r) flag hs.live (by simp)).1⟩

theorem MKeeps.addStubs (s : State) (page : Nat) (targets : List Nat) (out : Bool) :
    MKeeps s (s.addStubs page targets out) :=
  addStubs_rel MKeeps.refl MKeeps.trans (fun _ _ => .of_trie_eq rfl) page out
    (fun s _ => .modCell s page _ (fun c => by cases out <;> exact ⟨rfl, rfl, rfl, rfl, rfl⟩)
      (fun c h => by cases out <;> exact h) (fun c => by cases out <;> rfl)) s targets

theorem MKeeps.settable {a b : State} {n : Nat} (r : MKeeps a b) (hi : MInv a)
    (hq : ∀ t, Shape a t → Settable a t n) : ∀ t, Shape b t → Settable b t n :=
  fun t' hs' =>
    have ⟨t, hs, hm⟩ := hi
    have ⟨_, hs1, _, k1⟩ := r t hs hm
    hs1.unique hs' ▸ k1 _ (hq t hs)

/-- what is kept of a block answered by `add_lru _ true`: it is settable, whichever the ghost tree -/
theorem minv_across (k ru : Bool) (wf : Prop) :
    Across k ru wf MInv (fun x s => x.flag = true → ∀ t, Shape s t → Settable s t x.node) MKeeps where
  refl := MKeeps.refl
  trans := MKeeps.trans
  keep hi r := r.minv hi
  stable hi hq r hf := r.settable hi (hq hf)
  addLru s stems flag := fun ⟨t, hs, hm⟩ => ⟨.addLru s stems flag, fun hf t' hs' => by
    subst hf
    cases stems with
    | nil => exact Or.inl rfl
    | cons x r =>
      obtain ⟨_, gr, _, hent, hu⟩ := addLru_true_unmarks hs hm (x :: r) (by simp)
      exact gr.shape.unique hs' ▸ Or.inr ⟨_, hent, hu⟩⟩
  lookup _ _ _ _ _ hf := nomatch hf
  setPage s x cr hi hq :=
    have r : MKeeps s (s.modCell x.node fun c =>
        { c with flags := { c.flags with page := true, crawled := c.flags.crawled || cr } }) :=
      .modCell s x.node _ (fun _ => ⟨rfl, rfl, rfl, rfl, rfl⟩) (fun _ h => h) (fun _ => rfl)
    ⟨r, fun hf => r.settable hi (hq hf)⟩
  isPage _ _ _ hq _ := hq
  setCrawled s x _ _ := .modCell s x.node _ (fun _ => ⟨rfl, rfl, rfl, rfl, rfl⟩) (fun _ h => h) (fun _ => rfl)
  setRule _ s x _ _ _ := .modCell s x.node _ (fun _ => ⟨rfl, rfl, rfl, rfl, rfl⟩) (fun _ h => h) (fun _ => rfl)
  setWe s x w _ hq hw := .setWe s x.node w fun h => hq (hw h)
  genId _ _ := .of_trie_eq rfl
  addStubs _ s page targets out _ _ := .addStubs s page targets out
  ram _ _ _ _ _ := .of_trie_eq rfl

/-- for a node `a` of the tree (looked up by `lru_node`), the pruned walk of `childWebentities` meets
    exactly the ids attached at `a` or anywhere in its child subtree -/
theorem C13_children_exact_of_shape {s : State} {t : T} (hs : Shape s t) (hm : MarkOk s t)
    {a : Nat} (ha : a ∈ t.addrs) (lru : Bytes) (w : Nat) :
    ∃ l c r, Rep s (.node a l c r) ∧ (∀ x ∈ c.addrs, x ∈ t.addrs) ∧
      ∀ x, (x ≠ 0 ∧ x ≠ w ∧ ∃ b ∈ a :: c.addrs, (s.cell b).we = x) ↔
           (x ≠ 0 ∧ x ≠ w ∧ ∃ bl ∈ s.dfsIter (some (a, lru)) true, (s.cell bl.1).we = x) := by
  obtain ⟨P, hP⟩ := T.addrs_mem_entries (s := s) t [] ha
  obtain ⟨l, c, r, _, _, h1, _, h3, h4, h5, hiff⟩ := hs.subtree_with MarkOk.subtrees hm hP
  refine ⟨l, c, r, h1, fun x hx => ?_, C13_children_exact h1 h3 h5 h4 lru w⟩
  obtain ⟨q, hq⟩ := T.addrs_mem_entries (s := s) c P hx
  exact entries_addr_mem _ _ _ _ ((hiff q x).mp hq).1

end Traph

section
open Traph
#print axioms dfsIter_pruned_from
#print axioms dfsIter_pruned_some
#print axioms prePruned_complete
#print axioms prePruned_sub
#print axioms C13_children_exact
#print axioms MarkOk.mono
#print axioms MarkOk.grow
#print axioms addLru_markOk
#print axioms addLru_true_unmarks
#print axioms addLru_true_unmarks_lruNode
#print axioms setWe_markOk
#print axioms minv_across
#print axioms C13_children_exact_of_shape
end
