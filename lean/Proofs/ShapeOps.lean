import Proofs.InsertAttrs
import Proofs.Resolve
import Proofs.LeOps
import Proofs.VariationsBridge
/-! Every write request preserves the shape invariant (C01), and the vocabulary for the
    page-set refinement: `IsPage`, `IsCrawled`, the extension relation `Ext` (shape kept, old entries
    kept), the page-set relation `Adds` and their conjunction `Step`. -/
namespace Traph
open State Layout

/-- a stem as cut by `lru_iter`: closed by its separator, no separator inside; `WfStem` (PagOrder) is the same
    predicate with 124 for `sep` -/
def StemWf (x : Stem) : Prop := ∃ y : Bytes, x = y ++ [sep] ∧ sep ∉ y

theorem lruIter_wf (b : Bytes) : ∀ x ∈ lruIter b, StemWf x := by
  induction b using bytes_sep_induction with
  | tail y hy => rw [lruIter_tail y hy]; exact fun _ h => nomatch h
  | stem y r hy ih =>
    rw [lruIter_stem y r hy]
    exact fun x hx => (List.mem_cons.mp hx).elim (fun e => ⟨y, e, hy⟩) (ih x)

theorem lruIter_flatten : ∀ (p : LRU), (∀ x ∈ p, StemWf x) → lruIter p.flatten = p
  | [], _ => rfl
  | x :: p, h => by
    obtain ⟨y, rfl, hy⟩ := h x (by simp)
    rw [List.flatten_cons, List.append_assoc, List.singleton_append, lruIter_stem y _ hy,
      lruIter_flatten p fun z hz => h z (by simp [hz])]

def IsPage (s : State) (t : T) (p : LRU) : Prop :=
  ∃ b, (p, b) ∈ t.entries s [] ∧ (s.cell b).flags.page = true

def IsCrawled (s : State) (t : T) (p : LRU) : Prop :=
  ∃ b, (p, b) ∈ t.entries s [] ∧ (s.cell b).flags.page = true ∧ (s.cell b).flags.crawled = true

theorem IsCrawled.isPage {s : State} {t : T} {p : LRU} (h : IsCrawled s t p) : IsPage s t p := by
  obtain ⟨b, h1, h2, _⟩ := h; exact ⟨b, h1, h2⟩

/-- every stem of every stored path is well formed (field `wf` of `Inv`). The traversals use it block by block over a
    subtree, as `AllWf` (PagOrder); `allWf_of_wfStems` (PagWalk) leads from here to there. -/
def WfStems (s : State) (t : T) : Prop := ∀ p b, (p, b) ∈ t.entries s [] → ∀ x ∈ p, StemWf x

theorem WfStems.iter_flatten {s : State} {t : T} (hw : WfStems s t) {p : LRU} {b : Nat}
    (hp : (p, b) ∈ t.entries s []) : lruIter p.flatten = p :=
  lruIter_flatten p (hw p b hp)

theorem WfStems.flatten_inj {s : State} {t : T} (hw : WfStems s t) {p q : LRU} {a b : Nat}
    (hp : (p, a) ∈ t.entries s []) (hq : (q, b) ∈ t.entries s []) (e : p.flatten = q.flatten) : p = q := by
  rw [← hw.iter_flatten hp, ← hw.iter_flatten hq, e]

/-- only pages carry the crawled mark -/
def FlagsOk (s : State) (t : T) : Prop :=
  ∀ p b, (p, b) ∈ t.entries s [] → (s.cell b).flags.crawled = true → (s.cell b).flags.page = true

/-- what the page-set refinement needs of an index beside its shape: every stored stem is one that `lru_iter` cuts
    (so a stored path is the `lru_iter` of its bytes), and only pages are marked crawled -/
structure Inv (s : State) (t : T) : Prop where
  wf : WfStems s t
  flags : FlagsOk s t

structure Ext (s : State) (t : T) (s' : State) (t' : T) : Prop where
  shape : Shape s' t'
  size : s.trie.size ≤ s'.trie.size
  keep : ∀ p b, (p, b) ∈ t.entries s [] → (p, b) ∈ t'.entries s' []

theorem Ext.refl {s : State} {t : T} (h : Shape s t) : Ext s t s t :=
  ⟨h, Nat.le_refl _, fun _ _ hm => hm⟩

theorem Ext.trans {s0 s1 s2 : State} {t0 t1 t2 : T} (h1 : Ext s0 t0 s1 t1) (h2 : Ext s1 t1 s2 t2) :
    Ext s0 t0 s2 t2 :=
  ⟨h2.shape, Nat.le_trans h1.size h2.size, fun p b hm => h2.keep p b (h1.keep p b hm)⟩

/-- how the page set and the crawled set move; `added` lists the submitted LRUs with their (mustCrawl, mayCrawl)
    marks -/
structure Adds (s : State) (t : T) (s' : State) (t' : T) (added : List (LRU × Bool × Bool)) : Prop where
  inv  : Inv s' t'
  page : ∀ p, IsPage s' t' p ↔ (IsPage s t p ∨ ∃ x ∈ added, x.1 = p)
  may  : ∀ p, IsCrawled s' t' p → (IsCrawled s t p ∨ ∃ x ∈ added, x.1 = p ∧ x.2.2 = true)
  must : ∀ p, (IsCrawled s t p ∨ ∃ x ∈ added, x.1 = p ∧ x.2.1 = true) → IsCrawled s' t' p

theorem Adds.refl {s : State} {t : T} (hi : Inv s t) : Adds s t s t [] :=
  ⟨hi, fun p => by simp, fun p h => Or.inl h, fun p h => by simpa using h⟩

theorem Adds.trans {s0 s1 s2 : State} {t0 t1 t2 : T} {A B : List (LRU × Bool × Bool)}
    (h1 : Adds s0 t0 s1 t1 A) (h2 : Adds s1 t1 s2 t2 B) : Adds s0 t0 s2 t2 (A ++ B) where
  inv := h2.inv
  page := fun p => by
    rw [h2.page, h1.page]
    simp only [List.mem_append]
    constructor
    · rintro ((h | ⟨x, hx, e⟩) | ⟨x, hx, e⟩)
      · exact Or.inl h
      · exact Or.inr ⟨x, Or.inl hx, e⟩
      · exact Or.inr ⟨x, Or.inr hx, e⟩
    · rintro (h | ⟨x, hx | hx, e⟩)
      · exact Or.inl (Or.inl h)
      · exact Or.inl (Or.inr ⟨x, hx, e⟩)
      · exact Or.inr ⟨x, hx, e⟩
  may := fun p h => by
    rcases h2.may p h with h | ⟨x, hx, e⟩
    · rcases h1.may p h with h | ⟨x, hx, e⟩
      · exact Or.inl h
      · exact Or.inr ⟨x, List.mem_append_left _ hx, e⟩
    · exact Or.inr ⟨x, List.mem_append_right _ hx, e⟩
  must := fun p h => by
    rcases h with h | ⟨x, hx, e⟩
    · exact h2.must p (Or.inl (h1.must p (Or.inl h)))
    · rcases List.mem_append.mp hx with hx | hx
      · exact h2.must p (Or.inl (h1.must p (Or.inr ⟨x, hx, e⟩)))
      · exact h2.must p (Or.inr ⟨x, hx, e⟩)

/-- the marks may be weakened: the same LRUs, every may-mark kept, no must-mark invented -/
theorem Adds.weaken {s s' : State} {t t' : T} {A B : List (LRU × Bool × Bool)} (h : Adds s t s' t' A)
    (hpage : ∀ p, (∃ x ∈ A, x.1 = p) ↔ (∃ y ∈ B, y.1 = p))
    (hmay : ∀ x ∈ A, x.2.2 = true → ∃ y ∈ B, y.1 = x.1 ∧ y.2.2 = true)
    (hmust : ∀ y ∈ B, y.2.1 = true → ∃ x ∈ A, x.1 = y.1 ∧ x.2.1 = true) : Adds s t s' t' B where
  inv := h.inv
  page := fun p => by rw [h.page, hpage]
  may := fun p hp => by
    rcases h.may p hp with h1 | ⟨x, hx, e, hm⟩
    · exact Or.inl h1
    · obtain ⟨y, hy, e1, h3⟩ := hmay x hx hm; exact Or.inr ⟨y, hy, e1.trans e, h3⟩
  must := fun p hp => by
    rcases hp with hp | ⟨y, hy, e, hm⟩
    · exact h.must p (Or.inl hp)
    · obtain ⟨x, hx, e1, h2⟩ := hmust y hy hm; exact h.must p (Or.inr ⟨x, hx, e1.trans e, h2⟩)

/-- `Step`: the shape part holds outright, the page-set part for states satisfying `Inv` -/
structure Step (s : State) (t : T) (s' : State) (t' : T) (added : List (LRU × Bool × Bool)) : Prop where
  ext : Ext s t s' t'
  adds : Inv s t → Adds s t s' t' added

abbrev Keeps (s : State) (t : T) (s' : State) (t' : T) : Prop := Step s t s' t' []

theorem Step.shape {s s' : State} {t t' : T} {A} (h : Step s t s' t' A) : Shape s' t' := h.ext.shape

theorem Keeps.refl {s : State} {t : T} (h : Shape s t) : Keeps s t s t := ⟨Ext.refl h, Adds.refl⟩

theorem Step.trans {s0 s1 s2 : State} {t0 t1 t2 : T} {A B : List (LRU × Bool × Bool)}
    (h1 : Step s0 t0 s1 t1 A) (h2 : Step s1 t1 s2 t2 B) : Step s0 t0 s2 t2 (A ++ B) :=
  ⟨h1.ext.trans h2.ext, fun hi => (h1.adds hi).trans (h2.adds (h1.adds hi).inv)⟩

theorem Keeps.trans {s0 s1 s2 : State} {t0 t1 t2 : T}
    (h1 : Keeps s0 t0 s1 t1) (h2 : Keeps s1 t1 s2 t2) : Keeps s0 t0 s2 t2 := Step.trans h1 h2

theorem Keeps.then {s0 s1 s2 : State} {t0 t1 t2 : T} {A : List (LRU × Bool × Bool)}
    (h1 : Keeps s0 t0 s1 t1) (h2 : Step s1 t1 s2 t2 A) : Step s0 t0 s2 t2 A := Step.trans h1 h2

theorem Step.then_keeps {s0 s1 s2 : State} {t0 t1 t2 : T} {A : List (LRU × Bool × Bool)}
    (h1 : Step s0 t0 s1 t1 A) (h2 : Keeps s1 t1 s2 t2) : Step s0 t0 s2 t2 A := by
  have := Step.trans h1 h2
  rwa [List.append_nil] at this

theorem Step.of_eq {s s' : State} {t t' : T} {A B : List (LRU × Bool × Bool)} (h : Step s t s' t' A)
    (e : A = B) : Step s t s' t' B := e ▸ h

theorem Keeps.page {s s' : State} {t t' : T} (k : Keeps s t s' t') (hi : Inv s t) (p : LRU) :
    IsPage s' t' p ↔ IsPage s t p := by
  rw [(k.adds hi).page]; simp

theorem Keeps.crawled {s s' : State} {t t' : T} (k : Keeps s t s' t') (hi : Inv s t) (p : LRU) :
    IsCrawled s' t' p ↔ IsCrawled s t p :=
  ⟨fun h => by
    rcases (k.adds hi).may p h with h | ⟨x, hx, _⟩
    · exact h
    · simp at hx, fun h => (k.adds hi).must p (Or.inl h)⟩

theorem entries_prefix_closed {s : State} : ∀ (u : T) (pre p : LRU) (b : Nat),
    (p, b) ∈ u.entries s pre → ∀ j, pre.length < j → j ≤ p.length →
    ∃ b', (p.take j, b') ∈ u.entries s pre
  | .nil, _, _, _, h => nomatch h
  | .node a l c r, pre, p, b, h => by
    intro j hj1 hj2
    rcases entry_node_iff.mp h with h | ⟨rfl, rfl⟩ | h | h
    · obtain ⟨b', hb'⟩ := entries_prefix_closed l pre p b h j hj1 hj2
      exact ⟨b', entry_left hb'⟩
    · rw [List.take_of_length_le (by rw [List.length_append]; exact hj1)]
      exact ⟨_, entry_self⟩
    · obtain ⟨x, rest, rfl⟩ := entries_prefix c _ p b h
      by_cases hj : j = pre.length + 1
      · subst hj
        rw [List.append_assoc, List.singleton_append, take_append_cons]
        exact ⟨a, entry_self⟩
      · obtain ⟨b', hb'⟩ := entries_prefix_closed c _ _ b h j
          (by rw [List.length_append]; exact Nat.lt_of_le_of_ne hj1 (Ne.symm hj)) hj2
        exact ⟨b', entry_child hb'⟩
    · obtain ⟨b', hb'⟩ := entries_prefix_closed r pre p b h j hj1 hj2
      exact ⟨b', entry_right hb'⟩

theorem entry_lt {s : State} {t : T} (h : Shape s t) {p : LRU} {b : Nat} (hm : (p, b) ∈ t.entries s []) :
    b < s.trie.size := h.rep.lt_size b (entries_addr_mem t [] p b hm)

theorem NoStruct.ext {s s' : State} {t : T} (n : NoStruct s s') (h : Shape s t) : Ext s t s' t :=
  ⟨n.shape h, Nat.le_of_eq n.1.symm, fun p b hm => by rw [n.entries]; exact hm⟩

theorem Keeps.of_noStruct {s s' : State} {t : T} (h : Shape s t) (n : NoStruct s s')
    (hp : ∀ b, (s'.cell b).flags.page = (s.cell b).flags.page)
    (hc : ∀ b, (s'.cell b).flags.crawled = (s.cell b).flags.crawled) : Keeps s t s' t := by
  have e := n.entries t []
  refine ⟨n.ext h, fun hi => ⟨⟨?_, ?_⟩, ?_, ?_, ?_⟩⟩
  · intro p b hm; rw [e] at hm; exact hi.wf p b hm
  · intro p b hm; rw [e] at hm; rw [hp, hc]; exact hi.flags p b hm
  · intro p
    simp only [IsPage, e, hp, List.not_mem_nil, false_and, exists_false, or_false]
  · intro p hp'
    left
    simpa only [IsCrawled, e, hp, hc] using hp'
  · intro p hp'
    rcases hp' with hp' | ⟨x, hx, _⟩
    · simpa only [IsCrawled, e, hp, hc] using hp'
    · simp at hx

theorem noStruct_of_trie_eq {s s' : State} (e : s'.trie = s.trie) : NoStruct s s' :=
  ⟨by rw [e], fun i c hc => ⟨c, by rw [e]; exact hc, rfl, rfl, rfl, rfl, rfl⟩⟩

/-- RAM-only updates, header writes, link-store appends: the trie is the same array -/
theorem Keeps.of_trie_eq {s s' : State} {t : T} (h : Shape s t) (e : s'.trie = s.trie) : Keeps s t s' t :=
  Keeps.of_noStruct h (noStruct_of_trie_eq e) (fun b => by rw [cell_of_trie_eq e]) (fun b => by rw [cell_of_trie_eq e])

theorem noStruct_modCell (s : State) (i : Nat) (f : Cell → Cell)
    (hf : ∀ c, (f c).left = c.left ∧ (f c).right = c.right ∧ (f c).child = c.child ∧
      (f c).chunk = c.chunk ∧ (f c).flags.hasTail = c.flags.hasTail) : NoStruct s (s.modCell i f) := by
  refine ⟨trie_modCell_size _ _ _, fun j c hc => ?_⟩
  rw [getElem?_modCell]
  by_cases e : i = j
  · rw [if_pos e, hc]; exact ⟨_, rfl, hf c⟩
  · rw [if_neg e]; exact ⟨c, hc, rfl, rfl, rfl, rfl, rfl⟩

theorem noStruct_setWe (s : State) (n v : Nat) : NoStruct s (s.modCell n (fun c => { c with we := v })) :=
  noStruct_modCell s n _ (fun _ => ⟨rfl, rfl, rfl, rfl, rfl⟩)

theorem noStruct_markCrawled (s : State) (n : Nat) :
    NoStruct s (s.modCell n (fun c => { c with flags := { c.flags with crawled := true } })) :=
  noStruct_modCell s n _ (fun _ => ⟨rfl, rfl, rfl, rfl, rfl⟩)

theorem noStruct_setRule (s : State) (n : Nat) (b : Bool) :
    NoStruct s (s.modCell n (fun c => { c with flags := { c.flags with rule := b } })) :=
  noStruct_modCell s n _ (fun _ => ⟨rfl, rfl, rfl, rfl, rfl⟩)

theorem noStruct_addStubs (s : State) (page : Nat) (targets : List Nat) (out : Bool) :
    NoStruct s (s.addStubs page targets out) :=
  addStubs_rel NoStruct.refl NoStruct.trans (fun _ _ => noStruct_of_trie_eq rfl) page out
    (fun s _ => noStruct_modCell s page _ (fun _ => by cases out <;> exact ⟨rfl, rfl, rfl, rfl, rfl⟩)) s targets

theorem noStruct_foldl_modCell {α : Type} (idx : α → Nat) (f : α → Cell → Cell)
    (hf : ∀ a c, ((f a c).left = c.left ∧ (f a c).right = c.right ∧ (f a c).child = c.child ∧
      (f a c).chunk = c.chunk ∧ (f a c).flags.hasTail = c.flags.hasTail)) :
    ∀ (l : List α) (s : State), NoStruct s (l.foldl (fun st a => st.modCell (idx a) (f a)) s)
  | [], s => NoStruct.refl s
  | a :: l, s => (noStruct_modCell s (idx a) (f a) (hf a)).trans (noStruct_foldl_modCell idx f hf l _)

theorem keeps_modCell {s : State} {t : T} (h : Shape s t) (i : Nat) (f : Cell → Cell)
    (hf : ∀ c, (f c).left = c.left ∧ (f c).right = c.right ∧ (f c).child = c.child ∧
      (f c).chunk = c.chunk ∧ (f c).flags.hasTail = c.flags.hasTail)
    (hp : ∀ c, (f c).flags.page = c.flags.page) (hc : ∀ c, (f c).flags.crawled = c.flags.crawled) :
    Keeps s t (s.modCell i f) t :=
  Keeps.of_noStruct h (noStruct_modCell s i f hf)
    (fun b => by rw [cell_modCell]; split <;> simp [hp])
    (fun b => by rw [cell_modCell]; split <;> simp [hc])

theorem keeps_appendStub {s : State} {t : T} (h : Shape s t) (b : Stub) : Keeps s t (s.appendStub b).1 t :=
  Keeps.of_trie_eq h rfl

theorem keeps_setHdr {s : State} {t : T} (h : Shape s t) (id : Nat) : Keeps s t (s.setHdr id) t :=
  Keeps.of_trie_eq h rfl

theorem keeps_foldl_modCell {α : Type} (g : α → Nat) (f : α → Cell → Cell)
    (hf : ∀ a c, ((f a c).left = c.left ∧ (f a c).right = c.right ∧ (f a c).child = c.child ∧
      (f a c).chunk = c.chunk ∧ (f a c).flags.hasTail = c.flags.hasTail))
    (hp : ∀ a c, (f a c).flags.page = c.flags.page) (hc : ∀ a c, (f a c).flags.crawled = c.flags.crawled) :
    ∀ (l : List α) (s : State) (t : T), Shape s t →
      Keeps s t (l.foldl (fun st a => st.modCell (g a) (f a)) s) t
  | [], s, t, h => Keeps.refl h
  | a :: l, s, t, h => by
    rw [List.foldl_cons]
    have k := keeps_modCell h (g a) (f a) (hf a) (hp a) (hc a)
    exact k.trans (keeps_foldl_modCell g f hf hp hc l _ t k.shape)

theorem Keeps.of_grow {s s' : State} {t t' : T} {stems : LRU} (h : Shape s t) (g : Grow stems s t s' t')
    (a : AttrStep s s') (hst : ∀ x ∈ stems, StemWf x) : Keeps s t s' t' := by
  have old : ∀ p b, (p, b) ∈ t'.entries s' [] → (s'.cell b).flags.page = true ∨ (s'.cell b).flags.crawled = true →
      (p, b) ∈ t.entries s [] := by
    intro p b hm hf
    rcases g.new p b hm with h1 | ⟨hb, _⟩
    · exact h1
    · have c := a.new b hb
      rw [c.page, c.crawled] at hf
      simp at hf
  refine ⟨⟨g.shape, g.size, g.keep⟩, fun hi => ⟨⟨?_, ?_⟩, ?_, ?_, ?_⟩⟩
  · intro p b hm x hx
    rcases g.new p b hm with h1 | ⟨_, k, _, _, rfl⟩
    · exact hi.wf p b h1 x hx
    · exact hst x (List.mem_of_mem_take hx)
  · intro p b hm hcr
    have h1 := old p b hm (Or.inr hcr)
    have e := a.old b (entry_lt h h1)
    rw [e.page]; rw [e.crawled] at hcr
    exact hi.flags p b h1 hcr
  · intro p
    simp only [List.not_mem_nil, false_and, exists_false, or_false]
    constructor
    · rintro ⟨b, hm, hp⟩
      have h1 := old p b hm (Or.inl hp)
      exact ⟨b, h1, by rw [← (a.old b (entry_lt h h1)).page]; exact hp⟩
    · rintro ⟨b, hm, hp⟩
      exact ⟨b, g.keep p b hm, by rw [(a.old b (entry_lt h hm)).page]; exact hp⟩
  · rintro p ⟨b, hm, hp, hcr⟩
    have h1 := old p b hm (Or.inl hp)
    have e := a.old b (entry_lt h h1)
    exact Or.inl ⟨b, h1, by rw [← e.page]; exact hp, by rw [← e.crawled]; exact hcr⟩
  · rintro p (⟨b, hm, hp, hcr⟩ | ⟨x, hx, _⟩)
    · have e := a.old b (entry_lt h hm)
      exact ⟨b, g.keep p b hm, by rw [e.page]; exact hp, by rw [e.crawled]; exact hcr⟩
    · simp at hx

theorem addLru_nil (s : State) (flag : Bool) : s.addLru [] flag = (s, 1, {}) := by
  simp only [addLru, addLruDescend, addLruCreate]

theorem ext_addLru {s : State} {t : T} (h : Shape s t) (stems : LRU) (flag : Bool) :
    ∃ t', Ext s t (s.addLru stems flag).1 t' := by
  by_cases hne : stems = []
  · subst hne; rw [addLru_nil]; exact ⟨t, Ext.refl h⟩
  · obtain ⟨t', g, _⟩ := addLru_grow h stems flag hne
    exact ⟨t', g.shape, g.size, g.keep⟩

theorem keeps_addLru {s : State} {t : T} (h : Shape s t) (stems : LRU) (flag : Bool)
    (hst : ∀ x ∈ stems, StemWf x) :
    ∃ t', Keeps s t (s.addLru stems flag).1 t' ∧
      (stems ≠ [] → (stems, (s.addLru stems flag).2.1) ∈ t'.entries (s.addLru stems flag).1 []) := by
  by_cases hne : stems = []
  · subst hne
    rw [addLru_nil]
    exact ⟨t, Keeps.refl h, fun h => absurd rfl h⟩
  · obtain ⟨t', g, hent⟩ := addLru_grow h stems flag hne
    exact ⟨t', Keeps.of_grow h g (attrStep_addLru s stems flag) hst, fun _ => hent⟩


theorem keeps_setWe {s : State} {t : T} (h : Shape s t) (i v : Nat) :
    Keeps s t (s.modCell i (fun c => { c with we := v })) t :=
  keeps_modCell h i _ (fun _ => ⟨rfl, rfl, rfl, rfl, rfl⟩) (fun _ => rfl) (fun _ => rfl)

theorem keeps_setRule {s : State} {t : T} (h : Shape s t) (i : Nat) (b : Bool) :
    Keeps s t (s.modCell i (fun c => { c with flags := { c.flags with rule := b } })) t :=
  keeps_modCell h i _ (fun _ => ⟨rfl, rfl, rfl, rfl, rfl⟩) (fun _ => rfl) (fun _ => rfl)

theorem keeps_addStubsGo : ∀ (targets : List Nat) (s : State) (tail : Nat) (t : T), Shape s t →
    Keeps s t (s.addStubsGo tail targets).1 t
  | [], s, tail, t, h => by simp only [addStubsGo]; exact Keeps.refl h
  | x :: ts, s, tail, t, h => by
    simp only [addStubsGo]
    have k := keeps_appendStub h { target := x, prev := tail }
    exact k.trans (keeps_addStubsGo ts _ _ t k.shape)

theorem keeps_addStubs {s : State} {t : T} (h : Shape s t) (page : Nat) (targets : List Nat) (out : Bool) :
    Keeps s t (s.addStubs page targets out) t := by
  unfold addStubs
  split
  · exact Keeps.refl h
  · have k := keeps_addStubsGo targets s (if out then (s.cell page).out else (s.cell page).inn) t h
    exact k.trans (keeps_modCell k.shape _ _ (fun c => by cases out <;> exact ⟨rfl, rfl, rfl, rfl, rfl⟩)
      (fun c => by cases out <;> rfl) (fun c => by cases out <;> rfl))

theorem keeps_genId {s : State} {t : T} (h : Shape s t) : Keeps s t s.genId.1 t := keeps_setHdr h _

theorem keeps_addLruIter {s : State} {t : T} (h : Shape s t) (x : Bytes) (flag : Bool) :
    ∃ t', Keeps s t (s.addLru (lruIter x) flag).1 t' ∧
      (lruIter x ≠ [] → (lruIter x, (s.addLru (lruIter x) flag).2.1) ∈ t'.entries (s.addLru (lruIter x) flag).1 []) :=
  keeps_addLru h (lruIter x) flag (lruIter_wf x)

theorem rulePrologue_keeps {s : State} {t : T} (h : Shape s t) (anchor : Bytes) (r : Rule) :
    ∃ t2, Keeps s t (s.rulePrologue anchor r).1 t2 ∧
      (lruIter anchor ≠ [] →
        (lruIter anchor, (s.rulePrologue anchor r).2) ∈ t2.entries (s.rulePrologue anchor r).1 []) := by
  have k0 : Keeps s t { s with rules := dictSet s.rules anchor r } t := Keeps.of_trie_eq h rfl
  unfold State.rulePrologue
  generalize ({ s with rules := dictSet s.rules anchor r } : State) = s0 at k0 ⊢
  simp only
  obtain ⟨t1, k1, hent⟩ := keeps_addLruIter k0.shape anchor false
  have k2 := keeps_setRule k1.shape (s0.addLru (lruIter anchor) false).2.1 true
  exact ⟨t1, k0.trans (k1.trans k2), fun hne => k2.ext.keep _ _ (hent hne)⟩

theorem keeps_addPrefixesScan : ∀ (ps : List Bytes) (s : State) (t : T) (valid : List (Bytes × Nat)) (nInv : Nat),
    Shape s t → ∃ t', Keeps s t (s.addPrefixesScan ps valid nInv).1 t'
  | [], s, t, valid, nInv, h => ⟨t, by simp only [addPrefixesScan]; exact Keeps.refl h⟩
  | p :: ps, s, t, valid, nInv, h => by
    obtain ⟨t1, k1, _⟩ := keeps_addLruIter h p true
    rcases ha : s.addLru (lruIter p) true with ⟨s1, n, hh⟩
    rw [ha] at k1
    simp only [addPrefixesScan, ha]
    split
    · obtain ⟨t2, k2⟩ := keeps_addPrefixesScan ps s1 t1 valid (nInv + 1) k1.shape
      exact ⟨t2, k1.trans k2⟩
    · obtain ⟨t2, k2⟩ := keeps_addPrefixesScan ps s1 t1 (dictSet valid p n) nInv k1.shape
      exact ⟨t2, k1.trans k2⟩

theorem keeps_addPrefixes {s : State} {t : T} (h : Shape s t) (prefixes : List Bytes) (best : Bool) :
    ∃ t', Keeps s t (s.addPrefixes prefixes best).1 t' := by
  obtain ⟨t1, k1⟩ := keeps_addPrefixesScan prefixes s t [] 0 h
  rcases ha : s.addPrefixesScan prefixes [] 0 with ⟨s1, valid, nInv⟩
  rw [ha] at k1
  simp only [addPrefixes, ha]
  split
  · exact ⟨t1, k1⟩
  · split
    · exact ⟨t1, k1⟩
    · have k2 := keeps_genId k1.shape
      have k3 := keeps_foldl_modCell (fun pn : Bytes × Nat => pn.2) (fun _ c => { c with we := s1.genId.2 })
        (fun _ _ => ⟨rfl, rfl, rfl, rfl, rfl⟩) (fun _ _ => rfl) (fun _ _ => rfl) valid _ t1 k2.shape
      exact ⟨t1, k1.trans (k2.trans k3)⟩

theorem keeps_createWebentityAuto {s : State} {t : T} (h : Shape s t) (pfx : Bytes) :
    ∃ t', Keeps s t (s.createWebentityAuto pfx).1 t' := by
  obtain ⟨t1, k1⟩ := keeps_addPrefixes h (lruVariations pfx) true
  unfold createWebentityAuto
  split <;> rename_i heq <;> rw [heq] at k1 <;> exact ⟨t1, k1⟩

theorem keeps_createWebentity {s : State} {t : T} (h : Shape s t) (prefixes : List Bytes) :
    ∃ t', Keeps s t (s.createWebentity prefixes).1 t' := by
  obtain ⟨t1, k1⟩ := keeps_addPrefixes h prefixes false
  unfold createWebentity
  split <;> rename_i heq <;> rw [heq] at k1 <;> exact ⟨t1, k1⟩

theorem keeps_deleteWebentity {s : State} {t : T} (h : Shape s t) (weid : Nat) (prefixes : List Bytes) :
    Keeps s t (s.deleteWebentity weid prefixes).1 t := by
  unfold deleteWebentity
  split
  · exact Keeps.refl h
  · exact keeps_foldl_modCell (fun pn : Bytes × Nat => pn.2) (fun _ c => { c with we := 0 })
      (fun _ _ => ⟨rfl, rfl, rfl, rfl, rfl⟩) (fun _ _ => rfl) (fun _ _ => rfl) _ s t h

theorem keeps_addPrefix {s : State} {t : T} (h : Shape s t) (pfx : Bytes) (weid : Nat) :
    ∃ t', Keeps s t (s.addPrefix pfx weid).1 t' := by
  obtain ⟨t1, k1, _⟩ := keeps_addLruIter h pfx true
  rcases ha : s.addLru (lruIter pfx) true with ⟨s1, n, hh⟩
  rw [ha] at k1
  simp only [addPrefix, ha]
  split
  · exact ⟨t1, k1⟩
  · exact ⟨t1, k1.trans (keeps_setWe k1.shape n weid)⟩

theorem keeps_removePrefix {s : State} {t : T} (h : Shape s t) (pfx : Bytes) (weid : Option Nat) :
    ∃ t', Keeps s t (s.removePrefix pfx weid).1 t' := by
  obtain ⟨t1, k1, _⟩ := keeps_addLruIter h pfx false
  rcases ha : s.addLru (lruIter pfx) false with ⟨s1, n, hh⟩
  rw [ha] at k1
  simp only at k1
  simp only [removePrefix, ha]
  repeat' split
  all_goals first | exact ⟨t1, k1⟩ | exact ⟨t1, k1.trans (keeps_setWe k1.shape n 0)⟩

theorem keeps_movePrefix {s : State} {t : T} (h : Shape s t) (pfx : Bytes) (target : Nat) (source : Option Nat) :
    ∃ t', Keeps s t (s.movePrefix pfx target source).1 t' := by
  obtain ⟨t1, k1⟩ := keeps_removePrefix h pfx source
  unfold movePrefix
  split
  · rename_i heq; rw [heq] at k1; exact ⟨t1, k1⟩
  · rename_i s1 _ heq
    rw [heq] at k1
    obtain ⟨t2, k2⟩ := keeps_addPrefix k1.shape pfx target
    exact ⟨t2, k1.trans k2⟩

theorem keeps_removeRule {s : State} {t : T} (h : Shape s t) (anchor : Bytes) :
    Keeps s t (s.removeRule anchor).1 t := by
  unfold removeRule
  split
  · exact Keeps.refl h
  · simp only
    have k0 : Keeps s t { s with rules := s.rules.filter (fun p => p.1 ≠ anchor) } t := Keeps.of_trie_eq h rfl
    split
    · exact k0
    · exact k0.trans (keeps_setRule k0.shape _ false)

theorem keeps_reopen {s : State} {t : T} (h : Shape s t) (dflt : Rule) (rules : List (Bytes × Rule)) :
    Keeps s t (s.reopen dflt rules) t := Keeps.of_trie_eq h rfl

theorem ext_modCell {s : State} {t : T} (h : Shape s t) (i : Nat) (f : Cell → Cell)
    (hf : ∀ c, (f c).left = c.left ∧ (f c).right = c.right ∧ (f c).child = c.child ∧
      (f c).chunk = c.chunk ∧ (f c).flags.hasTail = c.flags.hasTail) : Ext s t (s.modCell i f) t :=
  (noStruct_modCell s i f hf).ext h

theorem ext_across (k ru : Bool) (wf : Prop) :
    Across k ru wf (fun _ => True) (fun _ _ => True) (fun s s' => ∀ t, Shape s t → ∃ t', Ext s t s' t') where
  refl _ t h := ⟨t, Ext.refl h⟩
  trans r1 r2 t h :=
    have ⟨t1, x1⟩ := r1 t h
    have ⟨t2, x2⟩ := r2 t1 x1.shape
    ⟨t2, x1.trans x2⟩
  keep _ _ := trivial
  stable _ _ _ := trivial
  addLru s stems flag _ := ⟨fun _ h => ext_addLru h stems flag, trivial⟩
  lookup _ _ _ _ _ := trivial
  setPage _ x _ _ _ := ⟨fun t h => ⟨t, ext_modCell h x.node _ fun _ => ⟨rfl, rfl, rfl, rfl, rfl⟩⟩, trivial⟩
  isPage _ _ _ _ _ := trivial
  setCrawled _ x _ _ t h := ⟨t, ext_modCell h x.node _ fun _ => ⟨rfl, rfl, rfl, rfl, rfl⟩⟩
  setRule _ _ x _ _ _ t h := ⟨t, ext_modCell h x.node _ fun _ => ⟨rfl, rfl, rfl, rfl, rfl⟩⟩
  setWe _ x _ _ _ _ t h := ⟨t, ext_modCell h x.node _ fun _ => ⟨rfl, rfl, rfl, rfl, rfl⟩⟩
  genId _ _ t h := ⟨t, (keeps_genId h).ext⟩
  addStubs _ _ p ts o _ _ t h := ⟨t, (keeps_addStubs h p ts o).ext⟩
  ram _ s d rs _ t h := ⟨t, (noStruct_of_trie_eq (s := s) (s' := { s with dflt := d, rules := rs }) rfl).ext h⟩

theorem Built.To.ext {k ru : Bool} {wf : Prop} {s s' : State} {P : List Answered → Prop}
    (b : Built.To k ru wf s [] s' P) {t : T} (h : Shape s t) : ∃ t', Ext s t s' t' :=
  b.across (ext_across k ru wf) trivial t h

end Traph
