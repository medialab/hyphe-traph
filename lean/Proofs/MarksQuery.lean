import Proofs.Small
import Proofs.ForPrefixes
import Proofs.MarksInv
/-! C13, the query side in terms of the finite map: under the shape and mark invariants the pruned DFS
    started from the node stored under the stem path `P` meets exactly the webentity ids attached to the
    entries whose path has `P` as a prefix (the node itself and all its descendants at any depth); hence
    the answer of `get_webentity_child_webentities` (`C13_children_paths`, then `C13_childWebentities_exact`). -/
namespace Traph
open State

theorem C13_children_paths {s : State} {t : T} (hs : Shape s t) (hm : MarkOk s t) {P : LRU} {a : Nat}
    (hP : (P, a) ∈ t.entries s []) (lru : Bytes) (w : Nat) :
    ∀ x, (x ≠ 0 ∧ x ≠ w ∧ ∃ bl ∈ s.dfsIter (some (a, lru)) true, (s.cell bl.1).we = x) ↔
         (x ≠ 0 ∧ x ≠ w ∧ ∃ q b, (q, b) ∈ t.entries s [] ∧ P <+: q ∧ (s.cell b).we = x) := by
  intro x
  obtain ⟨l, c, r, _, _, h1, _, h2, h3, hsz, hiff⟩ := hs.subtree_with MarkOk.subtrees hm hP
  rw [← C13_children_exact h1 h2 hsz h3 lru w x]
  constructor
  · rintro ⟨h0, hw, b, hb, hx⟩
    refine ⟨h0, hw, ?_⟩
    rcases List.mem_cons.mp hb with rfl | hb
    · exact ⟨P, _, hP, List.prefix_refl _, hx⟩
    · obtain ⟨q, hq⟩ := T.addrs_mem_entries (s := s) c P hb
      obtain ⟨hq', y, rest, e⟩ := (hiff q b).mp hq
      exact ⟨q, b, hq', ⟨y :: rest, e.symm⟩, hx⟩
  · rintro ⟨h0, hw, q, b, hq, ⟨ext, e⟩, hx⟩
    refine ⟨h0, hw, b, ?_, hx⟩
    cases ext with
    | nil =>
      simp only [List.append_nil] at e
      subst e
      have := entries_path_injective hs.ord hs.nodup hq hP
      rw [this]; exact List.mem_cons_self
    | cons y rest =>
      exact List.mem_cons_of_mem _ (entries_addr_mem _ _ _ _ ((hiff q b).mpr ⟨hq, y, rest, e.symm⟩))

/-- C13 for the API: the answer of `get_webentity_child_webentities(weid, prefixes)` is exactly the set of
    webentity ids (other than `weid`) attached to a stored path that extends one of the prefixes — at any
    depth, whatever the `noChild` marks say. (Prefixes are given with their closing separator, so
    `lruIter p ≠ []`.) -/
theorem C13_childWebentities_exact {s : State} {t : T} (hs : Shape s t) (hm : MarkOk s t) (w : Nat)
    (ps : List Bytes) (hps : ∀ p ∈ ps, lruIter p ≠ []) (l : List Nat)
    (h : s.childWebentities w ps = .ok l) (x : Nat) :
    x ∈ l ↔ x ≠ 0 ∧ x ≠ w ∧ ∃ p ∈ ps, ∃ q b, (q, b) ∈ t.entries s [] ∧ lruIter p <+: q ∧
      (s.cell b).we = x := by
  unfold childWebentities at h
  rw [(forPrefixes_sortDedup_ok s ps _ l h).2]
  constructor
  · rintro ⟨p, hp, n, hn, hx⟩
    simp only [List.mem_filter, List.mem_map, Bool.and_eq_true, ne_eq,
      decide_eq_true_eq] at hx
    obtain ⟨⟨bl, hbl, rfl⟩, h0, hw⟩ := hx
    have hP := (lruNode_iff_entries hs _ (hps p hp) n).mp hn
    obtain ⟨_, _, q, b, hq, hpre, hxe⟩ :=
      (C13_children_paths hs hm hP p w _).mp ⟨h0, hw, bl, hbl, rfl⟩
    exact ⟨h0, hw, p, hp, q, b, hq, hpre, hxe⟩
  · rintro ⟨h0, hw, p, hp, q, b, hq, hpre, hxe⟩
    -- the prefix node exists: the finite map is prefix-closed
    obtain ⟨ext, e⟩ := hpre
    have hlen : 0 < (lruIter p).length := List.length_pos_iff.mpr (hps p hp)
    obtain ⟨n, hn⟩ := entries_prefix_closed t [] q b hq (lruIter p).length (by simpa using hlen)
      (by rw [← e]; simp)
    have htake : q.take (lruIter p).length = lruIter p := by rw [← e]; simp
    rw [htake] at hn
    obtain ⟨_, _, bl, hbl, hxe'⟩ :=
      (C13_children_paths hs hm hn p w x).mpr ⟨h0, hw, q, b, hq, ⟨ext, e⟩, hxe⟩
    refine ⟨p, hp, n, (lruNode_iff_entries hs _ (hps p hp) n).mpr hn, ?_⟩
    simp only [List.mem_filter, List.mem_map, Bool.and_eq_true, ne_eq,
      decide_eq_true_eq]
    exact ⟨⟨bl, hbl, hxe'⟩, h0, hw⟩

#print axioms subtree_at
#print axioms C13_children_paths
#print axioms C13_childWebentities_exact

end Traph
