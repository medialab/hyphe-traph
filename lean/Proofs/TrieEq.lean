import Traph.Trie
/-! The look-up reads the trie array only: two states with the same `trie` have the same cells, stems and `lru_node`
    answers, whatever their link file, id counter, RAM rules, configuration and log are. Of a block, reading a stem
    looks at the chunk and the has-tail flag only (`Cell.sig`, `stemAt_congr`). -/
namespace Traph
open State

def Cell.sig (c : Cell) : Bytes × Bool := (c.chunk, c.flags.hasTail)

theorem sig_eq_cases {a b : Option Cell} (h : a.map Cell.sig = b.map Cell.sig) :
    (a = none ∧ b = none) ∨
    ∃ c c', a = some c ∧ b = some c' ∧ c'.chunk = c.chunk ∧ c'.flags.hasTail = c.flags.hasTail := by
  cases a with
  | none => cases b with
    | none => exact .inl ⟨rfl, rfl⟩
    | some _ => exact nomatch h
  | some c => cases b with
    | none => exact nomatch h
    | some c' =>
      have e := Option.some.inj h
      exact .inr ⟨c, c', rfl, rfl, (congrArg Prod.fst e).symm, (congrArg Prod.snd e).symm⟩

theorem readTail_congr (s t : State)
    (h : ∀ j : Nat, (s.trie[j]?).map Cell.sig = (t.trie[j]?).map Cell.sig) :
    ∀ (f i : Nat), t.readTail f i = s.readTail f i
  | 0, _ => rfl
  | f + 1, i => by
    rw [readTail, readTail]
    rcases sig_eq_cases (h i) with ⟨e1, e2⟩ | ⟨c, c', e1, e2, h1, h2⟩ <;> rw [e1, e2]
    simp only [h1, h2, readTail_congr s t h f (i + 1)]

theorem stemAt_congr (s t : State) (hsz : t.trie.size = s.trie.size)
    (h : ∀ j : Nat, (s.trie[j]?).map Cell.sig = (t.trie[j]?).map Cell.sig) (j : Nat) :
    t.stemAt j = s.stemAt j := by
  unfold stemAt
  rcases sig_eq_cases (h j) with ⟨e1, e2⟩ | ⟨c, c', e1, e2, h1, h2⟩ <;> rw [e1, e2]
  simp only [h1, h2, hsz, readTail_congr s t h]

namespace State

theorem cell_of_trie_eq {s s' : State} (e : s'.trie = s.trie) (i : Nat) : s'.cell i = s.cell i := by
  unfold cell; rw [e]

theorem stemAt_of_trie_eq {s s' : State} (e : s'.trie = s.trie) (i : Nat) : s'.stemAt i = s.stemAt i :=
  stemAt_congr s s' (by rw [e]) (fun _ => by rw [e]) i

theorem findSib_of_trie_eq {s s' : State} (e : s'.trie = s.trie) (stem : Stem) (fuel p : Nat) :
    s'.findSib stem fuel p = s.findSib stem fuel p := by
  induction fuel generalizing p with
  | zero => rfl
  | succ n ih => simp only [findSib, e, stemAt_of_trie_eq e, ih]

theorem lruNodeGo_of_trie_eq {s s' : State} (e : s'.trie = s.trie) (stems : List Stem) (node : Nat) :
    s'.lruNodeGo stems node = s.lruNodeGo stems node := by
  induction stems generalizing node with
  | nil => rfl
  | cons st rest ih => simp only [lruNodeGo, e, findSib_of_trie_eq e, cell_of_trie_eq e, ih]

theorem lruNode_of_trie_eq {s s' : State} (e : s'.trie = s.trie) (stems : LRU) : s'.lruNode stems = s.lruNode stems := by
  simp only [lruNode, e, lruNodeGo_of_trie_eq e]

end State
end Traph
