import Proofs.CoSchedules
import Proofs.LinkBagC03
import Proofs.CoBuilt
/-! C16 — the link multigraph under interleaving, one section at a time.

    `index_batch_crawl_iter` writes the out-list of a source when the source's targets are exhausted and all
    in-lists in a second pass, one target per section. Between the moment a pair (source, target) is
    *submitted* (its target block is recorded in `target_blocks`) and the moment the two stubs are written the
    pair is *pending*: on the out side it sits in `cur.target_blocks` (`cl_pendOut`), on the in side in the
    `inlinks` multimap, or — for a target created in the section that has just yielded — in the local variable
    the generator appends after the `yield` (`cl_pendIn`).

    `BatchStep.links`: every iteration of the crawl-batch generator, whatever the index has become since the last
    one, adds to the bags exactly what leaves the pending sets, and what enters the pending sets is the next of the
    links the generator has still to submit (`BatchSt.linksTodo`). The invariant of the whole system (`CoGraph`:
    written + pending = submitted, bag by bag, summed over the generators) is kept by every such iteration
    (`cl_iter`) and by every section of another generator, hence by every schedule (`cl_sched`, carrying `CoLinkInv`). It
    holds for fresh generators (`cl_init`); `C16_final_graph` reads the `LinkView` of the final index off it. -/
namespace Traph
open State Layout

def cl_cached (pages : List (Bytes × Nat × Bool)) (l : Bytes) : Prop := (pagesGet pages l).isSome

theorem cl_pageBlock_set_self (pages : List (Bytes × Nat × Bool)) (k : Bytes) (v : Nat × Bool) :
    pageBlock (pagesSet pages k v) k = v.1 := by
  unfold pageBlock pagesGet pagesSet
  rw [Co.dictGet?_dictSet_self]; rfl

theorem cl_pageBlock_set_ne (pages : List (Bytes × Nat × Bool)) (k : Bytes) (v : Nat × Bool) (l : Bytes)
    (h : l ≠ k) : pageBlock (pagesSet pages k v) l = pageBlock pages l := by
  unfold pageBlock pagesGet pagesSet
  rw [Co.dictGet?_dictSet_ne _ _ _ _ h]

theorem cl_pageBlock_set_same (pages : List (Bytes × Nat × Bool)) (k : Bytes) (c : Bool) (l : Bytes) :
    pageBlock (pagesSet pages k (pageBlock pages k, c)) l = pageBlock pages l := by
  by_cases e : l = k
  · subst e; rw [cl_pageBlock_set_self]
  · exact cl_pageBlock_set_ne pages k _ l e

theorem cl_cached_set (pages : List (Bytes × Nat × Bool)) (k : Bytes) (v : Nat × Bool) (l : Bytes)
    (h : cl_cached pages l) : cl_cached (pagesSet pages k v) l :=
  Co.dictGet?_dictSet_isSome pages k v l h

theorem cl_cached_set_self (pages : List (Bytes × Nat × Bool)) (k : Bytes) (v : Nat × Bool) :
    cl_cached (pagesSet pages k v) k := by
  unfold cl_cached pagesGet pagesSet
  rw [Co.dictGet?_dictSet_self]; rfl

theorem cl_not_cached_ne {pages : List (Bytes × Nat × Bool)} {k l : Bytes} (hk : pagesGet pages k = none)
    (hl : cl_cached pages l) : l ≠ k := by
  intro e
  subst e
  unfold cl_cached at hl
  rw [hk] at hl
  cases hl

theorem cl_cache_node {s : State} {t : T} {pages : List (Bytes × Nat × Bool)} (h : Shape s t)
    (hc : PCacheOk s t pages) {l : Bytes} (hg : cl_cached pages l) :
    s.lruNode (lruIter l) = some (pageBlock pages l) ∧ IsPage s t (lruIter l) ∧
      pageBlock pages l < s.trie.size := by
  obtain ⟨⟨n, c⟩, hg'⟩ := Option.isSome_iff_exists.mp hg
  obtain ⟨h1, h2, _⟩ := hc l n c (co_pagesGet_mem hg')
  have hne : lruIter l ≠ [] := entry_ne_nil h1
  rw [co_pageBlock_of_get hg']
  exact ⟨(lruNode_iff_entries h _ hne n).mpr h1, ⟨n, h1, h2⟩, entry_lt h h1⟩

/-- the pairs the generator has still to submit, in the order in which it will submit them -/
def BatchSt.linksTodo (b : BatchSt) : List (Bytes × Bytes) :=
  (match b.cur with
   | some (src, tgts, _) => tgts.map (fun x => (src, x))
   | none => []) ++ batchLinks b.data

/-- out-links (source block `a`, target block `x`) submitted and not yet in the out-list of `a`:
    the `target_blocks` of the source in progress -/
def cl_pendOut (b : BatchSt) (a x : Nat) : Nat :=
  match b.cur with
  | some (src, _, tb) => if pageBlock b.pages src = a then count x tb else 0
  | none => 0

/-- the in-link the generator records right after the `yield` that follows the creation of a target -/
def cl_pendTerm (b : BatchSt) (a x : Nat) : Nat :=
  match b.pendIn, b.cur with
  | some t, some (src, _, _) => if pageBlock b.pages src = a ∧ pageBlock b.pages t = x then 1 else 0
  | _, _ => 0

/-- in-links (source block `a`, target block `x`) submitted and not yet in the in-list of `x`: the
    `inlinks` multimap (first pass), what is left of it (second pass) -/
def cl_pendIn (b : BatchSt) (a x : Nat) : Nat :=
  match b.flush with
  | some l => mcount (pageBlock b.pages) l x a
  | none => mcount (pageBlock b.pages) b.inl x a + cl_pendTerm b a x

/-- number of stubs submitted and not yet written -/
def cl_pendN (b : BatchSt) : Nat :=
  (match b.cur with | some (_, _, tb) => tb.length | none => 0) +
  (match b.flush with
   | some l => multiTotal l
   | none => multiTotal b.inl + (match b.pendIn, b.cur with | some _, some _ => 1 | _, _ => 0))

/-- local invariant (links): everything in the multimaps is cached; the deferred in-link belongs to a source
    in progress -/
structure cl_BatchLk (b : BatchSt) : Prop where
  inl  : AllIn (cl_cached b.pages) b.inl
  fl   : ∀ l, b.flush = some l → AllIn (cl_cached b.pages) l
  pend : ∀ t, b.pendIn = some t → cl_cached b.pages t ∧ b.cur ≠ none

theorem cl_batchLk_init (data : List (Bytes × List Bytes)) : cl_BatchLk (BatchSt.init data) :=
  ⟨(fun _ h => nomatch h), fun _ h => by simp [BatchSt.init] at h, fun _ h => by simp [BatchSt.init] at h⟩

structure cl_BHyp (s : State) (t : T) (b : BatchSt) : Prop where
  inv : Inv s t
  bok : BatchOk s t b
  lok : LinksOk s
  lk  : cl_BatchLk b

abbrev CoSt.linksTodo : CoSt → List (Bytes × Bytes)
  | .batch b => b.linksTodo
  | _ => []

abbrev CoSt.pendOut : CoSt → Nat → Nat → Nat
  | .batch b => cl_pendOut b
  | _ => fun _ _ => 0

abbrev CoSt.pendIn : CoSt → Nat → Nat → Nat
  | .batch b => cl_pendIn b
  | _ => fun _ _ => 0

/-- the stubs a generator has submitted and not yet written: only a crawl batch has any -/
abbrev CoSt.pendN : CoSt → Nat
  | .batch b => cl_pendN b
  | _ => 0

def cl_CoLk : CoSt → Prop
  | .batch b => cl_BatchLk b
  | _ => True

/-- what a section does to bags and pending sets; `A` are the pairs it submits -/
structure cl_CoLinks (s : State) (c : CoSt) (s' : State) (c' : CoSt) (t' : T) (A : List (Bytes × Bytes)) : Prop where
  todo : c.linksTodo = A ++ c'.linksTodo
  pgs  : ∀ st ∈ A, IsPage s' t' (lruIter st.1) ∧ IsPage s' t' (lruIter st.2)
  out  : ∀ a x, count x (s'.bag true a) + c'.pendOut a x = count x (s.bag true a) + c.pendOut a x + ncount s' A a x
  inn  : ∀ a x, count a (s'.bag false x) + c'.pendIn a x = count a (s.bag false x) + c.pendIn a x + ncount s' A a x
  size : s'.links.size + c'.pendN = s.links.size + c.pendN + 2 * A.length
  le   : (∀ a x, c.pendOut a x ≤ c.pendIn a x) → ∀ a x, c'.pendOut a x ≤ c'.pendIn a x

theorem cl_ncount_nil (s : State) (a x : Nat) : ncount s [] a x = 0 := rfl

theorem cl_ncount_single (s : State) (p q : Bytes) {bp bq : Nat} (hp : s.lruNode (lruIter p) = some bp)
    (hq : s.lruNode (lruIter q) = some bq) (a x : Nat) :
    ncount s [(p, q)] a x = if bp = a ∧ bq = x then 1 else 0 := by
  unfold ncount
  simp only [List.filter_cons, List.filter_nil, hp, hq, Option.some.injEq]
  by_cases h : bp = a ∧ bq = x
  · simp [h]
  · simp [h]

theorem cl_CoLinks.of_ptrEq {s s1 : State} {c c1 : CoSt} {t1 : T} (p : PtrEq s s1) (todo : c.linksTodo = c1.linksTodo)
    (po : ∀ a x, c1.pendOut a x = c.pendOut a x) (pi : ∀ a x, c1.pendIn a x = c.pendIn a x)
    (pn : c1.pendN = c.pendN) : cl_CoLinks s c s1 c1 t1 [] where
  todo := by rw [todo, List.nil_append]
  pgs := fun st h => by simp at h
  out := fun a x => by rw [p.bag, po, cl_ncount_nil]; omega
  inn := fun a x => by rw [p.bag, pi, cl_ncount_nil]; omega
  size := by rw [p.size, pn]; simp
  le := fun hle a x => by rw [po, pi]; exact hle a x

theorem cl_CoLinks.of_ptrEq_one {s s1 : State} {c c1 : CoSt} {t1 : T} (p : PtrEq s s1) (src tg : Bytes)
    (todo : c.linksTodo = (src, tg) :: c1.linksTodo) {bs bt : Nat}
    (hs : s1.lruNode (lruIter src) = some bs) (ht : s1.lruNode (lruIter tg) = some bt)
    (ps : IsPage s1 t1 (lruIter src)) (pt : IsPage s1 t1 (lruIter tg))
    (po : ∀ a x, c1.pendOut a x = c.pendOut a x + (if bs = a ∧ bt = x then 1 else 0))
    (pi : ∀ a x, c1.pendIn a x = c.pendIn a x + (if bs = a ∧ bt = x then 1 else 0))
    (pn : c1.pendN = c.pendN + 2) : cl_CoLinks s c s1 c1 t1 [(src, tg)] where
  todo := by rw [todo]; rfl
  pgs := fun st h => by
    simp only [List.mem_singleton] at h
    subst h
    exact ⟨ps, pt⟩
  out := fun a x => by rw [p.bag, po, cl_ncount_single s1 src tg hs ht]; omega
  inn := fun a x => by rw [p.bag, pi, cl_ncount_single s1 src tg hs ht]; omega
  size := by rw [p.size, pn, List.length_singleton]; omega
  le := fun hle a x => by rw [po, pi]; exact Nat.add_le_add_right (hle a x) _

def cl_Quiet (b : BatchSt) : Prop :=
  b.linksTodo = [] ∧ (∀ a x, cl_pendOut b a x = 0) ∧ (∀ a x, cl_pendIn b a x = 0) ∧ cl_pendN b = 0

theorem cl_pendIn_cur (data) (src : Bytes) (tgts : List Bytes) (tb : List Nat) (pendIn : Option Bytes) (P : cw_Pg)
    (I : cw_In) (R : Report) (a x : Nat) :
    cl_pendIn ⟨data, some (src, tgts, tb), pendIn, P, I, none, R⟩ a x = mcount (pageBlock P) (cw_pend I src pendIn) x a := by
  cases pendIn with
  | none => simp only [cl_pendIn, cl_pendTerm, cw_pend, Nat.add_zero]
  | some t0 => simp only [cl_pendIn, cl_pendTerm, cw_pend, mcount_multiAdd, and_comm]

theorem cl_pendN_cur (data) (src : Bytes) (tgts : List Bytes) (tb : List Nat) (pendIn : Option Bytes) (P : cw_Pg)
    (I : cw_In) (R : Report) :
    cl_pendN ⟨data, some (src, tgts, tb), pendIn, P, I, none, R⟩ = tb.length + multiTotal (cw_pend I src pendIn) := by
  cases pendIn <;> simp only [cl_pendN, cw_pend, multiAdd_total, Nat.add_zero]

theorem cl_BatchLk.eff {data} {src : Bytes} {tgts : List Bytes} {tb : List Nat} {pendIn : Option Bytes} {P : cw_Pg}
    {I : cw_In} {R : Report} (lk : cl_BatchLk ⟨data, some (src, tgts, tb), pendIn, P, I, none, R⟩)
    (hs : cl_cached P src) : AllIn (cl_cached P) (cw_pend I src pendIn) := by
  cases pendIn with
  | none => exact lk.inl
  | some t0 => exact lk.inl.multiAdd (lk.pend t0 rfl).1 hs

theorem cl_pageBlock_set_same_fun (pages : List (Bytes × Nat × Bool)) (k : Bytes) (c : Bool) :
    pageBlock (pagesSet pages k (pageBlock pages k, c)) = pageBlock pages :=
  funext (cl_pageBlock_set_same pages k c)

theorem cl_BatchLk.pend_none {b : BatchSt} (lk : cl_BatchLk b) (hc : b.cur = none) : b.pendIn = none := by
  cases hp : b.pendIn with
  | none => rfl
  | some t0 => exact absurd hc (lk.pend t0 hp).2

theorem CacheStep.links {s s1 : State} {P P1 : cw_Pg} {R R1 : Report} {l : Bytes} {crawl new : Bool} {n : Nat}
    (c : CacheStep s P R l crawl s1 P1 R1 n new) :
    PtrEq s s1 ∧ cl_cached P1 l ∧ pageBlock P1 l = n ∧
      ∀ l', cl_cached P l' → cl_cached P1 l' ∧ pageBlock P1 l' = pageBlock P l' := by
  cases c with
  | new hg ha =>
    have p := ptrEq_addPageCore s l crawl
    rw [ha] at p
    exact ⟨p, cl_cached_set_self .., cl_pageBlock_set_self .., fun l' hl' =>
      ⟨cl_cached_set _ _ _ _ hl', cl_pageBlock_set_ne _ _ _ _ (cl_not_cached_ne hg hl')⟩⟩
  | mark hc hg =>
    have hpb := co_pageBlock_of_get hg
    subst hpb
    exact ⟨ptrEq_modCell s _ _ (fun _ => ⟨rfl, rfl⟩), cl_cached_set_self .., cl_pageBlock_set_self .., fun l' hl' =>
      ⟨cl_cached_set _ _ _ _ hl', cl_pageBlock_set_same P l true l'⟩⟩
  | hit hg hc =>
    exact ⟨PtrEq.refl s, by unfold cl_cached; rw [hg]; rfl, co_pageBlock_of_get hg, fun _ hl' => ⟨hl', rfl⟩⟩

/-- what one iteration of the loop does to the links, on a tree `t1` for which the local invariant `BatchOk` holds
    again (`BatchStep.sec`) -/
theorem BatchStep.links {s s1 : State} {b b1 : BatchSt} {o : Option CoOut} (st : BatchStep s b s1 b1 o) {t t1 : T}
    (h : Shape s t) (hy : cl_BHyp s t b) (h1 : Shape s1 t1) (bok1 : BatchOk s1 t1 b1) (hnf : ∀ e, o ≠ some (.failed e)) :
    ∃ A, LinksOk s1 ∧ cl_BatchLk b1 ∧ cl_CoLinks s (.batch b) s1 (.batch b1) t1 A ∧ ∀ a, o = some (.done a) → cl_Quiet b1 := by
  have hb := hy.bok
  cases st with
  | done data cur pendIn P I R =>
    refine ⟨[], hy.lok, hy.lk, cl_CoLinks.of_ptrEq (PtrEq.refl s) rfl (fun _ _ => rfl) (fun _ _ => rfl) rfl, fun _ _ => ?_⟩
    obtain ⟨e1, e2⟩ := hb.phase [] rfl
    simp only at e1 e2
    subst e1 e2
    exact ⟨rfl, fun _ _ => rfl, fun _ _ => rfl, rfl⟩
  | flush data cur pendIn P I R tg srcs rest =>
    have hcached : cl_cached P tg := (hy.lk.fl _ rfl (tg, srcs) (by simp)).1
    obtain ⟨_, _, hlt⟩ := cl_cache_node h hb.cache hcached
    obtain ⟨lok1, _⟩ := addStubs_bag hy.lok _ hlt (srcs.map (pageBlock P)) false
    have cnt := addStubs_count hy.lok _ hlt (srcs.map (pageBlock P)) false
    refine ⟨[], lok1, ⟨hy.lk.inl, fun l' e => ?_, hy.lk.pend⟩,
      ⟨rfl, fun st hst => by simp at hst, fun a x => ?_, fun a x => ?_, ?_, fun _ a x => ?_⟩, fun _ ho => nomatch ho⟩
    · cases e
      exact fun x hx => hy.lk.fl _ rfl x (List.mem_cons_of_mem _ hx)
    · rw [cnt true a x, cl_ncount_nil]
      simp only [Bool.true_eq_false, false_and, if_false, Nat.add_zero]
      rfl
    · rw [cnt false x a, cl_ncount_nil]
      simp only [cl_pendIn, mcount, true_and]
      by_cases e : x = pageBlock P tg
      · rw [if_pos e, if_pos e.symm]; omega
      · rw [if_neg e, if_neg (fun e' => e e'.symm)]; omega
    · rw [addStubs_size]
      simp only [cl_pendN, multiTotal_cons, List.length_map, List.length_nil]
      omega
    · obtain ⟨_, e2⟩ := hb.phase _ rfl
      simp only at e2
      subst e2
      exact Nat.zero_le _
  | toFlush pendIn P I R =>
    have hpn : pendIn = none := hy.lk.pend_none rfl
    subst hpn
    refine ⟨[], hy.lok, ⟨hy.lk.inl, fun l e => ?_, hy.lk.pend⟩,
      cl_CoLinks.of_ptrEq (PtrEq.refl s) rfl (fun _ _ => rfl) (fun a x => ?_) ?_, fun _ ho => nomatch ho⟩
    · cases e
      exact hy.lk.inl
    · simp [cl_pendIn, cl_pendTerm]
    · simp [cl_pendN]
  | @src src P P1 R R1 _ n new tgts more pendIn I c =>
    have hpn : pendIn = none := hy.lk.pend_none rfl
    subst hpn
    obtain ⟨p1, _, _, hmono⟩ := c.links
    refine ⟨[], p1.linksOk hy.lok, ⟨hy.lk.inl.imp fun l hl => (hmono l hl).1, (fun _ e => nomatch e), fun _ e => nomatch e⟩,
      cl_CoLinks.of_ptrEq p1 ?_ (fun a x => ?_) (fun a x => ?_) ?_, fun _ ho => nomatch ho⟩
    · simp only [BatchSt.linksTodo, batchLinks_cons, List.nil_append]
    · simp [cl_pendOut]
    · simp only [cl_pendIn, cl_pendTerm, Nat.add_zero]
      exact mcount_congr _ _ I (hy.lk.inl.imp fun l hl => (hmono l hl).2) x a
    · simp [cl_pendN]
  | srcErr _ _ _ _ _ _ _ => exact absurd rfl (hnf _)
  | tgtEnd data src tb pendIn P I R =>
    obtain ⟨hsome, _⟩ := hb.wfCur src [] tb rfl
    obtain ⟨_, _, hlt⟩ := cl_cache_node h hb.cache hsome
    obtain ⟨lok1, _⟩ := addStubs_bag hy.lok _ hlt tb true
    have cnt := addStubs_count hy.lok _ hlt tb true
    refine ⟨[], lok1, ⟨(hy.lk.eff hsome).imp (fun l hl => cl_cached_set P src _ l hl), (fun _ e => nomatch e), fun _ e => nomatch e⟩,
      ⟨?_, fun st hst => by simp at hst, fun a x => ?_, fun a x => ?_, ?_, fun _ a x => Nat.zero_le _⟩, fun _ ho => nomatch ho⟩
    · simp [BatchSt.linksTodo]
    · rw [cnt true a x, cl_ncount_nil]
      simp only [cl_pendOut, true_and, Nat.add_zero]
      by_cases e : a = pageBlock P src
      · rw [if_pos e, if_pos e.symm]
      · rw [if_neg e, if_neg (fun e' => e e'.symm)]
    · rw [cnt false x a, cl_ncount_nil]
      simp only [cl_pendIn_cur, cl_pendIn, cl_pendTerm, Nat.add_zero, cl_pageBlock_set_same_fun, Bool.false_eq_true, false_and,
        if_false]
    · rw [addStubs_size]
      simp only [cl_pendN_cur, cl_pendN, List.length_nil]
      omega
  | @tgt tg P P1 R R1 _ n new data src ts tb pendIn I c =>
    obtain ⟨p1, hct, hbt, hmono⟩ := c.links
    obtain ⟨hsome, _⟩ := hb.wfCur src (tg :: ts) tb rfl
    have heff := hy.lk.eff hsome
    obtain ⟨hcs, hbs⟩ := hmono src hsome
    obtain ⟨ns, nps, _⟩ := cl_cache_node h1 bok1.cache hcs
    obtain ⟨nt, npt, _⟩ := cl_cache_node h1 bok1.cache hct
    rw [hbs] at ns
    rw [hbt] at nt
    have hI1 : cw_pend (bif new then cw_pend I src pendIn else multiAdd (cw_pend I src pendIn) tg src) src
        (bif new then some tg else none) = multiAdd (cw_pend I src pendIn) tg src := by cases new <;> rfl
    refine ⟨[(src, tg)], p1.linksOk hy.lok, ⟨?_, (fun _ e => nomatch e), fun t0 e => ?_⟩,
      cl_CoLinks.of_ptrEq_one p1 src tg ?_ ns nt nps npt (fun a x => ?_) (fun a x => ?_) ?_, fun _ ho => by cases new <;> cases ho⟩
    · cases new
      · exact (heff.imp fun l hl => (hmono l hl).1).multiAdd hct hcs
      · exact heff.imp fun l hl => (hmono l hl).1
    · cases new
      · cases e
      · cases e
        exact ⟨hct, fun e => nomatch e⟩
    · simp [BatchSt.linksTodo]
    · simp only [cl_pendOut, hbs, lbCount_append, count_cons, count_nil]
      by_cases e1 : pageBlock P src = a <;> by_cases e2 : n = x <;> simp [e1, e2]
    · simp only [cl_pendIn_cur]
      rw [hI1, mcount_multiAdd, mcount_congr _ _ _ (heff.imp fun l hl => (hmono l hl).2), hbt, hbs]
      simp only [and_comm]
    · simp only [cl_pendN_cur]
      rw [hI1, multiAdd_total, List.length_append, List.length_singleton]
      omega
  | tgtErr _ _ _ _ _ _ _ _ _ => exact absurd rfl (hnf _)

/-- the rule installation never touches a list head or a stub -/
theorem cl_ptrEq_ruleResume (s : State) (r : RuleSt) : PtrEq s (ruleResume s r).1 :=
  across_ruleResume (ptrEq_across true False) s r trivial

theorem cl_quiet_of_not_batch (c : CoSt) (h : ∀ b, c ≠ .batch b) :
    c.linksTodo = [] ∧ c.pendOut = (fun _ _ => 0) ∧ c.pendIn = (fun _ _ => 0) ∧ c.pendN = 0 := by
  cases c with
  | batch b => exact absurd rfl (h b)
  | _ => exact ⟨rfl, rfl, rfl, rfl⟩

theorem cl_resume_not_batch (s : State) (c : CoSt) (h : ∀ b, c ≠ .batch b) : ∀ b, (c.resume s).2.1 ≠ .batch b := by
  intro b
  by_cases ho : (c.resume s).2.2 = .yielded
  · cases c with
    | batch b' => exact absurd rfl (h b')
    | rule r => rw [resume_rule_out] at ho; rw [resume_rule_yielded s r ho]; intro e; cases e
    | pages p => rw [resume_pages_out] at ho; rw [resume_pages_yielded s p ho]; intro e; cases e
    | net n => rw [resume_net_out] at ho; rw [resume_net_yielded s n ho]; intro e; cases e
    | query q => rw [resume_query_out] at ho; rw [resume_query_yielded s q ho]; intro e; cases e
    | finished => intro e; cases e
  · rw [resume_not_yielded s c ho]; intro e; cases e

/-- a crawl batch that has returned leaves nothing pending: the exhausted generator object stands for it -/
theorem cl_CoLinks.returned (s : State) (t : T) {b : BatchSt} (q : cl_Quiet b) : cl_CoLinks s (.batch b) s .finished t [] :=
  .of_ptrEq (PtrEq.refl s) q.1 (fun a x => (q.2.1 a x).symm) (fun a x => (q.2.2.1 a x).symm) q.2.2.2.symm

def cl_mach (cos : List CoSt) (i : Nat) : CoSt := (cos[i]?).getD .finished

theorem cl_mach_of_get {cos : List CoSt} {i : Nat} {c : CoSt} (h : cos[i]? = some c) : cl_mach cos i = c := by
  unfold cl_mach; rw [h]; rfl

theorem cl_mach_set_self {cos : List CoSt} {j : Nat} (hj : j < cos.length) (c' : CoSt) :
    cl_mach (cos.set j c') j = c' := by
  unfold cl_mach; rw [List.getElem?_set_self hj]; rfl

theorem cl_mach_set_ne (cos : List CoSt) {i j : Nat} (h : i ≠ j) (c' : CoSt) :
    cl_mach (cos.set j c') i = cl_mach cos i := by
  unfold cl_mach; rw [List.getElem?_set_ne (fun e => h e.symm)]

theorem cl_mach_mem {cos : List CoSt} {i : Nat} (hi : i < cos.length) : cl_mach cos i ∈ cos := by
  unfold cl_mach
  rw [List.getElem?_eq_getElem hi]
  exact List.getElem_mem hi

theorem cl_sum_zero {f : Nat → Nat} {n : Nat} (h : ∀ i, i < n → f i = 0) : cf_sumTo f n = 0 := by
  induction n with
  | zero => rfl
  | succ n ih =>
    simp only [cf_sumTo]
    rw [ih (fun i hi => h i (by omega)), h n (by omega)]

theorem cl_sum_update {f g : Nat → Nat} {j : Nat} (h : ∀ i, i ≠ j → g i = f i) :
    ∀ {n : Nat}, j < n → cf_sumTo g n + f j = cf_sumTo f n + g j
  | 0, hj => by omega
  | n + 1, hj => by
    simp only [cf_sumTo]
    by_cases e : j = n
    · subst e
      rw [cf_sumTo_congr _ (fun i hi => h i (by omega))]
      omega
    · have := cl_sum_update h (n := n) (by omega)
      rw [h n (fun e' => e e'.symm)]
      omega

def cl_cat (G : Nat → List (Bytes × Bytes)) (n : Nat) : List (Bytes × Bytes) := (List.range n).flatMap G

theorem cl_cat_succ (G : Nat → List (Bytes × Bytes)) (n : Nat) : cl_cat G (n + 1) = cl_cat G n ++ G n := by
  simp [cl_cat, List.range_succ, List.flatMap_append]

theorem cl_mem_cat {G : Nat → List (Bytes × Bytes)} {st : Bytes × Bytes} {n : Nat} :
    st ∈ cl_cat G n ↔ ∃ i, i < n ∧ st ∈ G i := by
  simp [cl_cat, List.mem_flatMap, List.mem_range]

theorem cl_ncount_cat (s : State) (G : Nat → List (Bytes × Bytes)) (a x : Nat) :
    ∀ n, ncount s (cl_cat G n) a x = cf_sumTo (fun i => ncount s (G i) a x) n
  | 0 => rfl
  | n + 1 => by rw [cl_cat_succ, ncount_append, cl_ncount_cat s G a x n]; rfl

theorem cl_length_cat (G : Nat → List (Bytes × Bytes)) (n : Nat) :
    (cl_cat G n).length = cf_sumTo (fun i => (G i).length) n := by
  rw [cl_cat, List.length_flatMap, cf_sumTo_range]

theorem cl_cat_congr {G G' : Nat → List (Bytes × Bytes)} {n : Nat} (h : ∀ i, i < n → G i = G' i) :
    cl_cat G n = cl_cat G' n := by
  unfold cl_cat
  rw [List.flatMap_def, List.flatMap_def, List.map_congr_left fun i hi => h i (List.mem_range.mp hi)]

def cl_upd (G : Nat → List (Bytes × Bytes)) (j : Nat) (v : List (Bytes × Bytes)) : Nat → List (Bytes × Bytes) :=
  fun i => if i = j then v else G i

theorem cl_upd_self (G : Nat → List (Bytes × Bytes)) (j : Nat) (v : List (Bytes × Bytes)) : cl_upd G j v j = v := by
  unfold cl_upd; rw [if_pos rfl]

theorem cl_upd_ne (G : Nat → List (Bytes × Bytes)) {i j : Nat} (h : i ≠ j) (v : List (Bytes × Bytes)) :
    cl_upd G j v i = G i := by
  unfold cl_upd; rw [if_neg h]

theorem cl_sum_mach (f : CoSt → Nat) {cos : List CoSt} {j : Nat} (hj : j < cos.length) (c' : CoSt) :
    cf_sumTo (fun i => f (cl_mach (cos.set j c') i)) cos.length + f (cl_mach cos j) =
      cf_sumTo (fun i => f (cl_mach cos i)) cos.length + f c' := by
  have := cl_sum_update (f := fun i => f (cl_mach cos i)) (g := fun i => f (cl_mach (cos.set j c') i)) (j := j)
    (fun i hi => by simp only [cl_mach_set_ne cos hi]) hj
  simpa only [cl_mach_set_self hj] using this

/-- generator `j` submits `A` more: one summand of an additive measure of the submitted links grows -/
theorem cl_sum_upd (φ : List (Bytes × Bytes) → Nat) (hφ : ∀ a b, φ (a ++ b) = φ a + φ b)
    (G : Nat → List (Bytes × Bytes)) {j n : Nat} (hj : j < n) (A : List (Bytes × Bytes)) :
    cf_sumTo (fun i => φ (cl_upd G j (G j ++ A) i)) n = cf_sumTo (fun i => φ (G i)) n + φ A := by
  have := cl_sum_update (f := fun i => φ (G i)) (g := fun i => φ (cl_upd G j (G j ++ A) i)) (j := j)
    (fun i hi => by simp only [cl_upd_ne G hi]) hj
  simp only [cl_upd_self, hφ] at this
  omega

/-- written + pending = submitted, after a section that moves `k` more into (written or pending) -/
theorem cl_balance {b b' p p' S S' n k : Nat} (e1 : b' + p' = b + p + k) (e2 : b + S = n) (e3 : S' + p = S + p') :
    b' + S' = n + k := by omega

/-- **the link invariant of a system of generators** (relative to: `L0` the links of the index the generators were
    started on, `R i` all the links request `i` submits, `B i` "request `i` is a crawl batch", `G i` the links
    generator `i` has submitted so far): bag by bag, what is written plus what is pending is what has been
    submitted -/
structure CoGraph (σ : Sys) (t : T) (L0 : List (Bytes × Bytes)) (R : Nat → List (Bytes × Bytes)) (B : Nat → Prop)
    (G : Nat → List (Bytes × Bytes)) : Prop where
  ok   : LinksOk σ.1
  lk   : ∀ c ∈ σ.2, cl_CoLk c
  kind : ∀ i, ¬ B i → ∀ b, cl_mach σ.2 i ≠ .batch b
  tot  : ∀ i, G i ++ (cl_mach σ.2 i).linksTodo = R i
  pgs  : ∀ st ∈ L0 ++ cl_cat G σ.2.length, IsPage σ.1 t (lruIter st.1) ∧ IsPage σ.1 t (lruIter st.2)
  out  : ∀ a x, count x (σ.1.bag true a) + cf_sumTo (fun i => (cl_mach σ.2 i).pendOut a x) σ.2.length =
           ncount σ.1 (L0 ++ cl_cat G σ.2.length) a x
  inn  : ∀ a x, count a (σ.1.bag false x) + cf_sumTo (fun i => (cl_mach σ.2 i).pendIn a x) σ.2.length =
           ncount σ.1 (L0 ++ cl_cat G σ.2.length) a x
  size : σ.1.links.size + cf_sumTo (fun i => (cl_mach σ.2 i).pendN) σ.2.length =
           1 + 2 * (L0 ++ cl_cat G σ.2.length).length
  lag  : ∀ i a x, (cl_mach σ.2 i).pendOut a x ≤ (cl_mach σ.2 i).pendIn a x

/-- what the schedule theorems carry: the invariants of `Proofs/CoSchedules.lean`, the parent pointers, and the
    link invariant -/
def CoLinkInv (L0 : List (Bytes × Bytes)) (R : Nat → List (Bytes × Bytes)) (B : Nat → Prop) (σ : Sys) : Prop :=
  ∃ t G, SysRules σ t ∧ ParOk σ.1 t 0 ∧ CoGraph σ t L0 R B G

/-- generator `j` goes from `c` to `c'` while the index moves up: the link invariant is kept if bags and pending sets
    move together (`cl_CoLinks`) -/
theorem CoGraph.update {σ : Sys} {t : T} {L0 : List (Bytes × Bytes)} {R : Nat → List (Bytes × Bytes)} {B : Nat → Prop}
    {G : Nat → List (Bytes × Bytes)} (g : CoGraph σ t L0 R B G) {j : Nat} {c : CoSt} (hc : σ.2[j]? = some c)
    {s' : State} {t' : T} {c' : CoSt} {A : List (Bytes × Bytes)} (h : Shape σ.1 t) (x' : Ext σ.1 t s' t') (l' : σ.1 ⊑ s')
    (lok' : LinksOk s') (lk' : cl_CoLk c') (kind : (∀ b, c ≠ .batch b) → ∀ b, c' ≠ .batch b)
    (k : cl_CoLinks σ.1 c s' c' t' A) : CoGraph (s', σ.2.set j c') t' L0 R B (cl_upd G j (G j ++ A)) := by
  have hjlt : j < σ.2.length := (List.getElem?_eq_some_iff.mp hc).1
  have hmj : cl_mach σ.2 j = c := cl_mach_of_get hc
  have hlen : (σ.2.set j c').length = σ.2.length := List.length_set
  have hpgs0 : ∀ st ∈ L0 ++ cl_cat G σ.2.length, IsPage s' t' (lruIter st.1) ∧ IsPage s' t' (lruIter st.2) := fun st hst =>
    ⟨(g.pgs st hst).1.co_mono h x' l', (g.pgs st hst).2.co_mono h x' l'⟩
  have hsumO := fun a x => hmj ▸ cl_sum_mach (fun c => c.pendOut a x) hjlt c'
  have hsumI := fun a x => hmj ▸ cl_sum_mach (fun c => c.pendIn a x) hjlt c'
  have hsumN := hmj ▸ cl_sum_mach CoSt.pendN hjlt c'
  have hnc : ∀ a x, ncount s' (L0 ++ cl_cat (cl_upd G j (G j ++ A)) σ.2.length) a x =
      ncount σ.1 (L0 ++ cl_cat G σ.2.length) a x + ncount s' A a x := by
    intro a x
    rw [← ncount_ext h x' g.pgs, ncount_append, ncount_append, cl_ncount_cat, cl_ncount_cat,
      cl_sum_upd (fun l => ncount s' l a x) (fun _ _ => ncount_append ..) G hjlt A, Nat.add_assoc]
  have hlenG : (L0 ++ cl_cat (cl_upd G j (G j ++ A)) σ.2.length).length =
      (L0 ++ cl_cat G σ.2.length).length + A.length := by
    rw [List.length_append, List.length_append, cl_length_cat, cl_length_cat,
      cl_sum_upd List.length (fun _ _ => List.length_append) G hjlt A, Nat.add_assoc]
  refine ⟨lok', ?_, ?_, ?_, ?_, ?_, ?_, ?_, ?_⟩
  · intro c'' hm
    rcases List.mem_or_eq_of_mem_set hm with hm | rfl
    · exact g.lk c'' hm
    · exact lk'
  · intro i hB b
    by_cases e : i = j
    · subst e
      rw [cl_mach_set_self hjlt]
      exact kind (fun b' hb' => g.kind i hB b' (hmj.trans hb')) b
    · rw [cl_mach_set_ne σ.2 e]; exact g.kind i hB b
  · intro i
    by_cases e : i = j
    · subst e
      rw [cl_mach_set_self hjlt, cl_upd_self, List.append_assoc, ← k.todo, ← hmj]
      exact g.tot i
    · rw [cl_mach_set_ne σ.2 e, cl_upd_ne G e]; exact g.tot i
  · intro st hst
    rw [hlen] at hst
    rcases List.mem_append.mp hst with hst | hst
    · exact hpgs0 st (List.mem_append_left _ hst)
    · obtain ⟨i, hi, hm⟩ := cl_mem_cat.mp hst
      by_cases e : i = j
      · subst e
        rw [cl_upd_self] at hm
        rcases List.mem_append.mp hm with hm | hm
        · exact hpgs0 st (List.mem_append_right _ (cl_mem_cat.mpr ⟨i, hi, hm⟩))
        · exact k.pgs st hm
      · rw [cl_upd_ne G e] at hm
        exact hpgs0 st (List.mem_append_right _ (cl_mem_cat.mpr ⟨i, hi, hm⟩))
  · intro a x
    dsimp only
    rw [hlen, hnc]
    exact cl_balance (k.out a x) (g.out a x) (hsumO a x)
  · intro a x
    dsimp only
    rw [hlen, hnc]
    exact cl_balance (k.inn a x) (g.inn a x) (hsumI a x)
  · dsimp only
    rw [hlen, hlenG, Nat.mul_add, ← Nat.add_assoc]
    exact cl_balance k.size g.size hsumN
  · intro i a x
    by_cases e : i = j
    · subst e
      rw [cl_mach_set_self hjlt]
      exact k.le (fun a x => by have := g.lag i a x; rw [hmj] at this; exact this) a x
    · rw [cl_mach_set_ne σ.2 e]; exact g.lag i a x

/-- **one iteration of a crawl batch keeps the link invariant** (hence no composition of what the iterations of a
    section do); it does not fail, and the bound on the iterations left goes down -/
theorem cl_iter {L0 : List (Bytes × Bytes)} {R : Nat → List (Bytes × Bytes)} {B : Nat → Prop} {s s1 : State}
    {cos : List CoSt} {j : Nat} {b b1 : BatchSt} {o : Option CoOut} (hP : CoLinkInv L0 R B (s, cos))
    (hc : cos[j]? = some (.batch b)) (st : BatchStep s b s1 b1 o) :
    CoLinkInv L0 R B (s1, cos.set j (.batch b1)) ∧ (∀ e, o ≠ some (.failed e)) ∧ batchWork b1 ≤ batchWork b ∧
      (o = none → batchWork b1 < batchWork b) ∧ ∀ a, o = some (.done a) → cl_Quiet b1 := by
  obtain ⟨t, G, ⟨h, ok, hcan⟩, hpar, g⟩ := hP
  have hcm : CoSt.batch b ∈ cos := co_mem_of_getElem? hc
  obtain ⟨t1, it⟩ := st.sec h.shape
  obtain ⟨⟨_, _, ok1⟩, hnf⟩ := st.rules h.shape ok
  obtain ⟨_, _, a1, _, hy1, w2, _⟩ := it.spec h.inv (h.ok _ hcm).1
  obtain ⟨bok1, _, w1⟩ := hy1 hnf
  obtain ⟨A, lok1, lk1, k, hd⟩ := st.links h.shape ⟨h.inv, (h.ok _ hcm).1, g.ok, g.lk _ hcm⟩ it.ext.shape bok1 hnf
  have le : s ⊑ s1 := (across_batchStep (trace_across true false False) st h.shape.live).le
  obtain ⟨t2, h2, hpar1⟩ := across_batchStep (LinkBag.parKeeps_across true true False) st trivial t h.shape hpar
  cases Shape.unique h2 it.ext.shape
  refine ⟨⟨t1, _, ⟨⟨h2, a1.inv, fun c hm => ?_⟩, ok1, fun c hm => ?_⟩, hpar1,
    g.update hc h.shape it.ext le lok1 lk1 (fun hb => absurd rfl (hb b)) k⟩, hnf, w1, w2, hd⟩
  · rcases List.mem_or_eq_of_mem_set hm with hm | rfl
    · exact (h.ok c hm).mono h.shape it.ext le
    · exact ⟨bok1, Nat.lt_of_le_of_lt w1 (h.ok _ hcm).2⟩
  · exact (List.mem_or_eq_of_mem_set hm).elim (hcan c) fun e => e ▸ trivial

theorem cl_returned {L0 : List (Bytes × Bytes)} {R : Nat → List (Bytes × Bytes)} {B : Nat → Prop} {s : State}
    {cos : List CoSt} {j : Nat} {b : BatchSt} (hP : CoLinkInv L0 R B (s, cos)) (hc : cos[j]? = some (.batch b))
    (q : cl_Quiet b) : CoLinkInv L0 R B (s, cos.set j .finished) := by
  obtain ⟨t, G, ⟨h, ok, hcan⟩, hpar, g⟩ := hP
  exact ⟨t, _, ⟨⟨h.shape, h.inv, fun c hm => (List.mem_or_eq_of_mem_set hm).elim (h.ok c) fun e => by subst e; trivial⟩, ok,
      fun c hm => (List.mem_or_eq_of_mem_set hm).elim (hcan c) fun e => e ▸ trivial⟩, hpar,
    g.update hc h.shape (Ext.refl h.shape) (Le.refl _) g.ok trivial (fun _ _ e => nomatch e) (cl_CoLinks.returned s t q)⟩

theorem cl_run {L0 : List (Bytes × Bytes)} {R : Nat → List (Bytes × Bytes)} {B : Nat → Prop} {f : Nat} {s : State}
    {b : BatchSt} {r : State × BatchSt × CoOut} (run : BatchRun f s b r) :
    ∀ {cos : List CoSt} {j : Nat}, cos[j]? = some (.batch b) → CoLinkInv L0 R B (s, cos) → batchWork b < f →
      CoLinkInv L0 R B (r.1, cos.set j (CoSt.next .batch r.2.1 r.2.2)) := by
  induction run with
  | fuel s b => exact fun _ _ hw => absurd hw (Nat.not_lt_zero _)
  | @stop _ s s1 b b1 o st =>
    intro cos j hc hP _
    obtain ⟨hP1, hnf, _, _, hd⟩ := cl_iter hP hc st
    cases o with
    | yielded => exact hP1
    | failed e => exact absurd rfl (hnf e)
    | done a =>
      have := cl_returned hP1 (List.getElem?_set_self (List.getElem?_eq_some_iff.mp hc).1) (hd a rfl)
      rwa [List.set_set] at this
  | @loop f s s1 b b1 r st _ ih =>
    intro cos j hc hP hw
    obtain ⟨hP1, _, _, w2, _⟩ := cl_iter hP hc st
    have := ih (List.getElem?_set_self (List.getElem?_eq_some_iff.mp hc).1) hP1 (by have := w2 rfl; omega)
    rwa [List.set_set] at this

/-- **every section of the crawl-batch generator, on whatever the index has become, keeps the link invariant** -/
theorem cl_batchResume_sec {L0 : List (Bytes × Bytes)} {R : Nat → List (Bytes × Bytes)} {B : Nat → Prop} {s : State}
    {cos : List CoSt} {j : Nat} {b : BatchSt} (hc : cos[j]? = some (.batch b)) (hP : CoLinkInv L0 R B (s, cos))
    (hw : batchWork b < 1000000) :
    CoLinkInv L0 R B ((batchResume 1000000 s b).1,
      cos.set j (CoSt.next .batch (batchResume 1000000 s b).2.1 (batchResume 1000000 s b).2.2)) :=
  cl_run (batchResume_run 1000000 s b) hc hP hw

#print axioms cl_batchResume_sec

/-- **one section of any generator keeps the link invariant** -/
theorem cl_resume_sec (L0 : List (Bytes × Bytes)) (R : Nat → List (Bytes × Bytes)) (B : Nat → Prop)
    (σ : Sys) (j : Nat) (c : CoSt) (hP : CoLinkInv L0 R B σ) (hc : σ.2[j]? = some c) :
    CoLinkInv L0 R B ((c.resume σ.1).1, σ.2.set j (c.resume σ.1).2.1) := by
  by_cases hb : ∀ b, c ≠ .batch b
  · -- no crawl batch: the section writes no list, nothing is pending before or after
    obtain ⟨t, G, h, hpar, g⟩ := hP
    obtain ⟨t1, h1, l1⟩ := SysInv.sysRules.step h hc
    obtain ⟨t2, h2, hpar1⟩ := across_resume (LinkBag.parKeeps_across true true False) σ.1 c trivial t h.1.shape hpar
    cases Shape.unique h2 h1.1.shape
    have p : PtrEq σ.1 (c.resume σ.1).1 := by
      cases c with
      | batch b => exact absurd rfl (hb b)
      | rule r => rw [resume_rule_fst]; exact cl_ptrEq_ruleResume σ.1 r
      | _ => exact PtrEq.refl σ.1
    have hb' := cl_resume_not_batch σ.1 c hb
    have lk' : cl_CoLk (c.resume σ.1).2.1 := by
      cases hc' : (c.resume σ.1).2.1 with
      | batch b => exact absurd hc' (hb' b)
      | _ => trivial
    have q := cl_quiet_of_not_batch c hb
    have q' := cl_quiet_of_not_batch _ hb'
    exact ⟨t1, _, h1, hpar1, g.update hc h.1.shape l1.ext l1.le (p.linksOk g.ok) lk' (fun _ => hb')
      (.of_ptrEq p (q.1.trans q'.1.symm) (fun a x => by rw [q.2.1, q'.2.1]) (fun a x => by rw [q.2.2.1, q'.2.2.1])
        (q'.2.2.2.trans q.2.2.2.symm))⟩
  · obtain ⟨b, rfl⟩ : ∃ b, c = .batch b := Classical.not_forall.mp hb |>.imp fun _ h => Classical.not_not.mp h
    have hw : batchWork b < 1000000 := by
      obtain ⟨t, _, h, _⟩ := hP
      exact (h.1.ok _ (co_mem_of_getElem? hc)).2
    rw [resume_batch]
    exact cl_batchResume_sec hc hP hw

#print axioms cl_resume_sec

/-- **the link invariant holds after every schedule** -/
theorem cl_sched (L0 : List (Bytes × Bytes)) (R : Nat → List (Bytes × Bytes)) (B : Nat → Prop)
    (sched : Sched) (σ : Sys) (hP : CoLinkInv L0 R B σ) : CoLinkInv L0 R B (σ.run sched).1 :=
  Sys.run_invariant (CoLinkInv L0 R B) (cl_resume_sec L0 R B) sched σ hP

#print axioms cl_sched

/-- the pairs a request submits as links (those of the atomic request, `Op.links`) -/
def CoReq.links : CoReq → List (Bytes × Bytes)
  | .batch data => batchLinks data
  | _ => []

theorem CoReq.links_op (r : CoReq) (o : Op) (h : r.op = some o) : o.links = r.links := by
  cases r <;> simp only [CoReq.op, Option.some.injEq] at h <;> first | (subst h; rfl) | cases h

theorem CoReq.links_of_op_none (r : CoReq) (h : r.op = none) : r.links = [] := by
  cases r <;> first | rfl | cases h

def cl_R (reqs : List CoReq) (i : Nat) : List (Bytes × Bytes) := ((reqs[i]?).map CoReq.links).getD []

def cl_B (reqs : List CoReq) (i : Nat) : Prop := ∃ data, reqs[i]? = some (.batch data)

theorem cl_cat_R (reqs : List CoReq) : ∀ k, k ≤ reqs.length → cl_cat (cl_R reqs) k = (reqs.take k).flatMap CoReq.links
  | 0, _ => rfl
  | k + 1, hk => by
    have hlt : k < reqs.length := by omega
    rw [cl_cat_succ, cl_cat_R reqs k (by omega), List.take_add_one, List.flatMap_append]
    congr 1
    unfold cl_R
    rw [List.getElem?_eq_getElem hlt]
    simp

theorem cl_cat_R_all (reqs : List CoReq) : cl_cat (cl_R reqs) reqs.length = reqs.flatMap CoReq.links := by
  rw [cl_cat_R reqs reqs.length (Nat.le_refl _), List.take_length]

theorem cl_cat_nil (n : Nat) : cl_cat (fun _ => []) n = [] := by simp [cl_cat]

theorem cl_init_quiet (r : CoReq) :
    r.init.pendOut = (fun _ _ => 0) ∧ r.init.pendIn = (fun _ _ => 0) ∧ r.init.pendN = 0 ∧
      r.init.linksTodo = r.links ∧ cl_CoLk r.init := by
  cases r with
  | batch data => exact ⟨rfl, rfl, rfl, rfl, cl_batchLk_init data⟩
  | rule a r => exact ⟨rfl, rfl, rfl, rfl, trivial⟩
  | queryPages ps => exact ⟨rfl, rfl, rfl, rfl, trivial⟩
  | queryNet o a => exact ⟨rfl, rfl, rfl, rfl, trivial⟩
  | queryOther q => exact ⟨rfl, rfl, rfl, rfl, trivial⟩

theorem cl_mach_init (reqs : List CoReq) (i : Nat) :
    cl_mach (reqs.map CoReq.init) i = ((reqs[i]?).map CoReq.init).getD .finished := by
  unfold cl_mach; rw [List.getElem?_map]

theorem cl_init {s : State} {t : T} {L0 : List (Bytes × Bytes)} (hs : Shape s t) (hi : Inv s t) (hr : RulesOk s)
    (hp : ParOk s t 0) (g : Graph s t L0) (reqs : List CoReq) (hwf : ∀ r ∈ reqs, r.Wf) (hcanon : ∀ r ∈ reqs, r.Canon) :
    CoLinkInv L0 (cl_R reqs) (cl_B reqs) (s, reqs.map CoReq.init) := by
  have hq : ∀ i, (cl_mach (reqs.map CoReq.init) i).pendOut = (fun _ _ => 0) ∧
      (cl_mach (reqs.map CoReq.init) i).pendIn = (fun _ _ => 0) ∧ (cl_mach (reqs.map CoReq.init) i).pendN = 0 ∧
      (cl_mach (reqs.map CoReq.init) i).linksTodo = cl_R reqs i := by
    intro i
    rw [cl_mach_init]
    unfold cl_R
    cases hri : reqs[i]? with
    | none => exact ⟨rfl, rfl, rfl, rfl⟩
    | some r =>
      obtain ⟨q1, q2, q3, q4, _⟩ := cl_init_quiet r
      exact ⟨q1, q2, q3, q4⟩
  refine ⟨t, fun _ => [], ⟨sysOk_init hs hi reqs hwf, hr, CoReq.init_canon hwf hcanon⟩, hp, ?_⟩
  refine ⟨g.ok, ?_, ?_, ?_, ?_, ?_, ?_, ?_, ?_⟩
  · intro c hc
    obtain ⟨r, _, rfl⟩ := List.mem_map.mp hc
    exact (cl_init_quiet r).2.2.2.2
  · intro i hB b
    dsimp only
    rw [cl_mach_init]
    cases hri : reqs[i]? with
    | none => intro e; cases e
    | some r =>
      cases r with
      | batch data => exact absurd ⟨data, hri⟩ hB
      | rule a r => intro e; cases e
      | queryPages ps => intro e; cases e
      | queryNet o a => intro e; cases e
      | queryOther q => intro e; cases e
  · intro i
    rw [List.nil_append]
    exact (hq i).2.2.2
  · intro st hst
    dsimp only at hst
    rw [cl_cat_nil, List.append_nil] at hst
    exact g.pages st hst
  · intro a x
    dsimp only
    rw [cl_cat_nil, List.append_nil, cl_sum_zero (fun i _ => by rw [(hq i).1]), Nat.add_zero]
    exact g.out a x
  · intro a x
    dsimp only
    rw [cl_cat_nil, List.append_nil, cl_sum_zero (fun i _ => by rw [(hq i).2.1]), Nat.add_zero]
    exact g.inn a x
  · dsimp only
    rw [cl_cat_nil, List.append_nil, cl_sum_zero (fun i _ => (hq i).2.2.1), Nat.add_zero]
    exact g.size
  · intro i a x
    dsimp only
    rw [(hq i).1]
    exact Nat.zero_le _

theorem cl_done_finished (sched : Sched) (σ : Sys) (i : Nat) (a : Ans) (hm : (i, CoOut.done a) ∈ (σ.run sched).2) :
    (σ.run sched).1.2[i]? = some .finished :=
  (Sys.run_events (fun _ => True) (fun _ => True) (fun i o τ => (∃ a, o = .done a) → τ.2[i]? = some .finished)
    (fun τ j c _ _ _ hc => ⟨trivial, fun ⟨a, e⟩ => by
        show (τ.2.set j (c.resume τ.1).2.1)[j]? = _
        rw [List.getElem?_set_self (List.getElem?_eq_some_iff.mp hc).1,
          resume_not_yielded τ.1 c (by rw [e]; exact nofun)],
      fun i o k e => finished_set (k e) hc⟩)
    sched σ trivial (Throughout.trivial _ _)).2.2 i _ hm ⟨a, rfl⟩

/-- **C16, the link multigraph after any schedule**: started from fresh generators on an index whose bags are the
    links `L0` (every reachable index: `reachable_invariants`), with flagged rule anchors backed by RAM rules, once
    every writer has returned the bags of the index are — block by block, on the out side and on the in side —
    exactly `L0` plus the links of the crawl batches; in particular the stub array holds two stubs per link. -/
theorem C16_final_graph {s : State} {t : T} {L0 : List (Bytes × Bytes)} (hs : Shape s t) (hi : Inv s t)
    (hr : RulesOk s) (hp : ParOk s t 0) (g : Graph s t L0) (reqs : List CoReq) (hwf : ∀ r ∈ reqs, r.Wf)
    (hcanon : ∀ r ∈ reqs, r.Canon) (sched : Sched)
    (hdone : ∀ i r, reqs[i]? = some r → r.op ≠ none →
      ∃ a, (i, CoOut.done a) ∈ (Sys.run (s, reqs.map CoReq.init) sched).2) :
    ∃ t', LinkView (Sys.run (s, reqs.map CoReq.init) sched).1.1 t' (L0 ++ reqs.flatMap CoReq.links) ∧
      RulesOk (Sys.run (s, reqs.map CoReq.init) sched).1.1 := by
  obtain ⟨t', G, ⟨h, ok, _⟩, hpar, cg⟩ :=
    cl_sched L0 (cl_R reqs) (cl_B reqs) sched _ (cl_init hs hi hr hp g reqs hwf hcanon)
  have hlen : (Sys.run (s, reqs.map CoReq.init) sched).1.2.length = reqs.length := by
    rw [Sys.run_length]; simp
  have hq : ∀ i, i < reqs.length →
      (cl_mach (Sys.run (s, reqs.map CoReq.init) sched).1.2 i).linksTodo = [] ∧
      (cl_mach (Sys.run (s, reqs.map CoReq.init) sched).1.2 i).pendOut = (fun _ _ => 0) ∧
      (cl_mach (Sys.run (s, reqs.map CoReq.init) sched).1.2 i).pendIn = (fun _ _ => 0) ∧
      (cl_mach (Sys.run (s, reqs.map CoReq.init) sched).1.2 i).pendN = 0 := by
    intro i hi'
    by_cases hB : cl_B reqs i
    · obtain ⟨data, hd⟩ := hB
      obtain ⟨a, ha⟩ := hdone i _ hd (by simp [CoReq.op])
      rw [cl_mach_of_get (cl_done_finished sched _ i a ha)]
      exact ⟨rfl, rfl, rfl, rfl⟩
    · exact cl_quiet_of_not_batch _ (cg.kind i hB)
  have hG : cl_cat G reqs.length = reqs.flatMap CoReq.links := by
    rw [← cl_cat_R_all]
    apply cl_cat_congr
    intro i hi'
    have := cg.tot i
    rw [(hq i hi').1, List.append_nil] at this
    exact this
  refine ⟨t', ⟨h.shape, h.inv, hpar, ⟨cg.ok, ?_, fun a x => ?_, fun a x => ?_, ?_⟩⟩, ok⟩
  · have := cg.pgs
    rw [hlen, hG] at this
    exact this
  · have := cg.out a x
    rw [hlen, hG, cl_sum_zero (fun i hi' => by rw [(hq i hi').2.1]), Nat.add_zero] at this
    exact this
  · have := cg.inn a x
    rw [hlen, hG, cl_sum_zero (fun i hi' => by rw [(hq i hi').2.2.1]), Nat.add_zero] at this
    exact this
  · have := cg.size
    rw [hlen, hG, cl_sum_zero (fun i hi' => (hq i hi').2.2.2), Nat.add_zero] at this
    exact this

#print axioms C16_final_graph

end Traph
