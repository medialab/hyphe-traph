import Proofs.ReachableAll
/-! The clause of `Disciplined` on `removeRule` ("the rule is in RAM") costs nothing: a `removeRule` of a rule that
    is not in RAM is refused by the dictionary look-up with `KeyError` and changes nothing, so it can be dropped
    from the history (`State.prune`): the pruned history is `Disciplined`, reaches the same state, and submits the
    same pages and links (also since the last `clear`). Hence every state reached under `Disciplined0` (the
    discipline without that clause) is `Reachable`, and the history-level theorems apply to the pruned history. -/
namespace Traph
open State

def Disciplined0 : State → List Op → Prop
  | _, [] => True
  | s, op :: ops => ((∀ a, op ≠ .removeRule a) → StepOk s op) ∧ Disciplined0 (s.step op).1 ops

def State.refused (s : State) : Op → Bool
  | .removeRule a => !(dictGet? s.rules a).isSome
  | _ => false

def State.prune : State → List Op → List Op
  | _, [] => []
  | s, op :: ops => if s.refused op then s.prune ops else op :: (s.step op).1.prune ops

theorem ua_refused_step (s : State) (op : Op) (h : s.refused op = true) :
    (s.step op).1 = s ∧ (s.step op).2 = .err (.other "KeyError") ∧
      ∃ a, op = .removeRule a ∧ dictGet? s.rules a = none := by
  cases op with
  | removeRule a =>
    have hn : dictGet? s.rules a = none := by
      simpa only [State.refused, Bool.not_eq_true', Option.isSome_eq_false_iff, Option.isNone_iff_eq_none] using h
    rw [step_removeRule, removeRule_absent s a hn]
    exact ⟨rfl, rfl, a, rfl, hn⟩
  | _ => simp [State.refused] at h

theorem stepOk_of_kept {s : State} {op : Op} {ops : List Op} (hd : Disciplined0 s (op :: ops))
    (h : s.refused op = false) : StepOk s op := by
  by_cases hr : ∃ a, op = .removeRule a
  · obtain ⟨a, rfl⟩ := hr
    simp only [State.refused, Bool.not_eq_false'] at h
    exact h
  · exact hd.1 (fun a e => hr ⟨a, e⟩)

theorem prune_cons_refused (s : State) (op : Op) (ops : List Op) (h : s.refused op = true) :
    s.prune (op :: ops) = s.prune ops := by
  rw [State.prune, if_pos h]

theorem prune_cons_kept (s : State) (op : Op) (ops : List Op) (h : s.refused op = false) :
    s.prune (op :: ops) = op :: (s.step op).1.prune ops := by
  rw [State.prune, if_neg (by rw [h]; exact Bool.false_ne_true)]

theorem run_prune (ops : List Op) (s : State) : s.run (s.prune ops) = s.run ops := by
  fun_induction State.prune s ops with
  | case1 s => rfl
  | case2 s op ops h ih => rw [run_cons, (ua_refused_step s op h).1]; exact ih
  | case3 s op ops h ih => rw [run_cons, run_cons]; exact ih

theorem disciplined_prune (ops : List Op) (s : State) (hd : Disciplined0 s ops) : Disciplined s (s.prune ops) := by
  fun_induction State.prune s ops with
  | case1 s => trivial
  | case2 s op ops h ih => exact ih (by rw [← (ua_refused_step s op h).1]; exact hd.2)
  | case3 s op ops h ih => exact ⟨stepOk_of_kept hd ((Bool.not_eq_true _).mp h), ih hd.2⟩

theorem prune_sub (ops : List Op) (s : State) : ∀ op ∈ s.prune ops, op ∈ ops := by
  fun_induction State.prune s ops with
  | case1 s => exact fun _ h => h
  | case2 s o ops h ih => exact fun op ho => List.mem_cons_of_mem _ (ih op ho)
  | case3 s o ops h ih =>
    exact fun op ho => (List.mem_cons.mp ho).elim (· ▸ List.mem_cons_self) fun ho => List.mem_cons_of_mem _ (ih op ho)

theorem prune_flatMap {β : Type} (f : Op → List β) (hf : ∀ a, f (.removeRule a) = [])
    (ops : List Op) (s : State) : (s.prune ops).flatMap f = ops.flatMap f := by
  fun_induction State.prune s ops with
  | case1 s => rfl
  | case2 s op ops h ih =>
    obtain ⟨_, _, a, rfl, _⟩ := ua_refused_step s op h
    rw [List.flatMap_cons, hf, List.nil_append]; exact ih
  | case3 s op ops h ih => rw [List.flatMap_cons, List.flatMap_cons, ih]

theorem prune_append (a b : List Op) (s : State) : s.prune (a ++ b) = s.prune a ++ (s.run a).prune b := by
  fun_induction State.prune s a with
  | case1 s => rfl
  | case2 s op a h ih =>
    rw [List.cons_append, prune_cons_refused s op _ h, run_cons, (ua_refused_step s op h).1]; exact ih
  | case3 s op a h ih =>
    rw [List.cons_append, prune_cons_kept s op _ ((Bool.not_eq_true _).mp h), run_cons, List.cons_append, ih]

theorem prune_sinceClear_flatMap {β : Type} (f : Op → List β) (hf : ∀ a, f (.removeRule a) = [])
    (s : State) (ops : List Op) : (sinceClear (s.prune ops)).flatMap f = (sinceClear ops).flatMap f := by
  have free : ∀ (l : List Op) (s' : State), (∀ op ∈ l, ∀ d rs, op ≠ .clear d rs) →
      ∀ op ∈ s'.prune l, ∀ d rs, op ≠ .clear d rs := fun l s' hl op ho => hl op (prune_sub l s' op ho)
  rcases sinceClear_cases ops with ⟨h1, h2, _⟩ | ⟨d, rs, _, h2⟩
  · rw [h2, sinceClear_of_free _ (free ops s h1)]
    exact prune_flatMap f hf ops s
  · have hk : (s.run (beforeClear ops)).refused (.clear d rs) = false := rfl
    have e : s.prune ops = s.prune (beforeClear ops) ++
        .clear d rs :: ((s.run (beforeClear ops)).step (.clear d rs)).1.prune (sinceClear ops) := by
      conv => lhs; rw [h2]
      rw [prune_append, prune_cons_kept _ _ _ hk]
    rw [e, sinceClear_split _ d rs _ (free _ _ (sinceClear_free ops))]
    exact prune_flatMap f hf _ _

theorem reachable_of_disciplined0 (cfg : Config) (dflt : Rule) (rules : List (Bytes × Rule)) (ops : List Op)
    (hr : rulesCanonical rules) (hwf : ∀ op ∈ ops, OpWf op)
    (hd : Disciplined0 (State.fresh cfg dflt rules []).1 ops) :
    Reachable ((State.fresh cfg dflt rules []).1.run ops) := by
  rw [← run_prune]
  exact reachable_fresh cfg dflt rules _ hr (fun op ho => hwf op (prune_sub ops _ op ho))
    (disciplined_prune ops _ hd)

/-- under `Disciplined0` a request answers `KeyError` only if it is a `removeRule` of a rule that is not in RAM,
    and then it changes nothing; `RulesOk` holds throughout -/
theorem disciplined0_answers : ∀ (ops : List Op) (s : State) (t : T), Good s t → RulesOk s → Disciplined0 s ops →
    RulesOk (s.run ops) ∧
    ∀ (pre : List Op) (op : Op) (post : List Op), ops = pre ++ op :: post →
      ((s.run pre).step op).2 = .err (.other "KeyError") →
      (∃ a, op = .removeRule a ∧ dictGet? (s.run pre).rules a = none) ∧ ((s.run pre).step op).1 = s.run pre := by
  intro ops
  induction ops with
  | nil => exact fun s t g ok _ => ⟨ok, fun pre op post e => by simp at e⟩
  | cons o ops ih =>
    intro s t g ok hd
    obtain ⟨t1, g1⟩ := good_step_any g o
    have ok1 : RulesOk (s.step o).1 := by
      cases h : s.refused o with
      | true => rw [(ua_refused_step s o h).1]; exact ok
      | false => exact rulesOk_step_all g.shape g.wf ok o (stepOk_of_kept hd h)
    obtain ⟨okf, rest⟩ := ih (s.step o).1 t1 g1 ok1 hd.2
    refine ⟨okf, fun pre op post e herr => ?_⟩
    cases pre with
    | nil =>
      simp only [List.nil_append, List.cons.injEq] at e
      obtain ⟨rfl, _⟩ := e
      show (∃ a, o = .removeRule a ∧ dictGet? s.rules a = none) ∧ (s.step o).1 = s
      cases h : s.refused o with
      | true => exact ⟨(ua_refused_step s o h).2.2, (ua_refused_step s o h).1⟩
      | false => exact absurd herr (step_noKeyErr g.shape ok o (stepOk_of_kept hd h))
    | cons p pre =>
      simp only [List.cons_append, List.cons.injEq] at e
      obtain ⟨rfl, e⟩ := e
      exact rest pre op post e herr

#print axioms run_prune
#print axioms disciplined_prune
#print axioms prune_sinceClear_flatMap
#print axioms reachable_of_disciplined0
#print axioms disciplined0_answers

end Traph
