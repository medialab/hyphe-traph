import Proofs.CoSections
import Proofs.CoQuery
/-! C16 — the generators seen uniformly: the local invariant `CoOk` of a generator state, its
    stability under foreign sections, and the specification `CoSec` of one section of any generator.
    A new generator touches every place that cases on `CoSt`: `CoSt.resume`, `resume_rel` (CoBuilt), `CoOk`,
    `CoSt.todo`, `isWriter`, `canon`, `resume_not_yielded`, `resume_yielded_kind`, `resume_sec`, CoReadOnly. -/
namespace Traph
open State Layout

def CoSt.todo : CoSt → List (LRU × Bool × Bool)
  | .batch b => b.todo
  | _ => []

def CoSt.isWriter : CoSt → Prop
  | .pages _ => False
  | .net _ => False
  | .query _ => False
  | _ => True

/-- a rule installation that has not started has a complete LRU as its anchor (non-empty, spelled entirely by
    its stems, i.e. ending with the separator): otherwise the rule would be registered under a key that the
    look-up of `__add_page` never uses, and every later page insertion below the anchor raises `KeyError` -/
def CoSt.canon : CoSt → Prop
  | .rule r => r.started = false → lruIter r.anchor ≠ [] ∧ (lruIter r.anchor).flatten = r.anchor
  | _ => True

def CoSt.isPagesQuery : CoSt → Prop
  | .pages _ => True
  | _ => False

/-- the generator object after a `next()`: itself unless it has returned or raised -/
def CoSt.next {α : Type} (inj : α → CoSt) (q : α) : CoOut → CoSt
  | .yielded => inj q
  | _ => .finished

theorem CoSt.next_yielded {α : Type} (inj : α → CoSt) (q : α) {o : CoOut} (h : o = .yielded) : CoSt.next inj q o = inj q := by
  subst h; rfl

theorem CoSt.next_stopped {α : Type} (inj : α → CoSt) (q : α) {o : CoOut} (h : o ≠ .yielded) :
    CoSt.next inj q o = .finished := by
  cases o with
  | yielded => exact absurd rfl h
  | _ => rfl

theorem CoSt.next_elim {α : Type} {inj : α → CoSt} {q : α} {o : CoOut} {P : CoSt → Prop} (hf : P .finished)
    (hy : o = .yielded → P (inj q)) : P (CoSt.next inj q o) := by
  cases o with
  | yielded => exact hy rfl
  | _ => exact hf

theorem resume_batch (s : State) (b : BatchSt) : (CoSt.batch b).resume s =
    ((batchResume 1000000 s b).1, CoSt.next .batch (batchResume 1000000 s b).2.1 (batchResume 1000000 s b).2.2,
      (batchResume 1000000 s b).2.2) := by
  rcases h : batchResume 1000000 s b with ⟨s1, b1, o⟩
  simp only [CoSt.resume, h]
  cases o <;> rfl

theorem resume_rule (s : State) (r : RuleSt) : (CoSt.rule r).resume s =
    ((ruleResume s r).1, CoSt.next .rule (ruleResume s r).2.1 (ruleResume s r).2.2, (ruleResume s r).2.2) := by
  rcases h : ruleResume s r with ⟨s1, r1, o⟩
  simp only [CoSt.resume, h]
  cases o <;> rfl

theorem resume_pages (s : State) (p : PagesSt) : (CoSt.pages p).resume s =
    (s, CoSt.next .pages (pagesResume ((s.trie.size + 1) * (p.prefixes.length + 1)) s p).1
      (pagesResume ((s.trie.size + 1) * (p.prefixes.length + 1)) s p).2,
      (pagesResume ((s.trie.size + 1) * (p.prefixes.length + 1)) s p).2) := by
  rcases h : pagesResume ((s.trie.size + 1) * (p.prefixes.length + 1)) s p with ⟨p1, o⟩
  simp only [CoSt.resume, h]
  cases o <;> rfl

theorem resume_net (s : State) (n : NetSt) : (CoSt.net n).resume s =
    (s, CoSt.next .net (netResume (s.trie.size + s.links.size + n.pointers.length + 3) s n).1
      (netResume (s.trie.size + s.links.size + n.pointers.length + 3) s n).2,
      (netResume (s.trie.size + s.links.size + n.pointers.length + 3) s n).2) := by
  rcases h : netResume (s.trie.size + s.links.size + n.pointers.length + 3) s n with ⟨n1, o⟩
  simp only [CoSt.resume, h]
  cases o <;> rfl

theorem resume_query (s : State) (q : QSt) :
    (CoSt.query q).resume s = (s, CoSt.next .query (q.resume s).1 (q.resume s).2, (q.resume s).2) := by
  rcases h : q.resume s with ⟨q1, o⟩
  simp only [CoSt.resume, h]
  cases o <;> rfl

theorem resume_batch_out (s : State) (b : BatchSt) :
    ((CoSt.batch b).resume s).2.2 = (batchResume 1000000 s b).2.2 := by rw [resume_batch]

theorem resume_batch_yielded (s : State) (b : BatchSt) (ho : (batchResume 1000000 s b).2.2 = .yielded) :
    ((CoSt.batch b).resume s).2.1 = .batch (batchResume 1000000 s b).2.1 := by
  rw [resume_batch]; exact CoSt.next_yielded _ _ ho

theorem resume_batch_stopped (s : State) (b : BatchSt) (ho : (batchResume 1000000 s b).2.2 ≠ .yielded) :
    ((CoSt.batch b).resume s).2.1 = .finished := by
  rw [resume_batch]; exact CoSt.next_stopped _ _ ho

theorem resume_rule_out (s : State) (r : RuleSt) : ((CoSt.rule r).resume s).2.2 = (ruleResume s r).2.2 := by
  rw [resume_rule]

theorem resume_rule_yielded (s : State) (r : RuleSt) (ho : (ruleResume s r).2.2 = .yielded) :
    ((CoSt.rule r).resume s).2.1 = .rule (ruleResume s r).2.1 := by
  rw [resume_rule]; exact CoSt.next_yielded _ _ ho

theorem resume_rule_stopped (s : State) (r : RuleSt) (ho : (ruleResume s r).2.2 ≠ .yielded) :
    ((CoSt.rule r).resume s).2.1 = .finished := by
  rw [resume_rule]; exact CoSt.next_stopped _ _ ho

theorem resume_pages_state (s : State) (p : PagesSt) : ((CoSt.pages p).resume s).1 = s := rfl
theorem resume_net_state (s : State) (n : NetSt) : ((CoSt.net n).resume s).1 = s := rfl

theorem resume_pages_out (s : State) (p : PagesSt) :
    ((CoSt.pages p).resume s).2.2 = (pagesResume ((s.trie.size + 1) * (p.prefixes.length + 1)) s p).2 := by
  rw [resume_pages]

theorem resume_pages_yielded (s : State) (p : PagesSt)
    (ho : (pagesResume ((s.trie.size + 1) * (p.prefixes.length + 1)) s p).2 = .yielded) :
    ((CoSt.pages p).resume s).2.1 = .pages (pagesResume ((s.trie.size + 1) * (p.prefixes.length + 1)) s p).1 := by
  rw [resume_pages]; exact CoSt.next_yielded _ _ ho

theorem resume_pages_stopped (s : State) (p : PagesSt)
    (ho : (pagesResume ((s.trie.size + 1) * (p.prefixes.length + 1)) s p).2 ≠ .yielded) :
    ((CoSt.pages p).resume s).2.1 = .finished := by
  rw [resume_pages]; exact CoSt.next_stopped _ _ ho

theorem resume_net_out (s : State) (n : NetSt) :
    ((CoSt.net n).resume s).2.2 = (netResume (s.trie.size + s.links.size + n.pointers.length + 3) s n).2 := by
  rw [resume_net]

theorem resume_net_yielded (s : State) (n : NetSt)
    (ho : (netResume (s.trie.size + s.links.size + n.pointers.length + 3) s n).2 = .yielded) :
    ((CoSt.net n).resume s).2.1 = .net (netResume (s.trie.size + s.links.size + n.pointers.length + 3) s n).1 := by
  rw [resume_net]; exact CoSt.next_yielded _ _ ho

theorem resume_net_stopped (s : State) (n : NetSt)
    (ho : (netResume (s.trie.size + s.links.size + n.pointers.length + 3) s n).2 ≠ .yielded) :
    ((CoSt.net n).resume s).2.1 = .finished := by
  rw [resume_net]; exact CoSt.next_stopped _ _ ho

theorem resume_query_state (s : State) (q : QSt) : ((CoSt.query q).resume s).1 = s := rfl

theorem resume_query_out (s : State) (q : QSt) : ((CoSt.query q).resume s).2.2 = (q.resume s).2 := by
  rw [resume_query]

theorem resume_query_yielded (s : State) (q : QSt) (ho : (q.resume s).2 = .yielded) :
    ((CoSt.query q).resume s).2.1 = .query (q.resume s).1 := by
  rw [resume_query]; exact CoSt.next_yielded _ _ ho

theorem resume_query_stopped (s : State) (q : QSt) (ho : (q.resume s).2 ≠ .yielded) :
    ((CoSt.query q).resume s).2.1 = .finished := by
  rw [resume_query]; exact CoSt.next_stopped _ _ ho

theorem resume_not_yielded (s : State) (c : CoSt) (h : (c.resume s).2.2 ≠ .yielded) :
    (c.resume s).2.1 = .finished := by
  cases c with
  | batch b => rw [resume_batch] at h ⊢; exact CoSt.next_stopped _ _ h
  | rule r => rw [resume_rule] at h ⊢; exact CoSt.next_stopped _ _ h
  | pages p => rw [resume_pages] at h ⊢; exact CoSt.next_stopped _ _ h
  | net n => rw [resume_net] at h ⊢; exact CoSt.next_stopped _ _ h
  | query q => rw [resume_query] at h ⊢; exact CoSt.next_stopped _ _ h
  | finished => rfl

theorem resume_yielded_kind (s : State) (c : CoSt) (h : (c.resume s).2.2 = .yielded) :
    (c.isWriter → (c.resume s).2.1.isWriter) ∧ (c.isPagesQuery → (c.resume s).2.1.isPagesQuery) ∧
      (c.resume s).2.1 ≠ .finished := by
  cases c with
  | batch b =>
    rw [resume_batch] at h ⊢; rw [show CoSt.next _ _ _ = _ from CoSt.next_yielded _ _ h]
    exact ⟨fun _ => trivial, fun hq => absurd hq id, fun e => by cases e⟩
  | rule r =>
    rw [resume_rule] at h ⊢; rw [show CoSt.next _ _ _ = _ from CoSt.next_yielded _ _ h]
    exact ⟨fun _ => trivial, fun hq => absurd hq id, fun e => by cases e⟩
  | pages p =>
    rw [resume_pages] at h ⊢; rw [show CoSt.next _ _ _ = _ from CoSt.next_yielded _ _ h]
    exact ⟨fun hw => absurd hw id, fun _ => trivial, fun e => by cases e⟩
  | net n =>
    rw [resume_net] at h ⊢; rw [show CoSt.next _ _ _ = _ from CoSt.next_yielded _ _ h]
    exact ⟨fun hw => absurd hw id, fun hq => absurd hq id, fun e => by cases e⟩
  | query q =>
    rw [resume_query] at h ⊢; rw [show CoSt.next _ _ _ = _ from CoSt.next_yielded _ _ h]
    exact ⟨fun hw => absurd hw id, fun hq => absurd hq id, fun e => by cases e⟩
  | finished => simp [CoSt.resume] at h

/-- the local invariant of a generator (queries need none for safety). For a crawl batch it includes the
    bound that keeps a section within the fuel `CoSt.resume` grants it. -/
def CoOk (s : State) (t : T) : CoSt → Prop
  | .batch b => BatchOk s t b ∧ batchWork b < 1000000
  | .rule r => RuleOk s t r
  | .pages p => PagesOk s t p
  | _ => True

/-- **local invariants are stable under the sections of all other generators**: they only mention
    entries of the tree and monotone facts of the heap -/
theorem CoOk.mono {s s' : State} {t t' : T} {c : CoSt}
    (h : Shape s t) (x : Ext s t s' t') (le : s ⊑ s') (hc : CoOk s t c) : CoOk s' t' c := by
  cases c with
  | batch b => exact ⟨hc.1.mono h x le, hc.2⟩
  | rule r => exact RuleOk.mono h x le hc
  | pages p => exact PagesOk.mono h x le hc
  | net n => trivial
  | query q => trivial
  | finished => trivial

/-- what one section `res = c.resume s` of any generator guarantees (`resume_sec`): shape, heap order and
    link lists outright, `rules` under `RulesOk`, `spec` under `Inv` and the local invariant -/
structure CoSec (s : State) (t : T) (c : CoSt) (res : State × CoSt × CoOut) (t' : T) : Prop where
  ext  : Ext s t res.1 t'
  le   : s ⊑ res.1
  link : CoLinkStep s res.1
  rules : RulesOk s → c.canon → RulesOk res.1 ∧ res.2.1.canon ∧
    ∀ e, res.2.2 = .failed e → c.isWriter → e ≠ .other "KeyError"
  spec : Inv s t → CoOk s t c → ∃ A rest, Adds s t res.1 t' A ∧ c.todo = A ++ rest ∧ CoOk res.1 t' res.2.1 ∧
    (res.2.2 = .yielded → res.2.1.todo = rest) ∧
    (∀ a, res.2.2 = .done a → rest = []) ∧
    (∀ e, res.2.2 = .failed e → c.isWriter → e = .other "KeyError" ∨ (c = .finished ∧ e = .other "StopIteration")) ∧
    (∀ a, res.2.2 = .done a → c.isPagesQuery → AnswerOk res.1 t' a) ∧
    (∀ e, res.2.2 = .failed e → c.isPagesQuery → e = .traph ∨ e = .other "fuel")

/-- **every section of every generator is a `Step`** (shape kept, entries kept, heap order respected);
    for a system state satisfying `Inv` and the generator's local invariant the pages it adds are the
    next items of its own `todo` list, the local invariant is re-established, and a writer can only fail
    with the `KeyError` of `__add_page` -/
theorem resume_sec {s : State} {t : T} (h : Shape s t) (c : CoSt) : ∃ t', CoSec s t c (c.resume s) t' := by
  have le : s ⊑ (c.resume s).1 := (across_resume (trace_across true true False) s c h.live).le
  have link : CoLinkStep s (c.resume s).1 := across_resume (linkStep_across true true False) s c trivial
  cases c with
  | batch b =>
    obtain ⟨t', sec⟩ := batchResume_sec 1000000 s t b h
    rw [resume_batch] at le link ⊢
    refine ⟨t', sec.ext, le, link, fun ok _ => ?_, fun hi hc => ?_⟩
    · obtain ⟨ok1, hnf⟩ := batchResume_rules 1000000 b h ok
      exact ⟨ok1, CoSt.next_elim trivial fun _ => trivial, fun e he _ hk => absurd ((hnf e he).symm.trans hk) (by decide)⟩
    obtain ⟨A, rest, a, e, hy, hd, hf⟩ := sec.spec hi hc.1
    refine ⟨A, rest, a, e, CoSt.next_elim trivial fun ho => ⟨(hy ho).1, Nat.lt_of_le_of_lt (hy ho).2.2 hc.2⟩,
      fun ho => (CoSt.next_yielded _ _ ho).symm ▸ (hy ho).2.1, hd, fun e' he _ => (hf e' he).imp_right fun h2 => ?_,
      fun _ _ hq => absurd hq id, fun _ _ hq => absurd hq id⟩
    exact absurd hc.2 (by have := h2.2; omega)
  | rule r =>
    obtain ⟨t', sec⟩ := ruleResume_sec h r
    rw [resume_rule] at le link ⊢
    refine ⟨t', sec.ext, le, link, fun ok hcan => ?_, fun hi hc => ?_⟩
    · obtain ⟨ok1, hnf⟩ := ruleResume_rules h r ok hcan
      exact ⟨ok1, CoSt.next_elim (P := CoSt.canon) trivial fun _ hs => (by rw [ruleResume_started] at hs; cases hs),
        fun e he _ _ => hnf e he⟩
    obtain ⟨a, hy, hf⟩ := sec.spec hi hc
    exact ⟨[], [], a, rfl, CoSt.next_elim trivial hy, fun ho => (CoSt.next_yielded _ _ ho).symm ▸ rfl, fun _ _ => rfl,
      fun e' he _ => Or.inl (hf e' he), fun _ _ hq => absurd hq id, fun _ _ hq => absurd hq id⟩
  | pages p =>
    rw [resume_pages] at le link ⊢
    refine ⟨t, Ext.refl h, le, link, fun ok _ => ⟨ok, CoSt.next_elim trivial fun _ => trivial, fun _ _ hw => absurd hw id⟩,
      fun hi hc => ?_⟩
    obtain ⟨hy, hd, hf⟩ := pagesResume_ok ((s.trie.size + 1) * (p.prefixes.length + 1)) s t p h hi hc
    exact ⟨[], [], Adds.refl hi, rfl, CoSt.next_elim trivial hy, fun ho => (CoSt.next_yielded _ _ ho).symm ▸ rfl,
      fun _ _ => rfl, fun _ _ hw => absurd hw id, fun a ho _ => hd a ho, fun e he _ => hf e he⟩
  | net n =>
    rw [resume_net] at le link ⊢
    exact ⟨t, Ext.refl h, le, link, fun ok _ => ⟨ok, CoSt.next_elim trivial fun _ => trivial, fun _ _ hw => absurd hw id⟩,
      fun hi _ => ⟨[], [], Adds.refl hi, rfl, CoSt.next_elim trivial fun _ => trivial,
      fun ho => (CoSt.next_yielded _ _ ho).symm ▸ rfl, fun _ _ => rfl,
      fun _ _ hw => absurd hw id, fun _ _ hq => absurd hq id, fun _ _ hq => absurd hq id⟩⟩
  | query q =>
    rw [resume_query] at le link ⊢
    exact ⟨t, Ext.refl h, le, link, fun ok _ => ⟨ok, CoSt.next_elim trivial fun _ => trivial, fun _ _ hw => absurd hw id⟩,
      fun hi _ => ⟨[], [], Adds.refl hi, rfl, CoSt.next_elim trivial fun _ => trivial,
      fun ho => (CoSt.next_yielded _ _ ho).symm ▸ rfl, fun _ _ => rfl,
      fun _ _ hw => absurd hw id, fun _ _ hq => absurd hq id, fun _ _ hq => absurd hq id⟩⟩
  | finished =>
    refine ⟨t, Ext.refl h, le, link, fun ok _ => ⟨ok, trivial, fun e he _ hk => ?_⟩,
      fun hi _ => ⟨[], [], Adds.refl hi, rfl, trivial, fun _ => rfl, fun _ _ => rfl, ?_,
      fun _ _ hq => absurd hq id, fun _ _ hq => absurd hq id⟩⟩
    · simp only [CoSt.resume, CoOut.failed.injEq] at he
      rw [hk] at he
      exact absurd he (by decide)
    intro e he _
    simp only [CoSt.resume, CoOut.failed.injEq] at he
    exact Or.inr ⟨rfl, he.symm⟩

end Traph
