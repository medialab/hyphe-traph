import Proofs.FrameOps
import Proofs.Prog
/-! The write requests of `Traph/Api.lean` are compositions of a few state changes: `add_lru` (which answers a
    block), flag updates of a block answered before (page, crawled, rule), setting such a block's webentity id,
    drawing a fresh id, threading stubs from one answered block to others, and replacing the RAM rules; `lru_node`
    answers blocks too. Stubs only run between blocks that `add_page` has flagged as pages or has found flagged.
    `Built k ru wf s N s'` says that `s'` is reached from `s` by such changes, `N` being the blocks answered on
    the way. The control structure of every request is walked ONCE, here (`built_step` and the
    lemmas before it, the page cache of the link requests included); a relation that respects the changes
    (`Across`) then holds across every request (`Built.across`), without looking at the requests again.
    A NEW request needs a constructor of `Op`, a `step_*` equation, a `built_*` lemma, cases in `built_step`,
    `Op.stubs` and `Op.ruleChange`, and a lemma in each per-view family (DESIGN §12.1a names them). -/
namespace Traph
open State

/-! Stated once: `(s.step op).1 = …` is not closed by `rfl` at a reasonable price (the unifier first tries to
equate the two pairs, of different types, by unfolding the request), and the equations of `addRuleLoop` are
dear to derive. -/

theorem step_addPage (s : State) (l : Bytes) (c : Bool) :
    s.step (.addPage l c) = ((s.addPage l c).1, .ofExcept .report (s.addPage l c).2) := rfl
theorem step_addPages (s : State) (ls : List Bytes) (c : Bool) :
    s.step (.addPages ls c) = ((s.addPages ls c).1, .ofExcept .report (s.addPages ls c).2) := rfl
theorem step_addLinks (s : State) (ls : List (Bytes × Bytes)) :
    s.step (.addLinks ls) = ((s.addLinks ls).1, .ofExcept .report (s.addLinks ls).2) := rfl
theorem step_batch (s : State) (d : List (Bytes × List Bytes)) :
    s.step (.batch d) = ((s.batch d).1, .ofExcept .report (s.batch d).2) := rfl
theorem step_create (s : State) (ps : List Bytes) :
    s.step (.create ps) = ((s.createWebentity ps).1, .ofExcept .report (s.createWebentity ps).2) := rfl
theorem step_delete (s : State) (w : Nat) (ps : List Bytes) :
    s.step (.delete w ps) = ((s.deleteWebentity w ps).1, .ofExcept (fun _ => .unit) (s.deleteWebentity w ps).2) := rfl
theorem step_addPrefix (s : State) (p : Bytes) (w : Nat) :
    s.step (.addPrefix p w) = ((s.addPrefix p w).1, .ofExcept (fun _ => .unit) (s.addPrefix p w).2) := rfl
theorem step_removePrefix (s : State) (p : Bytes) (w : Option Nat) :
    s.step (.removePrefix p w) = ((s.removePrefix p w).1, .ofExcept (fun _ => .unit) (s.removePrefix p w).2) := rfl
theorem step_movePrefix (s : State) (p : Bytes) (t : Nat) (f : Option Nat) :
    s.step (.movePrefix p t f) = ((s.movePrefix p t f).1, .ofExcept (fun _ => .unit) (s.movePrefix p t f).2) := rfl
theorem step_addRule (s : State) (a : Bytes) (r : Rule) :
    s.step (.addRule a r) = ((s.addRule a r true).1, .ofExcept .report (s.addRule a r true).2) := rfl
theorem step_removeRule (s : State) (a : Bytes) :
    s.step (.removeRule a) = ((s.removeRule a).1, .ofExcept (fun _ => .unit) (s.removeRule a).2) := rfl
theorem step_reopen (s : State) (d : Rule) (rs : List (Bytes × Rule)) :
    s.step (.reopen d rs) = (s.reopen d rs, .unit) := rfl
theorem step_clear (s : State) (d : Option Rule) (rs : Option (List (Bytes × Rule))) :
    s.step (.clear d rs) = ((s.clear d rs).1, .ofExcept (fun _ => .unit) (s.clear d rs).2) := rfl

theorem run_cons (s : State) (op : Op) (ops : List Op) : s.run (op :: ops) = (s.step op).1.run ops := rfl

def State.transcript : State → List Op → List (Op × Ans)
  | _, [] => []
  | s, op :: ops => (op, (s.step op).2) :: State.transcript (s.step op).1 ops

/-- what `__add_page` decides from the walk history `h` of the insertion -/
def State.autoDecision (s : State) (lru : Bytes) (h : Hist) : Option (Option Bytes) :=
  match s.longestCandidate lru h with
  | none => none
  | some cand =>
    let covered := match h.wePos with | some p => decide (cand.length ≤ p) | none => false
    if covered then some none
    else if !cand.isEmpty then some (some cand)
    else
      match s.dflt.search lru with
      | none => some none
      | some k => if k.isEmpty then some none else some (some k)

/-- `__add_page` = the trie insertion, then that decision -/
theorem addPageCore_eq (s : State) (lru : Bytes) (c : Bool) :
    s.addPageCore lru c =
      (match (s.addPageTrie (lruIter lru) c).1.autoDecision lru (s.addPageTrie (lruIter lru) c).2.2 with
       | none => ((s.addPageTrie (lruIter lru) c).1, (s.addPageTrie (lruIter lru) c).2.1,
                   .error (.other "KeyError"))
       | some none => ((s.addPageTrie (lruIter lru) c).1, (s.addPageTrie (lruIter lru) c).2.1,
                   .ok { pages := if (s.addPageTrie (lruIter lru) c).2.2.created then 1 else 0 })
       | some (some K) =>
          (((s.addPageTrie (lruIter lru) c).1.createWebentityAuto K).1, (s.addPageTrie (lruIter lru) c).2.1,
            .ok (({ pages := if (s.addPageTrie (lruIter lru) c).2.2.created then 1 else 0 } : Report).add
              ((s.addPageTrie (lruIter lru) c).1.createWebentityAuto K).2))) := by
  rcases ht : s.addPageTrie (lruIter lru) c with ⟨s1, n, h⟩
  simp only [addPageCore, ht, State.autoDecision]
  -- the same ladder on both sides: by the cases it distinguishes
  cases s1.longestCandidate lru h with
  | none => rfl
  | some cand =>
    cases h.wePos with
    | some p =>
      by_cases hp : cand.length ≤ p
      · simp only [hp, decide_true, if_true]
      · cases cand with
        | nil => exact absurd (Nat.zero_le p) hp
        | cons b bs => simp only [hp, decide_false, Bool.false_eq_true, if_false]; rfl
    | none =>
      cases cand with
      | cons b bs => rfl
      | nil =>
        cases s1.dflt.search lru with
        | none => rfl
        | some k => cases k <;> rfl

/-- the page re-insertion of one round of `addRuleLoop` -/
def ruleVisit (s : State) (b : Nat) (lru : Bytes) (rep : Report) : State × Except Err Report :=
  if (s.cell b).flags.page then
    (match s.addPageCore (lru ++ s.stemAt b) false with
     | (s1, _, .error e) => (s1, .error e)
     | (s1, _, .ok r1) => (s1, .ok (rep.add r1)))
  else (s, .ok rep)

/-- the stack after one round: the pointers of the copy `c` read when the block was popped -/
def ruleNext (start b : Nat) (c : Cell) (lru cur : Bytes) (stack : List (Nat × Bytes)) : List (Nat × Bytes) :=
  let stack := if b ≠ start then
      (let st := if c.right ≠ 0 then (c.right, lru) :: stack else stack
       if c.left ≠ 0 then (c.left, lru) :: st else st) else stack
  if c.child ≠ 0 then (c.child, cur) :: stack else stack

theorem addRuleLoop_zero (start : Nat) (s : State) (stack : List (Nat × Bytes)) (rep : Report) :
    addRuleLoop start 0 s stack rep = (s, .ok rep) := by rw [addRuleLoop]

theorem addRuleLoop_nil (start fuel : Nat) (s : State) (rep : Report) :
    addRuleLoop start fuel s [] rep = (s, .ok rep) := by
  cases fuel <;> simp only [addRuleLoop]

theorem addRuleLoop_succ_cons (start fuel : Nat) (s : State) (b : Nat) (lru : Bytes)
    (stack : List (Nat × Bytes)) (rep : Report) :
    addRuleLoop start (fuel + 1) s ((b, lru) :: stack) rep =
      match ruleVisit s b lru rep with
      | (s1, .error e) => (s1, .error e)
      | (s1, .ok rep1) =>
        addRuleLoop start fuel s1 (ruleNext start b (s.cell b) lru (lru ++ s.stemAt b) stack) rep1 := by
  -- the two sides are built with different matchers; `rfl` on them as they stand evaluates `addPageCore`
  rw [addRuleLoop]
  unfold ruleVisit
  generalize s.addPageCore (lru ++ s.stemAt b) false = X
  cases (s.cell b).flags.page
  · rfl
  · rcases X with ⟨s1, n, e | r⟩ <;> rfl

/-- A run of the walk of a rule installation, from a stack of pending blocks and the report so far to the state
    and answer it ends with. It may stop at any point (out of fuel, and at the empty stack there is nothing else);
    a block that is no page is passed over; a page block is re-inserted with `__add_page`, whose failure ends the
    run. What holds of the walk whatever its fuel is an induction over this. -/
inductive RuleRun (start : Nat) : State → List (Nat × Bytes) → Report → State × Except Err Report → Prop
  | stop (s stack rep) : RuleRun start s stack rep (s, .ok rep)
  | skip {s b lru stack rep out} : (s.cell b).flags.page = false →
      RuleRun start s (ruleNext start b (s.cell b) lru (lru ++ s.stemAt b) stack) rep out →
      RuleRun start s ((b, lru) :: stack) rep out
  | fail {s b lru stack rep s1 n e} : (s.cell b).flags.page = true →
      s.addPageCore (lru ++ s.stemAt b) false = (s1, n, .error e) →
      RuleRun start s ((b, lru) :: stack) rep (s1, .error e)
  | page {s b lru stack rep s1 n r1 out} : (s.cell b).flags.page = true →
      s.addPageCore (lru ++ s.stemAt b) false = (s1, n, .ok r1) →
      RuleRun start s1 (ruleNext start b (s.cell b) lru (lru ++ s.stemAt b) stack) (rep.add r1) out →
      RuleRun start s ((b, lru) :: stack) rep out

theorem addRuleLoop_run (start : Nat) : ∀ (fuel : Nat) (s : State) (stack : List (Nat × Bytes)) (rep : Report),
    RuleRun start s stack rep (addRuleLoop start fuel s stack rep)
  | 0, s, stack, rep => by rw [addRuleLoop_zero]; exact .stop ..
  | _ + 1, s, [], rep => by rw [addRuleLoop_nil]; exact .stop ..
  | fuel + 1, s, (b, lru) :: stack, rep => by
    rw [addRuleLoop_succ_cons, ruleVisit]
    cases hp : (s.cell b).flags.page with
    | false => exact .skip hp (addRuleLoop_run start fuel s _ rep)
    | true =>
      rcases ha : s.addPageCore (lru ++ s.stemAt b) false with ⟨s1, n, e | r1⟩
      · exact .fail hp ha
      · exact .page hp ha (addRuleLoop_run start fuel s1 _ _)

/-- what `add_webentity_creation_rule` does before the walk: the rule goes to the RAM dict, the anchor is
    inserted with `add_lru` and its node flagged; returns the state and the anchor's block -/
def State.rulePrologue (s : State) (anchor : Bytes) (r : Rule) : State × Nat :=
  ((State.addLru { s with rules := dictSet s.rules anchor r } (lruIter anchor) false).1.modCell
      (State.addLru { s with rules := dictSet s.rules anchor r } (lruIter anchor) false).2.1
      (fun c => { c with flags := { c.flags with rule := true } }),
   (State.addLru { s with rules := dictSet s.rules anchor r } (lruIter anchor) false).2.1)

theorem addRule_true_eq (s : State) (anchor : Bytes) (r : Rule) :
    s.addRule anchor r true =
      addRuleLoop (s.rulePrologue anchor r).2
        (8 * ((s.rulePrologue anchor r).1.trie.size + 2) * ((s.rulePrologue anchor r).1.trie.size + 2))
        (s.rulePrologue anchor r).1 [((s.rulePrologue anchor r).2, lruDirname anchor)] {} := by
  -- not `rfl`: that unfolds the loop on a fuel of the form `8 * (n + 2) * (n + 2)`
  simp only [addRule, State.rulePrologue, Bool.not_true, Bool.false_eq_true, if_false]

/-- `write_in_trie=False` (not reachable through `Op.addRule`, which passes `true`): RAM only, no walk -/
theorem addRule_false_eq (s : State) (anchor : Bytes) (r : Rule) :
    s.addRule anchor r false = ({ s with rules := dictSet s.rules anchor r }, .ok {}) := rfl

/-- a block handed out in the course of a request, by `add_lru stems flag` or by `lru_node stems` (`flag = false`);
    `page`: `add_page` has since flagged it as a page, or has found it flagged -/
structure Answered where
  stems : LRU
  flag : Bool
  node : Nat
  page : Bool

/-- the LRUs of link requests have at least one stem (an LRU without any `|` designates no node; the
    page cache of `add_links` / `index_batch_crawl` would then hold the root's block number whether or not
    the root exists) -/
def BatchWF (data : List (Bytes × List Bytes)) : Prop :=
  ∀ x ∈ data, lruIter x.1 ≠ [] ∧ ∀ t ∈ x.2, lruIter t ≠ []

/-- the link-request part of `OpWf` (PageSet), which is all that the provenance of stub ends needs
    (`OpWf.wf`) -/
def Op.WF : Op → Prop
  | .addLinks ls => ∀ st ∈ ls, lruIter st.1 ≠ [] ∧ lruIter st.2 ≠ []
  | .batch d => BatchWF d
  | _ => True

/-- `k = false`: no stubs are written. `ru = false`: neither the RAM rules nor a rule flag change. `wf`: the request
    is known to be well formed (`Op.WF`); the ends of the stubs written are then blocks answered for LRUs with a stem. They are always blocks that `add_page` has
    flagged as pages (`setPage`) or has found flagged (`isPage`). A block is only ever updated after it has been
    answered, and gets a webentity id only if it was answered by `add_lru _ true`. -/
inductive Built (k ru : Bool) (wf : Prop) : State → List Answered → State → Prop
  | refl (s) : Built k ru wf s [] s
  | addLru {s N a} (stems : LRU) (flag : Bool) : Built k ru wf s N a →
      Built k ru wf s (⟨stems, flag, (a.addLru stems flag).2.1, false⟩ :: N) (a.addLru stems flag).1
  | lookup {s N a} (stems : LRU) (n : Nat) : Built k ru wf s N a → a.lruNode stems = some n →
      Built k ru wf s (⟨stems, false, n, false⟩ :: N) a
  | setPage {s N a} (x : Answered) (crawled : Bool) : Built k ru wf s N a → x ∈ N →
      Built k ru wf s ({ x with page := true } :: N)
        (a.modCell x.node fun c => { c with flags := { c.flags with page := true, crawled := c.flags.crawled || crawled } })
  | isPage {s N a} (x : Answered) : Built k ru wf s N a → x ∈ N → (a.cell x.node).flags.page = true →
      Built k ru wf s ({ x with page := true } :: N) a
  | setCrawled {s N a} (x : Answered) : Built k ru wf s N a → x ∈ N → Built k ru wf s N
      (a.modCell x.node fun c => { c with flags := { c.flags with crawled := true } })
  | setRule {s N a} (x : Answered) (b : Bool) : ru = true → Built k ru wf s N a → x ∈ N → Built k ru wf s N
      (a.modCell x.node fun c => { c with flags := { c.flags with rule := b } })
  | setWe {s N a} (x : Answered) (w : Nat) : Built k ru wf s N a → x ∈ N → (w ≠ 0 → x.flag = true) →
      Built k ru wf s N (a.modCell x.node fun c => { c with we := w })
  | genId {s N a} : Built k ru wf s N a → Built k ru wf s N a.genId.1
  | addStubs {s N a} (page : Nat) (targets : List Nat) (out : Bool) : k = true → Built k ru wf s N a →
      (∀ t ∈ page :: targets, ∃ x ∈ N, x.node = t ∧ x.page = true ∧ (wf → x.stems ≠ [])) →
      Built k ru wf s N (a.addStubs page targets out)
  | ram {s N a} (dflt : Rule) (rules : List (Bytes × Rule)) : ru = true → Built k ru wf s N a →
      Built k ru wf s N { a with dflt := dflt, rules := rules }

variable {k ru : Bool} {wf : Prop}

/-- the derivation `Built k ru wf s0 N0 s` can be continued to `s'`; `P` is what is known of the blocks answered then.
    The walk below is written with it: each function of `Api.lean` takes a derivation up to its start state and gives
    `Built.To` its end state (`here`: nothing more happens; `bind`: then go on; `weaken`/`base`: forget) -/
def Built.To (k ru : Bool) (wf : Prop) (s0 : State) (N0 : List Answered) (s' : State)
    (P : List Answered → Prop := fun _ => True) : Prop :=
  ∃ N, Built k ru wf s0 N s' ∧ N0 ⊆ N ∧ P N

theorem Built.To.here {s0 s : State} {N0 : List Answered} {P : List Answered → Prop}
    (h : Built k ru wf s0 N0 s) (hp : P N0) : Built.To k ru wf s0 N0 s P := ⟨N0, h, fun _ hx => hx, hp⟩

theorem Built.To.bind {s0 s1 s2 : State} {N0 : List Answered} {P Q : List Answered → Prop}
    (h1 : Built.To k ru wf s0 N0 s1 P)
    (h2 : ∀ N, Built k ru wf s0 N s1 → N0 ⊆ N → P N → Built.To k ru wf s0 N s2 Q) : Built.To k ru wf s0 N0 s2 Q := by
  obtain ⟨N1, b1, i1, p1⟩ := h1
  obtain ⟨N2, b2, i2, q2⟩ := h2 N1 b1 i1 p1
  exact ⟨N2, b2, fun _ hx => i2 (i1 hx), q2⟩

theorem Built.To.weaken {s0 s1 : State} {N0 : List Answered} {P Q : List Answered → Prop}
    (h : Built.To k ru wf s0 N0 s1 P) (hpq : ∀ N, N0 ⊆ N → P N → Q N) : Built.To k ru wf s0 N0 s1 Q := by
  obtain ⟨N1, b1, i1, p1⟩ := h
  exact ⟨N1, b1, i1, hpq N1 i1 p1⟩

theorem Built.To.base {s0 s1 : State} {N0 N1 : List Answered} {P : List Answered → Prop}
    (h : Built.To k ru wf s0 N1 s1 P) (hi : N0 ⊆ N1) : Built.To k ru wf s0 N0 s1 P := by
  obtain ⟨N, b, i, p⟩ := h
  exact ⟨N, b, fun _ hx => i (hi hx), p⟩

theorem Built.To.fst_of_eq {α : Type} {s0 : State} {N0 : List Answered} {P : List Answered → Prop}
    {p q : State × α} (h : Built.To k ru wf s0 N0 p.1 P) (e : p = q) : Built.To k ru wf s0 N0 q.1 P := e ▸ h

def Has (N : List Answered) (flag : Bool) (n : Nat) : Prop :=
  ∃ x ∈ N, x.node = n ∧ (flag = true → x.flag = true)

theorem Has.mono {N M : List Answered} {flag : Bool} {n : Nat} (h : Has N flag n) (hi : N ⊆ M) : Has M flag n := by
  obtain ⟨x, hx, h'⟩ := h
  exact ⟨x, hi hx, h'⟩

/-- what the page cache of a link request holds: a block answered and marked as a page, for an LRU with a stem if
    the request is well formed -/
def HasWf (wf : Prop) (N : List Answered) (n : Nat) : Prop :=
  ∃ x ∈ N, x.node = n ∧ x.page = true ∧ (wf → x.stems ≠ [])

theorem HasWf.mono {N M : List Answered} {n : Nat} (h : HasWf wf N n) (hi : N ⊆ M) : HasWf wf M n := by
  obtain ⟨x, hx, h'⟩ := h
  exact ⟨x, hi hx, h'⟩

section Walk
variable {s0 s : State} {N0 : List Answered}

private theorem sub_cons (x : Answered) (N : List Answered) : N ⊆ x :: N := fun _ hx => List.mem_cons_of_mem _ hx

theorem built_addPageTrie (h : Built k ru wf s0 N0 s) (stems : LRU) (crawled : Bool) :
    Built.To k ru wf s0 N0 (s.addPageTrie stems crawled).1
      (fun N => ⟨stems, false, (s.addPageTrie stems crawled).2.1, true⟩ ∈ N) := by
  have h1 := h.addLru stems false
  rcases ha : s.addLru stems false with ⟨s1, n, hist⟩
  rw [ha] at h1
  have hm : (⟨stems, false, n, false⟩ : Answered) ∈ (⟨stems, false, n, false⟩ : Answered) :: N0 := List.mem_cons_self ..
  have sub : ∀ y : Answered, N0 ⊆ y :: ⟨stems, false, n, false⟩ :: N0 := fun _ _ hx =>
    List.mem_cons_of_mem _ (List.mem_cons_of_mem _ hx)
  simp only [addPageTrie, ha]
  split
  · exact ⟨_, h1.setPage _ crawled hm, sub _, List.mem_cons_self ..⟩
  · rename_i hp
    have h2 := h1.isPage _ hm (by simpa using hp)
    split
    · exact ⟨_, h2.setCrawled _ (List.mem_cons_self ..), sub _, List.mem_cons_self ..⟩
    · exact ⟨_, h2, sub _, List.mem_cons_self ..⟩

theorem built_foldl_setWe (w : Nat) : ∀ (l : List (Bytes × Nat)) {s : State} {N : List Answered},
    Built k ru wf s0 N s → (∀ pn ∈ l, Has N (w != 0) pn.2) →
    Built k ru wf s0 N (l.foldl (fun st pn => st.modCell pn.2 (fun c => { c with we := w })) s)
  | [], _, _, h, _ => h
  | pn :: l, _, _, h, hl => by
    obtain ⟨x, hx, e, hf⟩ := hl pn (List.mem_cons_self ..)
    have := h.setWe x w hx (fun hw => hf (by simpa using hw))
    rw [e] at this
    exact built_foldl_setWe w l this (fun q hq => hl q (List.mem_cons_of_mem _ hq))

theorem built_addPrefixesScan : ∀ (ps : List Bytes) {s : State} {N : List Answered} (valid : List (Bytes × Nat))
    (nInv : Nat), Built k ru wf s0 N s → (∀ pn ∈ valid, Has N true pn.2) →
    Built.To k ru wf s0 N (s.addPrefixesScan ps valid nInv).1
      (fun M => ∀ pn ∈ (s.addPrefixesScan ps valid nInv).2.1, Has M true pn.2)
  | [], _, _, valid, _, h, hv => by rw [addPrefixesScan]; exact .here h hv
  | p :: ps, s, N, valid, nInv, h, hv => by
    have h1 := h.addLru (lruIter p) true
    rcases ha : s.addLru (lruIter p) true with ⟨s1, n, hist⟩
    rw [ha] at h1
    have hv' : ∀ pn ∈ valid, Has (⟨lruIter p, true, n, false⟩ :: N) true pn.2 := fun pn hp => (hv pn hp).mono (sub_cons _ _)
    simp only [addPrefixesScan, ha]
    split
    · exact (built_addPrefixesScan ps valid _ h1 hv').base (sub_cons _ _)
    · refine (built_addPrefixesScan ps (dictSet valid p n) _ h1 fun pn hp => ?_).base (sub_cons _ _)
      rcases mem_dictSet _ _ _ _ hp with rfl | hp
      · exact ⟨_, List.mem_cons_self .., rfl, fun _ => rfl⟩
      · exact hv' pn hp

theorem built_addPrefixes (h : Built k ru wf s0 N0 s) (prefixes : List Bytes) (best : Bool) :
    Built.To k ru wf s0 N0 (s.addPrefixes prefixes best).1 := by
  obtain ⟨N, h1, hi, hv⟩ := built_addPrefixesScan prefixes [] 0 h (fun _ hp => nomatch hp)
  rcases ha : s.addPrefixesScan prefixes [] 0 with ⟨s1, valid, nInv⟩
  rw [ha] at h1 hv
  simp only [addPrefixes, ha]
  split
  · exact ⟨N, h1, hi, trivial⟩
  · split
    · exact ⟨N, h1, hi, trivial⟩
    · exact ⟨N, built_foldl_setWe _ valid h1.genId (fun pn hp => (hv pn hp).imp fun _ hx => ⟨hx.1, hx.2.1, fun _ => hx.2.2 rfl⟩),
        hi, trivial⟩

theorem built_createWebentityAuto (h : Built k ru wf s0 N0 s) (pfx : Bytes) :
    Built.To k ru wf s0 N0 (s.createWebentityAuto pfx).1 := by
  have h1 := built_addPrefixes h (lruVariations pfx) true
  unfold createWebentityAuto
  split <;> rename_i heq <;> exact h1.fst_of_eq heq

theorem built_addPageCore (h : Built k ru wf s0 N0 s) (lru : Bytes) (crawled : Bool) :
    Built.To k ru wf s0 N0 (s.addPageCore lru crawled).1
      (fun N => ⟨lruIter lru, false, (s.addPageCore lru crawled).2.1, true⟩ ∈ N) := by
  have h1 := built_addPageTrie h (lruIter lru) crawled
  rw [addPageCore_eq]
  split
  · exact h1
  · exact h1
  · exact h1.bind fun N b _ hm => (built_createWebentityAuto b _).weaken fun _ hi _ => hi hm

theorem addPage_fst (s : State) (lru : Bytes) (crawled : Bool) :
    (s.addPage lru crawled).1 = (s.addPageCore lru crawled).1 := by
  simp only [addPage]

theorem addPage_snd (s : State) (lru : Bytes) (crawled : Bool) :
    (s.addPage lru crawled).2 = (s.addPageCore lru crawled).2.2 := by
  simp only [addPage]

theorem addPage_eq (s : State) (lru : Bytes) (c : Bool) :
    s.addPage lru c = ((s.addPageCore lru c).1, (s.addPageCore lru c).2.2) := by
  simp only [addPage]

theorem built_addPage (h : Built k ru wf s0 N0 s) (lru : Bytes) (crawled : Bool) :
    Built.To k ru wf s0 N0 (s.addPage lru crawled).1 := by
  rw [addPage_fst]; exact (built_addPageCore h lru crawled).weaken fun _ _ _ => trivial

def CacheHas (wf : Prop) (N : List Answered) (pages : List (Bytes × Nat)) : Prop := ∀ p ∈ pages, HasWf wf N p.2

theorem CacheHas.getD {N : List Answered} {pages : List (Bytes × Nat)} (h : CacheHas wf N pages) {l : Bytes}
    (hl : ∃ n, dictGet? pages l = some n) : HasWf wf N ((dictGet? pages l).getD 0) := by
  obtain ⟨n, hn⟩ := hl
  rw [hn]
  exact h _ (dictGet?_mem _ _ _ hn)

theorem built_run (h : Built k ru wf s0 N0 s) {a : Run} (ha : CacheHas wf N0 a.pages) (i : Instr)
    (hc : i.Cached a.pages) (hk : ∀ p ts o, i = .stubs p ts o → k = true)
    (hwf : wf → ∀ l ∈ i.ensures, lruIter l ≠ []) :
    Built.To k ru wf s0 N0 (i.run s a).1 (fun N => ∀ a1, (i.run s a).2 = .ok a1 → CacheHas wf N a1.pages) := by
  cases i with
  | add l c always =>
    have h1 := built_addPageCore h l c
    simp only [Instr.run]
    split
    · rename_i heq; rw [heq] at h1; exact h1.weaken fun _ _ _ _ e => nomatch e
    · rename_i s1 n r heq
      rw [heq] at h1
      refine h1.bind fun M b hi hm => ?_
      have hc' : ∀ a1 : Run, Except.ok { a with rep := a.rep.add r } = Except.ok (ε := Err) a1 → CacheHas wf M a1.pages :=
        fun a1 e => by cases e; exact fun p hp => (ha p hp).mono hi
      dsimp only
      split
      · exact .here (b.setCrawled _ hm) hc'
      · exact .here b hc'
  | ensure l c =>
    have h1 := built_addPageCore h l c
    simp only [Instr.run]
    split
    · split
      · rename_i heq; rw [heq] at h1; exact h1.weaken fun _ _ _ _ e => nomatch e
      · rename_i s1 n r heq
        rw [heq] at h1
        refine h1.weaken fun M hi hm a1 e p hp => ?_
        cases e
        rcases List.mem_append.mp hp with hp | hp
        · exact (ha p hp).mono hi
        · rw [List.mem_singleton.mp hp]; exact ⟨_, hm, rfl, rfl, fun w => hwf w l (List.mem_singleton.mpr rfl)⟩
    · rename_i n hn
      split
      · obtain ⟨x, hx, e, _⟩ := ha _ (dictGet?_mem _ _ _ hn)
        have := h.setCrawled x hx
        rw [e] at this
        exact .here this fun _ he => by cases he; exact ha
      · exact .here h fun _ he => by cases he; exact ha
  | stubs p ts out =>
    cases hk p ts out rfl
    refine .here (h.addStubs _ _ out rfl fun t ht => ?_) fun _ he => by cases he; exact ha
    rcases List.mem_cons.mp ht with rfl | ht
    · exact ha.getD (hc p List.mem_cons_self)
    · obtain ⟨l, hm, rfl⟩ := List.mem_map.mp ht
      exact ha.getD (hc l (List.mem_cons_of_mem _ hm))

theorem built_exec (is : List Instr) {s : State} {N : List Answered} {a : Run} (h : Built k ru wf s0 N s)
    (ha : CacheHas wf N a.pages) (hs : Sound s a is) (hk : ∀ i ∈ is, ∀ p ts o, i = .stubs p ts o → k = true)
    (hwf : wf → ∀ i ∈ is, ∀ l ∈ i.ensures, lruIter l ≠ []) : Built.To k ru wf s0 N (exec s a is).1 := by
  fun_induction exec s a is generalizing N with
  | case1 => exact .here h trivial
  | case2 s a i _ _ _ heq =>
    have h1 := built_run h ha i hs.1 (hk i List.mem_cons_self) fun w => hwf w i List.mem_cons_self
    rw [heq] at h1
    exact h1.weaken fun _ _ _ => trivial
  | case3 s a i _ s1 a1 heq ih =>
    have h1 := built_run h ha i hs.1 (hk i List.mem_cons_self) fun w => hwf w i List.mem_cons_self
    rw [heq] at h1
    exact h1.bind fun _ b _ hc => ih b (hc a1 rfl) (hs.2 s1 a1 heq)
      (fun j hj => hk j (List.mem_cons_of_mem _ hj)) fun w j hj => hwf w j (List.mem_cons_of_mem _ hj)

theorem RuleRun.built {start : Nat} {s : State} {stack : List (Nat × Bytes)} {rep : Report}
    {out : State × Except Err Report} (r : RuleRun start s stack rep out) {N : List Answered}
    (h : Built k ru wf s0 N s) : Built.To k ru wf s0 N out.1 := by
  induction r generalizing N with
  | stop => exact .here h trivial
  | skip _ _ ih => exact ih h
  | fail _ ha => exact ((built_addPageCore h _ false).weaken fun _ _ _ => trivial).fst_of_eq ha
  | page _ ha _ ih => exact ((built_addPageCore h _ false).fst_of_eq ha).bind fun _ b _ _ => ih b

theorem built_addRule (h : Built k true wf s0 N0 s) (anchor : Bytes) (r : Rule) (w : Bool) :
    Built.To k true wf s0 N0 (s.addRule anchor r w).1 := by
  have h0 : Built k true wf s0 N0 { s with rules := dictSet s.rules anchor r } := h.ram s.dflt _ rfl
  unfold addRule
  split
  · exact .here h0 trivial
  · exact ((addRuleLoop_run ..).built ((h0.addLru (lruIter anchor) false).setRule _ true rfl (List.mem_cons_self ..))).base
      (sub_cons _ _)

theorem built_removeRule (h : Built k true wf s0 N0 s) (anchor : Bytes) :
    Built.To k true wf s0 N0 (s.removeRule anchor).1 := by
  unfold removeRule
  split
  · exact .here h trivial
  · have h0 : Built k true wf s0 N0 { s with rules := s.rules.filter (fun p => p.1 ≠ anchor) } := h.ram s.dflt _ rfl
    simp only
    split
    · exact .here h0 trivial
    · rename_i n hn
      exact ⟨_, (h0.lookup _ n hn).setRule _ false rfl (List.mem_cons_self ..), sub_cons _ _, trivial⟩

theorem built_createWebentity (h : Built k ru wf s0 N0 s) (prefixes : List Bytes) :
    Built.To k ru wf s0 N0 (s.createWebentity prefixes).1 := by
  have h1 := built_addPrefixes h prefixes false
  unfold createWebentity
  split <;> rename_i heq <;> exact h1.fst_of_eq heq

theorem built_deleteScanChecked (weid : Nat) : ∀ (ps : List Bytes) {N : List Answered} (idx : List (Bytes × Nat)),
    Built k ru wf s0 N s → (∀ pn ∈ idx, Has N false pn.2) →
    Built.To k ru wf s0 N s (fun M => ∀ idx', deleteScanChecked s weid ps idx = .ok idx' → ∀ pn ∈ idx', Has M false pn.2)
  | [], _, idx, h, hv => by
    refine .here h fun idx' e => ?_
    rw [deleteScanChecked] at e; cases e; exact hv
  | p :: ps, N, idx, h, hv => by
    rw [deleteScanChecked]
    split
    · exact .here h fun _ e => nomatch e
    · rename_i n hn
      split
      · exact .here h fun _ e => nomatch e
      · refine (built_deleteScanChecked weid ps (dictSet idx p n) (h.lookup _ n hn) fun pn hp => ?_).base (sub_cons _ _)
        rcases mem_dictSet _ _ _ _ hp with rfl | hp
        · exact ⟨_, List.mem_cons_self .., rfl, fun e => nomatch e⟩
        · exact (hv pn hp).mono (sub_cons _ _)

theorem built_deleteWebentity (h : Built k ru wf s0 N0 s) (weid : Nat) (prefixes : List Bytes) :
    Built.To k ru wf s0 N0 (s.deleteWebentity weid prefixes).1 := by
  obtain ⟨N, b, hi, hv⟩ := built_deleteScanChecked weid prefixes [] h (fun _ hp => nomatch hp)
  unfold deleteWebentity
  split
  · exact .here h trivial
  · rename_i idx heq
    exact ⟨N, built_foldl_setWe 0 idx b (hv idx heq), hi, trivial⟩

theorem built_addPrefix (h : Built k ru wf s0 N0 s) (pfx : Bytes) (weid : Nat) :
    Built.To k ru wf s0 N0 (s.addPrefix pfx weid).1 := by
  have h1 := h.addLru (lruIter pfx) true
  rcases ha : s.addLru (lruIter pfx) true with ⟨s1, n, hist⟩
  rw [ha] at h1
  simp only [addPrefix, ha]
  split
  · exact ⟨_, h1, sub_cons _ _, trivial⟩
  · exact ⟨_, h1.setWe _ weid (List.mem_cons_self ..) (fun _ => rfl), sub_cons _ _, trivial⟩

theorem built_removePrefix (h : Built k ru wf s0 N0 s) (pfx : Bytes) (weid : Option Nat) :
    Built.To k ru wf s0 N0 (s.removePrefix pfx weid).1 := by
  have h1 := h.addLru (lruIter pfx) false
  rcases ha : s.addLru (lruIter pfx) false with ⟨s1, n, hist⟩
  rw [ha] at h1
  simp only [removePrefix, ha]
  split <;> split <;> first
    | exact ⟨_, h1.setWe _ 0 (List.mem_cons_self ..) (fun e => absurd rfl e), sub_cons _ _, trivial⟩
    | exact ⟨_, h1, sub_cons _ _, trivial⟩

theorem built_movePrefix (h : Built k ru wf s0 N0 s) (pfx : Bytes) (target : Nat) (source : Option Nat) :
    Built.To k ru wf s0 N0 (s.movePrefix pfx target source).1 := by
  have h1 := built_removePrefix h pfx source
  unfold movePrefix
  split
  · rename_i heq; exact h1.fst_of_eq heq
  · rename_i s1 _ heq; exact (h1.fst_of_eq heq).bind fun _ b _ _ => built_addPrefix b pfx target

theorem built_installRules : ∀ (rules : List (Bytes × Rule)) {s : State} {N : List Answered} (w : Bool),
    Built k true wf s0 N s → Built.To k true wf s0 N (installRules s rules w).1
  | [], _, _, _, h => by rw [installRules]; exact .here h trivial
  | (a, r) :: rest, s, _, w, h => by
    have h1 := built_addRule h a r w
    rw [installRules]
    split
    · rename_i heq; exact h1.fst_of_eq heq
    · rename_i s1 _ heq; exact (h1.fst_of_eq heq).bind fun _ b _ _ => built_installRules rest w b

end Walk

theorem installRules_ind {P : State → Prop} (w : Bool) : ∀ (rs : List (Bytes × Rule)) (s : State),
    (∀ s, ∀ ar ∈ rs, P s → P (s.addRule ar.1 ar.2 w).1) → P s → P (installRules s rs w).1
  | [], _, _, h => h
  | (a, r) :: rest, s, hstep, h => by
    have h1 := hstep s (a, r) List.mem_cons_self h
    rw [installRules]
    split
    · rename_i heq; rw [heq] at h1; exact h1
    · rename_i s1 _ heq
      rw [heq] at h1
      exact installRules_ind w rest s1 (fun s ar har => hstep s ar (List.mem_cons_of_mem _ har)) h1

/-- the state `clear` has when it has written its two headers, before it installs any rule -/
def State.clearBase (s : State) (d : Option Rule) (rs : Option (List (Bytes × Rule))) : State :=
  { cfg := s.cfg, dflt := d.getD s.dflt, rules := match rs with | none => s.rules | some _ => [],
    log := .linkHdr :: .hdr 0 :: s.log }

theorem clear_eq_installRules (s : State) (d : Option Rule) (rs : Option (List (Bytes × Rule))) :
    s.clear d rs = installRules (s.clearBase d rs) (rs.getD []) true := by
  cases rs <;> rfl

/-- the requests that write stubs; those that change rules (`clear` apart, which starts from new files) -/
def Op.stubs : Op → Bool
  | .addLinks _ | .batch _ => true
  | _ => false

def Op.ruleChange : Op → Bool
  | .addRule _ _ | .removeRule _ | .reopen _ _ => true
  | _ => false

theorem built_step (s : State) (op : Op) (hop : ∀ d rs, op ≠ .clear d rs) (hwf : wf → op.WF)
    (hk : op.stubs = true → k = true) (hr : op.ruleChange = true → ru = true) :
    ∃ N, Built k ru wf s N (s.step op).1 := by
  have fin : ∀ {k ru} {s' : State}, Built.To k ru wf s [] s' → ∃ N, Built k ru wf s N s' := fun ⟨N, b, _, _⟩ => ⟨N, b⟩
  have r := Built.refl (k := k) (ru := ru) (wf := wf) s
  cases op with
  | addPage l c => simp only [step_addPage]; exact fin (built_addPage r l c)
  | addPages ls c =>
    rw [step_prog s _ (.inl ⟨ls, c, rfl⟩)]
    have ns : ∀ i ∈ pagesProg ls c s.cfg.addPagesAlwaysCrawled, ∀ p ts o, i ≠ .stubs p ts o := fun i hi => by
      obtain ⟨_, _, rfl⟩ := List.mem_map.mp hi; exact nofun
    exact fin (built_exec _ r nofun ((closed_of_noStubs ns).sound _ s {} (K := fun _ => False) nofun)
      (fun i hi p ts o e => absurd e (ns i hi p ts o)) fun _ i hi l hl => by
        obtain ⟨_, _, rfl⟩ := List.mem_map.mp hi; exact nomatch hl)
  | addLinks ls =>
    cases hk rfl
    rw [step_prog s _ (.inr (.inl ⟨ls, rfl⟩))]
    exact fin (built_exec _ r nofun ((closed_linksProg ls).sound _ s {} nofun) (fun _ _ _ _ _ _ => rfl)
      fun w i hi l hl => linksProg_lrus_ne (hwf w) l (List.mem_flatMap.mpr ⟨i, hi, ensures_sub_lrus i l hl⟩))
  | batch d =>
    cases hk rfl
    rw [step_prog s _ (.inr (.inr ⟨d, rfl⟩))]
    exact fin (built_exec _ r nofun ((closed_batchProg d).sound _ s {} nofun) (fun _ _ _ _ _ _ => rfl)
      fun w i hi l hl => batchProg_lrus_ne (hwf w) l (List.mem_flatMap.mpr ⟨i, hi, ensures_sub_lrus i l hl⟩))
  | create ps => simp only [step_create]; exact fin (built_createWebentity r ps)
  | delete w ps => simp only [step_delete]; exact fin (built_deleteWebentity r w ps)
  | addPrefix p w => simp only [step_addPrefix]; exact fin (built_addPrefix r p w)
  | removePrefix p w => simp only [step_removePrefix]; exact fin (built_removePrefix r p w)
  | movePrefix p t f => simp only [step_movePrefix]; exact fin (built_movePrefix r p t f)
  | addRule a x => cases hr rfl; simp only [step_addRule]; exact fin (built_addRule r a x true)
  | removeRule a => cases hr rfl; simp only [step_removeRule]; exact fin (built_removeRule r a)
  | reopen d rs => cases hr rfl; simp only [step_reopen]; exact ⟨_, r.ram d _ rfl⟩
  | clear d rs => exact absurd rfl (hop d rs)

/-- `I` is what is known of the state before each change (and is kept by it); `Q x s`: what is known in `s` of a
    block `x` answered earlier in the request (kept as well, and said anew of the block with its page mark when
    `add_page` flags it or finds it flagged).
    An invariant `X s t` of a state and its ghost tree is carried by `R s s' := ∀ t, Shape s t → X s t → ∃ t', Shape s' t' ∧
    X s' t'` (`ParKeeps`, `MKeeps`, `LkKeeps`, `ext_across`). An instance at `wf := True` (`wt_across`, `lk_across`) cannot
    feed `HistInv`, which fixes `wf := False`: it is used through `Across.step` with `Op.WF`. The smallest worked
    instance is `trace_across` with `live_hist` (LeOps). -/
structure Across (k ru : Bool) (wf : Prop) (I : State → Prop) (Q : Answered → State → Prop)
    (R : State → State → Prop) : Prop where
  refl : ∀ s, R s s
  trans : ∀ {a b c}, R a b → R b c → R a c
  keep : ∀ {a b}, I a → R a b → I b
  stable : ∀ {a b x}, I a → Q x a → R a b → Q x b
  addLru : ∀ s stems flag, I s →
    R s (s.addLru stems flag).1 ∧ Q ⟨stems, flag, (s.addLru stems flag).2.1, false⟩ (s.addLru stems flag).1
  lookup : ∀ s stems n, I s → s.lruNode stems = some n → Q ⟨stems, false, n, false⟩ s
  setPage : ∀ s x crawled, I s → Q x s →
    R s (s.modCell x.node fun c => { c with flags := { c.flags with page := true, crawled := c.flags.crawled || crawled } }) ∧
    Q { x with page := true }
      (s.modCell x.node fun c => { c with flags := { c.flags with page := true, crawled := c.flags.crawled || crawled } })
  isPage : ∀ s x, I s → Q x s → (s.cell x.node).flags.page = true → Q { x with page := true } s
  setCrawled : ∀ s x, I s → Q x s → R s (s.modCell x.node fun c => { c with flags := { c.flags with crawled := true } })
  setRule : ru = true → ∀ s x b, I s → Q x s → R s (s.modCell x.node fun c => { c with flags := { c.flags with rule := b } })
  setWe : ∀ s x w, I s → Q x s → (w ≠ 0 → x.flag = true) → R s (s.modCell x.node fun c => { c with we := w })
  genId : ∀ s, I s → R s s.genId.1
  addStubs : k = true → ∀ s page targets out, I s →
    (∀ t ∈ page :: targets, ∃ x, Q x s ∧ x.node = t ∧ x.page = true ∧ (wf → x.stems ≠ [])) →
    R s (s.addStubs page targets out)
  ram : ru = true → ∀ s dflt rules, I s → R s { s with dflt := dflt, rules := rules }

theorem Built.across {I : State → Prop} {Q : Answered → State → Prop} {R : State → State → Prop}
    (A : Across k ru wf I Q R) {s s' : State} {N : List Answered} (h : Built k ru wf s N s') (hi : I s) :
    R s s' ∧ ∀ x ∈ N, Q x s' := by
  induction h with
  | refl => exact ⟨A.refl _, fun _ hx => nomatch hx⟩
  | addLru st f _ ih =>
    have i := A.keep hi ih.1
    obtain ⟨r, q⟩ := A.addLru _ st f i
    exact ⟨A.trans ih.1 r, fun x hx => (List.mem_cons.mp hx).elim (· ▸ q) fun hx => A.stable i (ih.2 x hx) r⟩
  | lookup st n _ e ih =>
    exact ⟨ih.1, fun x hx => (List.mem_cons.mp hx).elim (· ▸ A.lookup _ st n (A.keep hi ih.1) e) (ih.2 x)⟩
  | setPage x cr _ hx ih =>
    have i := A.keep hi ih.1
    obtain ⟨r, q⟩ := A.setPage _ x cr i (ih.2 x hx)
    exact ⟨A.trans ih.1 r, fun y hy => (List.mem_cons.mp hy).elim (· ▸ q) fun hy => A.stable i (ih.2 y hy) r⟩
  | isPage x _ hx hp ih =>
    exact ⟨ih.1, fun y hy => (List.mem_cons.mp hy).elim (· ▸ A.isPage _ x (A.keep hi ih.1) (ih.2 x hx) hp) (ih.2 y)⟩
  | setCrawled x _ hx ih =>
    have i := A.keep hi ih.1
    have r := A.setCrawled _ x i (ih.2 x hx)
    exact ⟨A.trans ih.1 r, fun y hy => A.stable i (ih.2 y hy) r⟩
  | setRule x b hr _ hx ih =>
    have i := A.keep hi ih.1
    have r := A.setRule hr _ x b i (ih.2 x hx)
    exact ⟨A.trans ih.1 r, fun y hy => A.stable i (ih.2 y hy) r⟩
  | setWe x w _ hx hw ih =>
    have i := A.keep hi ih.1
    have r := A.setWe _ x w i (ih.2 x hx) hw
    exact ⟨A.trans ih.1 r, fun y hy => A.stable i (ih.2 y hy) r⟩
  | genId _ ih =>
    have i := A.keep hi ih.1
    have r := A.genId _ i
    exact ⟨A.trans ih.1 r, fun y hy => A.stable i (ih.2 y hy) r⟩
  | addStubs p t o hk _ ht ih =>
    have i := A.keep hi ih.1
    have r := A.addStubs hk _ p t o i fun u hu => (ht u hu).imp fun x hx => ⟨ih.2 x hx.1, hx.2⟩
    exact ⟨A.trans ih.1 r, fun y hy => A.stable i (ih.2 y hy) r⟩
  | ram d rs hr _ ih =>
    have i := A.keep hi ih.1
    have r := A.ram hr _ d rs i
    exact ⟨A.trans ih.1 r, fun y hy => A.stable i (ih.2 y hy) r⟩

theorem Across.step {I : State → Prop} {Q : Answered → State → Prop} {R : State → State → Prop}
    (A : Across k ru wf I Q R) (s : State) (op : Op) (hop : ∀ d rs, op ≠ .clear d rs) (hwf : wf → op.WF)
    (hk : op.stubs = true → k = true) (hr : op.ruleChange = true → ru = true) (hi : I s) : R s (s.step op).1 :=
  have ⟨_, b⟩ := built_step (k := k) (ru := ru) (wf := wf) s op hop hwf hk hr
  (b.across A hi).1

theorem Across.step_any {I : State → Prop} {Q : Answered → State → Prop} {R : State → State → Prop}
    (A : Across true true False I Q R) (s : State) (op : Op) (hop : ∀ d rs, op ≠ .clear d rs) (hi : I s) :
    R s (s.step op).1 := A.step s op hop (fun h => h.elim) (fun _ => rfl) (fun _ => rfl) hi

theorem Built.To.across {I : State → Prop} {Q : Answered → State → Prop} {R : State → State → Prop}
    (A : Across k ru wf I Q R) {s s' : State} {P : List Answered → Prop} (h : Built.To k ru wf s [] s' P)
    (hi : I s) : R s s' := by
  obtain ⟨_, b, _, _⟩ := h
  exact (b.across A hi).1

/-- An invariant that holds of a new pair of files and is kept by the changes a request is made of holds after the
    constructor, after `clear`, after every request and so after every history. -/
structure HistInv (I : State → Prop) : Prop where
  init : ∀ s : State, s.trie = #[{}] → s.links = #[{}] → I s
  built : ∀ {s s' : State} {N : List Answered}, Built true true False s N s' → I s → I s'

theorem HistInv.of_across {I : State → Prop} {Q : Answered → State → Prop} {R : State → State → Prop}
    (A : Across true true False I Q R) (init : ∀ s : State, s.trie = #[{}] → s.links = #[{}] → I s) : HistInv I :=
  ⟨init, fun b hi => A.keep hi (b.across A hi).1⟩

namespace HistInv
variable {I : State → Prop} (H : HistInv I)
include H

theorem installRules (rules : List (Bytes × Rule)) (s : State) (w : Bool) (h : I s) : I (installRules s rules w).1 :=
  have ⟨_, b, _, _⟩ := built_installRules (k := true) (wf := False) rules w (.refl s)
  H.built b h

theorem fresh (cfg : Config) (dflt : Rule) (rules : List (Bytes × Rule)) (log : List Write) :
    I (State.fresh cfg dflt rules log).1 := H.installRules rules _ true (H.init _ rfl rfl)

theorem clear (s : State) (d : Option Rule) (rs : Option (List (Bytes × Rule))) : I (s.clear d rs).1 := by
  unfold State.clear
  split
  · exact H.init _ rfl rfl
  · exact H.installRules _ _ true (H.init _ rfl rfl)

theorem step (s : State) (op : Op) (h : I s) : I (s.step op).1 := by
  have built : ∀ op : Op, (∀ d rs, op ≠ .clear d rs) → I (s.step op).1 := fun op hop =>
    have ⟨_, b⟩ := built_step (k := true) (ru := true) (wf := False) s op hop (fun h => h.elim) (fun _ => rfl) (fun _ => rfl)
    H.built b h
  cases op with
  | clear d rs => rw [step_clear]; exact H.clear s d rs
  | _ => exact built _ (by intro _ _ e; cases e)

theorem run : ∀ (ops : List Op) (s : State), I s → I (s.run ops)
  | [], _, h => h
  | op :: ops, s, h => run ops (s.step op).1 (H.step s op h)

theorem reachable (cfg : Config) (dflt : Rule) (rules : List (Bytes × Rule)) (ops : List Op) :
    I ((State.fresh cfg dflt rules []).1.run ops) := H.run ops _ (H.fresh cfg dflt rules [])

end HistInv

/-- where the derivation of a request that writes no stub starts -/
theorem Built.quiet (s : State) : Built false true False s [] s := .refl s

end Traph
