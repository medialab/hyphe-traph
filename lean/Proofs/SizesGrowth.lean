import Proofs.Sizes
/-! C19, exact growth: `add_lru` grows the trie store by the blocks of exactly those stem-prefixes of the
    submitted LRU that were not stored before (they form a suffix of the list of prefixes: the stored
    prefixes are those of length ≤ k, and the growth is the blocks of the stems after the k-th).
    `add_page` at the trie level is `add_lru` followed by a flag rewrite: same sizes, same invariant. -/
namespace Traph
open State

theorem addLru_growth {s : State} {t : T} (h : Shape s t) (stems : LRU) (hne : stems ≠ []) (flag : Bool) :
    ∃ k, k ≤ stems.length ∧
      (∀ j, 0 < j → j ≤ stems.length → ((∃ b, (stems.take j, b) ∈ t.entries s []) ↔ j ≤ k)) ∧
      (s.addLru stems flag).1.trie.size = s.trie.size + ((stems.drop k).map blocksFor).sum := by
  obtain ⟨_, k, ac⟩ := addLru_account h stems hne flag
  exact ⟨k, ac.le, ac.stored, ac.size⟩

theorem addPageTrie_noStruct (s : State) (stems : LRU) (crawled : Bool) :
    NoStruct (s.addLru stems false).1 (s.addPageTrie stems crawled).1 ∧
      (s.addPageTrie stems crawled).2.1 = (s.addLru stems false).2.1 := by
  obtain ⟨e2, e1 | e1 | e1⟩ := addPageTrie_cases s stems crawled <;> rw [e1]
  · exact ⟨noStruct_modCell _ _ _ (fun c => ⟨rfl, rfl, rfl, rfl, rfl⟩), e2⟩
  · exact ⟨noStruct_modCell _ _ _ (fun c => ⟨rfl, rfl, rfl, rfl, rfl⟩), e2⟩
  · exact ⟨NoStruct.refl _, e2⟩

theorem addPageTrie_trie_size (s : State) (stems : LRU) (crawled : Bool) :
    (s.addPageTrie stems crawled).1.trie.size = (s.addLru stems false).1.trie.size :=
  (addPageTrie_noStruct s stems crawled).1.1

theorem addPageTrie_sizeOk {s : State} {t : T} (h : Shape s t) (hz : SizeOk s t) (stems : LRU)
    (hne : stems ≠ []) (crawled : Bool) :
    ∃ t', Shape (s.addPageTrie stems crawled).1 t' ∧ SizeOk (s.addPageTrie stems crawled).1 t' ∧
      (stems, (s.addPageTrie stems crawled).2.1) ∈ t'.entries (s.addPageTrie stems crawled).1 [] := by
  obtain ⟨t', gr, hz', hent⟩ := addLru_sizeOk h hz stems hne false
  obtain ⟨n, e⟩ := addPageTrie_noStruct s stems crawled
  refine ⟨t', n.shape gr.shape, hz'.noStruct n, ?_⟩
  rw [n.entries, e]
  exact hent

theorem addPageTrie_known_no_growth {s : State} {t : T} (h : Shape s t) (stems : LRU) (hne : stems ≠ [])
    (crawled : Bool) (b : Nat) (hb : (stems, b) ∈ t.entries s []) :
    (s.addPageTrie stems crawled).1.trie.size = s.trie.size ∧ (s.addPageTrie stems crawled).2.1 = b := by
  obtain ⟨h1, h2⟩ := addLru_known_no_growth h stems hne false b hb
  obtain ⟨n, e⟩ := addPageTrie_noStruct s stems crawled
  exact ⟨n.1.trans h1, e.trans h2⟩

#print axioms addLru_growth
#print axioms addPageTrie_sizeOk
#print axioms addPageTrie_known_no_growth

end Traph
