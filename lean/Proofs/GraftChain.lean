import Proofs.InsertAttrs
import Proofs.Traverse
/-! Chains of heap steps. Every write of `add_lru` / `__add_page` / `__create_webentity` is either a
    `NoStruct` step (attribute bits only) or a `GraftStep` (one fresh node hooked into one empty slot).
    `Chain s s' gs` records such a sequence together with the list `gs` of grafts performed, so that ANY
    represented ghost (sub)tree `u` of `s` can be carried along: `applyGrafts gs u` is represented in `s'`
    (`Chain.rep`), has the same root, the same pre-order on the old blocks (`Chain.pre_filter`), and a
    duplicate-free family of disjoint subtrees stays so (`Chain.fam`).
    Used by `Proofs/RuleInstall.lean` for the walk of `add_webentity_creation_rule`, whose pending stack
    lives in a trie that grows under it; `PageSame` (no block's page flag differs between the two states) is what
    keeps the pages the pending trees will yield. -/
namespace Traph
open State

inductive Chain : State → State → List (Nat × Slot × Nat) → Prop
  | refl (s : State) : Chain s s []
  | ns {s s' s'' : State} {gs : List (Nat × Slot × Nat)} :
      NoStruct s s' → Chain s' s'' gs → Chain s s'' gs
  | gr {s s' s'' : State} {q : Nat} {sl : Slot} {x : Stem} {gs : List (Nat × Slot × Nat)} :
      GraftStep s s' q sl x → Chain s' s'' gs → Chain s s'' ((q, sl, s.trie.size) :: gs)

theorem Chain.trans {a b c : State} {g1 g2 : List (Nat × Slot × Nat)}
    (h1 : Chain a b g1) (h2 : Chain b c g2) : Chain a c (g1 ++ g2) := by
  induction h1 with
  | refl s => simpa using h2
  | ns n _ ih => exact Chain.ns n (ih h2)
  | gr g _ ih => exact Chain.gr g (ih h2)

theorem Chain.of_noStruct {s s' : State} (n : NoStruct s s') : Chain s s' [] :=
  Chain.ns n (Chain.refl s')

theorem Chain.of_graft {s s' : State} {q : Nat} {sl : Slot} {x : Stem} (g : GraftStep s s' q sl x) :
    Chain s s' [(q, sl, s.trie.size)] :=
  Chain.gr g (Chain.refl s')

theorem Chain.size_le {s s' : State} {gs : List (Nat × Slot × Nat)} (h : Chain s s' gs) :
    s.trie.size ≤ s'.trie.size := by
  induction h with
  | refl s => exact Nat.le_refl _
  | ns n _ ih => rw [← n.1]; exact ih
  | gr g _ ih => exact Nat.le_trans (Nat.le_of_lt g.size_lt) ih

def applyGrafts (gs : List (Nat × Slot × Nat)) (u : T) : T :=
  gs.foldl (fun u g => u.graft g.1 g.2.1 g.2.2) u

@[simp] theorem applyGrafts_nil (u : T) : applyGrafts [] u = u := rfl

@[simp] theorem applyGrafts_cons (g : Nat × Slot × Nat) (gs : List (Nat × Slot × Nat)) (u : T) :
    applyGrafts (g :: gs) u = applyGrafts gs (u.graft g.1 g.2.1 g.2.2) := rfl

theorem applyGrafts_root (gs : List (Nat × Slot × Nat)) : ∀ (u : T), (applyGrafts gs u).root = u.root := by
  induction gs with
  | nil => intro u; rfl
  | cons g gs ih => intro u; rw [applyGrafts_cons, ih, T.root_graft]

theorem applyGrafts_nil_tree (gs : List (Nat × Slot × Nat)) : applyGrafts gs .nil = .nil := by
  induction gs with
  | nil => rfl
  | cons g gs ih => rw [applyGrafts_cons]; exact ih

theorem Rep.eq_nil_of_root {s : State} {u : T} (hr : Rep s u) (h0 : u.root = 0) : u = .nil := by
  cases u with
  | nil => rfl
  | node a l c r => exact absurd h0 hr.1

theorem applyGrafts_node (gs : List (Nat × Slot × Nat)) : ∀ (a : Nat) (l c r : T),
    ∃ l' c' r', applyGrafts gs (.node a l c r) = .node a l' c' r' := by
  induction gs with
  | nil => intro a l c r; exact ⟨l, c, r, rfl⟩
  | cons g gs ih => intro a l c r; rw [applyGrafts_cons]; exact ih a _ _ _

theorem Chain.rep {s s' : State} {gs : List (Nat × Slot × Nat)} (h : Chain s s' gs) :
    ∀ {u : T}, Rep s u → Rep s' (applyGrafts gs u) := by
  induction h with
  | refl s => intro u hr; exact hr
  | ns n _ ih => intro u hr; exact ih (n.rep hr)
  | gr g _ ih => intro u hr; rw [applyGrafts_cons]; exact ih (g.rep hr)

theorem T.pre_frame {s s' : State} : ∀ (t : T) (lru : Bytes),
    (∀ a ∈ t.addrs, s'.stemAt a = s.stemAt a) → t.pre s' lru = t.pre s lru := by
  intro t
  induction t with
  | nil => intro _ _; rfl
  | node a l c r ihl ihc ihr =>
    intro lru hag
    obtain ⟨ha, hl, hc, hr⟩ := T.forall_mem_node hag
    simp only [T.pre, ha]
    rw [ihl lru hl, ihc _ hc, ihr lru hr]

def oldOnly (N : Nat) (l : List (Nat × Bytes)) : List (Nat × Bytes) := l.filter (fun e => decide (e.1 < N))

theorem oldOnly_append (N : Nat) (a b : List (Nat × Bytes)) : oldOnly N (a ++ b) = oldOnly N a ++ oldOnly N b :=
  List.filter_append _ _

theorem oldOnly_self {s : State} {u : T} (hr : Rep s u) (N : Nat) (hN : s.trie.size ≤ N) (lru : Bytes) :
    oldOnly N (u.pre s lru) = u.pre s lru := by
  unfold oldOnly
  rw [List.filter_eq_self]
  intro e he
  have h1 : e.1 ∈ (u.pre s lru).map (·.1) := List.mem_map.mpr ⟨e, he, rfl⟩
  have h2 := (pre_addrs_perm u lru).mem_iff.mp h1
  have := hr.lt_size e.1 h2
  simp only [decide_eq_true_eq]; omega

theorem GraftStep.pre_filter {s s' : State} {q : Nat} {sl : Slot} {x : Stem} (g : GraftStep s s' q sl x)
    (N : Nat) (hN : N ≤ s.trie.size) : ∀ (u : T) (lru : Bytes), Rep s u →
    oldOnly N ((u.graft q sl s.trie.size).pre s' lru) = oldOnly N (u.pre s lru) := by
  intro u
  induction u with
  | nil => intro _ _; rfl
  | node a l c r ihl ihc ihr =>
    intro lru hr
    obtain ⟨ha, ⟨cell, hc, h1, h2, h3⟩, rl, rc, rr⟩ := hr
    have hal : a < s.trie.size := (Array.getElem?_eq_some_iff.mp hc).1
    have hst : s'.stemAt a = s.stemAt a := g.stems a hal
    have key : ∀ (w : T) (cond : Prop) [Decidable cond] (y : Bytes), Rep s w → (cond → w.root = 0) →
        (∀ y, oldOnly N ((w.graft q sl s.trie.size).pre s' y) = oldOnly N (w.pre s y)) →
        oldOnly N ((if cond then T.node s.trie.size .nil .nil .nil else w.graft q sl s.trie.size).pre s' y)
          = oldOnly N (w.pre s y) := by
      intro w cond _ y hw h0 ih
      split
      · rename_i hcnd
        have := hw.eq_nil_of_root (h0 hcnd)
        subst this
        simp only [T.pre, List.append_nil, oldOnly, List.filter_cons, List.filter_nil]
        rw [if_neg]; simp only [decide_eq_true_eq]; omega
      · exact ih y
    have kl := key l (a = q ∧ sl = .L ∧ l.root = 0) lru rl (fun h => h.2.2) (fun y => ihl y rl)
    have kc := key c (a = q ∧ sl = .C ∧ c.root = 0) (lru ++ s.stemAt a) rc (fun h => h.2.2) (fun y => ihc y rc)
    have kr := key r (a = q ∧ sl = .R ∧ r.root = 0) lru rr (fun h => h.2.2) (fun y => ihr y rr)
    simp only [T.graft, T.pre, hst]
    unfold oldOnly at kl kc kr ⊢
    simp only [List.filter_cons, List.filter_append]
    rw [kl, kc, kr]

theorem Chain.pre_filter {s s' : State} {gs : List (Nat × Slot × Nat)} (h : Chain s s' gs) (N : Nat) :
    N ≤ s.trie.size → ∀ {u : T} (lru : Bytes), Rep s u →
    oldOnly N ((applyGrafts gs u).pre s' lru) = oldOnly N (u.pre s lru) := by
  induction h with
  | refl s => intro _ u lru _; rfl
  | ns n _ ih =>
    intro hN u lru hr
    rw [ih (by rw [n.1]; exact hN) lru (n.rep hr), T.pre_frame u lru (fun a _ => n.stemAt a)]
  | gr g _ ih =>
    intro hN u lru hr
    rw [applyGrafts_cons, ih (Nat.le_trans hN (Nat.le_of_lt g.size_lt)) lru (g.rep hr)]
    exact g.pre_filter N hN u lru hr

theorem Chain.pre_old {s s' : State} {gs : List (Nat × Slot × Nat)} (h : Chain s s' gs)
    {u : T} (lru : Bytes) (hr : Rep s u) :
    oldOnly s.trie.size ((applyGrafts gs u).pre s' lru) = u.pre s lru := by
  rw [h.pre_filter s.trie.size (Nat.le_refl _) lru hr, oldOnly_self hr _ (Nat.le_refl _)]

def famCount {α : Type} (x : Nat) (ds : List (T × α)) : Nat := (ds.map (fun p => p.1.addrs.count x)).sum

@[simp] theorem famCount_nil {α : Type} (x : Nat) : famCount x ([] : List (T × α)) = 0 := rfl
@[simp] theorem famCount_cons {α : Type} (x : Nat) (p : T × α) (ds : List (T × α)) :
    famCount x (p :: ds) = p.1.addrs.count x + famCount x ds := by simp [famCount]

theorem count_addrs_node (x a : Nat) (l c r : T) :
    (T.node a l c r).addrs.count x =
      (if a = x then 1 else 0) + l.addrs.count x + c.addrs.count x + r.addrs.count x := by
  simp only [T.addrs, List.count_cons, List.count_append, beq_iff_eq]
  omega

theorem count_graft_other {x b : Nat} (hx : x ≠ b) (q : Nat) (sl : Slot) :
    ∀ u : T, (u.graft q sl b).addrs.count x ≤ u.addrs.count x := by
  intro u
  induction u with
  | nil => exact Nat.le_refl _
  | node a l c r ihl ihc ihr =>
    have child : ∀ (P : Prop) [Decidable P] (w : T), (w.graft q sl b).addrs.count x ≤ w.addrs.count x →
        (if P then T.node b .nil .nil .nil else w.graft q sl b).addrs.count x ≤ w.addrs.count x := by
      intro P _ w ih
      split
      · rw [count_addrs_node, if_neg (Ne.symm hx)]; exact Nat.zero_le _
      · exact ih
    have hl := child (a = q ∧ sl = .L ∧ l.root = 0) l ihl
    have hc := child (a = q ∧ sl = .C ∧ c.root = 0) c ihc
    have hr := child (a = q ∧ sl = .R ∧ r.root = 0) r ihr
    simp only [T.graft]
    rw [count_addrs_node, count_addrs_node]
    omega

/-- at most one `b` for every occurrence of `q`: the leaf is hung into the one slot `sl`, and only under `q` -/
theorem count_graft_new (q : Nat) (sl : Slot) (b : Nat) :
    ∀ u : T, (u.graft q sl b).addrs.count b ≤ u.addrs.count b + u.addrs.count q := by
  intro u
  induction u with
  | nil => exact Nat.zero_le _
  | node a l c r ihl ihc ihr =>
    have child : ∀ (k : Slot) (w : T), (w.graft q sl b).addrs.count b ≤ w.addrs.count b + w.addrs.count q →
        (if a = q ∧ sl = k ∧ w.root = 0 then T.node b .nil .nil .nil else w.graft q sl b).addrs.count b ≤
          w.addrs.count b + w.addrs.count q + (if a = q ∧ sl = k then 1 else 0) := by
      intro k w ih
      by_cases h : a = q ∧ sl = k ∧ w.root = 0
      · rw [if_pos h, if_pos ⟨h.1, h.2.1⟩, count_addrs_node, if_pos rfl]
        exact Nat.le_add_left _ _
      · rw [if_neg h]; exact Nat.le_trans ih (Nat.le_add_right _ _)
    have hl := child .L l ihl
    have hc := child .C c ihc
    have hr := child .R r ihr
    have one : (if a = q ∧ sl = .L then 1 else 0) + (if a = q ∧ sl = .C then 1 else 0) +
        (if a = q ∧ sl = .R then 1 else 0) ≤ (if a = q then 1 else 0) := by
      by_cases haq : a = q <;> cases sl <;> simp [haq]
    simp only [T.graft]
    rw [count_addrs_node, count_addrs_node b, count_addrs_node q]
    generalize (if a = q ∧ sl = .L then 1 else 0) = pl at hl one
    generalize (if a = q ∧ sl = .C then 1 else 0) = pc at hc one
    generalize (if a = q ∧ sl = .R then 1 else 0) = pr at hr one
    omega

theorem famCount_graft_other {α : Type} {x b : Nat} (hx : x ≠ b) (q : Nat) (sl : Slot) : ∀ (ds : List (T × α)),
    famCount x (ds.map (fun p => (p.1.graft q sl b, p.2))) ≤ famCount x ds
  | [] => Nat.le_refl _
  | p :: ds => by
    rw [List.map_cons, famCount_cons, famCount_cons]
    exact Nat.add_le_add (count_graft_other hx q sl p.1) (famCount_graft_other hx q sl ds)

theorem famCount_graft_new {α : Type} (q : Nat) (sl : Slot) (b : Nat) : ∀ (ds : List (T × α)),
    famCount b (ds.map (fun p => (p.1.graft q sl b, p.2))) ≤ famCount b ds + famCount q ds
  | [] => Nat.le_refl _
  | p :: ds => by
    have h1 := count_graft_new q sl b p.1
    have h2 := famCount_graft_new q sl b ds
    rw [List.map_cons, famCount_cons, famCount_cons, famCount_cons]
    dsimp only
    omega

/-- a family of represented trees that, together with the visited blocks `V`, mention no block twice -/
structure Fam (s : State) (V : List Nat) (ds : List (T × Bytes)) : Prop where
  rep : ∀ p ∈ ds, Rep s p.1
  cnt : ∀ x, V.count x + famCount x ds ≤ 1
  vlt : ∀ x ∈ V, x < s.trie.size

def mapFam (gs : List (Nat × Slot × Nat)) (ds : List (T × Bytes)) : List (T × Bytes) :=
  ds.map (fun p => (applyGrafts gs p.1, p.2))

@[simp] theorem mapFam_nil_grafts (ds : List (T × Bytes)) : mapFam [] ds = ds := by
  simp [mapFam]

theorem mapFam_cons_grafts (g : Nat × Slot × Nat) (gs : List (Nat × Slot × Nat)) (ds : List (T × Bytes)) :
    mapFam (g :: gs) ds = mapFam gs (ds.map (fun p => (p.1.graft g.1 g.2.1 g.2.2, p.2))) := by
  simp [mapFam, List.map_map, Function.comp_def]

/-- the blocks waiting on the stack are the same: a graft keeps the root of a tree, and an empty tree empty -/
theorem stackOf_mapFam (gs : List (Nat × Slot × Nat)) : ∀ (ds : List (T × Bytes)), stackOf (mapFam gs ds) = stackOf ds
  | [] => rfl
  | (.nil, y) :: ds => by
    show stackOf ((applyGrafts gs .nil, y) :: mapFam gs ds) = _
    rw [applyGrafts_nil_tree]; exact stackOf_mapFam gs ds
  | (.node a l c r, y) :: ds => by
    obtain ⟨l', c', r', e⟩ := applyGrafts_node gs a l c r
    show stackOf ((applyGrafts gs (.node a l c r), y) :: mapFam gs ds) = _
    rw [e]; exact congrArg ((a, y) :: ·) (stackOf_mapFam gs ds)

theorem famCount_eq_zero_of_rep {s : State} {ds : List (T × Bytes)} (hr : ∀ p ∈ ds, Rep s p.1) (x : Nat)
    (hx : s.trie.size ≤ x) : famCount x ds = 0 := by
  induction ds with
  | nil => rfl
  | cons p ds ih =>
    rw [famCount_cons, ih (fun p' hp' => hr p' (by simp [hp']))]
    have : p.1.addrs.count x = 0 := by
      rw [List.count_eq_zero]
      intro hm
      have := (hr p (by simp)).lt_size x hm
      omega
    omega

theorem Fam.noStruct {s s' : State} {V : List Nat} {ds : List (T × Bytes)} (f : Fam s V ds) (n : NoStruct s s') :
    Fam s' V ds :=
  ⟨fun p hp => n.rep (f.rep p hp), f.cnt, fun x hx => by rw [n.1]; exact f.vlt x hx⟩

theorem Fam.drop_nil {s : State} {V : List Nat} {y : Bytes} {ds : List (T × Bytes)} (f : Fam s V ((.nil, y) :: ds)) :
    Fam s V ds :=
  ⟨fun p hp => f.rep p (List.mem_cons_of_mem _ hp), fun x => by simpa [T.addrs] using f.cnt x, f.vlt⟩

theorem Fam.graft {s s' : State} {q : Nat} {sl : Slot} {x : Stem} {V : List Nat} {ds : List (T × Bytes)}
    (f : Fam s V ds) (g : GraftStep s s' q sl x) :
    Fam s' V (ds.map (fun p => (p.1.graft q sl s.trie.size, p.2))) := by
  refine ⟨?_, ?_, fun y hy => Nat.lt_trans (f.vlt y hy) g.size_lt⟩
  · intro p hp
    obtain ⟨p0, hp0, rfl⟩ := List.mem_map.mp hp
    exact g.rep (f.rep p0 hp0)
  · intro y
    by_cases e : y = s.trie.size
    · -- the new block: not visited, in no tree so far, and `q` at most once
      subst e
      have h1 := famCount_graft_new q sl s.trie.size ds
      have hV : V.count s.trie.size = 0 := List.count_eq_zero.mpr fun hm => Nat.lt_irrefl _ (f.vlt _ hm)
      have h0 := famCount_eq_zero_of_rep f.rep s.trie.size (Nat.le_refl _)
      have hq := f.cnt q
      omega
    · exact Nat.le_trans (Nat.add_le_add_left (famCount_graft_other e q sl ds) _) (f.cnt y)

theorem Chain.fam {s s' : State} {gs : List (Nat × Slot × Nat)} (h : Chain s s' gs) :
    ∀ {V : List Nat} {ds : List (T × Bytes)}, Fam s V ds → Fam s' V (mapFam gs ds) := by
  induction h with
  | refl s => intro V ds f; simpa using f
  | ns n _ ih => intro V ds f; exact ih (f.noStruct n)
  | gr g _ ih => intro V ds f; rw [mapFam_cons_grafts]; exact ih (f.graft g)

theorem Fam.bound {s : State} {V : List Nat} {ds : List (T × Bytes)} (f : Fam s V ds) :
    V.length + stackSize ds ≤ s.trie.size := by
  have hnd : (V ++ ds.flatMap (fun p => p.1.addrs)).Nodup := by
    rw [List.nodup_iff_count]
    intro a
    rw [List.count_append, List.count_flatMap]
    have := f.cnt a
    unfold famCount at this
    simpa [Function.comp_def] using this
  have hlt : ∀ y ∈ V ++ ds.flatMap (fun p => p.1.addrs), y < s.trie.size := by
    intro y hy
    rcases List.mem_append.mp hy with hy | hy
    · exact f.vlt y hy
    · obtain ⟨p, hp, hm⟩ := List.mem_flatMap.mp hy
      exact (f.rep p hp).lt_size y hm
  have := nodup_length_le _ _ hnd hlt
  rw [List.length_append, List.length_flatMap] at this
  have e : stackSize ds = (ds.map (fun p => p.1.addrs.length)).sum := by
    unfold stackSize
    congr 1
    apply List.map_congr_left
    intro p _
    exact T.size_eq_length_addrs p.1
  omega

def PageSame (s s' : State) : Prop := ∀ a, (s'.cell a).flags.page = (s.cell a).flags.page

theorem PageSame.refl (s : State) : PageSame s s := fun _ => rfl

theorem PageSame.trans {a b c : State} (h1 : PageSame a b) (h2 : PageSame b c) : PageSame a c :=
  fun x => (h2 x).trans (h1 x)

theorem pageSame_of_attrStep {s s' : State} (a : AttrStep s s') : PageSame s s' := by
  intro b
  by_cases hb : b < s.trie.size
  · exact (a.old b hb).page
  · rw [(a.new b (Nat.le_of_not_lt hb)).page, cell_of_size_le s b (Nat.le_of_not_lt hb)]

theorem pageSame_modCell (s : State) (i : Nat) (f : Cell → Cell) (hf : ∀ c, (f c).flags.page = c.flags.page) :
    PageSame s (s.modCell i f) := by
  intro b
  rw [cell_modCell]
  split
  · exact hf _
  · rfl

theorem pageSame_of_trie_eq {s s' : State} (e : s'.trie = s.trie) : PageSame s s' := by
  intro b; rw [cell_of_trie_eq e]

theorem pageSame_foldl_modCell {α : Type} (g : α → Nat) (f : α → Cell → Cell)
    (hf : ∀ a c, (f a c).flags.page = c.flags.page) : ∀ (l : List α) (s : State),
    PageSame s (l.foldl (fun st a => st.modCell (g a) (f a)) s)
  | [], s => PageSame.refl s
  | a :: l, s => by
    rw [List.foldl_cons]
    exact (pageSame_modCell s (g a) (f a) (hf a)).trans (pageSame_foldl_modCell g f hf l _)

end Traph
