import Proofs.CoMachines
import Proofs.CoSys
/-! C16 — the nine query generators (`get_webentity_pages_iter`, `get_webentities_links_iter` and the seven
    served by the six machines of `QSt`) never write: a section of any of them, in ANY private state, returns the
    index it was given; a reader stays a reader; hence a schedule that advances only readers leaves the index as it
    was, and in a mixed schedule the index changes in the sections of the writers only. -/
namespace Traph
open State

/-- a generator that is not one of the two writers (crawl batch, rule installation). An exhausted generator
    (`.finished`) is a reader here AND a writer for `CoSt.isWriter` (CoMachines): the two do not partition `CoSt`. -/
def CoSt.isReader : CoSt → Prop
  | .batch _ => False
  | .rule _ => False
  | _ => True

instance : DecidablePred CoSt.isReader := fun c => by
  cases c <;> simp only [CoSt.isReader] <;> infer_instance

/-- by computation: the resume functions of the readers do not even return an index -/
theorem resume_reader_state (s : State) (c : CoSt) (h : c.isReader) : (c.resume s).1 = s := by
  cases c with
  | batch b => exact absurd h id
  | rule r => exact absurd h id
  | pages p => rfl
  | net n => rfl
  | query q => rfl
  | finished => rfl

theorem resume_reader_reader (s : State) (c : CoSt) (h : c.isReader) : (c.resume s).2.1.isReader := by
  by_cases ho : (c.resume s).2.2 = .yielded
  · cases c with
    | batch b => exact absurd h id
    | rule r => exact absurd h id
    | pages p => rw [resume_pages_out] at ho; rw [resume_pages_yielded s p ho]; trivial
    | net n => rw [resume_net_out] at ho; rw [resume_net_yielded s n ho]; trivial
    | query q => rw [resume_query_out] at ho; rw [resume_query_yielded s q ho]; trivial
    | finished => trivial
  · rw [resume_not_yielded s c ho]; trivial

theorem QSt.resume_kind (s : State) (q : QSt) :
    match q, (q.resume s).1 with
    | .crawled _, .crawled _ => True
    | .mostLinked _, .mostLinked _ => True
    | .children _, .children _ => True
    | .pagelinks _, .pagelinks _ => True
    | .cited _, .cited _ => True
    | .netSlow _, .netSlow _ => True
    | _, _ => False := by
  cases q <;> simp only [QSt.resume] <;> trivial

theorem readers_schedule (sched : Sched) (σ : Sys) (h : ∀ c ∈ σ.2, c.isReader) :
    (σ.run sched).1.1 = σ.1 ∧ ∀ c ∈ (σ.run sched).1.2, c.isReader := by
  have key := Sys.run_invariant (fun τ => τ.1 = σ.1 ∧ ∀ c ∈ τ.2, c.isReader) (fun τ i c hp hc => by
    have hr : c.isReader := hp.2 c (List.mem_of_getElem? hc)
    refine ⟨by rw [resume_reader_state τ.1 c hr]; exact hp.1, fun c' hc' => ?_⟩
    rcases List.mem_or_eq_of_mem_set hc' with h1 | h1
    · exact hp.2 c' h1
    · rw [h1]; exact resume_reader_reader τ.1 c hr) sched σ ⟨rfl, h⟩
  exact key

/-- in a mixed system, a turn given to a reader leaves the index alone (at the end of a schedule: `reader_last`) -/
theorem reader_turn (σ : Sys) (i : Nat) (c : CoSt) (hc : σ.2[i]? = some c) (h : c.isReader) :
    (σ.step i).1.1 = σ.1 := by
  rw [Sys.step_some hc]
  exact resume_reader_state σ.1 c h

#print axioms resume_reader_state
#print axioms resume_reader_reader
#print axioms readers_schedule
#print axioms reader_turn

theorem reader_stays (σ : Sys) (i : Nat) (h : ∃ c, σ.2[i]? = some c ∧ c.isReader) (sched : Sched) :
    ∃ c, (σ.run sched).1.2[i]? = some c ∧ c.isReader :=
  Sys.run_invariant (fun τ => ∃ c, τ.2[i]? = some c ∧ c.isReader) (fun τ j cj ⟨c, hc, hr⟩ hj => by
    by_cases e : j = i
    · subst e
      have hlt : j < τ.2.length := (List.getElem?_eq_some_iff.mp hc).1
      obtain rfl : cj = c := Option.some.inj (hj.symm.trans hc)
      exact ⟨_, by simp [hlt], resume_reader_reader τ.1 cj hr⟩
    · exact ⟨c, by simpa [List.getElem?_set_ne e] using hc, hr⟩) sched σ h

theorem reader_last (σ : Sys) (i : Nat) (h : ∃ c, σ.2[i]? = some c ∧ c.isReader) (pre : Sched) :
    (σ.run (pre ++ [i])).1.1 = (σ.run pre).1.1 := by
  obtain ⟨c, hc, hr⟩ := reader_stays σ i h pre
  rw [Sys.run_append, Sys.run_cons_some _ hc]
  exact resume_reader_state _ c hr

end Traph
