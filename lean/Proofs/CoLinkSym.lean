import Proofs.CoLinkGraph
/-! C16 — inbound/outbound symmetry under interleaving: an invariant *with a lag*, exact at quiescence.

    `index_batch_crawl_iter` writes the out-list of a source as soon as the source's targets are exhausted, and the
    in-lists only in its second pass (one target per section). Hence at a yield point in the middle of a batch

      * the OUT-lists lag by the `target_blocks` of the source in progress only (`cl_pendOut`),
      * the IN-lists lag by the whole `inlinks` multimap accumulated so far — in the second pass by the part of it
        not yet written —, plus the in-link of a target created in the section that has just yielded, which the
        generator appends to the multimap only after the `yield` (`cl_pendIn`).

    `C16_links_mid_schedule`: after EVERY schedule (complete or not), bag by bag,
        written out-links + pending out-links = written in-links + pending in-links = submitted links,
    and `pending out ≤ pending in` generator by generator, so an in-list never runs ahead of the out-list
    (`C16_inlinks_lag`). When no crawl batch is in progress nothing is pending and symmetry is exact
    (`C16_symmetry_at_quiescence`, `C16_final_symmetry`). The window is observable: `SymEx` is a two-source batch
    after two sections of which `get_page_links` reports the link A → B on A's side and not on B's side. -/
namespace Traph
open State Layout

theorem cl_sum_le {f g : Nat → Nat} : ∀ {n : Nat}, (∀ i, i < n → f i ≤ g i) → cf_sumTo f n ≤ cf_sumTo g n
  | 0, _ => Nat.le_refl _
  | n + 1, h => by
    simp only [cf_sumTo]
    exact Nat.add_le_add (cl_sum_le (fun i hi => h i (by omega))) (h n (by omega))

/-- **C16, links, the precise invariant of every schedule** (complete or not). Started from fresh generators on an
    index whose bags are the links `L0`: there are lists `G i` — the links generator `i` has submitted so far, a prefix
    of the links of request `i` — such that for all blocks `a`, `x`

      #(x in out-list of a) + Σᵢ pendOutᵢ a x  =  #(pairs a → x in L0 ++ G 0 ++ G 1 ++ …)  =
      #(a in in-list of x)  + Σᵢ pendInᵢ a x,

    the stub array holds one stub per written end (`CoSt.pendN`, defined in CoLinkGraph: the number of ends generator
    `i` has submitted and not yet written), and `pendOutᵢ ≤ pendInᵢ` pointwise. `pendOutᵢ`, `pendInᵢ` are read
    off the private state of generator `i` (`CoSt.pendOut`, `CoSt.pendIn`; zero unless it is a crawl batch). -/
theorem C16_links_mid_schedule {s : State} {t : T} {L0 : List (Bytes × Bytes)} (hs : Shape s t) (hi : Inv s t)
    (hr : RulesOk s) (hp : ParOk s t 0) (g : Graph s t L0) (reqs : List CoReq) (hwf : ∀ r ∈ reqs, r.Wf)
    (hcanon : ∀ r ∈ reqs, r.Canon) (sched : Sched) :
    ∃ t' G, Shape (Sys.run (s, reqs.map CoReq.init) sched).1.1 t' ∧
      LinksOk (Sys.run (s, reqs.map CoReq.init) sched).1.1 ∧
      (∀ i, G i ++ (cl_mach (Sys.run (s, reqs.map CoReq.init) sched).1.2 i).linksTodo =
        ((reqs[i]?).map CoReq.links).getD []) ∧
      (∀ st ∈ L0 ++ cl_cat G reqs.length,
        IsPage (Sys.run (s, reqs.map CoReq.init) sched).1.1 t' (lruIter st.1) ∧
        IsPage (Sys.run (s, reqs.map CoReq.init) sched).1.1 t' (lruIter st.2)) ∧
      (∀ a x, count x ((Sys.run (s, reqs.map CoReq.init) sched).1.1.outBag a) +
          cf_sumTo (fun i => (cl_mach (Sys.run (s, reqs.map CoReq.init) sched).1.2 i).pendOut a x) reqs.length =
        ncount (Sys.run (s, reqs.map CoReq.init) sched).1.1 (L0 ++ cl_cat G reqs.length) a x) ∧
      (∀ a x, count a ((Sys.run (s, reqs.map CoReq.init) sched).1.1.inBag x) +
          cf_sumTo (fun i => (cl_mach (Sys.run (s, reqs.map CoReq.init) sched).1.2 i).pendIn a x) reqs.length =
        ncount (Sys.run (s, reqs.map CoReq.init) sched).1.1 (L0 ++ cl_cat G reqs.length) a x) ∧
      ((Sys.run (s, reqs.map CoReq.init) sched).1.1.links.size +
          cf_sumTo (fun i => (cl_mach (Sys.run (s, reqs.map CoReq.init) sched).1.2 i).pendN) reqs.length =
        1 + 2 * (L0 ++ cl_cat G reqs.length).length) ∧
      (∀ i a x, (cl_mach (Sys.run (s, reqs.map CoReq.init) sched).1.2 i).pendOut a x ≤
        (cl_mach (Sys.run (s, reqs.map CoReq.init) sched).1.2 i).pendIn a x) := by
  obtain ⟨t', G, ⟨h, _, _⟩, _, cg⟩ :=
    cl_sched L0 (cl_R reqs) (cl_B reqs) sched _ (cl_init hs hi hr hp g reqs hwf hcanon)
  have hlen : (Sys.run (s, reqs.map CoReq.init) sched).1.2.length = reqs.length := by
    rw [Sys.run_length]; simp
  refine ⟨t', G, h.shape, cg.ok, cg.tot, ?_, fun a x => ?_, fun a x => ?_, ?_, cg.lag⟩
  · have := cg.pgs; rw [hlen] at this; exact this
  · have := cg.out a x; rw [hlen] at this; exact this
  · have := cg.inn a x; rw [hlen] at this; exact this
  · have := cg.size; rw [hlen] at this; exact this

/-- **symmetry with its lag, at every yield point of every schedule**: for all blocks `a`, `x`,
    out-links written + out-links pending = in-links written + in-links pending -/
theorem C16_symmetry_mid_schedule {s : State} {t : T} {L0 : List (Bytes × Bytes)} (hs : Shape s t) (hi : Inv s t)
    (hr : RulesOk s) (hp : ParOk s t 0) (g : Graph s t L0) (reqs : List CoReq) (hwf : ∀ r ∈ reqs, r.Wf)
    (hcanon : ∀ r ∈ reqs, r.Canon) (sched : Sched) (a x : Nat) :
    count x ((Sys.run (s, reqs.map CoReq.init) sched).1.1.outBag a) +
        cf_sumTo (fun i => (cl_mach (Sys.run (s, reqs.map CoReq.init) sched).1.2 i).pendOut a x) reqs.length =
      count a ((Sys.run (s, reqs.map CoReq.init) sched).1.1.inBag x) +
        cf_sumTo (fun i => (cl_mach (Sys.run (s, reqs.map CoReq.init) sched).1.2 i).pendIn a x) reqs.length := by
  obtain ⟨_, _, _, _, _, _, ho, hn, _⟩ := C16_links_mid_schedule hs hi hr hp g reqs hwf hcanon sched
  rw [ho a x, hn a x]

/-- **the in-lists are the ones that lag**: at every yield point of every schedule an in-list holds at most the
    occurrences the corresponding out-list holds — a link is never visible on the target's side before it is visible
    on the source's side -/
theorem C16_inlinks_lag {s : State} {t : T} {L0 : List (Bytes × Bytes)} (hs : Shape s t) (hi : Inv s t)
    (hr : RulesOk s) (hp : ParOk s t 0) (g : Graph s t L0) (reqs : List CoReq) (hwf : ∀ r ∈ reqs, r.Wf)
    (hcanon : ∀ r ∈ reqs, r.Canon) (sched : Sched) (a x : Nat) :
    count a ((Sys.run (s, reqs.map CoReq.init) sched).1.1.inBag x) ≤
      count x ((Sys.run (s, reqs.map CoReq.init) sched).1.1.outBag a) := by
  obtain ⟨_, _, _, _, _, _, ho, hn, _, hlag⟩ := C16_links_mid_schedule hs hi hr hp g reqs hwf hcanon sched
  have e1 := ho a x
  have e2 := hn a x
  have e3 : cf_sumTo (fun i => (cl_mach (Sys.run (s, reqs.map CoReq.init) sched).1.2 i).pendOut a x) reqs.length ≤
      cf_sumTo (fun i => (cl_mach (Sys.run (s, reqs.map CoReq.init) sched).1.2 i).pendIn a x) reqs.length :=
    cl_sum_le (fun i _ => hlag i a x)
  omega

/-- **exact symmetry whenever no crawl batch is in progress** (all batch generators not started yet — nothing pending
    in a fresh generator — or returned): in particular before the first and after the last section of the batches -/
theorem C16_symmetry_at_quiescence {s : State} {t : T} {L0 : List (Bytes × Bytes)} (hs : Shape s t) (hi : Inv s t)
    (hr : RulesOk s) (hp : ParOk s t 0) (g : Graph s t L0) (reqs : List CoReq) (hwf : ∀ r ∈ reqs, r.Wf)
    (hcanon : ∀ r ∈ reqs, r.Canon) (sched : Sched)
    (hquiet : ∀ (i : Nat) (b : BatchSt), (Sys.run (s, reqs.map CoReq.init) sched).1.2[i]? = some (CoSt.batch b) →
      (∀ a x, cl_pendOut b a x = 0) ∧ (∀ a x, cl_pendIn b a x = 0)) (a x : Nat) :
    count x ((Sys.run (s, reqs.map CoReq.init) sched).1.1.outBag a) =
      count a ((Sys.run (s, reqs.map CoReq.init) sched).1.1.inBag x) := by
  have e := C16_symmetry_mid_schedule hs hi hr hp g reqs hwf hcanon sched a x
  have hz : ∀ i, (cl_mach (Sys.run (s, reqs.map CoReq.init) sched).1.2 i).pendOut a x = 0 ∧
      (cl_mach (Sys.run (s, reqs.map CoReq.init) sched).1.2 i).pendIn a x = 0 := by
    intro i
    unfold cl_mach
    cases hc : (Sys.run (s, reqs.map CoReq.init) sched).1.2[i]? with
    | none => exact ⟨rfl, rfl⟩
    | some c =>
      cases c with
      | batch b => exact ⟨(hquiet i b hc).1 a x, (hquiet i b hc).2 a x⟩
      | _ => exact ⟨rfl, rfl⟩
  rw [cl_sum_zero (fun i _ => (hz i).1), cl_sum_zero (fun i _ => (hz i).2)] at e
  omega

/-- **C16, symmetry of the final state**: once every writer has returned, whatever the schedule, the out-lists and
    the in-lists describe the same multigraph -/
theorem C16_final_symmetry {s : State} {t : T} {L0 : List (Bytes × Bytes)} (hs : Shape s t) (hi : Inv s t)
    (hr : RulesOk s) (hp : ParOk s t 0) (g : Graph s t L0) (reqs : List CoReq) (hwf : ∀ r ∈ reqs, r.Wf)
    (hcanon : ∀ r ∈ reqs, r.Canon) (sched : Sched)
    (hdone : ∀ i r, reqs[i]? = some r → r.op ≠ none →
      ∃ a, (i, CoOut.done a) ∈ (Sys.run (s, reqs.map CoReq.init) sched).2) (a b : Nat) :
    count b ((Sys.run (s, reqs.map CoReq.init) sched).1.1.outBag a) =
      count a ((Sys.run (s, reqs.map CoReq.init) sched).1.1.inBag b) := by
  obtain ⟨t', v, _⟩ := C16_final_graph hs hi hr hp g reqs hwf hcanon sched hdone
  exact v.graph.symm a b

#print axioms C16_links_mid_schedule
#print axioms C16_inlinks_lag
#print axioms C16_symmetry_at_quiescence
#print axioms C16_final_symmetry

namespace SymEx

def b (s : List Char) : Bytes := s.map (·.toNat)
def pA : Bytes := b "s:http|h:com|h:a|p:a|".toList
def pB : Bytes := b "s:http|h:com|h:a|p:b|".toList
def pC : Bytes := b "s:http|h:com|h:a|p:c|".toList
def pD : Bytes := b "s:http|h:com|h:a|p:d|".toList

def s0 : State := (State.fresh {} .never [] []).1

def reqs : List CoReq := [.batch [(pA, [pB]), (pC, [pD])]]

/-- the index after two sections of the batch (it needs five to return) -/
def mid : State := (Sys.run (s0, reqs.map CoReq.init) [0, 0]).1.1

def fin : State := (Sys.run (s0, reqs.map CoReq.init) [0, 0, 0, 0, 0]).1.1

def pW : Bytes := b "s:http|h:com|h:a|".toList

/-- `get_webentity_pagelinks_iter(weid = 1, [pW], inbound, internal, outbound all on)`; no page is in webentity 1,
    so every link is listed once as outbound of its source and once as inbound of its target -/
def plq : QSt :=
  .pagelinks { cur := { prefixes := [pW] }, weid := 1, incIn := true, incInt := true, incOut := true }

def reqs2 : List CoReq := [.batch [(pA, [pB]), (pC, [pD])], .queryOther plq]

/-- the forms the evaluations run on (why: `Phantom.bytes`, Proofs/CoPhantom) -/
theorem bytes :
    pW = [115, 58, 104, 116, 116, 112, 124, 104, 58, 99, 111, 109, 124, 104, 58, 97, 124] ∧
    pA = pW ++ [112, 58, 97, 124] ∧ pB = pW ++ [112, 58, 98, 124] ∧
    pC = pW ++ [112, 58, 99, 124] ∧ pD = pW ++ [112, 58, 100, 124] := by
  simp only [pW, pA, pB, pC, pD, b]
  iterate 5 rw [String.toList_ofList]
  decide +kernel

/-- what is evaluated, in one run of the kernel so that the sections of the batch are computed once (the second
    system runs the same batch): the five statements below, word for word -/
theorem facts :
    ((Sys.run (s0, reqs.map CoReq.init) [0, 0, 0, 0, 0]).2 =
      [(0, .yielded), (0, .yielded), (0, .yielded), (0, .yielded), (0, .done (.report { pages := 4, we := [] }))]) ∧
    (mid.ask (.lruNode pA) = .optNat (some 4) ∧ mid.ask (.lruNode pB) = .optNat (some 5) ∧
      mid.outBag 4 = [5] ∧ mid.inBag 5 = [] ∧
      mid.ask (.pageLinks pA false false true) = .links [(pA, pB, 1)] ∧
      mid.ask (.pageLinks pB true false false) = .links []) ∧
    (fin.outBag 4 = [5] ∧ fin.inBag 5 = [4] ∧ fin.outBag 6 = [7] ∧ fin.inBag 7 = [6] ∧
      fin.ask (.pageLinks pA false false true) = .links [(pA, pB, 1)] ∧
      fin.ask (.pageLinks pB true false false) = .links [(pA, pB, 1)]) ∧
    ((Sys.run (s0, reqs2.map CoReq.init) [0, 0, 1, 1, 0, 0, 0]).2 =
      [(0, .yielded), (0, .yielded), (1, .yielded), (1, .done (.links [(pA, pB, 1)])),
       (0, .yielded), (0, .yielded), (0, .done (.report { pages := 4, we := [] }))]) ∧
    ((Sys.run (s0, reqs2.map CoReq.init) [0, 0, 0, 0, 0, 1, 1, 1, 1, 1]).2 =
      [(0, .yielded), (0, .yielded), (0, .yielded), (0, .yielded), (0, .done (.report { pages := 4, we := [] })),
       (1, .yielded), (1, .yielded), (1, .yielded), (1, .yielded),
       (1, .done (.links [(pA, pB, 1), (pA, pB, 1), (pC, pD, 1), (pC, pD, 1)]))]) := by
  rw [mid, fin, reqs, reqs2, plq]
  simp only [bytes]
  decide +kernel

theorem trace :
    (Sys.run (s0, reqs.map CoReq.init) [0, 0, 0, 0, 0]).2 =
      [(0, .yielded), (0, .yielded), (0, .yielded), (0, .yielded), (0, .done (.report { pages := 4, we := [] }))] :=
  facts.1

/-- **between the second and the third section of the batch the link A → B is in A's out-list and not in B's
    in-list**: `get_page_links` (an atomic query run at that yield point) reports it as an outbound link of A and
    reports no inbound link of B; blocks 4 and 5 are A's and B's -/
theorem asymmetric_window :
    mid.ask (.lruNode pA) = .optNat (some 4) ∧ mid.ask (.lruNode pB) = .optNat (some 5) ∧
    mid.outBag 4 = [5] ∧ mid.inBag 5 = [] ∧
    mid.ask (.pageLinks pA false false true) = .links [(pA, pB, 1)] ∧
    mid.ask (.pageLinks pB true false false) = .links [] := facts.2.1

/-- once the batch has returned both sides agree -/
theorem symmetric_at_the_end :
    fin.outBag 4 = [5] ∧ fin.inBag 5 = [4] ∧ fin.outBag 6 = [7] ∧ fin.inBag 7 = [6] ∧
    fin.ask (.pageLinks pA false false true) = .links [(pA, pB, 1)] ∧
    fin.ask (.pageLinks pB true false false) = .links [(pA, pB, 1)] := facts.2.2.1

/-- **the window observed by a cooperatively scheduled QUERY**: the page-links generator created and drained between
    the second and the third section of the batch answers `[(A, B, 1)]` — the link is listed from A's out-list and is
    missing from B's in-list; the batch then completes normally -/
theorem observed_by_query :
    (Sys.run (s0, reqs2.map CoReq.init) [0, 0, 1, 1, 0, 0, 0]).2 =
      [(0, .yielded), (0, .yielded), (1, .yielded), (1, .done (.links [(pA, pB, 1)])),
       (0, .yielded), (0, .yielded), (0, .done (.report { pages := 4, we := [] }))] := facts.2.2.2.1

/-- the same query drained after the batch has returned lists every link on both sides -/
theorem observed_at_the_end :
    (Sys.run (s0, reqs2.map CoReq.init) [0, 0, 0, 0, 0, 1, 1, 1, 1, 1]).2 =
      [(0, .yielded), (0, .yielded), (0, .yielded), (0, .yielded), (0, .done (.report { pages := 4, we := [] })),
       (1, .yielded), (1, .yielded), (1, .yielded), (1, .yielded),
       (1, .done (.links [(pA, pB, 1), (pA, pB, 1), (pC, pD, 1), (pC, pD, 1)]))] := facts.2.2.2.2

#print axioms asymmetric_window
#print axioms symmetric_at_the_end
#print axioms observed_by_query
#print axioms observed_at_the_end

end SymEx

end Traph
