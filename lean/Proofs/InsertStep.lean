import Proofs.GraftSpec
import Proofs.InsertFrame
/-! Heap-level steps of `add_lru`: the relations between states (`NoStruct`: no block added, `left`/`right`/`child`
    and stems unchanged; `GraftStep`: one fresh node appended and hooked into one empty slot; `Marked`), the step lemmas for
    `markCanHave` and the write pair, and the two ways an iteration of the first loop (`addLruDescend`) ends. -/
namespace Traph
open State

def NoStruct (s s' : State) : Prop :=
  s'.trie.size = s.trie.size ∧ ∀ (i : Nat) (c : Cell), s.trie[i]? = some c → ∃ c' : Cell, s'.trie[i]? = some c' ∧
    c'.left = c.left ∧ c'.right = c.right ∧ c'.child = c.child ∧ c'.chunk = c.chunk ∧
    c'.flags.hasTail = c.flags.hasTail

theorem NoStruct.refl (s : State) : NoStruct s s :=
  ⟨rfl, fun _ c h => ⟨c, h, rfl, rfl, rfl, rfl, rfl⟩⟩

theorem NoStruct.trans {a b c : State} (h1 : NoStruct a b) (h2 : NoStruct b c) : NoStruct a c := by
  refine ⟨h2.1.trans h1.1, fun i x hx => ?_⟩
  obtain ⟨y, hy, e1, e2, e3, e4, e5⟩ := h1.2 i x hx
  obtain ⟨z, hz, f1, f2, f3, f4, f5⟩ := h2.2 i y hy
  exact ⟨z, hz, f1.trans e1, f2.trans e2, f3.trans e3, f4.trans e4, f5.trans e5⟩

theorem NoStruct.get {s s' : State} (h : NoStruct s s') (j : Nat) :
    (s.trie[j]? = none ∧ s'.trie[j]? = none) ∨
    ∃ c c', s.trie[j]? = some c ∧ s'.trie[j]? = some c' ∧ c'.left = c.left ∧ c'.right = c.right ∧
      c'.child = c.child ∧ c'.chunk = c.chunk ∧ c'.flags.hasTail = c.flags.hasTail := by
  cases hs : s.trie[j]? with
  | none =>
    exact .inl ⟨rfl, Array.getElem?_eq_none (h.1 ▸ Array.getElem?_eq_none_iff.mp hs)⟩
  | some c =>
    obtain ⟨c', hc', e⟩ := h.2 j c hs
    exact .inr ⟨c, c', rfl, hc', e⟩

theorem NoStruct.sig {s s' : State} (h : NoStruct s s') (j : Nat) :
    (s.trie[j]?).map Cell.sig = (s'.trie[j]?).map Cell.sig := by
  rcases h.get j with ⟨e1, e2⟩ | ⟨c, c', e1, e2, _, _, _, e4, e5⟩ <;> rw [e1, e2]
  exact congrArg some (Prod.ext e4.symm e5.symm)

theorem NoStruct.stemAt {s s' : State} (h : NoStruct s s') (j : Nat) : s'.stemAt j = s.stemAt j :=
  stemAt_congr s s' h.1 h.sig j

theorem NoStruct.entries {s s' : State} (n : NoStruct s s') (t : T) (pre : LRU) :
    t.entries s' pre = t.entries s pre := T.entries_frame t pre (fun a _ => n.stemAt a)

theorem NoStruct.rep {s s' : State} {t : T} (h : NoStruct s s') (hr : Rep s t) : Rep s' t :=
  hr.of_ptrs_eq (fun a _ c hc => by
    obtain ⟨c', hc', e1, e2, e3, _, _⟩ := h.2 a c hc
    exact ⟨c', hc', e1, e3, e2⟩)

theorem NoStruct.cell_child {s s' : State} (h : NoStruct s s') (j : Nat) :
    (s'.cell j).child = (s.cell j).child := by
  unfold State.cell
  rcases h.get j with ⟨e1, e2⟩ | ⟨c, c', e1, e2, _, _, e3, _, _⟩ <;> rw [e1, e2]
  exact e3

theorem NoStruct.closed {s s' : State} (h : NoStruct s s') (hc : TailClosed s) : TailClosed s' := by
  unfold TailClosed State.cell at *
  rw [h.1]
  rcases h.get (s.trie.size - 1) with ⟨e1, e2⟩ | ⟨c, c', e1, e2, _, _, _, _, e5⟩ <;> rw [e1] at hc <;> rw [e2]
  · exact hc
  · exact e5.trans hc

theorem NoStruct.shape {s s' : State} {t : T} (h : NoStruct s s') (hs : Shape s t) : Shape s' t where
  live := by rw [h.1]; exact hs.live
  rep := h.rep hs.rep
  ord := OrdT.frame t _ _ hs.ord (fun a _ => h.stemAt a)
  nodup := hs.nodup
  root := by rw [h.1]; exact hs.root
  closed := h.closed hs.closed

theorem noStruct_markCanHave (s : State) (n : Nat) (b : Bool) : NoStruct s (s.markCanHave n b) := by
  unfold markCanHave; split
  · refine ⟨trie_modCell_size _ _ _, fun i c hc => ?_⟩
    rw [getElem?_modCell]
    by_cases e : n = i
    · rw [if_pos e, hc]; exact ⟨_, rfl, rfl, rfl, rfl, rfl, rfl⟩
    · rw [if_neg e]; exact ⟨c, hc, rfl, rfl, rfl, rfl, rfl⟩
  · exact NoStruct.refl s

theorem T.find_node (s0 : State) (stem : Stem) (a : Nat) (l c r : T) :
    (T.node a l c r).find s0 stem =
      if s0.stemAt a = stem then .found a
      else if lexLt stem (s0.stemAt a) then
        (match l with | .nil => .missing a .L | _ => l.find s0 stem)
      else
        (match r with | .nil => .missing a .R | _ => r.find s0 stem) := rfl

theorem T.find_congr {s s' : State} (h : ∀ j, s'.stemAt j = s.stemAt j) (stem : Stem) :
    ∀ u : T, u.find s' stem = u.find s stem := by
  intro u
  induction u with
  | nil => rfl
  | node a l c r ihl _ ihr =>
    rw [T.find_node, T.find_node, h a, ihl, ihr]

structure GraftStep (s s' : State) (q : Nat) (sl : Slot) (x : Stem) : Prop where
  size_lt : s.trie.size < s'.trie.size
  cq : ∃ c : Cell, s.trie[q]? = some c ∧ c.slot sl = 0 ∧ s'.trie[q]? = some (c.setSlot sl s.trie.size)
  old : ∀ a, a < s.trie.size → a ≠ q → s'.trie[a]? = s.trie[a]?
  fresh : ∃ f : Cell, s'.trie[s.trie.size]? = some f ∧ f.left = 0 ∧ f.child = 0 ∧ f.right = 0
  stems : ∀ a, a < s.trie.size → s'.stemAt a = s.stemAt a
  stemNew : s'.stemAt s.trie.size = x
  closed : TailClosed s'

theorem graftStep_write (s : State) (q : Nat) (sl : Slot) (x : Stem) (par : Nat) (ch : Bool) (c : Cell)
    (hc : s.trie[q]? = some c) (hslot : c.slot sl = 0) (hcl : TailClosed s) :
    GraftStep s ((s.writeNew x par ch).1.modCell q (fun c => c.setSlot sl s.trie.size)) q sl x := by
  have hq : q < s.trie.size := (Array.getElem?_eq_some_iff.mp hc).1
  refine ⟨?_, ⟨c, hc, hslot, ?_⟩, ?_, ⟨headCell x par ch, ?_, rfl, rfl, rfl⟩, ?_, ?_, ?_⟩
  · rw [trie_modCell_size]; exact size_lt_writeNew _ _ _ _
  · rw [getElem?_modCell, if_pos rfl, writeNew_old _ _ _ _ _ hq, hc]; rfl
  · intro a ha hne
    rw [getElem?_modCell, if_neg (Ne.symm hne), writeNew_old _ _ _ _ _ ha]
  · rw [getElem?_modCell, if_neg (by omega), getElem?_writeNew_head]
  · intro a ha
    rw [stemAt_setSlot, stemAt_writeNew_other _ _ _ _ _ ha hcl]
  · rw [stemAt_setSlot, stemAt_writeNew']
  · exact (TailClosed.writeNew s x par ch).modCell q _ (fun c => by cases sl <;> rfl)

theorem GraftStep.cell_child_new {s s' : State} {q : Nat} {sl : Slot} {x : Stem} (g : GraftStep s s' q sl x) :
    (s'.cell s.trie.size).child = 0 := by
  obtain ⟨f, hf, _, h2, _⟩ := g.fresh
  rw [cell_of_getElem? hf, h2]

theorem GraftStep.rep {s s' : State} {q : Nat} {sl : Slot} {x : Stem} (g : GraftStep s s' q sl x)
    {u : T} (hr : Rep s u) : Rep s' (u.graft q sl s.trie.size) := by
  obtain ⟨cq, hcq, hslot, hq'⟩ := g.cq
  obtain ⟨f, hf, f1, f2, f3⟩ := g.fresh
  have hq : q < s.trie.size := (Array.getElem?_eq_some_iff.mp hcq).1
  exact hr.graft_write q sl _ rfl cq hcq hslot hq' g.old f hf ⟨f1, f2, f3⟩ (by omega)

theorem Hole.slot_empty {s : State} {q sl u pre lo hi pre' lo' hi'}
    (h : Hole s q sl u pre lo hi pre' lo' hi') : Rep s u → ∃ c, s.trie[q]? = some c ∧ c.slot sl = 0 := by
  induction h with
  | hereL c r pre lo hi =>
    intro hr; obtain ⟨_, ⟨cell, hc, h1, _, _⟩, _⟩ := hr
    exact ⟨cell, hc, by simpa [Cell.slot] using h1⟩
  | hereR l c pre lo hi =>
    intro hr; obtain ⟨_, ⟨cell, hc, _, _, h3⟩, _⟩ := hr
    exact ⟨cell, hc, by simpa [Cell.slot] using h3⟩
  | hereC l r pre lo hi =>
    intro hr; obtain ⟨_, ⟨cell, hc, _, h2, _⟩, _⟩ := hr
    exact ⟨cell, hc, by simpa [Cell.slot] using h2⟩
  | inL c r hi _ ih => intro hr; exact ih hr.2.2.1
  | inR l c lo _ ih => intro hr; exact ih hr.2.2.2.2
  | inC l r lo hi _ ih => intro hr; exact ih hr.2.2.2.1

theorem addLruDescend_cons_stop (flag : Bool) (s : State) (stem : Stem) (rest : List Stem) (node : Nat)
    (ex : Bool) (pos : Nat) (h : Hist) (s1 : State) (n : Nat)
    (he : s.ensureStem node ex stem = (s1, n)) (hstop : rest = [] ∨ (s1.cell n).child = 0) :
    addLruDescend flag s (stem :: rest) node ex pos h =
      (s1.markCanHave n (!rest.isEmpty && flag && (s1.cell n).flags.noChild), n, rest,
        h.visit (s1.cell n) (pos + stem.length)) := by
  simp only [addLruDescend_cons, he]
  rw [if_neg]
  rcases hstop with rfl | h0
  · simp
  · simp [h0]

theorem addLruDescend_cons_go (flag : Bool) (s : State) (stem : Stem) (rest : List Stem) (node : Nat)
    (ex : Bool) (pos : Nat) (h : Hist) (s1 : State) (n : Nat)
    (he : s.ensureStem node ex stem = (s1, n)) (hr : rest ≠ []) (hch : (s1.cell n).child ≠ 0) :
    addLruDescend flag s (stem :: rest) node ex pos h =
      addLruDescend flag (s1.markCanHave n (!rest.isEmpty && flag && (s1.cell n).flags.noChild)) rest
        (s1.cell n).child true (pos + stem.length) (h.visit (s1.cell n) (pos + stem.length)) := by
  simp only [addLruDescend_cons, he]
  rw [if_pos]
  cases rest with
  | nil => exact absurd rfl hr
  | cons _ _ => simp [hch]

/-- the parent a node hooked into slot `sl` of block `q` must carry: that of `q` for a new sibling, `q`
    itself for a new child -/
def slotPar (s : State) (q : Nat) : Slot → Nat
  | .L => (s.cell q).parent
  | .R => (s.cell q).parent
  | .C => q

theorem slotPar_sibling (s : State) (q : Nat) {sl : Slot} (h : sl ≠ .C) : slotPar s q sl = (s.cell q).parent := by
  cases sl with
  | C => exact absurd rfl h
  | L => rfl
  | R => rfl


/-- reached by clearing `noChild` flags (`markCanHave`) only -/
inductive Marked : State → State → Prop
  | refl (s : State) : Marked s s
  | step {s s1 : State} (n : Nat) (b : Bool) : Marked s s1 → Marked s (s1.markCanHave n b)

theorem Marked.noStruct {s s' : State} (h : Marked s s') : NoStruct s s' := by
  induction h with
  | refl => exact NoStruct.refl _
  | step n b _ ih => exact ih.trans (noStruct_markCanHave _ n b)

/-- a visit of `add_lru`'s or `follow_lru`'s walk reads the webentity and the rule flag of a block, which stay -/
theorem Marked.visit {s s' : State} (m : Marked s s') (h : Hist) (a pos : Nat) :
    h.visit (s'.cell a) pos = h.visit (s.cell a) pos := by
  induction m with
  | refl => rfl
  | @step s1 k b _ ih =>
    rw [← ih]
    unfold State.markCanHave
    split
    · rw [cell_modCell]; split <;> rfl
    · rfl

end Traph
