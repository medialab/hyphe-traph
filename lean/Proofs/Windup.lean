import Proofs.ParentInv
import Proofs.ParentInsert
import Proofs.Resolve
/-! C02 / C03 / C08: the bottom-up reconstruction from a block (`node_parents_iter`, `windup_lru`,
    `windup_lru_for_webentity`) agrees with the top-down reading of the finite map: under the shape
    invariant and the parent invariant, for every entry `(p, b)`
    * `s.parents b` is the chain of the nodes stored under the proper prefixes of `p`, nearest first;
    * `s.windup b = p.flatten` (byte for byte);
    * `s.windupWe b` is the top-down resolution of `p` (what `follow_lru` computes). -/
namespace Traph
open State

/-- the ancestors of the node stored under `q` in `u`, nearest first -/
def T.ancestors (s : State) (u : T) (q : LRU) : List Nat :=
  (((u.pathCells s q).map (·.1)).dropLast).reverse

theorem parentsGo_succ (s : State) (fuel b : Nat) :
    s.parentsGo (fuel + 1) b =
      if (s.cell b).parent = 0 then [] else (s.cell b).parent :: s.parentsGo fuel (s.cell b).parent := rfl

theorem parentsGo_entry {s : State} : ∀ (u : T) (lo hi : Option Stem) (pre q : LRU) (b par f : Nat),
    OrdT s u lo hi → u.addrs.Nodup → Rep s u → ParOk s u par → (pre ++ q, b) ∈ u.entries s pre →
    s.parentsGo (f + q.length) b =
      u.ancestors s q ++ (if par = 0 then [] else par :: s.parentsGo f par) := by
  intro u
  induction u with
  | nil => intro _ _ _ _ _ _ _ _ _ _ _ h; exact nomatch h
  | node a l c r ihl ihc ihr =>
    intro lo hi pre q b par f hord hnd hrep hp h
    have hn := T.nodup_node hnd
    obtain ⟨_, _, ol, or_, oc⟩ := id hord
    obtain ⟨ha0, _, rl, rc, rr⟩ := hrep
    obtain ⟨h0, hl, hr, hc⟩ := hp
    rcases entry_node_below.mp h with hm | ⟨rfl, rfl⟩ | ⟨x, rest, rfl, hm⟩ | hm
    · unfold T.ancestors
      rw [T.pathCells_node_left hord hnd hm]
      exact ihl _ _ pre q b par f ol hn.2.2.2.1 rl hl hm
    · unfold T.ancestors
      rw [T.pathCells_node_self]
      simp only [T.pathCells, List.map_cons, List.map_nil, List.dropLast_singleton, List.reverse_nil,
        List.nil_append, List.length_singleton]
      rw [parentsGo_succ, h0]
    · have ih := ihc _ _ (pre ++ [s.stemAt a]) (x :: rest) b a (f + 1) oc hn.2.2.2.2.1 rc hc hm
      have hlen := pathCells_length_of_entry oc hn.2.2.2.2.1 hm
      have hne : (c.pathCells s (x :: rest)).map (·.1) ≠ [] := by
        intro e0
        have := congrArg List.length e0
        simp only [List.length_map, hlen, List.length_cons, List.length_nil] at this
        omega
      unfold T.ancestors at ih ⊢
      rw [T.pathCells_node_self, List.map_cons, List.dropLast_cons_of_ne_nil hne, List.reverse_cons,
        List.append_assoc]
      have hfu : f + (s.stemAt a :: x :: rest).length = f + 1 + (x :: rest).length := by
        simp only [List.length_cons]; omega
      rw [hfu, ih, if_neg ha0, parentsGo_succ, h0]
      rfl
    · unfold T.ancestors
      rw [T.pathCells_node_right hord hnd hm]
      exact ihr _ _ pre q b par f or_ hn.2.2.2.2.2.1 rr hr hm

theorem entries_length_le {s : State} : ∀ (u : T) (pre q : LRU) (b : Nat),
    (pre ++ q, b) ∈ u.entries s pre → q.length ≤ u.size := by
  intro u
  induction u with
  | nil => intro _ _ _ h; exact nomatch h
  | node a l c r ihl ihc ihr =>
    intro pre q b h
    simp only [T.size]
    rcases entry_node_below.mp h with hm | ⟨rfl, _⟩ | ⟨x, rest, rfl, hm⟩ | hm
    · have := ihl pre q b hm; omega
    · simp; omega
    · have := ihc (pre ++ [s.stemAt a]) (x :: rest) b hm
      simp only [List.length_cons] at this ⊢; omega
    · have := ihr pre q b hm; omega

/-- C03: the ancestors reconstructed bottom-up from the block of an entry are the nodes stored under
    the proper prefixes of its path, nearest first -/
theorem parents_eq {s : State} {t : T} (h : Shape s t) (hp : ParOk s t 0) {p : LRU} {b : Nat}
    (hb : (p, b) ∈ t.entries s []) :
    s.parents b = (((t.pathCells s p).map (·.1)).dropLast).reverse := by
  have hlen := entries_length_le t [] p b (by simpa using hb)
  have hsz := h.size_le
  unfold State.parents
  have hf : s.trie.size + 1 = (s.trie.size + 1 - p.length) + p.length := by omega
  rw [hf, parentsGo_entry t none none [] p b 0 _ h.ord h.nodup h.rep hp (by simpa using hb)]
  simp [T.ancestors]

theorem pathCells_stemAt {s : State} : ∀ (stems : List Stem) (u : T), ∀ c ∈ u.pathCells s stems,
    s.stemAt c.1 = c.2 := by
  intro stems
  induction stems with
  | nil => intro u c h; simp [T.pathCells] at h
  | cons stem rest ih =>
    intro u c h
    cases hf : u.find s stem with
    | corrupt => simp [T.pathCells, hf] at h
    | missing q sl => simp [T.pathCells, hf] at h
    | found a =>
      rw [T.pathCells_cons_found hf, List.mem_cons] at h
      rcases h with rfl | h
      · exact (T.find_sound u a hf).2
      · exact ih _ c h

theorem pathCells_of_entry {s : State} {t : T} (h : Shape s t) {q : LRU} {b : Nat} (hb : (q, b) ∈ t.entries s []) :
    ∃ cs x, t.pathCells s q = cs ++ [(b, x)] ∧ (t.pathCells s q).map (fun c => s.stemAt c.1) = q := by
  have hlen := pathCells_length_of_entry (pre := []) h.ord h.nodup hb
  have hst : (t.pathCells s q).map (fun c => s.stemAt c.1) = q := by
    rw [List.map_congr_left (fun c hc => pathCells_stemAt q t c hc), pathCells_map_snd, hlen, List.take_length]
  obtain ⟨q', x, rfl⟩ := (List.eq_nil_or_concat q).resolve_left (entries_ne_nil (pre := []) hb)
  rw [List.concat_eq_append] at hb hst ⊢
  exact ⟨_, x, by rw [pathCells_snoc h, (lruNode_iff_entries h _ (by simp) b).mpr hb], hst⟩

theorem foldl_windup (s : State) : ∀ (l : List Nat) (acc : Bytes),
    l.reverse.foldl (fun acc p => s.stemAt p ++ acc) acc = (l.map s.stemAt).flatten ++ acc := by
  intro l
  induction l with
  | nil => intro acc; simp
  | cons x l ih =>
    intro acc
    rw [List.reverse_cons, List.foldl_append, ih]
    simp

/-- C02: the LRU reconstructed bottom-up from the block of an entry is its path, byte for byte -/
theorem windup_eq {s : State} {t : T} (h : Shape s t) (hp : ParOk s t 0) {p : LRU} {b : Nat}
    (hb : (p, b) ∈ t.entries s []) : s.windup b = p.flatten := by
  obtain ⟨cs, x, hcs, hst⟩ := pathCells_of_entry h hb
  unfold State.windup
  rw [parents_eq h hp hb, hcs]
  rw [hcs] at hst
  simp only [List.map_append, List.map_cons, List.map_nil, List.dropLast_concat]
  rw [foldl_windup, ← hst]
  simp only [List.map_append, List.map_cons, List.map_nil, List.map_map, List.flatten_append,
    List.flatten_cons, List.flatten_nil, List.append_nil]
  rfl

/-- the first id met going up is the last id met coming down -/
theorem find_reverse_lastWe (s : State) (l : List Nat) :
    (match l.reverse.find? (fun p => (s.cell p).we ≠ 0) with
      | some p => (s.cell p).we
      | none => 0) = lastWe (l.map (fun p => (s.cell p).we)) := by
  induction l using snoc_induction with
  | nil => rfl
  | snoc l x ih =>
    rw [List.reverse_append, List.reverse_singleton, List.singleton_append, List.find?_cons, List.map_append,
      List.map_cons, List.map_nil, lastWe_concat]
    by_cases hx : (s.cell x).we ≠ 0
    · rw [if_pos hx, decide_eq_true hx]
    · rw [if_neg hx, decide_eq_false hx]; exact ih

/-- C08: the webentity found bottom-up from the block of an entry (nearest id at or above the node)
    is the top-down resolution of its path (the deepest prefix carrying an id) -/
theorem windupWe_eq {s : State} {t : T} (h : Shape s t) (hp : ParOk s t 0) {p : LRU} {b : Nat}
    (hb : (p, b) ∈ t.entries s []) : s.windupWe b = t.resolveAlong s p 0 := by
  obtain ⟨cs, x, hcs, _⟩ := pathCells_of_entry h hb
  rw [T.resolveAlong_zero, hcs]
  unfold State.windupWe
  rw [parents_eq h hp hb, hcs]
  simp only [List.map_append, List.map_cons, List.map_nil, List.dropLast_concat]
  rw [lastWe_concat]
  have key := find_reverse_lastWe s (cs.map (·.1))
  rw [List.map_map] at key
  by_cases hw : (s.cell b).we ≠ 0
  · rw [if_pos hw, if_pos hw]
  · rw [if_neg hw, if_neg hw]
    exact key

theorem windupWe_eq_followLru {s : State} {t : T} (h : Shape s t) (hp : ParOk s t 0) {p : LRU} {b : Nat}
    (hb : (p, b) ∈ t.entries s []) : s.windupWe b = (s.followLru p).2.we := by
  rw [followLru_we_resolveAlong h p (entry_ne_nil hb)]; exact windupWe_eq h hp hb

theorem getElem?_reverse_dropLast {α : Type} (l : List α) (m k : Nat) (h : l.length = m + k + 2) :
    l.dropLast.reverse[k]? = l[m]? := by
  have hd : l.dropLast.length = m + k + 1 := by rw [List.length_dropLast, h]; rfl
  have hm : m < l.length - 1 := by rw [h]; exact Nat.lt_succ_of_le (Nat.le_add_right m k)
  rw [List.getElem?_reverse (hd ▸ Nat.lt_succ_of_le (Nat.le_add_left k m)), hd, Nat.add_sub_cancel,
    Nat.add_sub_cancel, List.getElem?_dropLast, if_pos hm]

/-- the ancestors, prefix by prefix: the `k`-th ancestor (nearest first) is the node stored under the path
    shortened by `k + 1` stems -/
theorem parents_getElem {s : State} {t : T} (h : Shape s t) (hp : ParOk s t 0) {p : LRU} {b : Nat}
    (hb : (p, b) ∈ t.entries s []) :
    (s.parents b).length = p.length - 1 ∧
    ∀ k, k + 1 < p.length → ∃ a, (s.parents b)[k]? = some a ∧ (p.take (p.length - 1 - k), a) ∈ t.entries s [] := by
  have hlen := pathCells_length_of_entry (pre := []) h.ord h.nodup (by simpa using hb)
  rw [parents_eq h hp hb]
  refine ⟨by rw [List.length_reverse, List.length_dropLast, List.length_map, hlen], fun k hk => ?_⟩
  obtain ⟨m, hm⟩ : ∃ m, p.length = m + k + 2 :=
    ⟨p.length - (k + 2), (Nat.sub_add_cancel (Nat.succ_le_of_lt hk)).symm⟩
  have hlt : m < (t.pathCells s p).length := by
    rw [hlen, hm]; exact Nat.lt_of_le_of_lt (Nat.le_add_right m k) (Nat.lt_add_of_pos_right (by decide))
  have hget : (t.pathCells s p)[m]? = some ((t.pathCells s p)[m]) := List.getElem?_eq_getElem hlt
  refine ⟨((t.pathCells s p)[m]).1, ?_, ?_⟩
  · rw [getElem?_reverse_dropLast _ m k (by rw [List.length_map, hlen, hm]), List.getElem?_map, hget]
    rfl
  · rw [hm, show m + k + 2 - 1 - k = m + 1 by show m + k + 1 - k = m + 1; rw [Nat.add_right_comm, Nat.add_sub_cancel]]
    exact (pathCells_entries_getElem? p t none none [] h.ord h.nodup _ _ hget).1

/-- end to end: after `add_lru`, winding up from the returned block gives back the LRU, byte for byte, and
    the bottom-up webentity of the returned block is what `follow_lru` resolves the LRU to -/
theorem addLru_windup {s : State} {t : T} (h : Shape s t) (hp : ParOk s t 0) (stems : LRU) (hne : stems ≠ [])
    (flag : Bool) :
    (s.addLru stems flag).1.windup (s.addLru stems flag).2.1 = stems.flatten ∧
    (s.addLru stems flag).1.windupWe (s.addLru stems flag).2.1
      = ((s.addLru stems flag).1.followLru stems).2.we := by
  obtain ⟨t', gr, hp', hent⟩ := addLru_parOk h hp stems hne flag
  exact ⟨windup_eq gr.shape hp' hent, windupWe_eq_followLru gr.shape hp' hent⟩

end Traph

section
open Traph
#print axioms addLru_parOk
#print axioms addLru_windup
#print axioms parents_eq
#print axioms windup_eq
#print axioms windupWe_eq
#print axioms windupWe_eq_followLru
#print axioms parents_getElem
end
