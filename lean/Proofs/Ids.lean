import Proofs.IdsFrame
import Proofs.Paged
/-! C12: webentity ids are fresh (`step_ids` per request, `run_ids` along a history without `clear`).
    The header counter `hdrId` only ever grows (outside `clear`), every id a
    request reports lies strictly above the counter before the request and at or below the counter after
    it, so along any history without `clear` the reported ids form a strictly increasing sequence — across deletions
    (which do not touch the counter) and across close/reopen (the counter is part of the file). -/
namespace Traph
open State

/-- the webentity ids a report announces (the `None` key of the Python dict carries no id) -/
def Report.ids (r : Report) : List Nat := r.we.filterMap (·.1)

/-- `ids`, in the order reported, are fresh for a counter that went from `lo` to `hi`: increasing, above `lo`, up to `hi` -/
def IdsBetween (lo hi : Nat) (ids : List Nat) : Prop :=
  lo ≤ hi ∧ ids.Pairwise (· < ·) ∧ ∀ i ∈ ids, lo < i ∧ i ≤ hi

theorem IdsBetween.nil {lo hi : Nat} (h : lo ≤ hi) : IdsBetween lo hi [] :=
  ⟨h, List.Pairwise.nil, fun _ hi => by cases hi⟩

theorem IdsBetween.le {lo hi : Nat} {ids : List Nat} (h : IdsBetween lo hi ids) : lo ≤ hi := h.1

theorem IdsBetween.mono {lo hi hi' : Nat} {ids : List Nat} (h : IdsBetween lo hi ids) (hh : hi ≤ hi') :
    IdsBetween lo hi' ids :=
  ⟨Nat.le_trans h.1 hh, h.2.1, fun i hi => ⟨(h.2.2 i hi).1, Nat.le_trans (h.2.2 i hi).2 hh⟩⟩

theorem IdsBetween.single (lo : Nat) : IdsBetween lo (lo + 1) [lo + 1] :=
  ⟨by omega, List.pairwise_singleton _ _, fun i hi => by simp at hi; omega⟩

@[simp] theorem Report.ids_pages (n : Nat) : ({ pages := n } : Report).ids = [] := rfl

@[simp] theorem Report.ids_single (k : Option Nat) (ps : List Bytes) (n : Nat) :
    ({ pages := n, we := [(k, ps)] } : Report).ids = k.toList := by
  cases k <;> rfl

theorem IdsBetween.append {lo mid hi : Nat} {a b : List Nat} (ha : IdsBetween lo mid a) (hb : IdsBetween mid hi b) :
    IdsBetween lo hi (a ++ b) := by
  refine ⟨Nat.le_trans ha.1 hb.1, ?_, ?_⟩
  · rw [List.pairwise_append]
    exact ⟨ha.2.1, hb.2.1, fun i hi j hj => Nat.lt_of_le_of_lt (ha.2.2 i hi).2 (hb.2.2 j hj).1⟩
  · intro i hi
    rcases List.mem_append.mp hi with hi | hi
    · exact ⟨(ha.2.2 i hi).1, Nat.le_trans (ha.2.2 i hi).2 hb.1⟩
    · exact ⟨Nat.lt_of_le_of_lt ha.1 (hb.2.2 i hi).1, (hb.2.2 i hi).2⟩

def Report.KeysLe (r : Report) (n : Nat) : Prop := ∀ kv ∈ r.we, ∃ i, kv.1 = some i ∧ i ≤ n

theorem Report.KeysLe.mono {r : Report} {n m : Nat} (h : r.KeysLe n) (hnm : n ≤ m) : r.KeysLe m := by
  intro kv hkv
  obtain ⟨i, e, hi⟩ := h kv hkv
  exact ⟨i, e, Nat.le_trans hi hnm⟩

theorem keysLe_empty (n : Nat) : ({} : Report).KeysLe n :=
  fun _ hkv => absurd hkv List.not_mem_nil

theorem Report.add_we (a b : Report) (n : Nat) (ha : a.KeysLe n)
    (hb : b.we = [] ∨ ∃ id ps, n < id ∧ b.we = [(some id, ps)]) : (a.add b).we = a.we ++ b.we := by
  rcases hb with hb | ⟨id, ps, hid, hb⟩
  · simp [Report.add, hb]
  · simp only [Report.add, hb, List.foldl_cons, List.foldl_nil]
    refine dictSet_append_of_fresh _ _ _ (fun kv hkv e => ?_)
    obtain ⟨i, e', hi⟩ := ha kv hkv
    rw [e'] at e
    cases e
    omega

/-- what one `__add_page` (or one automatic creation) taking `s` to `s1` reports: nothing, or one webentity
    with the next id -/
def OneNew (s s1 : State) (we : List (Option Nat × List Bytes)) : Prop :=
  (we = [] ∧ s1.hdrId = s.hdrId) ∨ ∃ ps, we = [(some (s.hdrId + 1), ps)] ∧ s1.hdrId = s.hdrId + 1

theorem OneNew.of_hdrId {s s' s1 : State} {we : List (Option Nat × List Bytes)} (e : s'.hdrId = s.hdrId)
    (h : OneNew s' s1 we) : OneNew s s1 we := by
  unfold OneNew at h ⊢
  rwa [e] at h

theorem OneNew.le {s s1 : State} {we : List (Option Nat × List Bytes)} (h : OneNew s s1 we) : s.hdrId ≤ s1.hdrId := by
  rcases h with ⟨_, e⟩ | ⟨_, _, e⟩ <;> omega

theorem OneNew.ids {s s1 : State} {we : List (Option Nat × List Bytes)} (h : OneNew s s1 we) :
    IdsBetween s.hdrId s1.hdrId (we.filterMap (·.1)) := by
  rcases h with ⟨rfl, e⟩ | ⟨ps, rfl, e⟩
  · exact IdsBetween.nil (Nat.le_of_eq e.symm)
  · rw [e]; exact IdsBetween.single _

/-- the report of a request accumulates by appending: every key it holds is an id issued so far, and what one
    `__add_page` adds is new -/
theorem Report.add_one {rep r : Report} {s s1 : State} (hk : rep.KeysLe s.hdrId) (h : OneNew s s1 r.we) :
    (rep.add r).we = rep.we ++ r.we ∧ (rep.add r).KeysLe s1.hdrId := by
  have e := Report.add_we rep r s.hdrId hk (h.imp (·.1) fun ⟨ps, hw, _⟩ => ⟨_, ps, Nat.lt_succ_self _, hw⟩)
  refine ⟨e, fun kv hkv => ?_⟩
  rw [e] at hkv
  rcases List.mem_append.mp hkv with hkv | hkv
  · exact hk.mono h.le kv hkv
  · rcases h with ⟨hw, _⟩ | ⟨ps, hw, hid⟩
    · rw [hw] at hkv; cases hkv
    · rw [hw, List.mem_singleton] at hkv
      exact ⟨_, hkv ▸ rfl, Nat.le_of_eq hid.symm⟩

theorem Report.ids_add_one {rep r : Report} {s s1 : State} {lo : Nat} (hk : rep.KeysLe s.hdrId)
    (h : OneNew s s1 r.we) (hb : IdsBetween lo s.hdrId rep.ids) : IdsBetween lo s1.hdrId (rep.add r).ids := by
  unfold Report.ids
  rw [(Report.add_one hk h).1, List.filterMap_append]
  exact hb.append h.ids

/-! `__add_prefixes` is the only caller of `genId`. -/

@[simp] theorem hdrId_addPrefixesScan : ∀ (ps : List Bytes) (s : State) (valid : List (Bytes × Nat)) (k : Nat),
    (addPrefixesScan s ps valid k).1.hdrId = s.hdrId := by
  intro ps
  induction ps with
  | nil => exact fun _ _ _ => rfl
  | cons p ps ih =>
    intro s valid k
    rcases h : s.addLru (lruIter p) true with ⟨s1, n, hh⟩
    have h1 : s1.hdrId = s.hdrId := by have := hdrId_addLru s (lruIter p) true; rw [h] at this; exact this
    simp only [addPrefixesScan, h]
    split <;> rw [ih, h1]

theorem addPrefixes_ids (s : State) (ps : List Bytes) (best : Bool) :
    s.hdrId ≤ (s.addPrefixes ps best).1.hdrId ∧
    (∀ id l, (s.addPrefixes ps best).2 = .ok (some id, l) →
      id = s.hdrId + 1 ∧ (s.addPrefixes ps best).1.hdrId = s.hdrId + 1) ∧
    (∀ l, (s.addPrefixes ps best).2 = .ok (none, l) → (s.addPrefixes ps best).1.hdrId = s.hdrId) ∧
    (∀ e, (s.addPrefixes ps best).2 = .error e → (s.addPrefixes ps best).1.hdrId = s.hdrId) := by
  generalize hx : s.addPrefixes ps best = x
  unfold addPrefixes at hx
  rcases h : addPrefixesScan s ps [] 0 with ⟨s1, valid, nInv⟩
  have h1 : s1.hdrId = s.hdrId := by have := hdrId_addPrefixesScan ps s [] 0; rw [h] at this; exact this
  rw [h] at hx
  dsimp only at hx
  split at hx
  · subst hx; simp [h1]
  · split at hx
    · subst hx; simp [h1]
    · subst hx; simp [h1]

theorem createWebentityAuto_we (s : State) (pfx : Bytes) :
    OneNew s (s.createWebentityAuto pfx).1 (s.createWebentityAuto pfx).2.we := by
  obtain ⟨_, hsome, hnone, herr⟩ := addPrefixes_ids s (lruVariations pfx) true
  unfold createWebentityAuto
  rcases h : s.addPrefixes (lruVariations pfx) true with ⟨s1, res⟩
  rw [h] at hsome hnone herr
  rcases res with e | ⟨_ | id, l⟩
  · exact .inl ⟨rfl, herr e rfl⟩
  · exact .inl ⟨rfl, hnone l rfl⟩
  · obtain ⟨rfl, hs1⟩ := hsome id l rfl
    exact .inr ⟨l, rfl, hs1⟩

def IdsOk (lo : Nat) (s : State) (x : State × Except Err Report) : Prop :=
  s.hdrId ≤ x.1.hdrId ∧ ∀ r, x.2 = .ok r → IdsBetween lo x.1.hdrId r.ids

theorem addPageCore_we (s : State) (lru : Bytes) (crawled : Bool) :
    s.hdrId ≤ (s.addPageCore lru crawled).1.hdrId ∧
    ∀ r, (s.addPageCore lru crawled).2.2 = .ok r → OneNew s (s.addPageCore lru crawled).1 r.we := by
  have h1 := hdrId_addPageTrie s (lruIter lru) crawled
  rw [addPageCore_eq]
  split <;> dsimp only
  · exact ⟨Nat.le_of_eq h1.symm, fun r hr => nomatch hr⟩
  · exact ⟨Nat.le_of_eq h1.symm, fun r hr => by cases Except.ok.inj hr; exact .inl ⟨rfl, h1⟩⟩
  · rename_i x _
    have hc := (createWebentityAuto_we (s.addPageTrie (lruIter lru) crawled).1 x).of_hdrId h1
    refine ⟨hc.le, fun r hr => ?_⟩
    -- not `cases hr`: that compares the two reports field by field and unfolds `addPageTrie` to decide the `if`
    cases Except.ok.inj hr
    exact (Report.add_one (rep := { pages := _ }) (fun _ hkv => absurd hkv List.not_mem_nil) hc).1 ▸ hc

def AccOk {α : Type} (proj : α → Report) (lo : Nat) (s : State) (x : State × Except Err α) : Prop :=
  s.hdrId ≤ x.1.hdrId ∧ ∀ a, x.2 = .ok a → IdsBetween lo x.1.hdrId (proj a).ids

theorem idsOk_iff (lo : Nat) (s : State) (x : State × Except Err Report) :
    IdsOk lo s x ↔ AccOk (fun r => r) lo s x := Iff.rfl

theorem AccOk.error {α : Type} {proj : α → Report} {lo : Nat} {s s1 : State} {e : Err}
    (hle : s.hdrId ≤ s1.hdrId) : AccOk proj lo s (s1, .error e) :=
  ⟨hle, fun _ h => by cases h⟩

theorem AccOk.ok {α : Type} {proj : α → Report} {lo : Nat} {s s1 : State} {a : α}
    (hle : s.hdrId ≤ s1.hdrId) (h : IdsBetween lo s1.hdrId (proj a).ids) : AccOk proj lo s (s1, .ok a) :=
  ⟨hle, fun _ h' => by cases h'; exact h⟩

@[simp] theorem hdrId_ite_modCell (b : Bool) (s : State) (n : Nat) (f : Cell → Cell) :
    (if b = true then s.modCell n f else s).hdrId = s.hdrId := by
  split
  · exact hdrId_modCell _ _ _
  · rfl

theorem addPage_ids (s : State) (lru : Bytes) (crawled : Bool) :
    IdsOk s.hdrId s (s.addPage lru crawled) := by
  have hi := addPageCore_we s lru crawled
  unfold addPage
  rcases hc : s.addPageCore lru crawled with ⟨s1, n, res⟩
  rw [hc] at hi
  exact ⟨hi.1, fun r hr => (hi.2 r hr).ids⟩

theorem Paged.ids_le {s s' : State} {rep : Report} {res : Except Err Report} (h : Paged s rep s' res) {lo : Nat}
    (hk : rep.KeysLe s.hdrId) (hb : IdsBetween lo s.hdrId rep.ids) :
    s.hdrId ≤ s'.hdrId ∧ ∀ r, res = .ok r → r.KeysLe s'.hdrId ∧ IdsBetween lo s'.hdrId r.ids := by
  induction h with
  | refl => exact ⟨Nat.le_refl _, fun r hr => by cases hr; exact ⟨hk, hb⟩⟩
  | @page a _ l c _ ih =>
    have hi := addPageCore_we a l c
    refine ⟨Nat.le_trans ih.1 hi.1, fun r hr => ?_⟩
    obtain ⟨r1, hr1, rfl⟩ := Except.map_eq_ok hr
    obtain ⟨k1, b1⟩ := ih.2 _ rfl
    exact ⟨(Report.add_one k1 (hi.2 r1 hr1)).2, Report.ids_add_one k1 (hi.2 r1 hr1) b1⟩
  | crawl n _ ih => rw [hdrId_modCell]; exact ih
  | stubs p t o _ ih => rw [hdrId_addStubs]; exact ih

theorem Paged.ids {s : State} {x : State × Except Err Report} (h : Paged s {} x.1 x.2) : IdsOk s.hdrId s x :=
  have ⟨le, ok⟩ := h.ids_le (keysLe_empty _) (IdsBetween.nil (Nat.le_refl _))
  ⟨le, fun r hr => (ok r hr).2⟩

theorem addPages_ids (s : State) (lrus : List Bytes) (crawled : Bool) :
    IdsOk s.hdrId s (s.addPages lrus crawled) :=
  (paged_addPagesGo _ lrus s crawled {}).ids

theorem addLinks_ids (s : State) (links : List (Bytes × Bytes)) : IdsOk s.hdrId s (s.addLinks links) :=
  (paged_addLinks s links).ids

theorem batch_ids (s : State) (data : List (Bytes × List Bytes)) : IdsOk s.hdrId s (s.batch data) :=
  (paged_batch s data).ids

@[simp] theorem hdrId_rulePrologue (s : State) (anchor : Bytes) (r : Rule) :
    (s.rulePrologue anchor r).1.hdrId = s.hdrId := by
  unfold State.rulePrologue
  rw [hdrId_modCell, hdrId_addLru]

theorem addRule_ids (s : State) (anchor : Bytes) (r : Rule) (w : Bool) :
    IdsOk s.hdrId s (s.addRule anchor r w) := by
  cases w with
  | false => rw [addRule_false_eq]; exact AccOk.ok (Nat.le_refl _) (IdsBetween.nil (Nat.le_refl _))
  | true =>
    have h := (paged_addRule s anchor r).ids
    unfold IdsOk at h ⊢
    rwa [hdrId_rulePrologue] at h

theorem createWebentity_ids (s : State) (ps : List Bytes) : IdsOk s.hdrId s (s.createWebentity ps) := by
  obtain ⟨hle, hsome, hnone, herr⟩ := addPrefixes_ids s ps false
  unfold createWebentity
  rcases h : s.addPrefixes ps false with ⟨s1, res⟩
  rw [h] at hle hsome hnone herr
  simp only at hle hsome hnone herr
  rcases res with e | ⟨_ | id, l⟩
  · exact AccOk.error hle
  · exact AccOk.ok hle (IdsBetween.nil hle)
  · obtain ⟨hid, hs1⟩ := hsome id l rfl
    refine AccOk.ok hle ?_
    simp only [Report.ids_single, Option.toList, hid, hs1]
    exact IdsBetween.single _

/-- one creation request yields one key (at most one id, shared by all the prefixes it lists) -/
theorem one_id_per_request (s s' : State) (ps : List Bytes) (r : Report)
    (h : s.createWebentity ps = (s', .ok r)) : r.we.length = 1 := by
  unfold createWebentity at h
  rcases ha : s.addPrefixes ps false with ⟨s1, e | ⟨id, l⟩⟩
  · rw [ha] at h; simp at h
  · rw [ha] at h
    simp only [Prod.mk.injEq, Except.ok.injEq] at h
    rw [← h.2]; rfl

/-- after the id-stamping loop of `__add_prefixes`, every listed block carries the id -/
theorem we_foldl_modCell (id : Nat) : ∀ (l : List (Bytes × Nat)) (s : State) (j : Nat), j < s.trie.size →
    ((s.cell j).we = id ∨ ∃ pn ∈ l, pn.2 = j) →
    ((l.foldl (fun st pn => st.modCell pn.2 (fun c => { c with we := id })) s).cell j).we = id := by
  intro l
  induction l with
  | nil =>
    intro s j _ h
    rcases h with h | ⟨pn, hm, _⟩
    · exact h
    · cases hm
  | cons pn l ih =>
    intro s j hj h
    rw [List.foldl_cons]
    apply ih _ j (by rw [trie_modCell_size]; exact hj)
    rw [cell_modCell]
    by_cases hpj : pn.2 = j
    · left; rw [if_pos ⟨hpj, hj⟩]
    · rw [if_neg (fun hc => hpj hc.1)]
      rcases h with h | ⟨qn, hm, hq⟩
      · exact Or.inl h
      · rcases List.mem_cons.mp hm with e | hm
        · subst e; exact absurd hq hpj
        · exact Or.inr ⟨qn, hm, hq⟩

/-- one creation request, one id: the prefixes reported are exactly the valid ones found by the scan, and
    the block of every one of them is stamped with the single id the request drew -/
theorem addPrefixes_same_id (s : State) (ps : List Bytes) (best : Bool) (id : Nat) (l : List Bytes)
    (h : (s.addPrefixes ps best).2 = .ok (some id, l)) :
    l = (addPrefixesScan s ps [] 0).2.1.map (·.1) ∧
    ∀ pn ∈ (addPrefixesScan s ps [] 0).2.1, pn.2 < (addPrefixesScan s ps [] 0).1.trie.size →
      (((s.addPrefixes ps best).1.cell pn.2).we = id) := by
  unfold addPrefixes at h ⊢
  rcases hs : addPrefixesScan s ps [] 0 with ⟨s1, valid, nInv⟩
  rw [hs] at h
  simp only at h ⊢
  split at h
  · cases h
  · split at h
    · cases h
    · simp only [Except.ok.injEq, Prod.mk.injEq, Option.some.injEq] at h
      obtain ⟨hid, hl⟩ := h
      rename_i h1 h2
      rw [if_neg h1, if_neg h2]
      refine ⟨hl.symm, fun pn hm hlt => ?_⟩
      simp only
      rw [hid]
      exact we_foldl_modCell id valid s1.genId.1 pn.2 hlt (Or.inr ⟨pn, hm, rfl⟩)

@[simp] theorem hdrId_deleteWebentity (s : State) (weid : Nat) (ps : List Bytes) :
    (s.deleteWebentity weid ps).1.hdrId = s.hdrId := by
  unfold deleteWebentity
  split
  · rfl
  · exact hdrId_foldl_modCell (fun pn : Bytes × Nat => pn.2) (fun _ c => { c with we := 0 }) _ s

@[simp] theorem hdrId_addPrefix (s : State) (pfx : Bytes) (weid : Nat) :
    (s.addPrefix pfx weid).1.hdrId = s.hdrId := by
  unfold addPrefix
  simp only
  split <;> simp

@[simp] theorem hdrId_removePrefix (s : State) (pfx : Bytes) (weid : Option Nat) :
    (s.removePrefix pfx weid).1.hdrId = s.hdrId := by
  unfold removePrefix
  simp only
  repeat' split
  all_goals simp

@[simp] theorem hdrId_movePrefix (s : State) (pfx : Bytes) (target : Nat) (source : Option Nat) :
    (s.movePrefix pfx target source).1.hdrId = s.hdrId := by
  have h1 := hdrId_removePrefix s pfx source
  unfold movePrefix
  rcases h : s.removePrefix pfx source with ⟨s1, e | u⟩
  · rw [h] at h1; exact h1
  · rw [h] at h1; simp only [hdrId_addPrefix]; exact h1

@[simp] theorem hdrId_removeRule (s : State) (anchor : Bytes) : (s.removeRule anchor).1.hdrId = s.hdrId := by
  unfold removeRule
  split
  · rfl
  · simp only
    split
    · rfl
    · simp

/-- close + reopen: the counter is part of the file -/
@[simp] theorem reopen_keeps_counter (s : State) (d : Rule) (rs : List (Bytes × Rule)) :
    (s.reopen d rs).hdrId = s.hdrId := rfl

theorem installRules_le : ∀ (rs : List (Bytes × Rule)) (s : State) (w : Bool),
    s.hdrId ≤ (installRules s rs w).1.hdrId := fun rs s w =>
  installRules_ind (P := fun s' => s.hdrId ≤ s'.hdrId) w rs s
    (fun s' ar _ h => Nat.le_trans h (addRule_ids s' ar.1 ar.2 w).1) (Nat.le_refl _)

theorem fresh_counter (cfg : Config) (d : Rule) (log : List Write) : (State.fresh cfg d [] log).1.hdrId = 0 := rfl

/-- `clear` starts the numbering again: without rules the counter is 0; with rules it is whatever
    installing them into an index whose counter is 0 produces -/
theorem clear_resets (s : State) (d : Option Rule) :
    (s.clear d none).1.hdrId = 0 ∧
    ∀ rs, ∃ s0 : State, s0.hdrId = 0 ∧ s.clear d (some rs) = installRules s0 rs true :=
  ⟨rfl, fun _ => ⟨_, rfl, rfl⟩⟩

theorem step_of_idsOk {s : State} {x : State × Except Err Report} (h : IdsOk s.hdrId s x) :
    s.hdrId ≤ x.1.hdrId ∧ ∀ r, Ans.ofExcept .report x.2 = .report r → IdsBetween s.hdrId x.1.hdrId r.ids :=
  ⟨h.1, fun r hr => h.2 r (ofExcept_report hr)⟩

theorem step_of_unit {s : State} {α : Type} {x : State × Except Err α} (h : x.1.hdrId = s.hdrId) :
    s.hdrId ≤ x.1.hdrId ∧
    ∀ r, Ans.ofExcept (fun _ => Ans.unit) x.2 = .report r → IdsBetween s.hdrId x.1.hdrId r.ids := by
  refine ⟨Nat.le_of_eq h.symm, fun r hr => ?_⟩
  rcases x with ⟨s1, e | a⟩ <;> cases hr

/-- Every id reported by a request is fresh: greater than the counter before the request — which bounds
    every id issued earlier — and the counter ends at or above every id issued. -/
theorem step_ids (s : State) (op : Op) (hop : ∀ d rs, op ≠ .clear d rs) :
    s.hdrId ≤ (s.step op).1.hdrId ∧
    ∀ r, (s.step op).2 = .report r → IdsBetween s.hdrId (s.step op).1.hdrId r.ids := by
  cases op with
  | addPage l c => simp only [step_addPage]; exact step_of_idsOk (addPage_ids s l c)
  | addPages ls c => simp only [step_addPages]; exact step_of_idsOk (addPages_ids s ls c)
  | addLinks ls => simp only [step_addLinks]; exact step_of_idsOk (addLinks_ids s ls)
  | batch d => simp only [step_batch]; exact step_of_idsOk (batch_ids s d)
  | create ps => simp only [step_create]; exact step_of_idsOk (createWebentity_ids s ps)
  | delete w ps => simp only [step_delete]; exact step_of_unit (hdrId_deleteWebentity s w ps)
  | addPrefix p w => simp only [step_addPrefix]; exact step_of_unit (hdrId_addPrefix s p w)
  | removePrefix p w => simp only [step_removePrefix]; exact step_of_unit (hdrId_removePrefix s p w)
  | movePrefix p t f => simp only [step_movePrefix]; exact step_of_unit (hdrId_movePrefix s p t f)
  | addRule a r => simp only [step_addRule]; exact step_of_idsOk (addRule_ids s a r true)
  | removeRule a => simp only [step_removeRule]; exact step_of_unit (hdrId_removeRule s a)
  | reopen d rs => exact ⟨Nat.le_refl _, fun r hr => by cases hr⟩
  | clear d rs => exact absurd rfl (hop d rs)

def Ans.ids : Ans → List Nat
  | .report r => r.ids
  | _ => []

/-- all webentity ids the requests of `ops`, run from `s`, report to their callers, in order -/
def issued (s : State) : List Op → List Nat
  | [] => []
  | op :: ops => (s.step op).2.ids ++ issued (s.step op).1 ops

theorem step_ansIds (s : State) (op : Op) (hop : ∀ d rs, op ≠ .clear d rs) :
    IdsBetween s.hdrId (s.step op).1.hdrId (s.step op).2.ids := by
  obtain ⟨hle, hr⟩ := step_ids s op hop
  cases ha : (s.step op).2 with
  | report r => exact hr r ha
  | _ => exact IdsBetween.nil hle

theorem run_idsBetween : ∀ (ops : List Op) (s : State), (∀ op ∈ ops, ∀ d rs, op ≠ .clear d rs) →
    IdsBetween s.hdrId (s.run ops).hdrId (issued s ops) := by
  intro ops
  induction ops with
  | nil => exact fun _ _ => IdsBetween.nil (Nat.le_refl _)
  | cons op ops ih =>
    intro s h
    exact (step_ansIds s op (h op (List.mem_cons_self ..))).append
          (ih (s.step op).1 (fun o ho => h o (List.mem_cons_of_mem _ ho)))

/-- Along any history without `clear` — with deletions, with close/reopen — the ids issued are strictly
    increasing, all above the starting counter and at or below the final one. -/
theorem run_ids (s : State) (ops : List Op) (hops : ∀ op ∈ ops, ∀ d rs, op ≠ .clear d rs) :
    (issued s ops).Pairwise (· < ·) ∧ ∀ i ∈ issued s ops, s.hdrId < i ∧ i ≤ (s.run ops).hdrId :=
  (run_idsBetween ops s hops).2

theorem run_counter_mono (s : State) (ops : List Op) (hops : ∀ op ∈ ops, ∀ d rs, op ≠ .clear d rs) :
    s.hdrId ≤ (s.run ops).hdrId := (run_idsBetween ops s hops).1

#print axioms step_ids
#print axioms run_ids

end Traph
