import Proofs.CoRulesOps
import Proofs.KnownRun
import Proofs.TrieEq
/-! The API's own discipline implies that no request is aborted by `KeyError`.

    `__add_page` raises `KeyError` iff the walk meets a trie block flagged as a rule anchor whose LRU is not a key
    of the RAM dictionary of rules; `RulesOk s` (Proofs/CoRules) says this cannot happen. Proofs/CoRulesOps shows
    that the ten requests which never take a rule away keep `RulesOk`; here `removeRule`, `reopen` and `clear`, and
    the discipline (`Disciplined`) under which no request of a history answers `KeyError` (`disciplined_run`; per step
    `step_noKeyErr`, `rulesOk_step_all`). -/
namespace Traph
open State Layout

/-- `rs` re-supplies every rule whose anchor is flagged in the trie of `s` -/
def Covers (s : State) (rs : List (Bytes × Rule)) : Prop :=
  ∀ (p : LRU) (b : Nat), p ≠ [] → s.lruNode p = some b → (s.cell b).flags.rule = true →
    p.flatten ∈ rs.map (·.1)

theorem rulesOk_iff_covers (s : State) : RulesOk s ↔ Covers s s.rules := by
  unfold RulesOk Covers
  constructor
  · intro h p b hne hn hr; exact (ua_dictGet?_isSome_iff _ _).mp (h p b hne hn hr)
  · intro h p b hne hn hr; exact (ua_dictGet?_isSome_iff _ _).mpr (h p b hne hn hr)

theorem covers_of_keys {s : State} (ok : RulesOk s) (rs : List (Bytes × Rule))
    (hk : ∀ k ∈ s.rules.map (·.1), k ∈ rs.map (·.1)) : Covers s rs :=
  fun p b hne hn hr => hk _ ((rulesOk_iff_covers s).mp ok p b hne hn hr)

/-- **`reopen d rs` keeps `RulesOk` exactly when `rs` covers the flagged anchors** (whether or not `RulesOk` held
    before: reopening with the right rules repairs an index opened with too few) -/
theorem rulesOk_reopen_iff {s : State} (d : Rule) (rs : List (Bytes × Rule)) :
    RulesOk (s.reopen d rs) ↔ Covers s rs := by
  have e : (s.reopen d rs).trie = s.trie := rfl
  unfold RulesOk Covers
  constructor
  · intro ok p b hne hn hr
    have := ok p b hne (by rw [lruNode_of_trie_eq e]; exact hn) (by rw [co_rule_of_trie_eq e]; exact hr)
    rw [ua_dictGet?_isSome_iff] at this
    rcases (ua_keys_foldl_dictSet rs [] _).mp this with h0 | h0
    · exact absurd h0 List.not_mem_nil
    · exact h0
  · intro cov p b hne hn hr
    rw [ua_dictGet?_isSome_iff]
    refine (ua_keys_foldl_dictSet rs [] _).mpr (Or.inr ?_)
    exact cov p b hne (by rw [← lruNode_of_trie_eq e]; exact hn) (by rw [← co_rule_of_trie_eq e]; exact hr)

theorem rulesOk_reopen {s : State} (d : Rule) (rs : List (Bytes × Rule))
    (hc : Covers s rs) : RulesOk (s.reopen d rs) := (rulesOk_reopen_iff d rs).mpr hc

theorem rulesOk_reopen_same {s : State} {t : T} (h : Shape s t) (ok : RulesOk s) (d : Rule) :
    RulesOk (s.reopen d s.rules) := rulesOk_reopen d s.rules ((rulesOk_iff_covers s).mp ok)

/-- `remove_webentity_creation_rule` on an anchor that is not in RAM: the dictionary look-up raises `KeyError`,
    nothing is changed -/
theorem removeRule_absent (s : State) (a : Bytes) (h : dictGet? s.rules a = none) :
    s.removeRule a = (s, .error (.other "KeyError")) := by
  unfold removeRule; rw [h]

theorem removeRule_present (s : State) (a : Bytes) (h : (dictGet? s.rules a).isSome) :
    (s.removeRule a).2 = .ok () ∨ (s.removeRule a).2 = .error .traph := by
  unfold removeRule
  cases hd : dictGet? s.rules a with
  | none => rw [hd] at h; cases h
  | some r =>
    simp only
    split
    · exact Or.inr rfl
    · exact Or.inl rfl

/-- **`removeRule` always keeps `RulesOk`**: a flagged block whose LRU spells the removed key is the block the
    request unflags (stems of the tree are well formed, so the LRU of a block is `lruIter` of its spelling) -/
theorem rulesOk_removeRule {s : State} {t : T} (h : Shape s t) (hw : WfStems s t) (a : Bytes) (ok : RulesOk s) :
    RulesOk (s.removeRule a).1 := by
  unfold removeRule
  cases hd : dictGet? s.rules a with
  | none => exact ok
  | some r =>
    simp only
    have e0 : ({ s with rules := s.rules.filter (fun p => p.1 ≠ a) } : State).trie = s.trie := rfl
    have k0 : Keeps s t { s with rules := s.rules.filter (fun p => p.1 ≠ a) } t := Keeps.of_trie_eq h e0
    -- a flagged block other than the block of `lruIter a` does not spell `a`, so its RAM entry stays
    have key : ∀ (p : LRU) (b : Nat), p ≠ [] →
        ({ s with rules := s.rules.filter (fun p => p.1 ≠ a) } : State).lruNode p = some b →
        (s.cell b).flags.rule = true →
        ({ s with rules := s.rules.filter (fun p => p.1 ≠ a) } : State).lruNode (lruIter a) ≠ some b →
        (dictGet? (s.rules.filter (fun p => p.1 ≠ a)) p.flatten).isSome := by
      intro p b hne hn0 hr hb
      have hn : s.lruNode p = some b := by rw [← lruNode_of_trie_eq e0]; exact hn0
      have hpa : p.flatten ≠ a := fun hpa => hb (by
        have hp : lruIter a = p := hpa ▸ hw.iter_flatten ((lruNode_iff_entries h p hne b).mp hn)
        rw [hp]; exact hn0)
      rw [oe_dictGet_erase, if_neg hpa]
      exact ok p b hne hn hr
    cases hn : ({ s with rules := s.rules.filter (fun p => p.1 ≠ a) } : State).lruNode (lruIter a) with
    | none => exact fun p b hne hnode hr => key p b hne hnode hr (by rw [hn]; exact nofun)
    | some n =>
      simp only
      have ns := noStruct_modCell ({ s with rules := s.rules.filter (fun p => p.1 ≠ a) } : State) n
        (fun c => { c with flags := { c.flags with rule := false } }) (fun _ => ⟨rfl, rfl, rfl, rfl, rfl⟩)
      intro p b hne hnode hr
      have hent := (lruNode_iff_entries (ns.shape k0.shape) p hne b).mp hnode
      rw [ns.entries] at hent
      rw [cell_modCell] at hr
      have hbn : b ≠ n := by
        intro hbn
        subst hbn
        rw [if_pos ⟨rfl, entry_lt k0.shape hent⟩] at hr
        simp at hr
      rw [if_neg (fun hh => hbn hh.1.symm)] at hr
      rw [rules_modCell]
      exact key p b hne ((lruNode_iff_entries k0.shape p hne b).mpr hent) hr
        (by rw [hn]; exact fun e => hbn (Option.some.inj e).symm)

/-- an anchor that is a complete, non-empty LRU (ends with the separator): its stems spell it entirely -/
def Canon (a : Bytes) : Prop := lruIter a ≠ [] ∧ (lruIter a).flatten = a

def rulesCanonical (rules : List (Bytes × Rule)) : Prop := ∀ ar ∈ rules, Canon ar.1

/-- **`clear` establishes `RulesOk`**: with `rules = None` the RAM rules are kept and the trie has no flag at all;
    with rules given, the index is the fresh index of the constructor -/
theorem rulesOk_clear (s : State) (d : Option Rule) (rs : Option (List (Bytes × Rule)))
    (hc : ∀ l, rs = some l → rulesCanonical l) : RulesOk (s.clear d rs).1 := by
  cases rs with
  | none => exact rulesOk_of_trie_init _ rfl
  | some l =>
    exact rulesOk_installRules l _ .nil (shape_of_trie_init _ rfl) (hc l rfl) (rulesOk_of_trie_init _ rfl)

def StepOk (s : State) : Op → Prop
  | .addRule a _ => Canon a
  | .removeRule a => (dictGet? s.rules a).isSome
  | .reopen _ rs => Covers s rs
  | .clear _ (some rs) => rulesCanonical rs
  | _ => True

/-- `StepOk s op` at every step of a history: anchors of installed rules (by `addRule` or by `clear`) are complete LRUs,
    every `reopen` re-supplies (at least) the rules whose anchors are flagged in the trie at that moment, every
    `removeRule` names a rule that is in RAM (otherwise see `removeRule_absent`) -/
def Disciplined : State → List Op → Prop
  | _, [] => True
  | s, op :: ops => StepOk s op ∧ Disciplined (s.step op).1 ops

theorem disciplined_append : ∀ (a b : List Op) (s : State),
    Disciplined s (a ++ b) ↔ Disciplined s a ∧ Disciplined (s.run a) b := by
  intro a
  induction a with
  | nil => intro b s; simp [Disciplined, State.run]
  | cons op a ih =>
    intro b s
    rw [List.cons_append]
    simp only [Disciplined]
    rw [ih b, run_cons, and_assoc]

theorem ua_ofExcept_ok_ne {α : Type} {f : α → Ans} {x : Except Err α} (hf : ∀ a, f a ≠ .err (.other "KeyError"))
    (h : ∃ a, x = .ok a) : Ans.ofExcept f x ≠ .err (.other "KeyError") := by
  obtain ⟨a, rfl⟩ := h; exact hf a

theorem ua_ofExcept_traph_ne {α : Type} {f : α → Ans} {x : Except Err α} (hf : ∀ a, f a ≠ .err (.other "KeyError"))
    (h : ∀ e, x = .error e → e = .traph) : Ans.ofExcept f x ≠ .err (.other "KeyError") := by
  cases x with
  | ok a => exact hf a
  | error e =>
    rw [h e rfl]
    simp [Ans.ofExcept]

theorem ua_addPrefixes_err (s : State) (ps : List Bytes) (best : Bool) (e : Err)
    (h : (s.addPrefixes ps best).2 = .error e) : e = .traph := by
  unfold addPrefixes at h
  rcases s.addPrefixesScan ps [] 0 with ⟨s1, valid, nInv⟩
  simp only at h
  split at h
  · cases h; rfl
  · split at h <;> cases h

theorem ua_createWebentity_err (s : State) (ps : List Bytes) (e : Err)
    (h : (s.createWebentity ps).2 = .error e) : e = .traph := by
  have := ua_addPrefixes_err s ps false
  unfold createWebentity at h
  split at h
  · rename_i e' heq
    cases h
    exact this e (by rw [heq])
  · cases h

theorem ua_deleteScanChecked_err (s : State) (w : Nat) : ∀ (ps : List Bytes) (idx : List (Bytes × Nat)) (e : Err),
    deleteScanChecked s w ps idx = .error e → e = .traph := by
  intro ps
  induction ps with
  | nil => intro idx e; rw [deleteScanChecked]; intro h; cases h
  | cons p ps ih =>
    intro idx e
    rw [deleteScanChecked]
    intro h
    split at h
    · cases h; rfl
    · split at h
      · cases h; rfl
      · exact ih _ e h

theorem ua_deleteWebentity_err (s : State) (w : Nat) (ps : List Bytes) (e : Err)
    (h : (s.deleteWebentity w ps).2 = .error e) : e = .traph := by
  unfold deleteWebentity at h
  split at h
  · rename_i e' heq; cases h; exact ua_deleteScanChecked_err s w ps [] e heq
  · cases h

theorem ua_addPrefix_err (s : State) (p : Bytes) (w : Nat) (e : Err)
    (h : (s.addPrefix p w).2 = .error e) : e = .traph := by
  unfold addPrefix at h
  rcases s.addLru (lruIter p) true with ⟨s1, n, hh⟩
  simp only at h
  split at h <;> cases h
  rfl

theorem ua_removePrefix_err (s : State) (p : Bytes) (w : Option Nat) (e : Err)
    (h : (s.removePrefix p w).2 = .error e) : e = .traph := by
  unfold removePrefix at h
  simp only at h
  repeat' split at h
  all_goals first | (cases h; rfl) | cases h

theorem ua_movePrefix_err (s : State) (p : Bytes) (tg : Nat) (f : Option Nat) (e : Err)
    (h : (s.movePrefix p tg f).2 = .error e) : e = .traph := by
  have h1 := ua_removePrefix_err s p f
  unfold movePrefix at h
  split at h
  · rename_i e' heq; cases h; exact h1 e (by rw [heq])
  · exact ua_addPrefix_err _ p tg e h

theorem step_noKeyErr {s : State} {t : T} (h : Shape s t) (ok : RulesOk s) (op : Op) (hd : StepOk s op) :
    (s.step op).2 ≠ .err (.other "KeyError") := by
  have hrep : ∀ r : Report, Ans.report r ≠ .err (.other "KeyError") := fun _ e => by cases e
  have hunit : ∀ _u : Unit, Ans.unit ≠ .err (.other "KeyError") := fun _ e => by cases e
  cases op with
  | addPage l c => simp only [step_addPage, addPage_eq]; exact ua_ofExcept_ok_ne hrep (addPageCore_ok h ok l c)
  | addPages ls c => simp only [step_addPages]; exact ua_ofExcept_ok_ne hrep ((paged_addPagesGo _ ls s c {}).rulesOk h ok).2
  | addLinks links => simp only [step_addLinks]; exact ua_ofExcept_ok_ne hrep ((paged_addLinks s links).rulesOk h ok).2
  | batch data => simp only [step_batch]; exact ua_ofExcept_ok_ne hrep (batch_ok h ok data)
  | create ps => simp only [step_create]; exact ua_ofExcept_traph_ne hrep (ua_createWebentity_err s ps)
  | delete w ps => simp only [step_delete]; exact ua_ofExcept_traph_ne hunit (ua_deleteWebentity_err s w ps)
  | addPrefix p w => simp only [step_addPrefix]; exact ua_ofExcept_traph_ne hunit (ua_addPrefix_err s p w)
  | removePrefix p w => simp only [step_removePrefix]; exact ua_ofExcept_traph_ne hunit (ua_removePrefix_err s p w)
  | movePrefix p tg f => simp only [step_movePrefix]; exact ua_ofExcept_traph_ne hunit (ua_movePrefix_err s p tg f)
  | addRule a r => simp only [step_addRule]; exact ua_ofExcept_ok_ne hrep (addRule_ok h ok a r hd.1 hd.2)
  | removeRule a =>
    simp only [step_removeRule]
    rcases removeRule_present s a hd with h1 | h1 <;> rw [h1] <;> simp [Ans.ofExcept]
  | reopen d rs => intro e; cases e
  | clear d rs =>
    obtain ⟨_, _, _, _, hok, _⟩ := clear_known s d rs
    simp only [step_clear, hok]
    exact hunit ()

theorem rulesOk_step_all {s : State} {t : T} (h : Shape s t) (hw : WfStems s t) (ok : RulesOk s) (op : Op)
    (hd : StepOk s op) : RulesOk (s.step op).1 := by
  cases op with
  | removeRule a => simp only [step_removeRule]; exact rulesOk_removeRule h hw a ok
  | reopen d rs => simp only [step_reopen]; exact rulesOk_reopen d rs hd
  | clear d rs =>
    simp only [step_clear]
    exact rulesOk_clear s d rs (fun l hl => by subst hl; exact hd)
  | addRule a r => exact rulesOk_step h _ hd ok
  | _ => exact rulesOk_step h _ trivial ok

/-- **the discipline implies that no request of the history answers `KeyError`**, and `RulesOk` holds at the end
    (hence at every moment: apply it to the prefixes of the history) -/
theorem disciplined_run : ∀ (ops : List Op) (s : State) (t : T), Good s t → RulesOk s → Disciplined s ops →
    NoKeyErr s ops ∧ RulesOk (s.run ops) ∧ ∃ t', Good (s.run ops) t' := by
  intro ops
  induction ops with
  | nil => exact fun s t g ok _ => ⟨trivial, ok, t, g⟩
  | cons op ops ih =>
    intro s t g ok hd
    obtain ⟨t1, g1⟩ := good_step_any g op
    have ok1 := rulesOk_step_all g.shape g.wf ok op hd.1
    obtain ⟨n, r, g'⟩ := ih (s.step op).1 t1 g1 ok1 hd.2
    exact ⟨⟨step_noKeyErr g.shape ok op hd.1, n⟩, r, g'⟩

theorem disciplined_noKeyErr {s : State} {t : T} {ops : List Op} (g : Good s t) (ok : RulesOk s)
    (hd : Disciplined s ops) : NoKeyErr s ops := (disciplined_run ops s t g ok hd).1

theorem disciplined_rulesOk {s : State} {t : T} {ops : List Op} (g : Good s t) (ok : RulesOk s)
    (hd : Disciplined s ops) : RulesOk (s.run ops) := (disciplined_run ops s t g ok hd).2.1

theorem disciplined_fresh (cfg : Config) (dflt : Rule) (rules : List (Bytes × Rule)) (log : List Write)
    (ops : List Op) (hr : rulesCanonical rules) (hd : Disciplined (State.fresh cfg dflt rules log).1 ops) :
    NoKeyErr (State.fresh cfg dflt rules log).1 ops ∧ RulesOk ((State.fresh cfg dflt rules log).1.run ops) := by
  obtain ⟨t0, g0, _⟩ := fresh_known cfg dflt rules log
  obtain ⟨n, r, _⟩ := disciplined_run ops _ t0 g0 (rulesOk_fresh cfg dflt rules log hr) hd
  exact ⟨n, r⟩

section Examples

def uaA : Bytes := [97, 124]                 -- `a|`
def uaAB : Bytes := [97, 124, 98, 124]       -- `a|b|`
def uaAC : Bytes := [97, 124, 99, 124]       -- `a|c|`
def uaBad : Bytes := [97, 124, 98]           -- `a|b`, not a complete LRU
def uaS0 : State := (State.fresh {} .never [(uaA, .domain)] []).1
/-- a constructor rule, `addRule`, a `reopen` that re-supplies the two rules (in the other order, with other
    patterns), `removeRule`, both forms of `clear` -/
def uaExOps : List Op :=
  [.addRule uaAB .subdomain, .addPage uaAC true, .reopen .never [(uaAB, .domain), (uaA, .never)],
   .addPage uaAB false, .removeRule uaAB, .addLinks [(uaAB, uaAC)], .clear none none, .addPage uaAC false,
   .clear (some .domain) (some [(uaAC, .path 1)]), .batch [(uaAC, [uaAB, uaA])], .removeRule uaAC]

theorem uaEx_disciplined : rulesCanonical [(uaA, Rule.domain)] ∧ Disciplined uaS0 uaExOps ∧
    NoKeyErr uaS0 uaExOps := by
  have hc : rulesCanonical [(uaA, Rule.domain)] := by
    intro ar har
    simp only [List.mem_singleton] at har
    subst har
    exact ⟨by decide, by decide⟩
  obtain ⟨t0, g0, _⟩ := fresh_known {} .never [(uaA, .domain)] []
  have ok0 : RulesOk uaS0 := rulesOk_fresh {} .never [(uaA, .domain)] [] hc
  have hpre : Disciplined uaS0 [.addRule uaAB .subdomain, .addPage uaAC true] :=
    ⟨⟨by decide, by decide⟩, trivial, trivial⟩
  obtain ⟨_, ok1, t1, g1⟩ := disciplined_run _ uaS0 t0 g0 ok0 hpre
  have hd : Disciplined uaS0 uaExOps := by
    show Disciplined uaS0 ([.addRule uaAB .subdomain, .addPage uaAC true] ++ _)
    rw [disciplined_append]
    refine ⟨hpre, covers_of_keys ok1 _ (by decide), trivial, by simp only [StepOk]; decide, trivial, trivial, trivial,
      ?_, trivial, by simp only [StepOk]; decide, trivial⟩
    intro ar har
    simp only [List.mem_singleton] at har
    subst har
    exact ⟨by decide, by decide⟩
  exact ⟨hc, hd, disciplined_noKeyErr g0 ok0 hd⟩

/-- an anchor that is not a complete LRU: the flag goes to the block of `a|`, the RAM key is `a|b` — the next page
    below `a|` is refused with `KeyError` -/
example : (((State.fresh {} .never [] []).1.run [.addRule uaBad .domain]).step (.addPage uaAC false)).2
    = .err (.other "KeyError") := by decide

/-- reopening without re-supplying a flagged rule: `KeyError` on the next page below the anchor -/
example : (((State.fresh {} .never [] []).1.run [.addRule uaA .domain, .reopen .never []]).step
    (.addPage uaAC false)).2 = .err (.other "KeyError") := by decide

/-- removing a rule that is not in RAM: `KeyError` from the dictionary itself, the state is unchanged -/
example : ((State.fresh {} .never [] []).1.step (.removeRule uaA)).2 = .err (.other "KeyError") := by decide

/-- removing a rule that is in RAM but whose anchor is not in the trie (supplied at reopen only): the library's own
    error, after the RAM entry has been dropped -/
example : (((State.fresh {} .never [] []).1.run [.reopen .never [(uaA, .domain)]]).step (.removeRule uaA)).2
      = .err .traph ∧
    (((State.fresh {} .never [] []).1.run [.reopen .never [(uaA, .domain)]]).step (.removeRule uaA)).1.rules = [] := by
  decide

end Examples

#print axioms rulesOk_reopen_iff
#print axioms rulesOk_removeRule
#print axioms rulesOk_clear
#print axioms step_noKeyErr
#print axioms rulesOk_step_all
#print axioms disciplined_run
#print axioms disciplined_fresh

end Traph
