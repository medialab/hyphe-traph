import Proofs.StorageSim
import Proofs.Codec
import Proofs.StorageNoZero
/-! C15, the bridge between the index and its storage back-ends. `Proofs/StorageSim.lean` shows that `FileStorage`,
    `MemoryStorage` and `MemMapStorage` simulate one abstract list of whole blocks under a call discipline; this file
    shows that the storage calls the index ACTUALLY issues obey that discipline, for every history.

    An entry of the ghost write log is rendered as a storage call (`Write.call`). A call that is admissible for the
    decoded files `f` (`Write.sb_Ok`: an in-place cell write hits an existing block other than the header block, an
    append finds its header) is disciplined and turns the blocks of `f` into the blocks of `f.apply w`
    (`sb_write_sim`); every call of every history is admissible at the moment it is issued (`sb_history_ok`:
    truncations of `clear` included, no hypothesis on the history). That no cell write hits the header block is
    `sb_NZ`, carried in `sb_G` (Proofs/StorageNoZero). -/
namespace Traph
open State Layout LayoutOk

inductive sb_StoreId where
  | trie
  | links
deriving DecidableEq, Repr

def sb_StoreId.bs : sb_StoreId → Nat
  | .trie => trieBlock
  | .links => linkBlock

def Write.sb_store : Write → sb_StoreId
  | .hdr _ | .trieAppend _ | .trieSet _ _ => .trie
  | .linkHdr | .linkAppend _ => .links

def Write.sb_data : Write → Bytes
  | .hdr id => encodeTrieHeader id
  | .trieAppend c => encodeCell c
  | .trieSet _ c => encodeCell c
  | .linkHdr => encodeLinkHeader
  | .linkAppend s => encodeStub s

/-- explicit byte offset, `none` = append -/
def Write.sb_block : Write → Option Nat
  | .hdr _ => some 0
  | .trieAppend _ => none
  | .trieSet i _ => some (i * trieBlock)
  | .linkHdr => some 0
  | .linkAppend _ => none

/-- the storage call of one log entry: which store, and `storage.write(data, block)` -/
def Write.call (w : Write) : sb_StoreId × SOp := (w.sb_store, .write w.sb_data w.sb_block)

/-- `writeBytes` of `Traph/Crash.lean` (the driver's rendering, which `Main.lean` fingerprints), written out -/
def sb_writeBytes : Write → Nat × Nat × Bytes      -- (kind, offset, data)
  | .hdr id => (0, 0, encodeTrieHeader id)
  | .trieAppend c => (1, 0, encodeCell c)
  | .trieSet i c => (0, i * Layout.trieBlock, encodeCell c)
  | .linkHdr => (2, 0, encodeLinkHeader)
  | .linkAppend s => (3, 0, encodeStub s)

/-- the harness's reading of a triple (`_kind` in harness/impl.py): kind 0 = trie write at `off`, 1 = trie append,
    2 = link write at `off`, 3 = link append -/
def sb_callOfBytes : Nat × Nat × Bytes → sb_StoreId × SOp
  | (0, off, d) => (.trie, .write d (some off))
  | (1, _, d) => (.trie, .write d none)
  | (2, off, d) => (.links, .write d (some off))
  | (_, _, d) => (.links, .write d none)

theorem sb_writeBytes_eq_driver : sb_writeBytes = writeBytes := rfl

theorem sb_call_eq_writeBytes (w : Write) : w.call = sb_callOfBytes (sb_writeBytes w) := by
  cases w <;> rfl

/-- unconditional: the four encoders are fixed-width (over-long chunks are truncated, numbers wrap) -/
theorem sb_data_length (w : Write) : w.sb_data.length = w.sb_store.bs := by
  cases w
  · exact encodeTrieHeader_length _
  · exact encodeCell_length' _
  · exact encodeCell_length' _
  · exact encodeLinkHeader_length
  · exact encodeStub_length' _

/-- `storeBlocks (encodeTrieHeader f.hdrId) encodeCell f.trie` of Proofs/Codec by `rfl` (`sb_linkBlocks` likewise), written out: Proofs/StorageImages unfolds the `if` -/
def Files.sb_trieBlocks (f : Files) : List Bytes :=
  if f.trie.size = 0 then [] else encodeTrieHeader f.hdrId :: (f.trie.toList.drop 1).map encodeCell

def Files.sb_linkBlocks (f : Files) : List Bytes :=
  if f.links.size = 0 then [] else encodeLinkHeader :: (f.links.toList.drop 1).map encodeStub

def Files.sb_blocks (f : Files) : sb_StoreId → Blocks
  | .trie => ⟨trieBlock, f.sb_trieBlocks⟩
  | .links => ⟨linkBlock, f.sb_linkBlocks⟩

def Files.sb_image (f : Files) (st : sb_StoreId) : Bytes := (f.sb_blocks st).bytes

@[simp] theorem sb_blocks_bs (f : Files) (st : sb_StoreId) : (f.sb_blocks st).bs = st.bs := by
  cases st <;> rfl

theorem sb_drop_one_set {α : Type} (l : List α) (i : Nat) (x : α) (hi : 0 < i) :
    (l.set i x).drop 1 = (l.drop 1).set (i - 1) x := by
  cases l with
  | nil => simp
  | cons a l =>
    cases i with
    | zero => omega
    | succ k => simp

section store
variable {α : Type} (hdr : Bytes) (enc : α → Bytes) (a : Array α)

/-- a header write creates the header block of an empty store, and replaces it otherwise -/
theorem storeBlocks_hdr (hdr' : Bytes) (d : α) (bs : Nat) :
    ((⟨bs, storeBlocks hdr enc a⟩ : Blocks).write hdr' (some 0)).1 =
      ⟨bs, storeBlocks hdr' enc (if a.size = 0 then #[d] else a)⟩ := by
  unfold Blocks.write storeBlocks
  by_cases h0 : a.size = 0
  · simp [h0]
  · simp [h0]

theorem storeBlocks_push (h0 : 0 < a.size) (c : α) (bs : Nat) :
    ((⟨bs, storeBlocks hdr enc a⟩ : Blocks).write (enc c) none).1 = ⟨bs, storeBlocks hdr enc (a.push c)⟩ := by
  have hl : 0 < a.toList.length := by rw [Array.length_toList]; exact h0
  unfold Blocks.write storeBlocks
  rw [if_neg (Nat.ne_of_gt h0), if_neg (by simp)]
  simp [List.drop_append_of_le_length hl]

theorem storeBlocks_set {i : Nat} (hi0 : 0 < i) (hi : i < a.size) (c : α) {bs : Nat} (hbs : 0 < bs) :
    ((⟨bs, storeBlocks hdr enc a⟩ : Blocks).write (enc c) (some (i * bs))).1 =
      ⟨bs, storeBlocks hdr enc (a.setIfInBounds i c)⟩ := by
  have hlen : i < (storeBlocks hdr enc a).length := by rw [storeBlocks_length]; exact hi
  unfold Blocks.write
  simp only [Nat.mul_div_cancel _ hbs, if_pos hlen]
  unfold storeBlocks
  rw [if_neg (Nat.ne_of_gt (Nat.zero_lt_of_lt hi)),
    if_neg (by rw [Array.size_setIfInBounds]; exact Nat.ne_of_gt (Nat.zero_lt_of_lt hi)), Array.toList_setIfInBounds,
    sb_drop_one_set _ _ _ hi0, List.map_set]
  obtain ⟨k, rfl⟩ := Nat.exists_eq_add_one_of_ne_zero (Nat.ne_of_gt hi0)
  rfl

theorem storeBlocks_zero (h : 0 < a.size) : (storeBlocks hdr enc a)[0]? = some hdr := by
  rw [storeBlocks, if_neg (Nat.ne_of_gt h)]; rfl

theorem storeBlocks_get (b : Nat) (h0 : 0 < b) (hb : b < a.size) :
    (storeBlocks hdr enc a)[b]? = some (enc a[b]) := by
  obtain ⟨k, rfl⟩ := Nat.exists_eq_add_one_of_ne_zero (Nat.ne_of_gt h0)
  rw [storeBlocks, if_neg (Nat.ne_of_gt (Nat.zero_lt_of_lt hb)), List.getElem?_cons_succ, List.getElem?_map,
    List.getElem?_drop, Nat.add_comm 1 k, Array.getElem?_toList, Array.getElem?_eq_getElem hb]; rfl

end store
theorem sb_trieBlocks_length (f : Files) : f.sb_trieBlocks.length = f.trie.size := storeBlocks_length _ _ _

theorem sb_linkBlocks_length (f : Files) : f.sb_linkBlocks.length = f.links.size := storeBlocks_length _ _ _

theorem sb_blocks_wf (f : Files) (st : sb_StoreId) : (f.sb_blocks st).Wf := by
  cases st
  · exact ⟨(by decide : 0 < trieBlock), storeBlocks_uniform _ _ _ (encodeTrieHeader_length _) encodeCell_length'⟩
  · exact ⟨(by decide : 0 < linkBlock), storeBlocks_uniform _ _ _ encodeLinkHeader_length encodeStub_length'⟩
theorem sb_image_trie (s : State) : s.files.sb_image .trie = encodeTrie s := (encodeTrie_blocks s).symm

theorem sb_image_links (s : State) : s.files.sb_image .links = encodeLinks s := (encodeLinks_blocks s).symm

def Write.sb_Ok (f : Files) : Write → Prop
  | .hdr _ => True
  | .trieAppend _ => 0 < f.trie.size
  | .trieSet i _ => 0 < i ∧ i < f.trie.size
  | .linkHdr => True
  | .linkAppend _ => 0 < f.links.size

theorem sb_write_sim (f : Files) (w : Write) (hok : w.sb_Ok f) :
    (f.sb_blocks w.sb_store).Disciplined w.sb_data w.sb_block ∧
    ((f.sb_blocks w.sb_store).write w.sb_data w.sb_block).1 = (f.apply w).sb_blocks w.sb_store ∧
    (∀ st, st ≠ w.sb_store → (f.apply w).sb_blocks st = f.sb_blocks st) := by
  refine ⟨⟨by rw [sb_blocks_bs]; exact sb_data_length w, ?_⟩, ?_, ?_⟩
  · -- aligned, and inside or exactly at the end of the store
    intro off hoff
    cases w with
    | hdr id => cases hoff; exact ⟨Nat.zero_mod _, by rw [Nat.zero_div]; exact Nat.zero_le _⟩
    | trieAppend c => cases hoff
    | trieSet i c =>
      cases hoff
      simp only [Write.sb_store, Files.sb_blocks]
      refine ⟨Nat.mul_mod_left _ _, ?_⟩
      rw [Nat.mul_div_cancel _ (by decide : 0 < trieBlock), sb_trieBlocks_length]
      exact Nat.le_of_lt hok.2
    | linkHdr => cases hoff; exact ⟨Nat.zero_mod _, by rw [Nat.zero_div]; exact Nat.zero_le _⟩
    | linkAppend s => cases hoff
  · cases w with
    | hdr id => exact storeBlocks_hdr (encodeTrieHeader f.hdrId) encodeCell f.trie (encodeTrieHeader id) {} trieBlock
    | trieAppend c => exact storeBlocks_push (encodeTrieHeader f.hdrId) encodeCell f.trie hok c trieBlock
    | trieSet i c =>
      exact storeBlocks_set (encodeTrieHeader f.hdrId) encodeCell f.trie hok.1 hok.2 c (by decide : 0 < trieBlock)
    | linkHdr => exact storeBlocks_hdr encodeLinkHeader encodeStub f.links encodeLinkHeader {} linkBlock
    | linkAppend s => exact storeBlocks_push encodeLinkHeader encodeStub f.links hok s linkBlock
  · intro st hst
    cases w <;> cases st <;> first | exact absurd rfl hst | rfl

/-- WHY `0 < i` in `Write.sb_Ok`: an in-place cell write at block 0 is perfectly disciplined for the storage
    machines (aligned, inside the store, one block) but it overwrites the header block — the abstract blocks are
    then no longer those of the decoded files, i.e. the store no longer holds `encodeTrie`. (`encodeTrie` renders
    block 0 from `hdrId`, not from cell 0.) That no history issues such a call is `sb_history_nz`. -/
theorem sb_zero_write_breaks_image :
    ((({ hdrId := 0, trie := #[{}], links := #[{}] } : Files).sb_blocks .trie).write
        (Write.trieSet 0 {}).sb_data (Write.trieSet 0 {}).sb_block).1 ≠
      (({ hdrId := 0, trie := #[{}], links := #[{}] } : Files).apply (.trieSet 0 {})).sb_blocks .trie := by
  decide

theorem sb_append_returns (f : Files) (w : Write) (h : w.sb_block = none) :
    ((f.sb_blocks w.sb_store).write w.sb_data w.sb_block).2 =
      (match w.sb_store with | .trie => f.trie.size | .links => f.links.size) * w.sb_store.bs := by
  cases w with
  | hdr id => cases h
  | trieSet i c => cases h
  | linkHdr => cases h
  | trieAppend c =>
    simp [Write.sb_store, Write.sb_block, Files.sb_blocks, Blocks.write, sb_trieBlocks_length, sb_StoreId.bs]
  | linkAppend s =>
    simp [Write.sb_store, Write.sb_block, Files.sb_blocks, Blocks.write, sb_linkBlocks_length, sb_StoreId.bs]

def Event.sb_Ok (f : Files) : Event → Prop
  | .write w => w.sb_Ok f
  | _ => True

/-- oldest first; each event (a write, or a truncation of `clear`) is admissible for the files it finds -/
def sb_EvOk : Files → List Event → Prop
  | _, [] => True
  | f, e :: es => e.sb_Ok f ∧ sb_EvOk (f.applyE e) es

theorem sb_evOk_append (a b : List Event) : ∀ (f : Files),
    sb_EvOk f (a ++ b) ↔ sb_EvOk f a ∧ sb_EvOk (a.foldl Files.applyE f) b := by
  induction a with
  | nil => intro f; simp [sb_EvOk]
  | cons w a ih => intro f; simp only [List.cons_append, sb_EvOk, List.foldl_cons, ih, and_assoc]

theorem sb_evOk_map_write (ws : List Write) : ∀ (f : Files), sb_EvOk f (ws.map .write) ↔ WsAll Write.sb_Ok f ws := by
  induction ws with
  | nil => intro f; simp [sb_EvOk, WsAll]
  | cons w ws ih => intro f; simp only [List.map_cons, sb_EvOk, WsAll, Event.sb_Ok, Files.applyE, ih]

theorem sb_evOk_take (es : List Event) (k : Nat) (f : Files) (h : sb_EvOk f es) : sb_EvOk f (es.take k) := by
  have := (sb_evOk_append (es.take k) (es.drop k) f).mp (by rw [List.take_append_drop]; exact h)
  exact this.1

theorem Write.Inc.sb_ok {f : Files} {w : Write} (h : w.Inc f) (hz : ∀ c, w ≠ .trieSet 0 c) : w.sb_Ok f := by
  cases w with
  | trieSet i c =>
    obtain ⟨c0, h0, _⟩ := h
    exact ⟨Nat.pos_of_ne_zero fun e => hz c (e ▸ rfl), (Array.getElem?_eq_some_iff.mp h0).1⟩
  | _ => exact h

theorem Writes.sb_ok {s s' : State} {ws : List Write} (h : Writes Write.Inc s ws s') (hz : sb_NZ s'.log) :
    WsAll Write.sb_Ok s.files ws :=
  (WsAll.and_mem (P := fun w => ∀ c, w ≠ .trieSet 0 c) _ _ h.all fun w hw c e =>
    hz c (by rw [h.log, ← e]; exact List.mem_append_left _ (List.mem_reverse.mpr hw))).imp fun _ _ hq => hq.1.sb_ok hq.2

theorem Logged.sb_ok {s : State} (h : Logged Write.Inc s) (hz : sb_NZ s.log) : WsAll Write.sb_Ok {} s.log.reverse :=
  (WsAll.and_mem (P := fun w => ∀ c, w ≠ .trieSet 0 c) _ _ h.2 fun w hw c e =>
    hz c (e ▸ List.mem_reverse.mp hw)).imp fun _ _ hq => hq.1.sb_ok hq.2

theorem sb_stepEvents_ok (s : State) (hl : Live s) (op : Op) (hz : sb_NZ (s.step op).1.log) :
    sb_EvOk s.files (s.stepEvents op) := by
  cases hc : op.isClear with
  | false =>
    rw [stepEvents_noclear s op hc, sb_evOk_map_write]
    exact (step_writes s hl op hc).sb_ok hz
  | true =>
    obtain ⟨d, rs, rfl⟩ := Op.eq_clear_of_isClear hc
    -- `clear`: its two truncations and all its writes are admissible, whatever the files were
    rw [stepEvents_clear, sb_evOk_append, foldl_clearTruncations, sb_evOk_map_write, ← cleared_log]
    refine ⟨⟨trivial, trivial, trivial⟩, (logged_cleared s d rs).sb_ok fun c hm => hz c ?_⟩
    rw [step_clear_eq]; exact List.mem_append_left _ hm

theorem sb_events_ok : ∀ (ops : List Op) (s : State), Live s → sb_G s → sb_EvOk s.files (s.events ops)
  | [], _, _, _ => trivial
  | op :: ops, s, hl, hg => by
    have hg1 := sb_G_step hg op
    rw [events_cons, sb_evOk_append, stepEvents_end s hl]
    exact ⟨sb_stepEvents_ok s hl op hg1.nz, sb_events_ok ops _ (live_hist.step s op hl) hg1⟩

/-- The whole event history of a session — the constructor's writes, then
    for each request its writes, preceded by the two truncations if it is a `clear` — starting from two empty
    stores: every storage call is admissible at the moment it is issued (headers first, appends onto an existing
    header, in-place cell writes onto an existing block ≥ 1). Any configuration, any constructor rules, any
    requests. -/
theorem sb_history_ok (cfg : Config) (dflt : Rule) (rules : List (Bytes × Rule)) (ops : List Op) :
    sb_EvOk {} (historyEvents cfg dflt rules ops) := by
  have hg : sb_G (State.fresh cfg dflt rules []).1 := sb_G_fresh cfg dflt rules [] (by intro c h; cases h)
  unfold historyEvents
  rw [sb_evOk_append, sb_evOk_map_write, foldl_applyE_map_write]
  refine ⟨(logged_fresh cfg dflt rules [] (fun _ h => nomatch h)).sb_ok hg.nz, ?_⟩
  rw [show (freshWrites cfg dflt rules).foldl Files.apply {} = _ from goodLog_fresh cfg dflt rules]
  exact sb_events_ok ops _ (live_fresh cfg dflt rules []) hg

#print axioms sb_write_sim
#print axioms sb_history_ok

end Traph
