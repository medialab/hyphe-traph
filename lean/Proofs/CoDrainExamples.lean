import Traph.Co
/-! C16 — the six machines of `QSt` (seven read-only generators, `.cited` serving two) drained on a fixed index
    (`QSt.drain`, i.e. `run_iterator`) give the answers of the atomic requests of `Traph/Api.lean`: checked here by
    kernel evaluation on a concrete index with two hosts, a nested webentity, crawled and uncrawled pages, weighted,
    internal, inbound and outbound links and a prefix that is not in the index. (The general statement is proved per
    machine in `Proofs/CoDrain*.lean`.) -/
namespace Traph.DrainEx
open Traph State

def b (s : String) : Bytes := s.toList.map (·.toNat)
def pa : Bytes := b "s:http|h:com|h:a|"
def pb : Bytes := b "s:http|h:com|h:b|"

/-- the index: webentity 1 on `…h:a|`, pages below it, links to and from host `b` (webentity 2, created by the
    default rule), a webentity carved out below `…h:a|p:x|`, a crawl batch -/
def idx : State := (State.fresh {} .domain [] []).1.run
  [.create [pa], .addPage (b "s:http|h:com|h:a|p:x|") false, .addPage (b "s:http|h:com|h:a|p:x|p:y|") true,
   .addLinks [(b "s:http|h:com|h:a|p:x|", b "s:http|h:com|h:b|p:1|"), (b "s:http|h:com|h:a|p:x|", b "s:http|h:com|h:a|p:x|p:y|"),
              (b "s:http|h:com|h:b|p:1|", b "s:http|h:com|h:a|p:x|"), (b "s:http|h:com|h:a|p:x|", b "s:http|h:com|h:b|p:1|"),
              (b "s:http|h:com|h:b|p:2|", b "s:http|h:com|h:a|p:q|")],
   .create [b "s:http|h:com|h:a|p:x|p:y|"],
   .batch [(b "s:http|h:com|h:a|p:m|", [b "s:http|h:com|h:a|p:x|", b "s:http|h:org|h:c|"])]]

/-- the forms the evaluations run on (why: `Phantom.bytes`, Proofs/CoPhantom) -/
theorem bytes :
    pa = [115, 58, 104, 116, 116, 112, 124, 104, 58, 99, 111, 109, 124, 104, 58, 97, 124] ∧
    pb = [115, 58, 104, 116, 116, 112, 124, 104, 58, 99, 111, 109, 124, 104, 58, 98, 124] ∧
    b "s:http|h:com|h:a|p:x|" = pa ++ [112, 58, 120, 124] ∧
    b "s:http|h:com|h:a|p:x|p:y|" = pa ++ [112, 58, 120, 124, 112, 58, 121, 124] ∧
    b "s:http|h:com|h:a|p:q|" = pa ++ [112, 58, 113, 124] ∧ b "s:http|h:com|h:a|p:m|" = pa ++ [112, 58, 109, 124] ∧
    b "s:http|h:com|h:b|p:1|" = pb ++ [112, 58, 49, 124] ∧ b "s:http|h:com|h:b|p:2|" = pb ++ [112, 58, 50, 124] ∧
    b "s:http|h:org|h:c|" = [115, 58, 104, 116, 116, 112, 124, 104, 58, 111, 114, 103, 124, 104, 58, 99, 124] ∧
    b "zz|" = [122, 122, 124] := by
  simp only [pa, pb, b]
  iterate 10 rw [String.toList_ofList]
  decide +kernel

/-- what is evaluated, in one run of the kernel so that the six requests behind `idx` are computed once: the six
    statements below, word for word -/
theorem facts :
    (QSt.drain idx 100 (.crawled { cur := { prefixes := [pa, pb] } }) = idx.ask (.crawledPages [pa, pb]) ∧
      idx.ask (.crawledPages [pa, pb]) ≠ .pages []) ∧
    (QSt.drain idx 100 (.mostLinked { cur := { prefixes := [pa, pb] }, k := 3 }) = idx.ask (.mostLinked [pa, pb] 3 none) ∧
      QSt.drain idx 100 (.mostLinked { cur := { prefixes := [pa], depth := some 0 }, k := 10 }) = idx.ask (.mostLinked [pa] 10 (some 0)) ∧
      QSt.drain idx 100 (.mostLinked { cur := { prefixes := [pa], depth := some 1 }, k := 0 }) = idx.ask (.mostLinked [pa] 0 (some 1))) ∧
    (QSt.drain idx 100 (.children { cur := { prefixes := [pa], skip := true }, weid := 1 }) = idx.ask (.children 1 [pa]) ∧
      idx.ask (.children 1 [pa]) = .nats [3]) ∧
    (QSt.drain idx 100 (.pagelinks { cur := { prefixes := [pa] }, weid := 1, incIn := true, incInt := true, incOut := true })
        = idx.ask (.pagelinks 1 [pa] true true true) ∧
      QSt.drain idx 100 (.pagelinks { cur := { prefixes := [pa] }, weid := 1, incIn := false, incInt := true, incOut := false })
        = idx.ask (.pagelinks 1 [pa] false true false) ∧
      QSt.drain idx 100 (.pagelinks { cur := { prefixes := [pb] }, weid := 2, incIn := true, incInt := false, incOut := false })
        = idx.ask (.pagelinks 2 [pb] true false false) ∧
      QSt.drain idx 100 (.pagelinks { cur := { prefixes := [pa] }, weid := 1, incIn := false, incInt := false, incOut := false })
        = .err .traph) ∧
    (QSt.drain idx 100 (.cited { cur := { prefixes := [pa] }, out := true }) = idx.ask (.cited [pa] true) ∧
      QSt.drain idx 100 (.cited { cur := { prefixes := [pa] }, out := false }) = idx.ask (.cited [pa] false) ∧
      idx.ask (.cited [pa] true) = .nats [1, 2, 3, 4] ∧
      QSt.drain idx 100 (.cited { cur := { prefixes := [pa, b "zz|"] }, out := true }) = .err .traph ∧
      idx.ask (.cited [pa, b "zz|"] true) = .err .traph) ∧
    (QSt.drain idx 100 (.netSlow { out := true, auto := true }) = idx.ask (.network true true true) ∧
      QSt.drain idx 100 (.netSlow { out := false, auto := false }) = idx.ask (.network false false true) ∧
      QSt.drain idx 100 (.netSlow { out := true, auto := false }) = idx.ask (.network true false true)) := by
  rw [idx]
  simp only [bytes]
  decide +kernel

theorem crawled_drain :
    QSt.drain idx 100 (.crawled { cur := { prefixes := [pa, pb] } }) = idx.ask (.crawledPages [pa, pb]) ∧
    idx.ask (.crawledPages [pa, pb]) ≠ .pages [] := facts.1

theorem mostLinked_drain :
    QSt.drain idx 100 (.mostLinked { cur := { prefixes := [pa, pb] }, k := 3 }) = idx.ask (.mostLinked [pa, pb] 3 none) ∧
    QSt.drain idx 100 (.mostLinked { cur := { prefixes := [pa], depth := some 0 }, k := 10 }) = idx.ask (.mostLinked [pa] 10 (some 0)) ∧
    QSt.drain idx 100 (.mostLinked { cur := { prefixes := [pa], depth := some 1 }, k := 0 }) = idx.ask (.mostLinked [pa] 0 (some 1)) := facts.2.1

theorem children_drain :
    QSt.drain idx 100 (.children { cur := { prefixes := [pa], skip := true }, weid := 1 }) = idx.ask (.children 1 [pa]) ∧
    idx.ask (.children 1 [pa]) = .nats [3] := facts.2.2.1

theorem pagelinks_drain :
    QSt.drain idx 100 (.pagelinks { cur := { prefixes := [pa] }, weid := 1, incIn := true, incInt := true, incOut := true })
      = idx.ask (.pagelinks 1 [pa] true true true) ∧
    QSt.drain idx 100 (.pagelinks { cur := { prefixes := [pa] }, weid := 1, incIn := false, incInt := true, incOut := false })
      = idx.ask (.pagelinks 1 [pa] false true false) ∧
    QSt.drain idx 100 (.pagelinks { cur := { prefixes := [pb] }, weid := 2, incIn := true, incInt := false, incOut := false })
      = idx.ask (.pagelinks 2 [pb] true false false) ∧
    QSt.drain idx 100 (.pagelinks { cur := { prefixes := [pa] }, weid := 1, incIn := false, incInt := false, incOut := false })
      = .err .traph := facts.2.2.2.1

theorem cited_drain :
    QSt.drain idx 100 (.cited { cur := { prefixes := [pa] }, out := true }) = idx.ask (.cited [pa] true) ∧
    QSt.drain idx 100 (.cited { cur := { prefixes := [pa] }, out := false }) = idx.ask (.cited [pa] false) ∧
    idx.ask (.cited [pa] true) = .nats [1, 2, 3, 4] ∧
    QSt.drain idx 100 (.cited { cur := { prefixes := [pa, b "zz|"] }, out := true }) = .err .traph ∧
    idx.ask (.cited [pa, b "zz|"] true) = .err .traph := facts.2.2.2.2.1

theorem netSlow_drain :
    QSt.drain idx 100 (.netSlow { out := true, auto := true }) = idx.ask (.network true true true) ∧
    QSt.drain idx 100 (.netSlow { out := false, auto := false }) = idx.ask (.network false false true) ∧
    QSt.drain idx 100 (.netSlow { out := true, auto := false }) = idx.ask (.network true false true) := facts.2.2.2.2.2

end Traph.DrainEx

#print axioms Traph.DrainEx.crawled_drain
#print axioms Traph.DrainEx.pagelinks_drain
#print axioms Traph.DrainEx.netSlow_drain
