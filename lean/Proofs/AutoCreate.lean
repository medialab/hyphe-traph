import Proofs.AutoHist
import Proofs.WeMapOps
/-! C06: the automatic creation inside `__add_page`, in terms of the prefix map. `State.autoPlan` is the
    decision ladder of `__add_page` (`State.autoDecision`, `addPageCore_eq` in Proofs/Built.lean) as a
    function of the state BEFORE the insertion (`addPageCore_plan`): `none` = KeyError, `some none` =
    nothing to create, `some (some K)` = create a webentity for the rule proposal `K`.
    `get_potential_prefix` runs the same ladder on the same data, read-only (`potentialPrefix_plan`). In the docstrings
    `K` is the rule proposal, `E` the existing prefix (`retrieve_prefix`); `≤` compares their lengths in bytes. -/
namespace Traph
open State Layout

def State.autoPlan (s : State) (lru : Bytes) : Option (Option Bytes) :=
  s.autoDecision lru (s.followLru (lruIter lru)).2

theorem autoDecision_congr {s s' : State} {h h' : Hist} (lru : Bytes) (hr : RamEq s s')
    (h1 : h'.rules = h.rules) (h2 : h'.wePos = h.wePos) : s'.autoDecision lru h' = s.autoDecision lru h := by
  unfold State.autoDecision State.longestCandidate
  rw [hr.1, hr.2, h1, h2]

theorem addPageCore_plan {s : State} {t : T} (h : Shape s t) (lru : Bytes) (c : Bool) (hne : lruIter lru ≠ []) :
    (s.addPageTrie (lruIter lru) c).1.autoDecision lru (s.addPageTrie (lruIter lru) c).2.2 = s.autoPlan lru := by
  obtain ⟨_, e2, e3⟩ := addPageTrie_hist h (lruIter lru) c hne
  exact autoDecision_congr lru (ramEq_addPageTrie s (lruIter lru) c) e3 e2

theorem weMap_addPageTrie {s : State} {t : T} (h : Shape s t) (stems : LRU) (c : Bool) :
    (s.addPageTrie stems c).1.weMap = s.weMap := by
  obtain ⟨t1, x1⟩ := ext_addLru h stems false
  have hw := weMap_addLru h stems false
  obtain ⟨_, e | e | e⟩ := addPageTrie_cases s stems c <;> rw [e]
  · exact Eq.trans (weMap_modCell x1.shape _ _ (fun _ => ⟨rfl, rfl, rfl, rfl, rfl⟩) fun _ => rfl) hw
  · exact Eq.trans (weMap_modCell x1.shape _ _ (fun _ => ⟨rfl, rfl, rfl, rfl, rfl⟩) fun _ => rfl) hw
  · exact hw

theorem Report.add_single_we (k : Nat) (id : Nat) (l : List Bytes) :
    (({ pages := k } : Report).add { we := [(some id, l)] }).we = [(some id, l)] := by
  simp [Report.add, dictSet]

theorem Report.add_empty_we (k : Nat) : (({ pages := k } : Report).add {}).we = [] := by
  simp [Report.add]

/-! `hd`: what `__add_page` decides after the trie insertion; in terms of the state before, that is `s.autoPlan lru`
    (`addPageCore_plan`). -/

theorem addPageCore_weMap_error {s : State} {t : T} (h : Shape s t) (lru : Bytes) (c : Bool)
    (hd : (s.addPageTrie (lruIter lru) c).1.autoDecision lru (s.addPageTrie (lruIter lru) c).2.2 = none) :
    (s.addPageCore lru c).2.2 = .error (.other "KeyError") ∧ (s.addPageCore lru c).1.weMap = s.weMap ∧
    (s.addPageCore lru c).1.hdrId = s.hdrId := by
  rw [addPageCore_eq, hd]
  dsimp only
  exact ⟨rfl, weMap_addPageTrie h _ c, hdrId_addPageTrie s _ c⟩

theorem addPageCore_weMap_none {s : State} {t : T} (h : Shape s t) (lru : Bytes) (c : Bool)
    (hd : (s.addPageTrie (lruIter lru) c).1.autoDecision lru (s.addPageTrie (lruIter lru) c).2.2 = some none) :
    (∃ r, (s.addPageCore lru c).2.2 = .ok r ∧ r.we = []) ∧ (s.addPageCore lru c).1.weMap = s.weMap ∧
    (s.addPageCore lru c).1.hdrId = s.hdrId := by
  rw [addPageCore_eq, hd]
  dsimp only
  exact ⟨⟨_, rfl, rfl⟩, weMap_addPageTrie h _ c, hdrId_addPageTrie s _ c⟩

/-- a webentity for `K` gets the next id and the variations of `K` that are free; none is made if all are taken -/
theorem addPageCore_weMap_some {s : State} {t : T} (h : Shape s t) (lru : Bytes) (c : Bool) {K : Bytes}
    (hd : (s.addPageTrie (lruIter lru) c).1.autoDecision lru (s.addPageTrie (lruIter lru) c).2.2 = some (some K)) :
    ((∀ p ∈ lruVariations K, s.weMap (lruIter p) ≠ 0) →
      (∃ r, (s.addPageCore lru c).2.2 = .ok r ∧ r.we = []) ∧ (s.addPageCore lru c).1.weMap = s.weMap ∧
      (s.addPageCore lru c).1.hdrId = s.hdrId) ∧
    ((∃ p ∈ lruVariations K, s.weMap (lruIter p) = 0) →
      (∃ r, (s.addPageCore lru c).2.2 = .ok r ∧
        r.we = [(some (s.hdrId + 1), freeOf s.weMap (lruVariations K))]) ∧
      (s.addPageCore lru c).1.weMap = mapAttach s.weMap ((lruVariations K).map lruIter) (s.hdrId + 1) ∧
      (s.addPageCore lru c).1.hdrId = s.hdrId + 1) := by
  obtain ⟨hK, hcut, _⟩ := autoDecision_some hd
  obtain ⟨t1, x1, _⟩ := addPageTrie_step h (lruIter lru) c (lruIter_wf lru)
  obtain ⟨_, a1, a2⟩ := createWebentityAuto_spec x1.shape K (lruVariations_ne_nil K (hcut.sep hK))
  rw [weMap_addPageTrie h (lruIter lru) c, hdrId_addPageTrie s (lruIter lru) c] at a1 a2
  rw [addPageCore_eq, hd]
  dsimp only
  exact ⟨fun hall => have ⟨b1, b2, b3⟩ := a1 hall; ⟨⟨_, rfl, by rw [b1]; exact Report.add_empty_we _⟩, b2, b3⟩,
    fun hex => have ⟨b1, b2, b3⟩ := a2 hex; ⟨⟨_, rfl, by rw [b1]; exact Report.add_single_we _ _ _⟩, b2, b3⟩⟩

theorem potentialPrefix_plan (s : State) (lru : Bytes) :
    s.potentialPrefix lru =
      (match s.autoPlan lru with
       | none => .error (.other "KeyError")
       | some (some K) => .ok (some K)
       | some none =>
         match (s.followLru (lruIter lru)).2.wePos with
         | some p => .ok (some (lru.take p))
         | none => .ok none) := by
  unfold State.potentialPrefix State.autoPlan
  rw [autoDecision_eq]
  rcases s.followLru (lruIter lru) with ⟨n, h⟩
  simp only
  cases s.longestCandidate lru h with
  | none => rfl
  | some cand =>
    cases h.wePos with
    | some p =>
      cases cand with
      | nil => rfl
      | cons c cs =>
        simp only [Option.map_some, ladder]
        split <;> rfl
    | none =>
      cases cand with
      | cons c cs => rfl
      | nil =>
        cases s.dflt.search lru with
        | none => rfl
        | some k => cases k <;> rfl

/-- K ≤ E (or no proposal at all): nothing is created or reported, and the page resolves as before -/
theorem C06_post_no_creation {s : State} {t : T} (h : Shape s t) (lru : Bytes) (c : Bool)
    (hne : lruIter lru ≠ []) (hp : s.autoPlan lru = some none) :
    (∃ r, (s.addPageCore lru c).2.2 = .ok r ∧ r.we = []) ∧
    (s.addPageCore lru c).1.weMap = s.weMap ∧
    (s.addPageCore lru c).1.retrievePrefix lru = s.retrievePrefix lru ∧
    (s.addPageCore lru c).1.retrieveWebentity lru = s.retrieveWebentity lru := by
  obtain ⟨a1, a2, _⟩ := addPageCore_weMap_none h lru c ((addPageCore_plan h lru c hne).trans hp)
  exact ⟨a1, a2, retrievePrefix_congr_on lru fun _ _ _ => by rw [a2],
    retrieveWebentity_congr_on lru fun _ _ _ => by rw [a2]⟩

theorem flatten_take_mono (stems : LRU) {k k' : Nat} (hk : k ≤ k') :
    (stems.take k).flatten.length ≤ (stems.take k').flatten.length := by
  have : stems.take k = (stems.take k').take k := by rw [List.take_take, Nat.min_eq_left hk]
  rw [this]
  have e : (stems.take k').flatten = ((stems.take k').take k).flatten ++ ((stems.take k').drop k).flatten := by
    rw [← List.flatten_append, List.take_append_drop]
  rw [e, List.length_append]; omega

/-- the proposal `K` of a creating insertion is free in the map before: every stem-prefix of the LRU
    longer than the existing prefix E is -/
theorem plan_free {s : State} (lru : Bytes) {K : Bytes}
    (hp : s.autoPlan lru = some (some K)) {k : Nat} (hk0 : 0 < k)
    (hK : K = ((lruIter lru).take k).flatten) :
    ∀ j, k ≤ j → j ≤ (lruIter lru).length → s.weMap ((lruIter lru).take j) = 0 := by
  obtain ⟨_, _, hpos⟩ := autoDecision_some hp
  intro j hj hjl
  rcases longest_or_none s.weMap (lruIter lru) with hn | ⟨kE, hl⟩
  · exact hn j (by omega) hjl
  · have hlt := hpos _ (followLru_longest s hl).2
    have hlt' : kE < k := Nat.lt_of_not_le fun hge => by
      have := flatten_take_mono (lruIter lru) hge
      rw [← hK] at this; omega
    exact hl.2.2.2 j (by omega) hjl

theorem creation_map {s : State} {t : T} (h : Shape s t) (lru : Bytes) (c : Bool)
    (hne : lruIter lru ≠ []) {K : Bytes} (hp : s.autoPlan lru = some (some K))
    {k : Nat} (hk0 : 0 < k) (hkl : k ≤ (lruIter lru).length) (hK : K = ((lruIter lru).take k).flatten) :
    (∃ r, (s.addPageCore lru c).2.2 = .ok r ∧
      r.we = [(some (s.hdrId + 1), freeOf s.weMap (lruVariations K))]) ∧
    K ∈ freeOf s.weMap (lruVariations K) ∧
    (s.addPageCore lru c).1.weMap = mapAttach s.weMap ((lruVariations K).map lruIter) (s.hdrId + 1) ∧
    (s.addPageCore lru c).1.weMap ((lruIter lru).take k) = s.hdrId + 1 ∧
    ∀ j, k ≤ j → j ≤ (lruIter lru).length → s.weMap ((lruIter lru).take j) = 0 := by
  have hfree := plan_free lru hp hk0 hK
  have hiK : lruIter K = (lruIter lru).take k := by
    rw [hK]; exact lruIter_flatten _ fun x hx => lruIter_wf lru x (List.mem_of_mem_take hx)
  have hKfree : s.weMap (lruIter K) = 0 := by rw [hiK]; exact hfree k (Nat.le_refl _) hkl
  have hKmem := mem_lruVariations_self K
  obtain ⟨_, a2⟩ := addPageCore_weMap_some h lru c ((addPageCore_plan h lru c hne).trans hp)
  obtain ⟨a1, aw, _⟩ := a2 ⟨K, hKmem, hKfree⟩
  refine ⟨a1, (mem_freeOf _ _ _).mpr ⟨hKmem, hKfree⟩, aw, ?_, hfree⟩
  rw [aw]; unfold mapAttach
  rw [if_pos ⟨List.mem_map.mpr ⟨K, hKmem, hiK⟩, by rw [← hiK]; exact hKfree⟩]

/-- K > E, K a stem-prefix of the LRU: a webentity with the next id is created and reported; it owns `K`
    and every variation of `K` that was free; the page now resolves to that webentity, and its prefix is
    `K` unless a variation of `K` is itself a longer stem-prefix of the page's LRU -/
theorem C06_post_creation {s : State} {t : T} (h : Shape s t) (lru : Bytes) (c : Bool)
    (hne : lruIter lru ≠ []) {K : Bytes} (hp : s.autoPlan lru = some (some K))
    {k : Nat} (hk0 : 0 < k) (hkl : k ≤ (lruIter lru).length) (hK : K = ((lruIter lru).take k).flatten) :
    (∃ r, (s.addPageCore lru c).2.2 = .ok r ∧
      r.we = [(some (s.hdrId + 1), freeOf s.weMap (lruVariations K))]) ∧
    K ∈ freeOf s.weMap (lruVariations K) ∧
    (∀ p, p ∈ freeOf s.weMap (lruVariations K) ↔ p ∈ lruVariations K ∧ s.weMap (lruIter p) = 0) ∧
    (s.addPageCore lru c).1.weMap = mapAttach s.weMap ((lruVariations K).map lruIter) (s.hdrId + 1) ∧
    (s.addPageCore lru c).1.retrieveWebentity lru = .ok (s.hdrId + 1) ∧
    ((∀ v ∈ lruVariations K, ∀ j, k < j → j ≤ (lruIter lru).length → lruIter v ≠ (lruIter lru).take j) →
      (s.addPageCore lru c).1.retrievePrefix lru = .ok K) := by
  obtain ⟨a1, hKf, aw, hMk, hfree⟩ := creation_map h lru c hne hp hk0 hkl hK
  refine ⟨a1, hKf, fun p => mem_freeOf _ _ _, aw, ?_, fun hvar => ?_⟩
  · -- the longest attached stem-prefix afterwards is at least `k` long, and what was free before carries the new id or none
    obtain ⟨k', hge, hl⟩ := longest_ge (M := (s.addPageCore lru c).1.weMap) hk0 hkl (by rw [hMk]; omega)
    refine (retrieveWebentity_ok_iff lru _).mpr ⟨k', hl, ?_⟩
    have hz := hl.2.2.1
    rw [aw] at hz ⊢
    unfold mapAttach at hz ⊢
    split
    · rfl
    · rename_i hm; rw [if_neg hm] at hz; exact absurd (hfree k' hge hl.2.1) hz
  · refine (retrievePrefix_ok_iff lru K).mpr ⟨k, ⟨hk0, hkl, by rw [hMk]; omega, fun j hj hjl => ?_⟩, hK⟩
    rw [aw]; unfold mapAttach
    rw [if_neg, hfree j (by omega) hjl]
    rintro ⟨hm, _⟩
    obtain ⟨v, hv, e⟩ := List.mem_map.mp hm
    exact hvar v hv j hj hjl e

/-- `ladder` with E (the existing prefix of the LRU) as `retrieve_prefix` returns it, not as the walk history has it -/
theorem autoPlan_cases {s : State} (lru : Bytes) (cand : Bytes)
    (hc : s.longestCandidate lru (s.followLru (lruIter lru)).2 = some cand) :
    (∀ E, s.retrievePrefix lru = .ok E →
      (cand.length ≤ E.length → s.autoPlan lru = some none) ∧
      (E.length < cand.length → s.autoPlan lru = some (some cand))) ∧
    (∀ e, s.retrievePrefix lru = .error e →
      (cand ≠ [] → s.autoPlan lru = some (some cand)) ∧
      (cand = [] → s.autoPlan lru =
        match s.dflt.search lru with
        | none => some none
        | some k => if k.isEmpty then some none else some (some k))) := by
  have hplan : s.autoPlan lru = some (ladder (s.followLru (lruIter lru)).2.wePos cand (s.dflt.search lru)) := by
    unfold State.autoPlan; rw [autoDecision_eq, hc]; rfl
  rw [hplan]
  rcases longest_or_none s.weMap (lruIter lru) with hn | ⟨k, hl⟩
  · rw [(followLru_none s hn).2]
    refine ⟨fun E hE => ?_, fun e _ => ⟨fun hcn => ?_, fun hcn => ?_⟩⟩
    · obtain ⟨k, hl, _⟩ := (retrievePrefix_ok_iff lru E).mp hE
      exact absurd hn hl.not_none
    · cases cand with
      | nil => exact absurd rfl hcn
      | cons x xs => rfl
    · subst hcn
      cases s.dflt.search lru with
      | none => rfl
      | some k => cases k <;> rfl
  · rw [(followLru_longest s hl).2]
    have hE := (retrievePrefix_ok_iff lru _).mpr ⟨k, hl, rfl⟩
    refine ⟨fun E hE' => ?_, fun e he => by rw [hE] at he; cases he⟩
    rw [hE] at hE'
    cases hE'
    exact ⟨fun hle => by rw [ladder, if_pos hle], fun hlt => by rw [ladder, if_neg (Nat.not_le.mpr hlt)]⟩

/-- `get_potential_prefix` on the state before the insertion: the rule proposal when a webentity would be
    created, else the existing prefix (`.ok none`, Python's `False`, when there is neither) -/
theorem C06_potential {s : State} {t : T} (h : Shape s t) (lru : Bytes) (hne : lruIter lru ≠ []) :
    (∀ K, s.autoPlan lru = some (some K) → s.potentialPrefix lru = .ok (some K)) ∧
    (s.autoPlan lru = some none →
      (∀ E, s.retrievePrefix lru = .ok E → s.potentialPrefix lru = .ok (some E)) ∧
      (∀ e, s.retrievePrefix lru = .error e → s.potentialPrefix lru = .ok none)) ∧
    (s.autoPlan lru = none → s.potentialPrefix lru = .error (.other "KeyError")) := by
  refine ⟨fun K hp => by rw [potentialPrefix_plan, hp], fun hp => ?_, fun hp => by rw [potentialPrefix_plan, hp]⟩
  rw [potentialPrefix_plan, hp]
  simp only
  rcases longest_or_none s.weMap (lruIter lru) with hn | ⟨k, hl⟩
  · rw [(followLru_none s hn).2]
    refine ⟨fun E hE => ?_, fun _ _ => rfl⟩
    obtain ⟨k, hl, _⟩ := (retrievePrefix_ok_iff lru E).mp hE
    exact absurd hn hl.not_none
  · rw [(followLru_longest s hl).2]
    have hE := (retrievePrefix_ok_iff lru _).mpr ⟨k, hl, rfl⟩
    refine ⟨fun E hE' => ?_, fun e he => ?_⟩
    · rw [hE] at hE'
      simp only [Except.ok.injEq] at hE'
      dsimp only
      rw [← hE', take_flatten_take]
    · rw [hE] at he; cases he

end Traph

section
open Traph
#print axioms C06_post_creation
#print axioms C06_post_no_creation
#print axioms C06_potential
end
