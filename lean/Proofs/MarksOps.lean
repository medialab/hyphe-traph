import Proofs.Marks
import Proofs.MarksQuery
/-! C13: EVERY write request of the API (`State.step`) preserves the invariant
    `MInv` = "there is a ghost tree with the shape invariant and the mark invariant"; hence it holds in every
    state reachable from a fresh index, "however a webentity's prefix came to exist" (explicit creation,
    automatic creation by `add_page` / `add_links` / `index_batch_crawl` / rule installation, moves). -/
namespace Traph
open State

theorem minv_hist : HistInv MInv :=
  ⟨fun s h _ => minv_of_trie_init s h, fun b h => ((b.across (minv_across _ _ _) h).1).minv h⟩

theorem step_minv (s : State) (op : Op) (h : MInv s) : MInv (s.step op).1 := minv_hist.step s op h

theorem run_minv (ops : List Op) (s : State) (h : MInv s) : MInv (s.run ops) := minv_hist.run ops s h

/-- C13 for reachable states: in every state reached from a fresh index by any history of write requests,
    for every node `a` of the tree the pruned walk of `get_webentity_child_webentities` from `a` meets
    exactly the webentity ids attached at `a` or anywhere below it -/
theorem C13_reachable (cfg : Config) (dflt : Rule) (rules : List (Bytes × Rule)) (ops : List Op) :
    let s := (State.fresh cfg dflt rules).1.run ops
    ∃ t, Shape s t ∧ MarkOk s t ∧ ∀ a ∈ t.addrs, ∀ (lru : Bytes) (w : Nat),
      ∃ l c r, Rep s (.node a l c r) ∧ (∀ x ∈ c.addrs, x ∈ t.addrs) ∧
        ∀ x, (x ≠ 0 ∧ x ≠ w ∧ ∃ b ∈ a :: c.addrs, (s.cell b).we = x) ↔
             (x ≠ 0 ∧ x ≠ w ∧ ∃ bl ∈ s.dfsIter (some (a, lru)) true, (s.cell bl.1).we = x) := by
  intro s
  obtain ⟨t, hs, hm⟩ := minv_hist.reachable cfg dflt rules ops
  exact ⟨t, hs, hm, fun a ha lru w => C13_children_exact_of_shape hs hm ha lru w⟩

/-- C13, API level, for reachable states: the answer of `get_webentity_child_webentities` is exactly the set of
    ids (other than the queried one) attached to a stored path extending one of the given prefixes -/
theorem C13_reachable_api (cfg : Config) (dflt : Rule) (rules : List (Bytes × Rule)) (ops : List Op)
    (w : Nat) (ps : List Bytes) (hps : ∀ p ∈ ps, lruIter p ≠ []) (l : List Nat) :
    let s := (State.fresh cfg dflt rules).1.run ops
    s.childWebentities w ps = .ok l →
    ∃ t, Shape s t ∧ ∀ x, x ∈ l ↔ x ≠ 0 ∧ x ≠ w ∧ ∃ p ∈ ps, ∃ q b, (q, b) ∈ t.entries s [] ∧
      lruIter p <+: q ∧ (s.cell b).we = x := by
  intro s h
  obtain ⟨t, hs, hm⟩ := minv_hist.reachable cfg dflt rules ops
  exact ⟨t, hs, fun x => C13_childWebentities_exact hs hm w ps hps l h x⟩

end Traph

section
open Traph
#print axioms C13_reachable_api
#print axioms step_minv
#print axioms run_minv
#print axioms C13_reachable
end
