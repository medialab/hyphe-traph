import Proofs.Discipline
import Proofs.ClearCrash
/-! `clear` as a reset: the state a history reaches is the state its last `clear` builds, followed by the requests
    since (`run_sinceClear`), and what `clear` builds is `installRules` on a blank index (`State.clearBase`,
    Proofs/LogIndep: the two header blocks only), exactly like the constructor. The same cut on transcripts
    (`sinceClearT`) and on the discipline. -/
namespace Traph
open State

/-- the elements after the last one satisfying `p` (everything if none does) -/
def afterLast {α : Type} (p : α → Bool) (l : List α) : List α := (l.reverse.takeWhile (fun a => !p a)).reverse

theorem afterLast_none {α : Type} (p : α → Bool) (l : List α) (h : ∀ a ∈ l, p a = false) : afterLast p l = l := by
  have e := List.takeWhile_append_of_pos (p := fun a => !p a) (l₂ := [])
    (fun a ha => by rw [h a (List.mem_reverse.mp ha)]; rfl : ∀ a ∈ l.reverse, (!p a) = true)
  rw [List.append_nil, List.takeWhile_nil, List.append_nil] at e
  rw [afterLast, e, List.reverse_reverse]

theorem afterLast_split {α : Type} (p : α → Bool) (pre : List α) (c : α) (seg : List α) (hc : p c = true)
    (h : ∀ a ∈ seg, p a = false) : afterLast p (pre ++ c :: seg) = seg := by
  rw [afterLast, List.reverse_append, List.reverse_cons, List.append_assoc, List.singleton_append,
    List.takeWhile_append_of_pos (fun a ha => by rw [h a (List.mem_reverse.mp ha)]; rfl),
    List.takeWhile_cons_of_neg (by simp [hc]), List.append_nil, List.reverse_reverse]

theorem afterLast_free {α : Type} (p : α → Bool) (l : List α) : ∀ a ∈ afterLast p l, p a = false := by
  intro a ha
  unfold afterLast at ha
  have := List.all_eq_true.mp List.all_takeWhile a (List.mem_reverse.mp ha)
  simpa using this

theorem afterLast_suffix {α : Type} (p : α → Bool) (l : List α) : afterLast p l <:+ l := by
  unfold afterLast
  have h := List.takeWhile_prefix (fun a => !p a) (l := l.reverse)
  have := List.reverse_suffix.mpr h
  rwa [List.reverse_reverse] at this

theorem afterLast_sub {α : Type} (p : α → Bool) (l : List α) : ∀ a ∈ afterLast p l, a ∈ l :=
  fun _ ha => (afterLast_suffix p l).subset ha

theorem afterLast_cases (l : List Op) : (∀ op ∈ l, op.isClear = false) ∨
    ∃ pre d rs, l = pre ++ .clear d rs :: afterLast Op.isClear l := by
  rcases split_last_clear l with h | ⟨pre, d, rs, seg, e, h⟩
  · exact Or.inl h
  · have hs := afterLast_split Op.isClear pre (.clear d rs) seg rfl h
    rw [← e] at hs
    exact Or.inr ⟨pre, d, rs, by rw [hs]; exact e⟩

def sinceClear (ops : List Op) : List Op := afterLast Op.isClear ops

def Op.clearArgs : Op → Option (Option Rule × Option (List (Bytes × Rule)))
  | .clear d rs => some (d, rs)
  | _ => none

theorem Op.clearArgs_of_free {op : Op} (h : ∀ d rs, op ≠ .clear d rs) : op.clearArgs = none := by
  cases op with
  | clear d rs => exact absurd rfl (h d rs)
  | _ => rfl

def lastClearArgs : List Op → Option (Option Rule × Option (List (Bytes × Rule)))
  | [] => none
  | op :: ops =>
    match lastClearArgs ops with
    | some x => some x
    | none => op.clearArgs

/-- the requests before the last `clear` (nothing if there is none) -/
def beforeClear (ops : List Op) : List Op := ops.take (ops.length - (sinceClear ops).length - 1)

theorem sinceClear_free (ops : List Op) : ∀ op ∈ sinceClear ops, ∀ d rs, op ≠ .clear d rs :=
  fun op ho => Op.not_clear_of_isClear (afterLast_free _ ops op ho)

theorem sinceClear_sub (ops : List Op) : ∀ op ∈ sinceClear ops, op ∈ ops := afterLast_sub _ ops

theorem sinceClear_of_free (ops : List Op) (h : ∀ op ∈ ops, ∀ d rs, op ≠ .clear d rs) : sinceClear ops = ops :=
  afterLast_none _ ops (fun op ho => Op.isClear_of_not_clear (h op ho))

theorem sinceClear_split (pre : List Op) (d : Option Rule) (rs : Option (List (Bytes × Rule))) (seg : List Op)
    (h : ∀ op ∈ seg, ∀ d rs, op ≠ .clear d rs) : sinceClear (pre ++ .clear d rs :: seg) = seg :=
  afterLast_split _ pre _ seg rfl (fun op ho => Op.isClear_of_not_clear (h op ho))

theorem sinceClear_append_free (a b : List Op) (h : ∀ op ∈ b, ∀ d rs, op ≠ .clear d rs) :
    sinceClear (a ++ b) = sinceClear a ++ b := by
  rcases afterLast_cases a with hf | ⟨pre, d, rs, e⟩
  · rw [sinceClear_of_free a (fun op ho => Op.not_clear_of_isClear (hf op ho)),
      sinceClear_of_free (a ++ b) (fun op ho => by
        rcases List.mem_append.mp ho with ho | ho
        · exact Op.not_clear_of_isClear (hf op ho)
        · exact h op ho)]
  · have hs : ∀ op ∈ sinceClear a ++ b, ∀ d rs, op ≠ .clear d rs := fun op ho => by
      rcases List.mem_append.mp ho with ho | ho
      · exact sinceClear_free a op ho
      · exact h op ho
    have : a ++ b = pre ++ .clear d rs :: (sinceClear a ++ b) := by
      conv => lhs; rw [e]
      simp [sinceClear]
    rw [this, sinceClear_split pre d rs _ hs]

theorem lastClearArgs_of_free : ∀ (ops : List Op), (∀ op ∈ ops, ∀ d rs, op ≠ .clear d rs) → lastClearArgs ops = none := by
  intro ops
  induction ops with
  | nil => exact fun _ => rfl
  | cons op ops ih =>
    intro h
    rw [lastClearArgs, ih (fun o ho => h o (List.mem_cons_of_mem _ ho))]
    exact Op.clearArgs_of_free (h op List.mem_cons_self)

theorem lastClearArgs_split : ∀ (pre : List Op) (d : Option Rule) (rs : Option (List (Bytes × Rule))) (seg : List Op),
    (∀ op ∈ seg, ∀ d rs, op ≠ .clear d rs) → lastClearArgs (pre ++ .clear d rs :: seg) = some (d, rs) := by
  intro pre
  induction pre with
  | nil =>
    intro d rs seg h
    rw [List.nil_append, lastClearArgs, lastClearArgs_of_free seg h]
    rfl
  | cons op pre ih =>
    intro d rs seg h
    rw [List.cons_append, lastClearArgs, ih d rs seg h]

theorem sinceClear_cases (ops : List Op) :
    ((∀ op ∈ ops, ∀ d rs, op ≠ .clear d rs) ∧ sinceClear ops = ops ∧ lastClearArgs ops = none) ∨
    ∃ d rs, lastClearArgs ops = some (d, rs) ∧ ops = beforeClear ops ++ .clear d rs :: sinceClear ops := by
  rcases afterLast_cases ops with hf | ⟨pre, d, rs, e⟩
  · have hf' : ∀ op ∈ ops, ∀ d rs, op ≠ .clear d rs := fun op ho => Op.not_clear_of_isClear (hf op ho)
    exact Or.inl ⟨hf', sinceClear_of_free ops hf', lastClearArgs_of_free ops hf'⟩
  · refine Or.inr ⟨d, rs, ?_, ?_⟩
    · have : ops = pre ++ .clear d rs :: sinceClear ops := e
      rw [this, lastClearArgs_split pre d rs _ (sinceClear_free ops)]
    · have hl := congrArg List.length e
      rw [List.length_append, List.length_cons] at hl
      have hb : beforeClear ops = pre := by
        rw [beforeClear, show ops.length - (sinceClear ops).length - 1 = pre.length by unfold sinceClear; omega, e]
        exact List.take_left' rfl
      rw [hb]; exact e

theorem clear_some_eq_fresh (s : State) (d : Option Rule) (rs : List (Bytes × Rule)) :
    s.clear d (some rs) = State.fresh s.cfg (d.getD s.dflt) rs s.log := rfl

/-- the index `clear` builds depends on the state it is issued in only through the configuration and the RAM
    default rule / rules (and those only when the corresponding argument is absent) — not on the two files,
    not on the id counter -/
theorem cleared_congr (s s' : State) (d : Option Rule) (rs : Option (List (Bytes × Rule)))
    (hc : s'.cfg = s.cfg) (hd : d = none → s'.dflt = s.dflt) (hr : rs = none → s'.rules = s.rules) :
    s'.cleared d rs = s.cleared d rs := by
  have hd' : d.getD s'.dflt = d.getD s.dflt := by
    cases d with
    | none => exact hd rfl
    | some x => rfl
  cases rs with
  | none =>
    show ({ cfg := s'.cfg, dflt := d.getD s'.dflt, rules := s'.rules, log := _ } : State) = _
    rw [hc, hd', hr rfl]; rfl
  | some l =>
    show (installRules ({ cfg := s'.cfg, dflt := d.getD s'.dflt, rules := [], log := _ } : State) l true).1 = _
    rw [hc, hd']; rfl

theorem clearBase_blank (s : State) (d : Option Rule) (rs : Option (List (Bytes × Rule))) :
    (s.clearBase d rs).trie = #[{}] ∧ (s.clearBase d rs).links = #[{}] ∧ (s.clearBase d rs).hdrId = 0 :=
  ⟨rfl, rfl, rfl⟩

/-- the state reached by any history is the state built by its last `clear` (issued in the state the requests
    before it reach) followed by the requests since; or the whole history is clear-free -/
theorem run_sinceClear (s0 : State) (ops : List Op) :
    ((∀ op ∈ ops, ∀ d rs, op ≠ .clear d rs) ∧ sinceClear ops = ops) ∨
    ∃ d rs, lastClearArgs ops = some (d, rs) ∧ ops = beforeClear ops ++ .clear d rs :: sinceClear ops ∧
      s0.run ops = ((s0.run (beforeClear ops)).clear d rs).1.run (sinceClear ops) ∧
      s0.run ops = (((s0.run (beforeClear ops)).cleared d rs).run (sinceClear ops)).addLog (s0.run (beforeClear ops)).log := by
  rcases sinceClear_cases ops with ⟨h1, h2, _⟩ | ⟨d, rs, h1, h2⟩
  · exact Or.inl ⟨h1, h2⟩
  · refine Or.inr ⟨d, rs, h1, h2, ?_, ?_⟩
    · conv => lhs; rw [h2]
      rw [run_append]; rfl
    · conv => lhs; rw [h2]
      rw [run_append, run_clear_eq]

theorem disciplined_sinceClear (s0 : State) (ops : List Op) (hd : Disciplined s0 ops) :
    (lastClearArgs ops = none → Disciplined s0 (sinceClear ops)) ∧
    (∀ d rs, lastClearArgs ops = some (d, rs) →
      (∀ l, rs = some l → rulesCanonical l) ∧
      Disciplined ((s0.run (beforeClear ops)).clear d rs).1 (sinceClear ops)) := by
  rcases sinceClear_cases ops with ⟨_, h2, h3⟩ | ⟨d, rs, h1, h2⟩
  · refine ⟨fun _ => by rw [h2]; exact hd, fun d rs h => ?_⟩
    rw [h3] at h; cases h
  · refine ⟨fun h => (by rw [h1] at h; cases h), fun d' rs' h => ?_⟩
    rw [h1] at h
    cases h
    rw [h2, disciplined_append] at hd
    obtain ⟨_, hc, hrest⟩ := hd
    refine ⟨fun l hl => ?_, hrest⟩
    subst hl; exact hc

def sinceClearT (tr : List (Op × Ans)) : List (Op × Ans) := afterLast (fun oa => oa.1.isClear) tr

theorem ua_transcript_append : ∀ (a b : List Op) (s : State),
    s.transcript (a ++ b) = s.transcript a ++ (s.run a).transcript b := by
  intro a
  induction a with
  | nil => exact fun _ _ => rfl
  | cons op a ih =>
    intro b s
    simp only [List.cons_append, State.transcript, run_cons, ih b]

theorem ua_transcript_ops : ∀ (ops : List Op) (s : State), (s.transcript ops).map (·.1) = ops := by
  intro ops
  induction ops with
  | nil => exact fun _ => rfl
  | cons op ops ih =>
    intro s
    simp only [State.transcript, List.map_cons, ih]

theorem sinceClearT_transcript (s0 : State) (ops : List Op) :
    (lastClearArgs ops = none → sinceClearT (s0.transcript ops) = s0.transcript (sinceClear ops)) ∧
    (∀ d rs, lastClearArgs ops = some (d, rs) →
      sinceClearT (s0.transcript ops) = ((s0.run (beforeClear ops)).clear d rs).1.transcript (sinceClear ops)) := by
  have free : ∀ (l : List Op) (s : State), (∀ op ∈ l, ∀ d rs, op ≠ .clear d rs) →
      ∀ oa ∈ s.transcript l, (fun oa : Op × Ans => oa.1.isClear) oa = false := by
    intro l s hl oa hoa
    have : oa.1 ∈ (s.transcript l).map (·.1) := List.mem_map.mpr ⟨oa, hoa, rfl⟩
    rw [ua_transcript_ops] at this
    exact Op.isClear_of_not_clear (hl _ this)
  rcases sinceClear_cases ops with ⟨h1, h2, h3⟩ | ⟨d, rs, h1, h2⟩
  · refine ⟨fun _ => ?_, fun d rs h => (by rw [h3] at h; cases h)⟩
    rw [h2]
    exact afterLast_none _ _ (free ops s0 h1)
  · refine ⟨fun h => (by rw [h1] at h; cases h), fun d' rs' h => ?_⟩
    rw [h1] at h
    cases h
    conv => lhs; rw [h2]
    rw [ua_transcript_append]
    show afterLast _ (_ ++ (Op.clear d rs, _) :: _) = _
    exact afterLast_split _ _ _ _ rfl (free _ _ (sinceClear_free ops))

#print axioms run_sinceClear
#print axioms cleared_congr
#print axioms sinceClearT_transcript

end Traph
