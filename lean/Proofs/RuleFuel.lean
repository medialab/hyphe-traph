import Proofs.RuleInstall
import Proofs.RuleFuelBytes
import Proofs.KnownOps
/-! The fuel of the rule-installation walk suffices: `8 * (n + 2)²` for a trie of `n` blocks (the bound the
    model gives the `while` loop of `add_webentity_creation_rule_iter`) exceeds the size of the trie at the
    end of the re-insertions, for every state that satisfies `Shape`, `Inv` and the block accounting invariant `SizeOk`
    (all reachable states do) and every anchor of at least one stem. Each re-inserted page allocates at most the nodes of
    the (at most four) scheme / www variations of the rule proposal, each of which is cut out of the page's own LRU.
    `rule_fuel_ok` is that bound; it removes the fuel hypothesis of `C06_rule_install`, giving `C06_rule_install_full`. -/
namespace Traph
open State Layout

def pathBlocks (l : LRU) : Nat := (l.map blocksFor).sum

@[simp] theorem pathBlocks_nil : pathBlocks [] = 0 := rfl
@[simp] theorem pathBlocks_cons (x : Stem) (l : LRU) : pathBlocks (x :: l) = blocksFor x + pathBlocks l := by simp [pathBlocks]

theorem blocksFor_bounds (x : Bytes) :
    1 ≤ blocksFor x ∧ x.length ≤ 74 * blocksFor x ∧ 74 * blocksFor x ≤ 74 + x.length := by
  unfold blocksFor
  have e : Layout.stemCap = 74 := rfl
  rw [e]
  split <;> omega

theorem pathBlocks_bounds : ∀ (l : LRU), l.length ≤ pathBlocks l ∧ l.flatten.length ≤ 74 * pathBlocks l ∧
    74 * pathBlocks l ≤ 74 * l.length + l.flatten.length := by
  intro l
  induction l with
  | nil => simp
  | cons x l ih =>
    obtain ⟨h1, h2, h3⟩ := ih
    obtain ⟨b1, b2, b3⟩ := blocksFor_bounds x
    simp only [pathBlocks_cons, List.length_cons, List.flatten_cons, List.length_append]
    refine ⟨by omega, by omega, by omega⟩

theorem sum_map_le_mul {α : Type} (f : α → Nat) (c : Nat) : ∀ (l : List α), (∀ x ∈ l, f x ≤ c) →
    (l.map f).sum ≤ l.length * c := by
  intro l
  induction l with
  | nil => intro _; simp
  | cons x l ih =>
    intro h
    have h1 := h x (by simp)
    have h2 := ih (fun y hy => h y (by simp [hy]))
    simp only [List.map_cons, List.sum_cons, List.length_cons]
    rw [Nat.add_mul, Nat.one_mul]; omega

theorem pathBlocks_entry_le {s : State} : ∀ (u : T) (pre p : LRU) (b : Nat), (p, b) ∈ u.entries s pre →
    pathBlocks (p.drop pre.length) ≤ ((u.entries s pre).map (fun pb => blocksFor (s.stemAt pb.2))).sum := by
  intro u
  induction u with
  | nil => exact fun _ _ _ h => nomatch h
  | node a l c r ihl ihc ihr =>
    intro pre p b h
    simp only [T.entries, List.map_append, List.map_cons, List.sum_append, List.sum_cons]
    rcases entry_node_iff.mp h with h | ⟨rfl, _⟩ | h | h
    · have := ihl pre p b h; omega
    · simp only [List.drop_left', pathBlocks_cons, pathBlocks_nil]; omega
    · have ih := ihc (pre ++ [s.stemAt a]) p b h
      obtain ⟨x, rest, e⟩ := entries_prefix c _ p b h
      have e1 : p.drop pre.length = s.stemAt a :: p.drop (pre ++ [s.stemAt a]).length := by
        rw [e]; simp [List.drop_append]
      rw [e1, pathBlocks_cons]; omega
    · have := ihr pre p b h; omega

theorem pathBlocks_stored_le {s : State} {t : T} (hz : SizeOk s t) {p : LRU} {b : Nat}
    (hm : (p, b) ∈ t.entries s []) : pathBlocks p + 1 ≤ s.trie.size := by
  have := pathBlocks_entry_le t [] p b hm
  unfold SizeOk at hz
  simp only [List.length_nil, List.drop_zero] at this
  omega

/-- a bound that needs no knowledge of the tree: at worst every stem gets a new node -/
theorem addLru_size_le {s : State} {t : T} (h : Shape s t) (stems : LRU) (flag : Bool) :
    (s.addLru stems flag).1.trie.size ≤ s.trie.size + pathBlocks stems := by
  by_cases hne : stems = []
  · subst hne; rw [addLru_nil]; simp
  · obtain ⟨k, _, _, e⟩ := addLru_growth h stems hne flag
    rw [e, pathBlocks]
    have : (stems.map blocksFor).sum =
        ((stems.take k).map blocksFor).sum + ((stems.drop k).map blocksFor).sum := by
      rw [← List.sum_append, ← List.map_append, List.take_append_drop]
    omega

theorem addPrefixesScan_size : ∀ (ps : List Bytes) (s : State) (t : T) (valid : List (Bytes × Nat)) (nInv : Nat),
    Shape s t → (s.addPrefixesScan ps valid nInv).1.trie.size ≤ s.trie.size + (ps.map (fun p => pathBlocks (lruIter p))).sum := by
  intro ps
  induction ps with
  | nil => intro s t valid nInv _; simp [addPrefixesScan]
  | cons p ps ih =>
    intro s t valid nInv h
    obtain ⟨t1, k1, _⟩ := keeps_addLruIter h p true
    have g1 := addLru_size_le h (lruIter p) true
    rcases ha : s.addLru (lruIter p) true with ⟨s1, n, hh⟩
    rw [ha] at k1 g1
    simp only at k1 g1
    simp only [addPrefixesScan, ha, List.map_cons, List.sum_cons]
    split
    · have := ih s1 t1 valid (nInv + 1) k1.shape; omega
    · have := ih s1 t1 (dictSet valid p n) nInv k1.shape; omega

theorem createWebentityAuto_size {s : State} {t : T} (h : Shape s t) (pfx : Bytes) :
    (s.createWebentityAuto pfx).1.trie.size ≤
      s.trie.size + ((lruVariations pfx).map (fun p => pathBlocks (lruIter p))).sum := by
  have g1 := addPrefixesScan_size (lruVariations pfx) s t [] 0 h
  have key : (s.addPrefixes (lruVariations pfx) true).1.trie.size =
      (s.addPrefixesScan (lruVariations pfx) [] 0).1.trie.size := by
    rcases ha : s.addPrefixesScan (lruVariations pfx) [] 0 with ⟨s1, valid, nInv⟩
    simp only [addPrefixes, ha]
    split
    · rfl
    · split
      · rfl
      · have n2 : NoStruct s1 s1.genId.1 := noStruct_of_trie_eq rfl
        have n3 := noStruct_foldl_modCell (fun pn : Bytes × Nat => pn.2) (fun _ c => { c with we := s1.genId.2 })
          (fun _ _ => ⟨rfl, rfl, rfl, rfl, rfl⟩) valid s1.genId.1
        exact (n2.trans n3).1
  have e : (s.createWebentityAuto pfx).1 = (s.addPrefixes (lruVariations pfx) true).1 := by
    unfold createWebentityAuto
    split <;> rename_i heq <;> rw [heq]
  rw [e, key]; exact g1

theorem variation_W_le {lru K v : Bytes} (hK : K.length ≤ lru.length ∧ nsep K ≤ nsep lru)
    (hv : v ∈ lruVariations K) {B : Nat} (hn : nsep lru ≤ B) (hl : lru.length ≤ 74 * B) :
    pathBlocks (lruIter v) ≤ 2 * B + 1 := by
  obtain ⟨v1, v2⟩ := lruVariations_bounds K v hv
  obtain ⟨_, _, h3⟩ := pathBlocks_bounds (lruIter v)
  rw [lruIter_length] at h3
  obtain ⟨tl, e⟩ := lruIter_prefix v
  have := congrArg List.length e
  rw [List.length_append] at this
  omega

/-- `8 * B + 4`: at most four variations, of at most `2 * B + 1` blocks each (`variation_W_le`) -/
theorem addPageCore_known_size {s : State} {t : T} (h : Shape s t) {p : LRU} {b : Nat}
    (hm : (p, b) ∈ t.entries s []) (hw : ∀ x ∈ p, StemWf x) {B : Nat} (hB : pathBlocks p ≤ B) :
    (s.addPageCore p.flatten false).1.trie.size ≤ s.trie.size + (8 * B + 4) := by
  have e2 : lruIter p.flatten = p := lruIter_flatten p hw
  have hpne : p ≠ [] := entry_ne_nil hm
  obtain ⟨t1, x1, _⟩ := addPageTrie_step h (lruIter p.flatten) false (lruIter_wf _)
  have hsz1 := (addPageTrie_known_no_growth h (lruIter p.flatten) (by rw [e2]; exact hpne) false b
    (by rw [e2]; exact hm)).1
  obtain ⟨w1, w2, _⟩ := pathBlocks_bounds p
  have hn : nsep p.flatten ≤ B := by rw [nsep_flatten_wf p hw]; omega
  have hl : p.flatten.length ≤ 74 * B := by omega
  rw [addPageCore_eq]
  cases hd : (s.addPageTrie (lruIter p.flatten) false).1.autoDecision p.flatten
      (s.addPageTrie (lruIter p.flatten) false).2.2 with
  | none => simp only; rw [hsz1]; exact Nat.le_add_right _ _
  | some o =>
    cases o with
    | none => simp only; rw [hsz1]; exact Nat.le_add_right _ _
    | some K =>
      simp only
      have hK := (autoDecision_some hd).2.1.bounds
      have g := createWebentityAuto_size x1.shape K
      have hsum := sum_map_le_mul (fun v => pathBlocks (lruIter v)) (2 * B + 1) (lruVariations K)
        (fun v hv => variation_W_le hK hv hn hl)
      have h4 := lruVariations_length_le K
      have : (lruVariations K).length * (2 * B + 1) ≤ 4 * (2 * B + 1) := Nat.mul_le_mul_right _ h4
      omega

theorem reinsert_growth (B : Nat) : ∀ (L : List Bytes) (s : State) (t : T) (rep : Report), Shape s t →
    (∀ lru ∈ L, ∃ p b, (p, b) ∈ t.entries s [] ∧ (∀ x ∈ p, StemWf x) ∧ lru = p.flatten ∧ pathBlocks p ≤ B) →
    (s.reinsert L rep).1.trie.size ≤ s.trie.size + L.length * (8 * B + 4) := by
  intro L
  induction L with
  | nil => intro s t rep _ _; simp [State.reinsert]
  | cons lru L ih =>
    intro s t rep h hL
    obtain ⟨p, b, hm, hw, rfl, hB⟩ := hL lru (by simp)
    have g1 := addPageCore_known_size h hm hw hB
    obtain ⟨t1, x1, _⟩ := addPageCore_step h p.flatten false
    have hL1 : ∀ lru ∈ L, ∃ q b, (q, b) ∈ t1.entries (s.addPageCore p.flatten false).1 [] ∧
        (∀ x ∈ q, StemWf x) ∧ lru = q.flatten ∧ pathBlocks q ≤ B := by
      intro lru hl
      obtain ⟨p', b', hm', hw', e', hB'⟩ := hL lru (by simp [hl])
      exact ⟨p', b', x1.keep _ _ hm', hw', e', hB'⟩
    rcases hA : s.addPageCore p.flatten false with ⟨s1, n1, res⟩
    rw [hA] at g1 x1 hL1
    simp only at g1 x1 hL1
    simp only [State.reinsert, hA, List.length_cons]
    rw [Nat.add_mul, Nat.one_mul]
    cases res with
    | error e => simp only; omega
    | ok r1 =>
      simp only
      have := ih s1 t1 (rep.add r1) x1.shape hL1
      omega

theorem rulePrologue_sizeOk {s : State} {t : T} (g : Good s t) (anchor : Bytes) (r : Rule)
    (hne : lruIter anchor ≠ []) :
    ∃ t2, Keeps s t (s.rulePrologue anchor r).1 t2 ∧ SizeOk (s.rulePrologue anchor r).1 t2 ∧
      (lruIter anchor, (s.rulePrologue anchor r).2) ∈ t2.entries (s.rulePrologue anchor r).1 [] := by
  obtain ⟨t2, k2, hent⟩ := rulePrologue_keeps g.shape anchor r
  obtain ⟨t1, k1, _⟩ := rulePrologue_kstep g anchor r
  cases k2.shape.unique k1.good.shape
  exact ⟨t2, k2, k1.good.sizeOk, hent hne⟩

theorem pagesBelow_length_le {s : State} {t : T} (h : Shape s t) {anchor : Bytes} {n : Nat}
    (hP : (lruIter anchor, n) ∈ t.entries s []) : (s.pagesBelow n anchor).length ≤ s.trie.size := by
  have hnd := dfsIter_some_addrs_nodup h hP
  have hlt : ∀ x ∈ (s.dfsIter (some (n, anchor)) false).map (·.1), x < s.trie.size := by
    intro x hx
    obtain ⟨e, he, rfl⟩ := List.mem_map.mp hx
    obtain ⟨X, hX, _, _⟩ := (dfsIter_some_mem_iff h hP e.1 e.2).mp he
    exact entry_lt h hX
  have h1 := nodup_length_le _ _ hnd hlt
  unfold State.pagesBelow
  rw [List.length_map]
  have h2 := List.length_filter_le (fun e : Nat × Bytes => (s.cell e.1).flags.page)
    (s.dfsIter (some (n, anchor)) false)
  rw [List.length_map] at h1
  omega

/-- `S` blocks, at most `S` re-insertions, each growing the trie by at most `8 (S - 1) + 4`: below the fuel -/
theorem fuel_arith {S L G : Nat} (hpos : 0 < S) (hlen : L ≤ S) (g : G ≤ S + L * (8 * (S - 1) + 4)) :
    G < 8 * (S + 2) * (S + 2) := by
  have h1 : L * (8 * (S - 1) + 4) ≤ S * (8 * (S + 2)) := Nat.mul_le_mul hlen (by omega)
  rw [Nat.mul_comm (8 * (S + 2)), Nat.add_mul]
  omega

theorem rule_fuel_ok {s : State} {t : T} (h : Shape s t) (hi : Inv s t) (hz : SizeOk s t) (anchor : Bytes)
    (r : Rule) (hne : lruIter anchor ≠ []) :
    ((s.rulePrologue anchor r).1.reinsert
        ((s.rulePrologue anchor r).1.pagesBelow (s.rulePrologue anchor r).2 anchor) {}).1.trie.size <
      8 * ((s.rulePrologue anchor r).1.trie.size + 2) * ((s.rulePrologue anchor r).1.trie.size + 2) := by
  obtain ⟨t2, k2, z2, hP⟩ := rulePrologue_sizeOk ⟨h, hz, hi.wf⟩ anchor r hne
  have hi2 : Inv (s.rulePrologue anchor r).1 t2 := (k2.adds hi).inv
  generalize (s.rulePrologue anchor r).1 = s2 at *
  generalize (s.rulePrologue anchor r).2 = n at *
  have hL : ∀ lru ∈ s2.pagesBelow n anchor, ∃ p b, (p, b) ∈ t2.entries s2 [] ∧ (∀ x ∈ p, StemWf x) ∧
      lru = p.flatten ∧ pathBlocks p ≤ s2.trie.size - 1 := by
    intro lru hl
    obtain ⟨p, ⟨b, hm, _⟩, _, e⟩ := (pagesBelow_mem_iff k2.shape hP lru).mp hl
    have := pathBlocks_stored_le z2 hm
    exact ⟨p, b, hm, hi2.wf p b hm, e, by omega⟩
  exact fuel_arith k2.shape.live (pagesBelow_length_le k2.shape hP)
    (reinsert_growth (s2.trie.size - 1) (s2.pagesBelow n anchor) s2 t2 {} k2.shape hL)

/-- C06, rule installation: for a state satisfying the invariants of reachable states,
    `add_webentity_creation_rule(anchor, rule)` = prologue (RAM rule, `add_lru(anchor)`, rule flag), then the
    re-insertion through `__add_page(lru)` of every page beneath the anchor, in the order of the model's DFS,
    reports summed; the first `KeyError` aborts both sides in the same state -/
theorem C06_rule_install_full {s : State} {t : T} (h : Shape s t) (hi : Inv s t) (hz : SizeOk s t)
    (anchor : Bytes) (r : Rule) (hne : lruIter anchor ≠ []) :
    s.addRule anchor r true =
      (s.rulePrologue anchor r).1.reinsert
        ((s.rulePrologue anchor r).1.pagesBelow (s.rulePrologue anchor r).2 anchor) {} :=
  C06_rule_install h hi anchor r hne (rule_fuel_ok h hi hz anchor r hne)

/-- C06, rule installation, in one statement for a state with its invariants: installing a rule at a
    well-formed anchor is the prologue followed by the re-insertion of the pages beneath the anchor — final
    index and report; that list holds exactly the pages whose LRU has the anchor as a stem-prefix, each once -/
theorem C06_rule_install_of_inv {s : State} {t : T} (h : Shape s t) (hi : Inv s t) (hz : SizeOk s t)
    (anchor : Bytes) (r : Rule) (hne : lruIter anchor ≠ []) :
    let L := (s.rulePrologue anchor r).1.pagesBelow (s.rulePrologue anchor r).2 anchor
    (s.step (.addRule anchor r)).1 = ((s.rulePrologue anchor r).1.reinsert L {}).1 ∧
    (s.step (.addRule anchor r)).2 = Ans.ofExcept .report ((s.rulePrologue anchor r).1.reinsert L {}).2 ∧
    L.Nodup ∧ ∀ lru, lru ∈ L ↔ ∃ p, IsPage s t p ∧ lruIter anchor <+: p ∧ lru = p.flatten := by
  intro L
  have e := C06_rule_install_full h hi hz anchor r hne
  refine ⟨?_, ?_, pagesBelow_prologue_nodup h hi anchor r hne,
    fun lru => pagesBelow_prologue_iff h hi anchor r hne lru⟩
  · rw [step_addRule, e]
  · rw [step_addRule, e]

end Traph
