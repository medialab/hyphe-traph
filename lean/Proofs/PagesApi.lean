import Proofs.PageSet
import Proofs.TraverseDepth
import Proofs.ForPrefixes
import Proofs.WeResolve
/-! C05 at the API level: `get_webentity_pages(weid, prefixes)` / `get_webentity_crawled_pages`, asked with the
    full current prefix list of the webentity (`FullPrefixList`), in any order. `visits s depth ps` are the page blocks
    met below the prefixes `ps`, which every request about a webentity runs over (`forPrefixes_visits`); under a full
    prefix list they are exactly the indexed pages resolving to the webentity within the depth limit, each once
    (`visits_mem`, `visits_nodup`: C05, C08, C20 read their answers off these). All of C05 in one statement: `C05_of_inv`
    (`C05_model_of_inv`: without the ghost tree); `prefixesOf_full`: what `webentity_prefix_iter` yields is a full list.

    What the model (= the code) does with a prefix given twice: the pages below it are listed twice
    (`C05_count`); a nested prefix of the *same* webentity does not cause repetitions, because the walk is
    cut by every node carrying a webentity id, whatever the id. -/
namespace Traph
open State

/-- RESOLUTION, finite-map phrasing of C04's longest-prefix match: a byte string resolves to `w ≠ 0` iff `w` is
    attached to one of its stored stem-prefixes and no stored stem-prefix longer than it (the whole included) carries a
    webentity -/
theorem retrieve_entry_iff {s : State} {t : T} (h : Shape s t) (lru : Bytes) {w : Nat} (hw : w ≠ 0) :
    s.retrieveWebentity lru = .ok w ↔
      ∃ k a, 0 < k ∧ k ≤ (lruIter lru).length ∧ ((lruIter lru).take k, a) ∈ t.entries s [] ∧ (s.cell a).we = w ∧
        ∀ j, k < j → j ≤ (lruIter lru).length → ∀ a', ((lruIter lru).take j, a') ∈ t.entries s [] →
          (s.cell a').we = 0 := by
  rw [retrieveWebentity_ok_iff]
  constructor
  · rintro ⟨k, ⟨hk0, hkl, hne, hz⟩, rfl⟩
    obtain ⟨a, ha, hwa⟩ := weMap_ne_zero h hne
    exact ⟨k, a, hk0, hkl, ha, hwa, fun j hj hjl a' ha' => weMap_entry h ha' ▸ hz j hj hjl⟩
  · rintro ⟨k, a, hk0, hkl, ha, rfl, hz⟩
    refine ⟨k, ⟨hk0, hkl, by rwa [weMap_entry h ha], fun j hj hjl => ?_⟩, (weMap_entry h ha).symm⟩
    by_cases hex : ∃ a', ((lruIter lru).take j, a') ∈ t.entries s []
    · obtain ⟨a', ha'⟩ := hex
      rw [weMap_entry h ha']; exact hz j hj hjl a' ha'
    · exact weMap_not_entry h fun a' ha' => hex ⟨a', ha'⟩

theorem weDfs_walk_iff {s : State} {t : T} (h : Shape s t) {p : Bytes} {n : Nat}
    (hP : (lruIter p, n) ∈ t.entries s []) (b : Nat) (lru : Bytes) :
    (b, lru) ∈ s.weDfs n p none ↔
      ∃ X, (X, b) ∈ t.entries s [] ∧ lruIter p <+: X ∧ lru = X.flatten ∧
        ∀ j, (lruIter p).length < j → j ≤ X.length → ∀ b', (X.take j, b') ∈ t.entries s [] →
          (s.cell b').we = 0 :=
  (weDfs_opt_walk_iff h hP none b lru).trans (exists_congr fun _ => and_congr_right fun _ =>
    and_congr_right fun _ => and_congr_right fun _ => and_iff_left trivial)

/-- `P` is a prefix of webentity `w`, in the model's own terms: a non-empty stem path that `lru_node` finds,
    whose node carries the id `w` -/
def IsPrefixOf (s : State) (w : Nat) (P : LRU) : Prop :=
  P ≠ [] ∧ ∃ n, s.lruNode P = some n ∧ (s.cell n).we = w

/-- the same in terms of the finite map of the ghost tree -/
def Prefixes (s : State) (t : T) (w : Nat) (P : LRU) : Prop :=
  ∃ n, (P, n) ∈ t.entries s [] ∧ (s.cell n).we = w

theorem isPrefixOf_iff {s : State} {t : T} (h : Shape s t) (w : Nat) (P : LRU) :
    IsPrefixOf s w P ↔ Prefixes s t w P := by
  constructor
  · rintro ⟨hne, n, hn, hw⟩
    exact ⟨n, (lruNode_iff_entries h P hne n).mp hn, hw⟩
  · rintro ⟨n, hn, hw⟩
    exact ⟨entry_ne_nil hn, n, (lruNode_iff_entries h P (entry_ne_nil hn) n).mpr hn, hw⟩

/-- `ps` is the full prefix list of the webentity `w ≠ 0`, in any order (and possibly with repetitions):
    cut into stems, the byte strings of `ps` are exactly the prefixes of `w` -/
structure FullPrefixList (s : State) (w : Nat) (ps : List Bytes) : Prop where
  ne : w ≠ 0
  full : ∀ P, P ∈ ps.map lruIter ↔ IsPrefixOf s w P

/-- `P` is the anchor of the stored path `X`: the longest stored stem-prefix of `X` (possibly `X` itself)
    whose node carries a webentity id -/
def IsAnchor (s : State) (t : T) (P X : LRU) : Prop :=
  P <+: X ∧ (∃ n, (P, n) ∈ t.entries s [] ∧ (s.cell n).we ≠ 0) ∧
    ∀ j, P.length < j → j ≤ X.length → ∀ b', (X.take j, b') ∈ t.entries s [] → (s.cell b').we = 0

theorem isAnchor_unique {s : State} {t : T} {P₁ P₂ X : LRU} (h₁ : IsAnchor s t P₁ X)
    (h₂ : IsAnchor s t P₂ X) : P₁ = P₂ := by
  obtain ⟨hp₁, ⟨n₁, e₁, hw₁⟩, hz₁⟩ := h₁
  obtain ⟨hp₂, ⟨n₂, e₂, hw₂⟩, hz₂⟩ := h₂
  have t₁ := List.prefix_iff_eq_take.mp hp₁
  have t₂ := List.prefix_iff_eq_take.mp hp₂
  rcases Nat.lt_trichotomy P₁.length P₂.length with hlt | heq | hgt
  · rw [t₂] at e₂
    exact absurd (hz₁ _ hlt hp₂.length_le _ e₂) hw₂
  · rw [t₁, t₂, heq]
  · rw [t₁] at e₁
    exact absurd (hz₂ _ hgt hp₁.length_le _ e₁) hw₁

theorem anchor_of_resolution {s : State} {t : T} (h : Shape s t) {w : Nat} (hw : w ≠ 0) {lru : Bytes}
    (hret : s.retrieveWebentity lru = .ok w) :
    ∃ P, IsPrefixOf s w P ∧ IsAnchor s t P (lruIter lru) := by
  obtain ⟨k, a, hk0, hkl, ha, hwa, hz⟩ := (retrieve_entry_iff h lru hw).mp hret
  refine ⟨(lruIter lru).take k,
    ⟨entry_ne_nil ha, a, (lruNode_iff_entries h _ (entry_ne_nil ha) a).mpr ha, hwa⟩,
    List.take_prefix _ _, ⟨a, ha, by rw [hwa]; exact hw⟩, ?_⟩
  rw [List.length_take, Nat.min_eq_left hkl]; exact hz

theorem forPrefixes_flatMap {α : Type} {s : State} {ps : List Bytes} {g : Nat → Bytes → List α} {l : List α}
    (hl : s.forPrefixes ps g = .ok l) :
    l = ps.flatMap (fun p => match s.lruNode (lruIter p) with | some n => g n p | none => []) := by
  rw [forPrefixes_eq] at hl
  split at hl
  · cases hl; rfl
  · cases hl


/-- the page blocks met, within the depth limit, by the walks from the nodes of the prefixes `ps` in turn, each with
    its LRU -/
def visits (s : State) (depth : Option Nat) (ps : List Bytes) : List (Nat × Bytes) :=
  ps.flatMap (fun p => match s.lruNode (lruIter p) with
    | some n => (s.weDfs n p depth).filter (fun bl => (s.cell bl.1).flags.page)
    | none => [])

theorem forPrefixes_visits {α : Type} {s : State} {ps : List Bytes} {depth : Option Nat} {g : Nat × Bytes → List α}
    {l : List α} (hl : s.forPrefixes ps (fun n p =>
      ((s.weDfs n p depth).filter (fun bl => (s.cell bl.1).flags.page)).flatMap g) = .ok l) :
    l = (visits s depth ps).flatMap g := by
  rw [forPrefixes_flatMap hl, visits, List.flatMap_assoc]
  congr 1; funext p
  cases s.lruNode (lruIter p) <;> rfl

theorem forPrefixes_visits_map {α : Type} {s : State} {ps : List Bytes} {depth : Option Nat} {f : Nat × Bytes → α}
    {l : List α} (hl : s.forPrefixes ps (fun n p =>
      ((s.weDfs n p depth).filter (fun bl => (s.cell bl.1).flags.page)).map f) = .ok l) :
    l = (visits s depth ps).map f := by
  rw [forPrefixes_flatMap hl, visits, List.map_flatMap]
  congr 1; funext p
  cases s.lruNode (lruIter p) <;> rfl

theorem forPrefixes_full_ok {α : Type} {s : State} {w : Nat} {ps : List Bytes} (hf : FullPrefixList s w ps)
    (f : Nat → Bytes → List α) : ∃ l, s.forPrefixes ps f = .ok l := by
  cases hl : s.forPrefixes ps f with
  | ok l => exact ⟨l, rfl⟩
  | error e =>
    obtain ⟨_, p, hp, hn⟩ := forPrefixes_err s ps _ e hl
    obtain ⟨_, n, hn', _⟩ := (hf.full _).mp (List.mem_map.mpr ⟨p, hp, rfl⟩)
    rw [hn] at hn'; cases hn'

theorem forPrefixes_full_map_ok {α β : Type} {s : State} {w : Nat} {ps : List Bytes} (hf : FullPrefixList s w ps)
    (f : Nat → Bytes → List α) (g : List α → β) : ∃ y, (s.forPrefixes ps f).map g = .ok y :=
  have ⟨l, h⟩ := forPrefixes_full_ok hf f
  ⟨g l, (forPrefixes_map_ok s ps f g _).mpr ⟨l, h, rfl⟩⟩

theorem mem_visits (s : State) (depth : Option Nat) (ps : List Bytes) (b : Nat) (lru : Bytes) :
    (b, lru) ∈ visits s depth ps ↔ ∃ p ∈ ps, ∃ n, s.lruNode (lruIter p) = some n ∧
      (b, lru) ∈ s.weDfs n p depth ∧ (s.cell b).flags.page = true := by
  unfold visits
  simp only [List.mem_flatMap]
  constructor
  · rintro ⟨p, hp, hx⟩
    split at hx
    · rename_i n hn
      exact ⟨p, hp, n, hn, List.mem_filter.mp hx⟩
    · cases hx
  · rintro ⟨p, hp, n, hn, hx⟩
    exact ⟨p, hp, by rw [hn]; exact List.mem_filter.mpr hx⟩

theorem FullPrefixList.stored {s : State} {t : T} (h : Shape s t) {w : Nat} {ps : List Bytes}
    (hf : FullPrefixList s w ps) {p : Bytes} (hp : p ∈ ps) :
    ∃ n, s.lruNode (lruIter p) = some n ∧ (lruIter p, n) ∈ t.entries s [] ∧ (s.cell n).we = w := by
  obtain ⟨hne, n, hn, hwn⟩ := (hf.full _).mp (List.mem_map.mpr ⟨p, hp, rfl⟩)
  exact ⟨n, hn, (lruNode_iff_entries h _ hne n).mp hn, hwn⟩

/-- asked with the full prefix list of `w` (any order): the pages visited are exactly the indexed pages that
    resolve to `w` and lie within the depth limit below their anchor, the prefix of `w` they are reached from -/
theorem visits_mem {s : State} {t : T} (h : Shape s t) (hi : Inv s t) {w : Nat} {ps : List Bytes}
    (hf : FullPrefixList s w ps) (depth : Option Nat) (b : Nat) (lru : Bytes) :
    (b, lru) ∈ visits s depth ps ↔
      ∃ X, (X, b) ∈ t.entries s [] ∧ (s.cell b).flags.page = true ∧ lru = X.flatten ∧
        s.retrieveWebentity lru = .ok w ∧
        ∃ P, IsPrefixOf s w P ∧ IsAnchor s t P X ∧ WithinDepth depth P X := by
  rw [mem_visits]
  constructor
  · rintro ⟨p, hp, n, hn, hx, hpg⟩
    obtain ⟨n', hn', hP, hwn⟩ := hf.stored h hp
    rw [hn] at hn'; cases hn'
    obtain ⟨X, hX, hpx, rfl, hz, hd⟩ := (weDfs_opt_walk_iff h hP depth b lru).mp hx
    have hXi : lruIter X.flatten = X := hi.wf.iter_flatten hX
    refine ⟨X, hX, hpg, rfl, ?_, lruIter p, (hf.full _).mp (List.mem_map.mpr ⟨p, hp, rfl⟩),
      ⟨hpx, ⟨n, hP, by rw [hwn]; exact hf.ne⟩, hz⟩, hd⟩
    rw [retrieve_entry_iff h _ hf.ne, hXi]
    refine ⟨(lruIter p).length, n, List.length_pos_iff.mpr (entry_ne_nil hP), hpx.length_le, ?_, hwn, hz⟩
    rw [← List.prefix_iff_eq_take.mp hpx]; exact hP
  · rintro ⟨X, hX, hpg, rfl, _, P, hpre, ⟨hpx, ⟨a, ha, _⟩, hz⟩, hd⟩
    obtain ⟨p, hp, hpe⟩ := List.mem_map.mp ((hf.full _).mpr hpre)
    refine ⟨p, hp, a, by rw [hpe]; exact (lruNode_iff_entries h _ (entry_ne_nil ha) a).mpr ha, ?_, hpg⟩
    rw [← hpe] at ha hpx hz hd
    exact (weDfs_opt_walk_iff h ha depth b _).mpr ⟨X, hX, hpx, rfl, hz, hd⟩

theorem visits_none_mem {s : State} {t : T} (h : Shape s t) (hi : Inv s t) {w : Nat} {ps : List Bytes}
    (hf : FullPrefixList s w ps) (b : Nat) (lru : Bytes) :
    (b, lru) ∈ visits s none ps ↔
      ∃ X, (X, b) ∈ t.entries s [] ∧ lru = X.flatten ∧ (s.cell b).flags.page = true ∧
        s.retrieveWebentity lru = .ok w := by
  rw [visits_mem h hi hf]
  constructor
  · rintro ⟨X, hX, hpg, e, hret, _⟩; exact ⟨X, hX, e, hpg, hret⟩
  · rintro ⟨X, hX, rfl, hpg, hret⟩
    obtain ⟨P, hP, hA⟩ := anchor_of_resolution h hf.ne hret
    rw [hi.wf.iter_flatten hX] at hA
    exact ⟨X, hX, hpg, rfl, hret, P, hP, hA, trivial⟩

theorem visits_map_mem {β : Type} {s : State} {t : T} (h : Shape s t) (hi : Inv s t) {w : Nat}
    {ps : List Bytes} (hf : FullPrefixList s w ps) (depth : Option Nat) (f : Nat → β) (lru : Bytes) (y : β) :
    (lru, y) ∈ (visits s depth ps).map (fun bl => (bl.2, f bl.1)) ↔
      lru = (lruIter lru).flatten ∧ s.retrieveWebentity lru = .ok w ∧
        (∃ b, (lruIter lru, b) ∈ t.entries s [] ∧ (s.cell b).flags.page = true ∧ y = f b) ∧
        ∃ P, IsPrefixOf s w P ∧ IsAnchor s t P (lruIter lru) ∧ WithinDepth depth P (lruIter lru) := by
  rw [List.mem_map]
  constructor
  · rintro ⟨⟨b, lru'⟩, hv, e⟩
    cases e
    obtain ⟨X, hX, hpg, rfl, hret, hP⟩ := (visits_mem h hi hf depth b lru').mp hv
    rw [hi.wf.iter_flatten hX]
    exact ⟨rfl, hret, ⟨b, hX, hpg, rfl⟩, hP⟩
  · rintro ⟨hfl, hret, ⟨b, hX, hpg, rfl⟩, hP⟩
    exact ⟨(b, lru), (visits_mem h hi hf depth b lru).mpr ⟨_, hX, hpg, hfl, hret, hP⟩, rfl⟩

theorem weDfs_pages_nodup {s : State} {t : T} (h : Shape s t) (hw : WfStems s t) {p : Bytes} {n : Nat}
    (hP : (lruIter p, n) ∈ t.entries s []) (depth : Option Nat) :
    (((s.weDfs n p depth).filter (fun bl => (s.cell bl.1).flags.page)).map (·.2)).Nodup :=
  walk_lrus_nodup h hw (weDfs_opt_addrs_nodup h hP p depth)
    (fun x hx => have ⟨X, hX, _, ex, _⟩ := (weDfs_opt_walk_iff h hP depth x.1 x.2).mp hx; ⟨X, hX, ex⟩) _ _ fun _ _ e => e

/-- a page is visited from one prefix only: its anchor -/
theorem visits_anchor {s : State} {t : T} (h : Shape s t) (hi : Inv s t) {w : Nat} {ps : List Bytes}
    (hf : FullPrefixList s w ps) {depth : Option Nat} {p₁ p₂ : Bytes} (hp₁ : p₁ ∈ ps) (hp₂ : p₂ ∈ ps)
    {n₁ n₂ : Nat} (hn₁ : s.lruNode (lruIter p₁) = some n₁) (hn₂ : s.lruNode (lruIter p₂) = some n₂)
    {b₁ b₂ : Nat} {lru : Bytes} (h₁ : (b₁, lru) ∈ s.weDfs n₁ p₁ depth) (h₂ : (b₂, lru) ∈ s.weDfs n₂ p₂ depth) :
    lruIter p₁ = lruIter p₂ := by
  obtain ⟨n₁', hn₁', hP₁, hw₁⟩ := hf.stored h hp₁
  obtain ⟨n₂', hn₂', hP₂, hw₂⟩ := hf.stored h hp₂
  rw [hn₁] at hn₁'; cases hn₁'
  rw [hn₂] at hn₂'; cases hn₂'
  obtain ⟨X, hX, hpx, ex, hzx, _⟩ := (weDfs_opt_walk_iff h hP₁ depth _ _).mp h₁
  obtain ⟨Y, hY, hpy, ey, hzy, _⟩ := (weDfs_opt_walk_iff h hP₂ depth _ _).mp h₂
  cases hi.wf.flatten_inj hX hY (by rw [← ex, ← ey])
  exact isAnchor_unique ⟨hpx, ⟨_, hP₁, hw₁ ▸ hf.ne⟩, hzx⟩ ⟨hpy, ⟨_, hP₂, hw₂ ▸ hf.ne⟩, hzy⟩

theorem visits_nodup {s : State} {t : T} (h : Shape s t) (hi : Inv s t) {w : Nat}
    {ps : List Bytes} (hf : FullPrefixList s w ps) (hnd : (ps.map lruIter).Nodup) (depth : Option Nat) :
    ((visits s depth ps).map (·.2)).Nodup := by
  rw [visits, List.map_flatMap]
  unfold List.Nodup at hnd ⊢
  rw [List.pairwise_map] at hnd
  rw [List.pairwise_flatMap]
  constructor
  · intro p hp
    obtain ⟨n, hn, hP, _⟩ := hf.stored h hp
    rw [hn]
    exact weDfs_pages_nodup h hi.wf hP depth
  · refine List.Pairwise.imp_of_mem ?_ hnd
    intro p₁ p₂ hp₁ hp₂ hne x hx y hy e
    subst e
    obtain ⟨n₁, hn₁, _⟩ := hf.stored h hp₁
    obtain ⟨n₂, hn₂, _⟩ := hf.stored h hp₂
    simp only [hn₁, List.mem_map] at hx
    simp only [hn₂, List.mem_map] at hy
    obtain ⟨⟨b₁, lru₁⟩, hx, rfl⟩ := hx
    obtain ⟨⟨b₂, lru₂⟩, hy, e⟩ := hy
    cases e
    exact hne (visits_anchor h hi hf hp₁ hp₂ hn₁ hn₂ (List.mem_filter.mp hx).1 (List.mem_filter.mp hy).1)


theorem webentityPages_visits {s : State} {ps : List Bytes} {l : List (Bytes × Bool)}
    (hl : s.webentityPages ps = .ok l) :
    l = (visits s none ps).map (fun bl => (bl.2, (s.cell bl.1).flags.crawled)) :=
  forPrefixes_visits_map hl

theorem C05_ok {s : State} {w : Nat} {ps : List Bytes} (hf : FullPrefixList s w ps) :
    ∃ l, s.webentityPages ps = .ok l := forPrefixes_full_ok hf _


theorem isCrawled_entry {s : State} {t : T} (h : Shape s t) {X : LRU} {b : Nat} (hX : (X, b) ∈ t.entries s [])
    (hpg : (s.cell b).flags.page = true) (c : Bool) :
    (c = true ↔ IsCrawled s t X) ↔ c = (s.cell b).flags.crawled := by
  have : IsCrawled s t X ↔ (s.cell b).flags.crawled = true :=
    ⟨fun ⟨b', hX', _, hc'⟩ => entries_path_injective h.ord h.nodup hX hX' ▸ hc', fun hc => ⟨b, hX, hpg, hc⟩⟩
  rw [this]; exact Bool.eq_iff_iff.symm

/-- C05, membership: asked with its full prefix list (any order), the webentity `w` is answered exactly the
    indexed pages that resolve to `w`, each with its current crawled mark. (The LRU of an answer is the
    concatenation of its stems, hence `lru = (lruIter lru).flatten`.) -/
theorem C05_member {s : State} {t : T} (h : Shape s t) (hi : Inv s t) {w : Nat} {ps : List Bytes}
    (hf : FullPrefixList s w ps) {l : List (Bytes × Bool)} (hl : s.webentityPages ps = .ok l)
    (lru : Bytes) (c : Bool) :
    (lru, c) ∈ l ↔
      lru = (lruIter lru).flatten ∧ IsPage s t (lruIter lru) ∧ s.retrieveWebentity lru = .ok w ∧
        (c = true ↔ IsCrawled s t (lruIter lru)) := by
  rw [webentityPages_visits hl, visits_map_mem h hi hf none (fun b => (s.cell b).flags.crawled)]
  constructor
  · rintro ⟨hfl, hret, ⟨b, hX, hpg, rfl⟩, _⟩
    exact ⟨hfl, ⟨b, hX, hpg⟩, hret, (isCrawled_entry h hX hpg _).mpr rfl⟩
  · rintro ⟨hfl, ⟨b, hX, hpg⟩, hret, hcr⟩
    obtain ⟨P, hP, hA⟩ := anchor_of_resolution h hf.ne hret
    exact ⟨hfl, hret, ⟨b, hX, hpg, (isCrawled_entry h hX hpg c).mp hcr⟩, P, hP, hA, trivial⟩

/-- C05, no repetition: if no prefix is given twice, no page appears twice within one answer -/
theorem C05_nodup {s : State} {t : T} (h : Shape s t) (hi : Inv s t) {w : Nat} {ps : List Bytes}
    (hf : FullPrefixList s w ps) (hnd : (ps.map lruIter).Nodup) {l : List (Bytes × Bool)}
    (hl : s.webentityPages ps = .ok l) : (l.map (·.1)).Nodup := by
  rw [webentityPages_visits hl, List.map_map]
  exact visits_nodup h hi hf hnd none


/-- a page has one mark per answer (also without the no-repetition hypothesis on the prefix list) -/
theorem C05_mark_unique {s : State} {t : T} (h : Shape s t) (hi : Inv s t) {w : Nat} {ps : List Bytes}
    (hf : FullPrefixList s w ps) {l : List (Bytes × Bool)} (hl : s.webentityPages ps = .ok l)
    {lru : Bytes} {c c' : Bool} (h1 : (lru, c) ∈ l) (h2 : (lru, c') ∈ l) : c = c' := by
  have a1 := ((C05_member h hi hf hl lru c).mp h1).2.2.2
  have a2 := ((C05_member h hi hf hl lru c').mp h2).2.2.2
  exact Bool.eq_iff_iff.mpr (a1.trans a2.symm)

/-- C05, partition: every indexed page that resolves to `w` is in `w`'s answer; a page of `w`'s answer
    resolves to `w`, hence is in no other webentity's answer; a page that resolves to no webentity is in
    no answer -/
theorem C05_partition {s : State} {t : T} (h : Shape s t) (hi : Inv s t) {w : Nat} {ps : List Bytes}
    (hf : FullPrefixList s w ps) {l : List (Bytes × Bool)} (hl : s.webentityPages ps = .ok l) :
    (∀ X, IsPage s t X → s.retrieveWebentity X.flatten = .ok w → ∃ c, (X.flatten, c) ∈ l) ∧
    (∀ lru c, (lru, c) ∈ l → s.retrieveWebentity lru = .ok w) ∧
    (∀ lru c, (lru, c) ∈ l → ∀ w' ps' l', FullPrefixList s w' ps' → s.webentityPages ps' = .ok l' →
      (∃ c', (lru, c') ∈ l') → w' = w) ∧
    (∀ lru e, s.retrieveWebentity lru = .error e → ∀ c, (lru, c) ∉ l) := by
  refine ⟨fun X hX hret => ?_, fun lru c hm => ((C05_member h hi hf hl lru c).mp hm).2.2.1,
    fun lru c hm w' ps' l' hf' hl' ⟨c', hm'⟩ => ?_, fun lru e he c hm => ?_⟩
  · obtain ⟨b, hb, hpg⟩ := hX
    have hXi : lruIter X.flatten = X := hi.wf.iter_flatten hb
    refine ⟨(s.cell b).flags.crawled, (C05_member h hi hf hl _ _).mpr ⟨by rw [hXi], ?_, hret, ?_⟩⟩
    · rw [hXi]; exact ⟨b, hb, hpg⟩
    · rw [hXi]; exact (isCrawled_entry h hb hpg _).mpr rfl
  · have r1 := ((C05_member h hi hf hl lru c).mp hm).2.2.1
    have r2 := ((C05_member h hi hf' hl' lru c').mp hm').2.2.1
    rw [r1] at r2
    cases r2; rfl
  · have r1 := ((C05_member h hi hf hl lru c).mp hm).2.2.1
    rw [he] at r1; cases r1

/-- C05, crawled-only variant: the answer of `get_webentity_crawled_pages` is the answer of
    `get_webentity_pages` filtered by the mark; it lists exactly the crawled pages that resolve to `w`,
    all marked crawled, without repetition if no prefix is given twice -/
theorem C05_crawled {s : State} {t : T} (h : Shape s t) (hi : Inv s t) {w : Nat} {ps : List Bytes}
    (hf : FullPrefixList s w ps) {l : List (Bytes × Bool)} (hl : s.webentityPages ps = .ok l) :
    s.webentityCrawledPages ps = .ok (l.filter (·.2)) ∧
    (∀ lru c, (lru, c) ∈ l.filter (·.2) ↔
      c = true ∧ lru = (lruIter lru).flatten ∧ IsCrawled s t (lruIter lru) ∧
        s.retrieveWebentity lru = .ok w) ∧
    ((ps.map lruIter).Nodup → ((l.filter (·.2)).map (·.1)).Nodup) := by
  refine ⟨by unfold webentityCrawledPages; rw [hl]; rfl, fun lru c => ?_, fun hnd => ?_⟩
  · rw [List.mem_filter, C05_member h hi hf hl]
    constructor
    · rintro ⟨⟨hfl, _, hret, hcr⟩, hc⟩
      have hc' : c = true := by simpa using hc
      exact ⟨hc', hfl, hcr.mp hc', hret⟩
    · rintro ⟨hc, hfl, hcr, hret⟩
      exact ⟨⟨hfl, hcr.isPage, hret, fun _ => hcr, fun _ => hc⟩, by simpa using hc⟩
  · exact List.Nodup.sublist ((List.filter_sublist (l := l)).map (·.1)) (C05_nodup h hi hf hnd hl)

theorem pa_retrieveWebentity_nil_err (s : State) (lru : Bytes) (hnil : lruIter lru = []) :
    s.retrieveWebentity lru = .error .traph := by
  have hwe : (s.followLru (lruIter lru)).2.we = 0 := by
    unfold followLru
    rw [hnil]
    split <;> rfl
  unfold retrieveWebentity
  simp only [hwe, if_true]

/-- C05, membership, model level: `(lru, c)` is in the answer iff `lru` is the LRU of an indexed page
    (`lru_node` finds it and its block is flagged as a page), `retrieve_webentity` maps it to `w`, and
    `c` is the block's crawled flag -/
theorem C05_member_model {s : State} {t : T} (h : Shape s t) (hi : Inv s t) {w : Nat} {ps : List Bytes}
    (hf : FullPrefixList s w ps) {l : List (Bytes × Bool)} (hl : s.webentityPages ps = .ok l)
    (lru : Bytes) (c : Bool) :
    (lru, c) ∈ l ↔
      lru = (lruIter lru).flatten ∧ s.retrieveWebentity lru = .ok w ∧
        ∃ b, s.lruNode (lruIter lru) = some b ∧ (s.cell b).flags.page = true ∧
          c = (s.cell b).flags.crawled := by
  rw [C05_member h hi hf hl]
  constructor
  · rintro ⟨hfl, ⟨b, hb, hpg⟩, hret, hcr⟩
    exact ⟨hfl, hret, b, (lruNode_iff_entries h _ (entry_ne_nil hb) b).mpr hb, hpg, (isCrawled_entry h hb hpg c).mp hcr⟩
  · rintro ⟨hfl, hret, b, hb, hpg, hc⟩
    have hne : lruIter lru ≠ [] := by
      intro e
      rw [pa_retrieveWebentity_nil_err s lru e] at hret
      cases hret
    have hb' := (lruNode_iff_entries h _ hne b).mp hb
    exact ⟨hfl, ⟨b, hb', hpg⟩, hret, (isCrawled_entry h hb' hpg c).mpr hc⟩

/-- C05, nested webentities: if a page of `w`'s answer lies below a stored prefix `Q` of any webentity
    (`w` itself or another one), then it lies below a prefix of `w` that is at least as long as `Q`: pages
    below a nested webentity's prefix are not in the enclosing webentity's answer, unless `w` itself has a
    prefix nested deeper still (`w ⊃ v ⊃ w`), from which they are reached -/
theorem C05_nested {s : State} {t : T} (h : Shape s t) (hi : Inv s t) {w : Nat} {ps : List Bytes}
    (hf : FullPrefixList s w ps) {l : List (Bytes × Bool)} (hl : s.webentityPages ps = .ok l)
    {lru : Bytes} {c : Bool} (hm : (lru, c) ∈ l) {Q : LRU} {v : Nat} (hv : v ≠ 0)
    (hQ : IsPrefixOf s v Q) (hQX : Q <+: lruIter lru) :
    ∃ P, IsPrefixOf s w P ∧ Q <+: P ∧ P <+: lruIter lru := by
  obtain ⟨_, ⟨b, hX, _⟩, hret, _⟩ := (C05_member h hi hf hl lru c).mp hm
  obtain ⟨k, a, hk0, hkl, ha, hwa, hz⟩ := (retrieve_entry_iff h lru hf.ne).mp hret
  obtain ⟨nq, hnq, hwq⟩ := (isPrefixOf_iff h v Q).mp hQ
  have eQ := List.prefix_iff_eq_take.mp hQX
  have hle : Q.length ≤ k := by
    apply Classical.byContradiction
    intro hlt
    rw [eQ] at hnq
    exact hv (hwq ▸ hz Q.length (by omega) hQX.length_le nq hnq)
  refine ⟨(lruIter lru).take k, (isPrefixOf_iff h w _).mpr ⟨a, ha, hwa⟩, ?_, List.take_prefix _ _⟩
  rw [eQ]
  exact List.take_prefix_take_left hle

theorem pa_count_flatMap_key {α β γ : Type} [BEq β] [BEq γ] (f : α → List β) (key : α → γ)
    (x : β) (K : γ) : ∀ (ps : List α), (∀ p ∈ ps, (f p).count x = if key p == K then 1 else 0) →
    (ps.flatMap f).count x = (ps.map key).count K
  | [], _ => by simp
  | p :: ps, h => by
    rw [List.flatMap_cons, List.count_append, List.map_cons, List.count_cons,
      pa_count_flatMap_key f key x K ps (fun q hq => h q (by simp [hq])), h p (by simp)]
    omega


/-- C05, repetitions: a page of the answer is listed exactly as many times as its prefix — the longest
    stored stem-prefix of the page carrying a webentity, which is a prefix of `w` — occurs in the list given
    (as cut by `lru_iter`: bytes after the last separator of a prefix are ignored). In particular a prefix
    given twice makes every page below it appear twice. -/
theorem C05_count {s : State} {t : T} (h : Shape s t) (hi : Inv s t) {w : Nat} {ps : List Bytes}
    (hf : FullPrefixList s w ps) {l : List (Bytes × Bool)} (hl : s.webentityPages ps = .ok l)
    {lru : Bytes} {c : Bool} (hm : (lru, c) ∈ l) :
    ∃ P, P <+: lruIter lru ∧ IsPrefixOf s w P ∧ (l.map (·.1)).count lru = (ps.map lruIter).count P := by
  have e1 : l.map (·.1) = (visits s none ps).map (·.2) := by
    rw [webentityPages_visits hl, List.map_map]; rfl
  rw [webentityPages_visits hl] at hm
  obtain ⟨⟨b, lru'⟩, hv, e⟩ := List.mem_map.mp hm
  have e' : lru = lru' := (congrArg Prod.fst e).symm
  subst e'
  obtain ⟨p₀, hp₀, n₀, hn₀, hx₀, hpg⟩ := (mem_visits s none ps b lru).mp hv
  obtain ⟨n₀', hn₀', hP₀, _⟩ := hf.stored h hp₀
  rw [hn₀] at hn₀'; cases hn₀'
  obtain ⟨X, hX, hpx, hfl, hz, _⟩ := (weDfs_opt_walk_iff h hP₀ none b lru).mp hx₀
  have hXi : lruIter lru = X := by rw [hfl]; exact hi.wf.iter_flatten hX
  refine ⟨lruIter p₀, by rw [hXi]; exact hpx, (hf.full _).mp (List.mem_map.mpr ⟨p₀, hp₀, rfl⟩), ?_⟩
  rw [e1, visits, List.map_flatMap]
  apply pa_count_flatMap_key
  intro p hp
  obtain ⟨n, hn, hP, _⟩ := hf.stored h hp
  simp only [hn]
  rw [(weDfs_pages_nodup h hi.wf hP none).count]
  have key : lru ∈ ((s.weDfs n p none).filter (fun bl => (s.cell bl.1).flags.page)).map (·.2) ↔
      lruIter p = lruIter p₀ := by
    constructor
    · intro hmem
      obtain ⟨⟨b', lru'⟩, hmem', e⟩ := List.mem_map.mp hmem
      cases e
      exact visits_anchor h hi hf hp hp₀ hn hn₀ (List.mem_filter.mp hmem').1 hx₀
    · intro e
      refine List.mem_map.mpr ⟨(b, lru), List.mem_filter.mpr
        ⟨(weDfs_opt_walk_iff h hP none b lru).mpr ⟨X, hX, ?_, hfl, ?_, trivial⟩, hpg⟩, rfl⟩
      · rw [e]; exact hpx
      · rw [e]; exact hz
  by_cases e : lruIter p = lruIter p₀
  · rw [if_pos (key.mpr e), if_pos (beq_iff_eq.mpr e)]
  · rw [if_neg (fun hmem => e (key.mp hmem)), if_neg (fun hb => e (beq_iff_eq.mp hb))]

/-- the prefixes `webentity_prefix_iter` lists for `w`: a witness that a `FullPrefixList` exists (`prefixesOf_full`) -/
def prefixesOf (s : State) (w : Nat) : List Bytes :=
  (s.prefixIter.filter (fun x => x.2 == w)).map (·.1)

theorem pa_prefixIter_mem {s : State} {t : T} (h : Shape s t) (lru : Bytes) (w : Nat) :
    (lru, w) ∈ s.prefixIter ↔ ∃ X b, (X, b) ∈ t.entries s [] ∧ lru = X.flatten ∧ (s.cell b).we = w ∧ w ≠ 0 := by
  unfold prefixIter
  simp only [List.mem_map, List.mem_filter, Prod.mk.injEq, decide_eq_true_eq]
  constructor
  · rintro ⟨⟨b, lru'⟩, ⟨hm, hw⟩, rfl, rfl⟩
    obtain ⟨X, hX, e⟩ := (dfsIter_mem_iff h b lru').mp hm
    exact ⟨X, b, hX, e, rfl, hw⟩
  · rintro ⟨X, b, hX, rfl, rfl, hw⟩
    exact ⟨(b, X.flatten), ⟨(dfsIter_mem_iff h b _).mpr ⟨X, hX, rfl⟩, hw⟩, rfl, rfl⟩

/-- every webentity id `w ≠ 0` has a full prefix list without repetition, and `webentity_prefix_iter`
    provides it -/
theorem prefixesOf_full {s : State} {t : T} (h : Shape s t) (hi : Inv s t) {w : Nat} (hw : w ≠ 0) :
    FullPrefixList s w (prefixesOf s w) ∧ ((prefixesOf s w).map lruIter).Nodup := by
  constructor
  · refine ⟨hw, fun P => ?_⟩
    rw [isPrefixOf_iff h]
    unfold prefixesOf
    simp only [List.mem_map, List.mem_filter, beq_iff_eq]
    constructor
    · rintro ⟨lru, ⟨⟨lru', w'⟩, ⟨hm, hw'⟩, rfl⟩, rfl⟩
      subst hw'
      obtain ⟨X, b, hX, e, hwb, _⟩ := (pa_prefixIter_mem h lru' w').mp hm
      rw [e, hi.wf.iter_flatten hX]
      exact ⟨b, hX, hwb⟩
    · rintro ⟨b, hX, hwb⟩
      exact ⟨P.flatten, ⟨(P.flatten, w), ⟨(pa_prefixIter_mem h _ _).mpr ⟨P, b, hX, rfl, hwb, hw⟩, rfl⟩, rfl⟩,
        hi.wf.iter_flatten hX⟩
  · have hD : ((s.dfsIter none false).map (fun bl => lruIter bl.2)).Nodup := by
      refine nodup_map_on (dfsIter_nodup h) fun x hx y hy e => ?_
      obtain ⟨X, hX, ex⟩ := (dfsIter_mem_iff h x.1 x.2).mp hx
      obtain ⟨Y, hY, ey⟩ := (dfsIter_mem_iff h y.1 y.2).mp hy
      rw [ex, ey, hi.wf.iter_flatten hX, hi.wf.iter_flatten hY] at e
      subst e
      exact entries_path_injective h.ord h.nodup hX hY
    refine List.Nodup.sublist ?_ hD
    unfold prefixesOf prefixIter
    rw [List.filter_map, List.map_map, List.map_map]
    exact ((List.filter_sublist).trans (List.filter_sublist)).map _

/-- C05 for an index state with its ghost tree and invariants, for every webentity id `w` and every
    full prefix list `ps` of `w` in any order:
    the request is answered; the answer lists exactly the indexed pages that resolve to `w`, each with its
    crawled mark; a page is repeated exactly as often as its prefix is repeated in `ps` (so never, if no
    prefix is given twice); every page resolving to `w` is there, no page of the answer is in the answer of
    another webentity, pages resolving to no webentity are in no answer; the crawled-only variant is the
    filter by the mark and lists exactly the crawled pages resolving to `w`. Moreover every `w ≠ 0` has
    such a list (the one `webentity_prefix_iter` yields). -/
theorem C05_of_inv {s : State} {t : T} (h : Shape s t) (hi : Inv s t) :
    (∀ w ps, FullPrefixList s w ps →
      ∃ l, s.webentityPages ps = .ok l ∧
        (∀ lru c, (lru, c) ∈ l ↔
          lru = (lruIter lru).flatten ∧ IsPage s t (lruIter lru) ∧ s.retrieveWebentity lru = .ok w ∧
            (c = true ↔ IsCrawled s t (lruIter lru))) ∧
        ((ps.map lruIter).Nodup → (l.map (·.1)).Nodup) ∧
        (∀ lru c, (lru, c) ∈ l → ∃ P, P <+: lruIter lru ∧ IsPrefixOf s w P ∧
          (l.map (·.1)).count lru = (ps.map lruIter).count P) ∧
        (∀ X, IsPage s t X → s.retrieveWebentity X.flatten = .ok w → ∃ c, (X.flatten, c) ∈ l) ∧
        (∀ lru c, (lru, c) ∈ l → ∀ w' ps' l', FullPrefixList s w' ps' → s.webentityPages ps' = .ok l' →
          (∃ c', (lru, c') ∈ l') → w' = w) ∧
        (∀ lru e, s.retrieveWebentity lru = .error e → ∀ c, (lru, c) ∉ l) ∧
        s.webentityCrawledPages ps = .ok (l.filter (·.2)) ∧
        (∀ lru c, (lru, c) ∈ l.filter (·.2) ↔
          c = true ∧ lru = (lruIter lru).flatten ∧ IsCrawled s t (lruIter lru) ∧
            s.retrieveWebentity lru = .ok w)) ∧
    (∀ w, w ≠ 0 → FullPrefixList s w (prefixesOf s w) ∧ ((prefixesOf s w).map lruIter).Nodup) := by
  refine ⟨fun w ps hf => ?_, fun w hw => prefixesOf_full h hi hw⟩
  obtain ⟨l, hl⟩ := C05_ok hf
  obtain ⟨p1, p2, p3, p4⟩ := C05_partition h hi hf hl
  obtain ⟨c1, c2, _⟩ := C05_crawled h hi hf hl
  exact ⟨l, hl, C05_member h hi hf hl, fun hnd => C05_nodup h hi hf hnd hl,
    fun lru c hm => C05_count h hi hf hl hm, p1, p3, p4, c1, c2⟩

/-- the same with no reference to the ghost tree: everything is phrased with the model's own queries
    (`lru_node`, the block flags, `retrieve_webentity`) -/
theorem C05_model_of_inv {s : State} {t : T} (h : Shape s t) (hi : Inv s t)
    {w : Nat} {ps : List Bytes} (hf : FullPrefixList s w ps) :
    ∃ l, s.webentityPages ps = .ok l ∧
      (∀ lru c, (lru, c) ∈ l ↔
        lru = (lruIter lru).flatten ∧ s.retrieveWebentity lru = .ok w ∧
          ∃ b, s.lruNode (lruIter lru) = some b ∧ (s.cell b).flags.page = true ∧
            c = (s.cell b).flags.crawled) ∧
      ((ps.map lruIter).Nodup → (l.map (·.1)).Nodup) ∧
      s.webentityCrawledPages ps = .ok (l.filter (·.2)) := by
  obtain ⟨l, hl⟩ := C05_ok hf
  exact ⟨l, hl, C05_member_model h hi hf hl, fun hnd => C05_nodup h hi hf hnd hl,
    (C05_crawled h hi hf hl).1⟩

/-! The model on concrete indexes: `a|` and `a|b|c|` belong to webentity 1, `a|b|` to webentity 2 (`w ⊃ v ⊃ w`);
    pages `a|x|`, `a|b|`, `a|b|c|`, `a|b|c|d|`. -/
section Examples

private def exA : Bytes := [97, 124]
private def exAB : Bytes := [97, 124, 98, 124]
private def exABC : Bytes := [97, 124, 98, 124, 99, 124]
private def exABCD : Bytes := [97, 124, 98, 124, 99, 124, 100, 124]
private def exAX : Bytes := [97, 124, 120, 124]
private def exS : State :=
  (State.fresh {} .never [] []).1.run
    [.create [exA], .create [exAB], .addPrefix exABC 1, .addPage exAX false, .addPage exAB true,
     .addPage exABC false, .addPage exABCD true]
/-- the same webentity nested in itself: `a|` and `a|b|` both belong to webentity 1 -/
private def exS' : State :=
  (State.fresh {} .never [] []).1.run
    [.create [exA], .addPrefix exAB 1, .addPage exAX false, .addPage exAB true, .addPage exABC false]

/-- the model run once on either index; the examples below read the answers off -/
private theorem exS_eval :
    (exS.webentityPages [exA, exABC]).toOption = some [(exAX, false), (exABC, false), (exABCD, true)] ∧
    (exS.webentityPages [exABC, exA]).toOption = some [(exABC, false), (exABCD, true), (exAX, false)] ∧
    (exS.webentityPages [exAB]).toOption = some [(exAB, true)] ∧
    (exS.webentityCrawledPages [exABC, exA]).toOption = some [(exABCD, true)] := by decide +kernel

private theorem exS'_eval :
    (exS'.webentityPages [exA, exAB]).toOption = some [(exAX, false), (exAB, true), (exABC, false)] ∧
    (exS'.webentityPages [exAB, exAB]).toOption
      = some [(exAB, true), (exABC, false), (exAB, true), (exABC, false)] ∧
    (exS'.webentityPages [exAB, exAB ++ [122]]).toOption
      = some [(exAB, true), (exABC, false), (exAB, true), (exABC, false)] := by decide +kernel

/-- full prefix list of 1, either order: each page once; the page of webentity 2 is excluded, the pages
    below the inner prefix of 1 are reached from that prefix -/
example : (exS.webentityPages [exA, exABC]).toOption
    = some [(exAX, false), (exABC, false), (exABCD, true)] := exS_eval.1
example : (exS.webentityPages [exABC, exA]).toOption
    = some [(exABC, false), (exABCD, true), (exAX, false)] := exS_eval.2.1
example : (exS.webentityPages [exAB]).toOption = some [(exAB, true)] := exS_eval.2.2.1
example : (exS.webentityCrawledPages [exABC, exA]).toOption = some [(exABCD, true)] := exS_eval.2.2.2
/-- a prefix nested in a prefix of the same webentity causes no repetition (the walk is cut by any id) -/
example : (exS'.webentityPages [exA, exAB]).toOption
    = some [(exAX, false), (exAB, true), (exABC, false)] := exS'_eval.1
/-- a prefix given twice: every page below it is listed twice -/
example : (exS'.webentityPages [exAB, exAB]).toOption
    = some [(exAB, true), (exABC, false), (exAB, true), (exABC, false)] := exS'_eval.2.1
/-- …also when the two byte strings differ only after the last separator (`lru_iter` drops that part) -/
example : (exS'.webentityPages [exAB, exAB ++ [122]]).toOption
    = some [(exAB, true), (exABC, false), (exAB, true), (exABC, false)] := exS'_eval.2.2

end Examples

#print axioms retrieve_entry_iff
#print axioms weDfs_walk_iff
#print axioms C05_member
#print axioms C05_member_model
#print axioms C05_nodup
#print axioms C05_count
#print axioms C05_nested
#print axioms C05_partition
#print axioms C05_crawled
#print axioms prefixesOf_full
#print axioms C05_of_inv
#print axioms C05_model_of_inv

end Traph
