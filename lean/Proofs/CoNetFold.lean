import Proofs.CoFuelNet
import Proofs.Network
import Proofs.CoDrainSlow
/-! C16 — the network query `get_webentities_links_iter(out, include_auto)` (`NetSt` / `netResume`) under ANY schedule
    with writers: ONE local invariant, `nf_Ok`, from which the fuel, the answer and both bounds on it are read.

    The answer under interleaving is the SAME two folds as the atomic request (`network_eq` of `Proofs/NetworkSlow`):
    the tallies of the pages the query recorded (`nf_tally L`, `L` a ghost list of (block, webentity, crawled mark as
    read)), then the link events of the pointers it recorded, the other ends looked up in the dictionary of recorded
    pages (`nf_events`), both `netFold`s of `Proofs/NetworkAgg`. `nf_Ok` therefore does not describe the graph under
    construction, it says what it is computed from: in the first pass `graph = nf_tally L`; in the second, what the
    answer WILL be (`cf_netSpecP2`, which `netIter2_spec` of `Proofs/CoFuelNet` says no iteration changes) is
    `nf_answer`. The stubs being immutable, `nf_answer` does not depend on when the lists are read
    (`nf_events_later`). Keys, tallies and the exact weights of the answer are then read off the folds by the lemmas that
    read the atomic answer (`Proofs/NetworkAgg`, `readList_sum`): `nf_answer_weight`, `nf_answer_ok`, `nf_answer_complete`.

    Besides: the walk of the first pass meets every block at most once (`cf_NI`), the value carried to a block is 0 or
    the `we` field of a node above it (`cnb_Carry`), every recorded page is a page block with its id carried by itself
    or a node above (`cnb_Rec`), every recorded pointer was read from a recorded block that still owns it (`cf_Owns`), no
    block gave two. `nf_Ok` is stable under what other generators do (`nf_Ok.later`) and re-established by the query's
    own iterations, which also take one of the iterations that are enough (`nf_enough`), so that the iterations
    `CoSt.resume` grants suffice on an index whose lists share no stub (`cf_C16_net_query_failures`).
    `cnb_sched_sound_full`: for every schedule the answer IS `nf_answer` of what was recorded, read in the final index. -/
namespace Traph
open State Layout

theorem CoLater.we_cell {s s' : State} {t t' : T} (l : CoLater s t s' t') {p : LRU} {a : Nat}
    (hm : (p, a) ∈ t.entries s []) (hne : (s.cell a).we ≠ 0) : (s'.cell a).we = (s.cell a).we := by
  have e1 := weMap_entry l.shape hm
  have e2 := weMap_entry l.shape' (l.ext.keep _ _ hm)
  rw [← e1, ← e2]
  exact l.we p (by rw [e1]; exact hne)

theorem cnb_mem_dfsWePush {b we cur : Nat} {c : Cell} {stack : List (Nat × Nat)} {x : Nat × Nat} :
    x ∈ dfsWePush b we cur c stack ↔ (c.child ≠ 0 ∧ x = (c.child, cur)) ∨ (c.left ≠ 0 ∧ x = (c.left, we)) ∨
      (c.right ≠ 0 ∧ x = (c.right, we)) ∨ x ∈ stack := by
  unfold dfsWePush
  simp only [mem_ite_cons]

/-- `k` is a webentity id carried by the node of a (non-empty) prefix of the path `p` -/
def cnb_Near (s : State) (t : T) (p : LRU) (k : Nat) : Prop :=
  k ≠ 0 ∧ ∃ q a, q <+: p ∧ (q, a) ∈ t.entries s [] ∧ (s.cell a).we = k

/-- a value carried down by the walk: nothing yet, or the id of a node above -/
def cnb_Carry (s : State) (t : T) (p : LRU) (c : Nat) : Prop := c = 0 ∨ cnb_Near s t p c

theorem cnb_Near.later {s s' : State} {t t' : T} (l : CoLater s t s' t') {p : LRU} {k : Nat} (hn : cnb_Near s t p k) :
    cnb_Near s' t' p k := by
  obtain ⟨hk, q, a, hq, hm, e⟩ := hn
  refine ⟨hk, q, a, hq, l.ext.keep _ _ hm, ?_⟩
  rw [l.we_cell hm (by rw [e]; exact hk), e]

theorem cnb_Carry.later {s s' : State} {t t' : T} (l : CoLater s t s' t') {p : LRU} {k : Nat} (hn : cnb_Carry s t p k) :
    cnb_Carry s' t' p k :=
  hn.imp id (fun hn => hn.later l)

theorem cnb_Near.longer {s : State} {t : T} {p p' : LRU} {k : Nat} (hp : p <+: p') (hn : cnb_Near s t p k) :
    cnb_Near s t p' k := by
  obtain ⟨hk, q, a, hq, hm, e⟩ := hn
  exact ⟨hk, q, a, hq.trans hp, hm, e⟩

theorem cnb_Carry.longer {s : State} {t : T} {p p' : LRU} {k : Nat} (hp : p <+: p') (hn : cnb_Carry s t p k) :
    cnb_Carry s t p' k := hn.imp id (fun hn => hn.longer hp)

/-- the value the walk computes at a block: its own id, or the one carried down to it -/
theorem cnb_Carry.step {s : State} {t : T} {p : LRU} {b we : Nat} (hm : (p, b) ∈ t.entries s [])
    (hc : cnb_Carry s t p.dropLast we) :
    cnb_Carry s t p (if (s.cell b).we ≠ 0 then (s.cell b).we else we) := by
  by_cases hw : (s.cell b).we ≠ 0
  · rw [if_pos hw]
    exact Or.inr ⟨hw, p, b, List.prefix_refl _, hm, rfl⟩
  · rw [if_neg hw]
    exact hc.longer (List.dropLast_prefix p)

/-- a recorded page: a page block of the tree, with an id carried by itself or a node above -/
def cnb_Rec (s : State) (t : T) (bk : Nat × Nat) : Prop :=
  ∃ p, (p, bk.1) ∈ t.entries s [] ∧ (s.cell bk.1).flags.page = true ∧ cnb_Near s t p bk.2

theorem cnb_Rec.later {s s' : State} {t t' : T} (l : CoLater s t s' t') {bk : Nat × Nat} (hr : cnb_Rec s t bk) :
    cnb_Rec s' t' bk := by
  obtain ⟨p, hm, hp, hn⟩ := hr
  exact ⟨p, l.ext.keep _ _ hm, (l.cell hm).page hp, hn.later l⟩

theorem cnb_Rec.crawled {s s' : State} {t t' : T} (l : CoLater s t s' t') {bk : Nat × Nat} (hr : cnb_Rec s t bk)
    (hc : (s.cell bk.1).flags.crawled = true) : (s'.cell bk.1).flags.crawled = true :=
  have ⟨_, hm, _⟩ := hr
  (l.cell hm).crawled hc

def cnb_StackOk (s : State) (t : T) (stack : List (Nat × Nat)) : Prop :=
  ∀ x ∈ stack, ∃ p, (p, x.1) ∈ t.entries s [] ∧ cnb_Carry s t p.dropLast x.2

theorem cnb_StackOk.later {s s' : State} {t t' : T} (l : CoLater s t s' t') {stack : List (Nat × Nat)}
    (hs : cnb_StackOk s t stack) : cnb_StackOk s' t' stack := fun y hy => by
  obtain ⟨p, hm, hc⟩ := hs y hy
  exact ⟨p, l.ext.keep _ _ hm, hc.later l⟩

theorem cnb_StackOk.push {s : State} {t : T} (h : Shape s t) {b we cur : Nat} {c : Cell} {stack : List (Nat × Nat)}
    (hs : cnb_StackOk s t stack) (cl : CellLe c (s.cell b)) {p : LRU} (hp : (p, b) ∈ t.entries s [])
    (hwe : cnb_Carry s t p.dropLast we) (hcur : cnb_Carry s t p cur) :
    cnb_StackOk s t (dfsWePush b we cur c stack) := by
  intro y hy
  obtain ⟨fl, fr, fc⟩ := stale_entries h cl hp
  rcases cnb_mem_dfsWePush.mp hy with ⟨hne, rfl⟩ | ⟨hne, rfl⟩ | ⟨hne, rfl⟩ | hy
  · exact (fc hne).elim fun _ hz => ⟨_, hz, by rw [List.dropLast_concat]; exact hcur⟩
  · exact (fl hne).elim fun _ hz => ⟨_, hz, by rw [List.dropLast_concat]; exact hwe⟩
  · exact (fr hne).elim fun _ hz => ⟨_, hz, by rw [List.dropLast_concat]; exact hwe⟩
  · exact hs y hy

/-- the answer under construction against the pages recorded so far -/
structure cnb_GraphOk (s : State) (auto : Bool) (pw : List (Nat × Nat)) (g : List NetRow) : Prop where
  ok    : NetOk g
  rows  : ∀ r ∈ g, ∃ b, (b, r.src) ∈ pw
  /-- every target key is the id recorded for some page; self-links only on request -/
  tgts  : ∀ r ∈ g, ∀ kw ∈ r.targets, (∃ b, (b, kw.1) ∈ pw) ∧ (auto = false → kw.1 ≠ r.src)
  have_ : ∀ bk ∈ pw, bk.2 ∈ g.map (·.src)
  /-- the two tallies of a row count the recorded pages of its id; those counted as crawled are crawled -/
  tally : ∀ r ∈ g, r.crawled + r.uncrawled = pw.countP (fun bk => decide (bk.2 = r.src)) ∧
      r.crawled ≤ pw.countP (fun bk => decide (bk.2 = r.src) && (s.cell bk.1).flags.crawled)

theorem cnb_GraphOk.mono {s s' : State} {auto : Bool} {pw : List (Nat × Nat)} {g : List NetRow}
    (hc : ∀ bk ∈ pw, (s.cell bk.1).flags.crawled = true → (s'.cell bk.1).flags.crawled = true)
    (hg : cnb_GraphOk s auto pw g) : cnb_GraphOk s' auto pw g := by
  refine ⟨hg.ok, hg.rows, hg.tgts, hg.have_, fun r hr => ⟨(hg.tally r hr).1, Nat.le_trans (hg.tally r hr).2 ?_⟩⟩
  apply List.countP_mono_left
  intro bk hbk hp
  simp only [Bool.and_eq_true, decide_eq_true_eq] at hp ⊢
  exact ⟨hp.1, hc bk hbk hp.2⟩

def cnb_P (pw : List (Nat × Nat)) (B : Nat) : Nat → Bool := fun t => decide (dictGet? pw t = some B)

/-- the links (with multiplicity) from recorded pages of id `A` to recorded pages of id `B`: over the out-lists
    (`out = true`; in-lists otherwise) of the recorded blocks of id `A`, the entries that are recorded blocks of id `B` -/
def cnb_linkW (s : State) (out : Bool) (pw : List (Nat × Nat)) (A B : Nat) : Nat :=
  ((pw.filter (fun x => decide (x.2 = A))).map (fun x => ((cf_listOf s out x.1).filter (cnb_P pw B)).length)).sum

/-- the keys and tallies of `cnb_AnsFull` -/
def cnb_AnsOk (s : State) (t : T) (auto : Bool) (g : List NetRow) : Prop :=
  ∃ pw : List (Nat × Nat), (pw.map (·.1)).Nodup ∧ (∀ bk ∈ pw, cnb_Rec s t bk) ∧ cnb_GraphOk s auto pw g

/-- **what the answer of the network query satisfies**: `pw` is the list of (page block, webentity id) the query
    recorded; keys, tallies, and every weight backed by links between recorded pages -/
def cnb_AnsFull (s : State) (t : T) (out auto : Bool) (g : List NetRow) : Prop :=
  ∃ pw : List (Nat × Nat), (pw.map (·.1)).Nodup ∧ (∀ bk ∈ pw, cnb_Rec s t bk) ∧ cnb_GraphOk s auto pw g ∧
    ∀ A B, netW g A B ≤ cnb_linkW s out pw A B

theorem cnb_AnsFull.ansOk {s : State} {t : T} {out auto : Bool} {g : List NetRow} (ha : cnb_AnsFull s t out auto g) :
    cnb_AnsOk s t auto g :=
  have ⟨pw, h1, h2, h3, _⟩ := ha
  ⟨pw, h1, h2, h3⟩

theorem cnb_AnsOk.later {s s' : State} {t t' : T} {auto : Bool} {g : List NetRow} (l : CoLater s t s' t')
    (ha : cnb_AnsOk s t auto g) : cnb_AnsOk s' t' auto g :=
  have ⟨pw, h1, h2, h3⟩ := ha
  ⟨pw, h1, fun bk hbk => (h2 bk hbk).later l, h3.mono fun bk hbk => (h2 bk hbk).crawled l⟩

/-- `graph[we]["pages_crawled" | "pages_uncrawled"] += 1`, the mark as it was read -/
def tallyOf (c : Bool) (r : NetRow) : NetRow :=
  if c then { r with crawled := r.crawled + 1 } else { r with uncrawled := r.uncrawled + 1 }

theorem tallyOf_src (c : Bool) (r : NetRow) : (tallyOf c r).src = r.src := by unfold tallyOf; split <;> rfl

theorem tallyOf_targets (c : Bool) (r : NetRow) : (tallyOf c r).targets = r.targets := by unfold tallyOf; split <;> rfl

/-- what the first pass records of a page: its block, the webentity it resolved to, the crawled mark it read -/
abbrev nf_Page := Nat × Nat × Bool

/-- the graph the first pass leaves -/
def nf_tally (L : List nf_Page) : List NetRow := netFold (·.2.1) (fun x => tallyOf x.2.2) [] L

theorem nf_tally_append (L : List nf_Page) (x : nf_Page) :
    nf_tally (L ++ [x]) = netTouch (nf_tally L) x.2.1 (tallyOf x.2.2) := by
  unfold nf_tally netFold; rw [List.foldl_append]; rfl

def nf_res (D : List (Nat × Nat)) (c : Nat) : Nat := (dictGet? D c).getD 0

theorem nf_res_eq {D : List (Nat × Nat)} {c B : Nat} (hB : B ≠ 0) : nf_res D c = B ↔ dictGet? D c = some B := by
  unfold nf_res
  cases dictGet? D c with
  | none => exact ⟨fun e => absurd e.symm hB, fun e => nomatch e⟩
  | some x => exact ⟨congrArg some, Option.some.inj⟩

/-- the link events of the pointers: one reading (`readList`) of the list of each, the other ends looked up in `D` -/
def nf_events (s : State) (auto : Bool) (D : List (Nat × Nat)) (ptrs : List (Nat × Nat)) : List (Nat × Nat × Nat) :=
  ptrs.flatMap fun sh =>
    readList s sh.2 true (fun c => keepEv auto sh.1 (nf_res D c)) (fun c k => (sh.1, nf_res D c, k))

theorem nf_inner_eq {auto : Bool} {D : List (Nat × Nat)} (hD : ∀ bk ∈ D, bk.2 ≠ 0) (A : Nat) (g : List NetRow)
    (tw : Nat × Nat) :
    cf_netInner auto D A g tw = (evOf auto A (nf_res D tw.1) tw.2).elim g (fun e => netTouch g e.1 (netAdd e)) := by
  rw [evOf_eq]
  unfold cf_netInner nf_res
  cases hd : dictGet? D tw.1 with
  | none => rfl
  | some tWe =>
    have h0 : tWe ≠ 0 := hD _ (dictGet?_mem _ _ _ hd)
    simp only [Option.getD_some, if_neg h0]
    by_cases hc : (!auto && decide (A = tWe)) = true
    · rw [if_pos hc, if_pos hc]; rfl
    · rw [if_neg hc, if_neg hc]; rfl

theorem nf_inner_fold {auto : Bool} {D : List (Nat × Nat)} (hD : ∀ bk ∈ D, bk.2 ≠ 0) (A : Nat) :
    ∀ (l : List (Nat × Nat)) (g : List NetRow), l.foldl (cf_netInner auto D A) g =
      netFold (·.1) netAdd g (l.filterMap fun tw => evOf auto A (nf_res D tw.1) tw.2)
  | [], _ => rfl
  | tw :: l, g => by
    rw [List.foldl_cons, nf_inner_fold hD A l, nf_inner_eq hD]
    cases hk : evOf auto A (nf_res D tw.1) tw.2 with
    | none => simp only [List.filterMap_cons, hk]; rfl
    | some e => simp only [List.filterMap_cons, hk]; rfl

/-- the second pass is a pass of link events -/
theorem nf_outer_fold {auto : Bool} {D : List (Nat × Nat)} (hD : ∀ bk ∈ D, bk.2 ≠ 0) (s : State) :
    ∀ (ptrs : List (Nat × Nat)) (g : List NetRow), (∀ sh ∈ ptrs, sh.2 ≠ 0) →
      ptrs.foldl (cf_netOuter s auto D) g = netFold (·.1) netAdd g (nf_events s auto D ptrs)
  | [], _, _ => rfl
  | sh :: ptrs, g, h => by
    unfold nf_events
    rw [List.foldl_cons, List.flatMap_cons, netFold_append, readList_on _ _ _ _ (h sh (List.mem_cons_self ..)),
      nf_outer_fold hD s ptrs _ fun x hx => h x (List.mem_cons_of_mem _ hx)]
    unfold cf_netOuter
    rw [nf_inner_fold hD]
    rfl

theorem nf_events_later {s s' : State} {t t' : T} (l : CoLater s t s' t') (hk : HeadsOk s) (auto : Bool)
    (D : List (Nat × Nat)) : ∀ (ptrs : List (Nat × Nat)), (∀ sh ∈ ptrs, sh.2 < s.links.size) →
      nf_events s' auto D ptrs = nf_events s auto D ptrs
  | [], _ => rfl
  | sh :: ptrs, h => by
    have ih := nf_events_later l hk auto D ptrs fun x hx => h x (List.mem_cons_of_mem _ hx)
    unfold nf_events readList at ih ⊢
    rw [List.flatMap_cons, List.flatMap_cons, ih, l.weighted hk (h sh (List.mem_cons_self ..))]

theorem cf_netSpecP2_later {s s' : State} {t t' : T} (l : CoLater s t s' t') (hk : HeadsOk s) (n : NetSt) :
    ∀ (ptrs : List (Nat × Nat)), (∀ sh ∈ ptrs, sh.2 < s.links.size) → cf_netSpecP2 s' n ptrs = cf_netSpecP2 s n ptrs := by
  unfold cf_netSpecP2
  generalize n.curList.foldl (cf_netInner n.auto n.pageWe n.curSrc) n.graph = g
  intro ptrs
  induction ptrs generalizing g with
  | nil => intro _; rfl
  | cons sh ptrs ih =>
    intro h
    rw [List.foldl_cons, List.foldl_cons, ← ih _ (fun x hx => h x (List.mem_cons_of_mem _ hx))]
    unfold cf_netOuter
    rw [l.weighted hk (h sh (List.mem_cons_self ..))]

theorem nf_left_later {s s' : State} {t t' : T} (l : CoLater s t s' t') (hk : HeadsOk s) (cl : List (Nat × Nat)) :
    ∀ (ptrs : List (Nat × Nat)), (∀ sh ∈ ptrs, sh.2 < s.links.size) → nf_left s' cl ptrs = nf_left s cl ptrs
  | [], _ => rfl
  | sh :: ptrs, h => by
    have ih := nf_left_later l hk cl ptrs fun x hx => h x (List.mem_cons_of_mem _ hx)
    unfold nf_left at ih ⊢
    simp only [List.map_cons, List.sum_cons]
    rw [l.weighted hk (h sh (List.mem_cons_self ..))]
    omega

/-- opening the recorded pointers takes one iteration each and one for each entry of their Counters -/
theorem nf_left_le_own (s : State) : ∀ own : List cf_Ptr, nf_left s [] (own.map (·.2)) ≤ own.length + cf_walkSum s own
  | [] => Nat.le_refl _
  | x :: own => by
    have ih := nf_left_le_own s own
    have := cf_weighted_length_le s x.2.2
    simp only [nf_left, cf_walkSum, List.map_cons, List.sum_cons, List.length_cons, List.length_nil] at ih ⊢
    omega

theorem nf_tally_ok (L : List nf_Page) : NetOk (nf_tally L) :=
  netFold_ok (α := nf_Page) (·.2.1) (fun x => tallyOf x.2.2) (fun x => tallyOf_src x.2.2) _
    (fun x _ r hr => by rw [tallyOf_targets]; exact hr) [] netOk_nil

theorem nf_tally_srcs (L : List nf_Page) (A : Nat) : A ∈ (nf_tally L).map (·.src) ↔ ∃ x ∈ L, x.2.1 = A := by
  unfold nf_tally
  rw [netFold_mem_srcs (α := nf_Page) (·.2.1) (fun x => tallyOf x.2.2) (fun x => tallyOf_src x.2.2)]
  simp

/-- a reading of a row that the tallies add `δ` to -/
theorem nf_tally_sum (φ : NetRow → Nat) (δ : Bool → Nat) (h0 : ∀ A, φ (NetRow.fresh A) = 0)
    (hφ : ∀ c r, φ (tallyOf c r) = φ r + δ c) (L : List nf_Page) (A : Nat) :
    netSum φ (nf_tally L) A = ((L.filter (fun x => decide (x.2.1 = A))).map (fun x => δ x.2.2)).sum := by
  unfold nf_tally
  rw [netFold_sum (α := nf_Page) (·.2.1) (fun x => tallyOf x.2.2) φ (fun x => δ x.2.2) (fun x => tallyOf_src x.2.2) h0
    (fun x r => hφ x.2.2 r), netSum_nil, Nat.zero_add]

theorem nf_tally_weight (L : List nf_Page) (A B : Nat) : netW (nf_tally L) A B = 0 := by
  unfold netW
  rw [nf_tally_sum (fun r => ctr r.targets B) (fun _ => 0) (fun _ => rfl) (fun c r => by rw [tallyOf_targets]; rfl),
    List.map_const', List.sum_replicate_nat]; rfl

/-- the answer: the tallies of the recorded pages, then the link events of the recorded pointers -/
def nf_answer (s : State) (auto : Bool) (L : List nf_Page) (D ptrs : List (Nat × Nat)) : List NetRow :=
  netFold (·.1) netAdd (nf_tally L) (nf_events s auto D ptrs)

theorem mem_nf_events {s : State} {auto : Bool} {D ptrs : List (Nat × Nat)} {e : Nat × Nat × Nat}
    (he : e ∈ nf_events s auto D ptrs) :
    (∃ h, (e.1, h) ∈ ptrs) ∧ 0 < e.2.2 ∧ (∃ b, (b, e.2.1) ∈ D) ∧ (auto = false → e.2.1 ≠ e.1) := by
  obtain ⟨sh, hsh, he⟩ := List.mem_flatMap.mp he
  obtain ⟨_, c, hc, ⟨h0, hauto⟩, rfl⟩ := (mem_readList ..).mp he
  refine ⟨⟨sh.2, hsh⟩, (count_pos_iff _ _).mpr hc, ⟨c, dictGet?_mem _ _ _ ((nf_res_eq h0).mp rfl)⟩, fun ha e => hauto ?_⟩
  rw [ha, Bool.not_false, Bool.true_and, decide_eq_true_eq]
  exact e.symm

/-- **the weights of the answer, exactly**: over the recorded pointers of source `A`, the members of the list that
    are recorded pages of `B` (and whose link is reported at all) -/
theorem nf_answer_weight (s : State) (auto : Bool) (L : List nf_Page) (D ptrs : List (Nat × Nat)) (A B : Nat) :
    netW (nf_answer s auto L D ptrs) A B =
      (ptrs.map fun sh => ((s.walk0 sh.2).filter fun c =>
        decide (keepEv auto sh.1 (nf_res D c) ∧ sh.1 = A ∧ nf_res D c = B)).length).sum := by
  unfold nf_answer
  rw [netW_events, nf_tally_weight, Nat.zero_add]
  unfold nf_events
  rw [esum_flatMap]
  refine congrArg List.sum (List.map_congr_left fun sh _ => ?_)
  unfold esum
  rw [readList_filter s _ _ _ _ _ (fun c => sh.1 = A ∧ nf_res D c = B) (fun _ _ => rfl),
    readList_sum s _ _ _ _ (fun e : Nat × Nat × Nat => e.2.2) (fun _ _ => rfl)]
  rfl

/-- **keys and tallies of the answer** against the recorded pages, in an index in which the pages read as crawled
    are crawled -/
theorem nf_answer_ok {s : State} {auto : Bool} {L : List nf_Page} {ptrs : List (Nat × Nat)}
    (hfl : ∀ x ∈ L, x.2.2 = true → (s.cell x.1).flags.crawled = true)
    (hptr : ∀ sh ∈ ptrs, ∃ x ∈ L, x.2.1 = sh.1) :
    cnb_GraphOk s auto (L.map fun x => (x.1, x.2.1)) (nf_answer s auto L (L.map fun x => (x.1, x.2.1)) ptrs) := by
  generalize hD : (L.map fun x : nf_Page => (x.1, x.2.1)) = D
  have hrec : ∀ A, (∃ x ∈ L, x.2.1 = A) ↔ ∃ b, (b, A) ∈ D := fun A => by
    subst hD
    simp only [List.mem_map, Prod.mk.injEq]
    exact ⟨fun ⟨x, hx, e⟩ => ⟨x.1, x, hx, rfl, e⟩, fun ⟨b, x, hx, _, e⟩ => ⟨x, hx, e⟩⟩
  have ok : NetOk (nf_answer s auto L D ptrs) :=
    netOk_events _ _ (fun e he => (mem_nf_events he).2.1) (nf_tally_ok L)
  have hsrc : ∀ A, A ∈ (nf_answer s auto L D ptrs).map (·.src) ↔ ∃ b, (b, A) ∈ D := fun A => by
    unfold nf_answer
    rw [netFold_mem_srcs (·.1) netAdd (fun _ _ => rfl), nf_tally_srcs, ← hrec]
    refine ⟨fun h => h.elim id fun ⟨e, he, hA⟩ => ?_, Or.inl⟩
    obtain ⟨⟨h, hm⟩, _⟩ := mem_nf_events he
    exact hA ▸ hptr _ hm
  -- a tally of a row is the tally of its source in the graph of the first pass
  have htal : ∀ (φ : NetRow → Nat) (δ : Bool → Nat), (∀ e r, φ (netAdd e r) = φ r) → (∀ A, φ (NetRow.fresh A) = 0) →
      (∀ c r, φ (tallyOf c r) = φ r + δ c) → ∀ r ∈ nf_answer s auto L D ptrs,
      φ r = ((L.filter (fun x => decide (x.2.1 = r.src))).map (fun x => δ x.2.2)).sum := fun φ δ h1 h2 h3 r hr => by
    rw [← netSum_of_mem φ _ r ok.rows hr]
    unfold nf_answer
    rw [netSum_events φ h1 h2, nf_tally_sum φ δ h2 h3]
  refine ⟨ok, fun r hr => (hsrc _).mp (List.mem_map.mpr ⟨r, hr, rfl⟩), fun r hr kw hkw => ?_,
    fun bk hbk => (hsrc _).mpr ⟨bk.1, hbk⟩, fun r hr => ?_⟩
  · -- a target key has a positive weight, which only an event can have given
    have hw : 0 < netW (nf_answer s auto L D ptrs) r.src kw.1 := by
      rw [ok.weight_of_mem hr hkw]; exact ok.pos r hr kw hkw
    unfold nf_answer at hw
    rw [netW_events, nf_tally_weight, Nat.zero_add] at hw
    obtain ⟨e, he, e1, e2⟩ := exists_of_esum_pos hw
    obtain ⟨_, _, h3, h4⟩ := mem_nf_events he
    exact ⟨e2 ▸ h3, fun ha => e1 ▸ e2 ▸ h4 ha⟩
  · have hc := htal (·.crawled) (fun c => if c = true then 1 else 0) (fun _ _ => rfl) (fun _ => rfl)
      (fun c r => by unfold tallyOf; cases c <;> rfl) r hr
    have hu := htal (·.uncrawled) (fun c => if (!c) = true then 1 else 0) (fun _ _ => rfl) (fun _ => rfl)
      (fun c r => by unfold tallyOf; cases c <;> rfl) r hr
    rw [sum_map_indicator (fun x : nf_Page => x.2.2), List.filter_filter] at hc
    rw [sum_map_indicator (fun x : nf_Page => !x.2.2), List.filter_filter] at hu
    subst hD
    rw [List.countP_map, List.countP_map, List.countP_eq_length_filter, List.countP_eq_length_filter, hc, hu]
    refine ⟨?_, ?_⟩
    · rw [← length_filter_or_disjoint _ _ (fun x h => by cases hx : x.2.2 <;> simp [hx] at h)]
      exact congrArg List.length (List.filter_congr fun x _ => by cases x.2.2 <;> simp)
    · rw [← List.countP_eq_length_filter, ← List.countP_eq_length_filter]
      refine List.countP_mono_left fun x hx h => ?_
      simp only [Bool.and_eq_true, decide_eq_true_eq, Function.comp] at h ⊢
      exact ⟨h.2, hfl x hx h.1⟩

theorem le_sum_of_mem {α : Type} (f : α → Nat) : ∀ {l : List α} {x : α}, x ∈ l → f x ≤ (l.map f).sum
  | y :: l, x, h => by
    simp only [List.map_cons, List.sum_cons]
    rcases List.mem_cons.mp h with rfl | h
    · omega
    · have := le_sum_of_mem f h; omega

/-- **a link that a recorded pointer holds is in the answer**, with its multiplicity -/
theorem nf_answer_complete (s : State) (auto : Bool) (L : List nf_Page) {D ptrs : List (Nat × Nat)} {A B b h : Nat}
    (hB : B ≠ 0) (hauto : auto = true ∨ A ≠ B) (hb : dictGet? D b = some B) (hp : (A, h) ∈ ptrs) :
    count b (s.walk0 h) ≤ netW (nf_answer s auto L D ptrs) A B := by
  rw [nf_answer_weight]
  refine Nat.le_trans ?_ (le_sum_of_mem _ hp)
  rw [count, ← List.countP_eq_length_filter, ← List.countP_eq_length_filter]
  refine List.countP_mono_left fun x _ hx => ?_
  have e : nf_res D x = B := by rw [of_decide_eq_true hx]; exact (nf_res_eq hB).mpr hb
  refine decide_eq_true ⟨⟨e ▸ hB, ?_⟩, rfl, e⟩
  rw [e, Bool.and_eq_true, Bool.not_eq_true', decide_eq_true_eq]
  rintro ⟨h1, h2⟩
  exact hauto.elim (fun h' => by rw [h1] at h'; cases h') (fun h' => h' h2)

/-- what the recorded pointers hold is backed by links of the present index between recorded pages: a stale head walks
    a suffix of its block's present list, and no block gave two pointers -/
theorem nf_owned_le {s : State} {out : Bool} {pw : List (Nat × Nat)} {own : List cf_Ptr} (hnd : (own.map (·.1)).Nodup)
    (ho : ∀ x ∈ own, cf_Owns s out x.1 x.2.2 ∧ (x.1, x.2.1) ∈ pw) (A B : Nat) :
    (own.map fun x => if x.2.1 = A then ((s.walk0 x.2.2).filter (cnb_P pw B)).length else 0).sum ≤
      cnb_linkW s out pw A B := by
  let F : Nat → Nat := fun o => ((cf_listOf s out o).filter (cnb_P pw B)).length
  have h1 : (own.map fun x => if x.2.1 = A then ((s.walk0 x.2.2).filter (cnb_P pw B)).length else 0).sum ≤
      (((own.filter (fun x => decide (x.2.1 = A))).map (·.1)).map F).sum := by
    have := sum_map_ite_filter True (fun x : cf_Ptr => decide (x.2.1 = A)) (fun x => F x.1) own
    simp only [true_and, if_true, decide_eq_true_eq] at this
    rw [List.map_map]
    show _ ≤ (List.map (fun x : cf_Ptr => F x.1) _).sum
    rw [← this]
    refine sum_map_le _ _ _ fun x hx => ?_
    by_cases hA : x.2.1 = A
    · obtain ⟨new, e⟩ := (ho x hx).1.suf
      rw [if_pos hA, if_pos hA, walk0_of_ne (ho x hx).1.ne]
      show _ ≤ ((cf_listOf s out x.1).filter (cnb_P pw B)).length
      rw [e, List.filter_append, List.length_append]; omega
    · rw [if_neg hA]; exact Nat.zero_le _
  refine Nat.le_trans h1 ?_
  have h2 := cf_sum_sub F ((own.filter (fun x => decide (x.2.1 = A))).map (·.1))
    ((pw.filter (fun x => decide (x.2 = A))).map (·.1)) (hnd.sublist (List.Sublist.map _ List.filter_sublist)) ?_
  · unfold cnb_linkW
    have e : (((pw.filter (fun x => decide (x.2 = A))).map (·.1)).map F) =
        (pw.filter (fun x => decide (x.2 = A))).map (fun x => ((cf_listOf s out x.1).filter (cnb_P pw B)).length) := by
      rw [List.map_map]; rfl
    rw [e] at h2
    exact h2
  · intro a ha
    obtain ⟨x, hx, rfl⟩ := List.mem_map.mp ha
    obtain ⟨hx1, hx2⟩ := List.mem_filter.mp hx
    simp only [decide_eq_true_eq] at hx2
    have := (ho x hx1).2
    rw [hx2] at this
    exact List.mem_map.mpr ⟨(x.1, A), List.mem_filter.mpr ⟨this, by simp⟩, rfl⟩

/-- `F` iterations are enough: in the second pass those that remain and the one that returns; in the first one per
    block not yet expanded, one to change over, and the second pass over the pointers recorded -/
def nf_enough (s : State) (n : NetSt) (V : List Nat) (own : List cf_Ptr) (F : Nat) : Prop :=
  match n.phase2 with
  | some ptrs => nf_left s n.curList ptrs + 1 ≤ F
  | none => s.trie.size + 2 + own.length + cf_walkSum s own ≤
      F + (if n.started then (cf_netPend n).length + V.length else 0)

/-- **the local invariant of the network query.** Ghosts: `V` the blocks expanded; `L` the pages recorded, each with
    the crawled mark as it was read; `own` the pointers recorded, each with the block it was read from. The graph is not
    described but COMPUTED: the tallies of `L` in the first pass (`g1`); in the second, what the answer will be is the
    fold over the recorded pointers (`g2`), and the iterations left are within what their lists hold. -/
structure nf_Ok (s : State) (t : T) (n : NetSt) (V : List Nat) (L : List nf_Page) (own : List cf_Ptr) : Prop where
  unst  : n.started = false → n.pend = none ∧ n.phase2 = none ∧ L = [] ∧ own = []
  /-- the walk meets every block at most once -/
  dfs   : n.started = true → cf_NI s t (cf_netFront n) V
  /-- the stack holds blocks of the tree; the value carried to a block is 0 or the id of a node above it -/
  stack : n.started = true → cnb_StackOk s t n.stack
  pend  : ∀ b we cur c, n.pend = some (b, we, cur, c) →
            CellLe c (s.cell b) ∧ ∃ p, (p, b) ∈ t.entries s [] ∧ cnb_Carry s t p.dropLast we ∧ cnb_Carry s t p cur
  pwEq  : n.pageWe = L.map fun x => (x.1, x.2.1)
  /-- every recorded page: a page block, met already, the id carried by it or by a node above it, crawled if read so -/
  recd  : ∀ x ∈ L, cnb_Rec s t (x.1, x.2.1) ∧ x.1 ∈ cf_netPend n ++ V ∧
            (x.2.2 = true → (s.cell x.1).flags.crawled = true)
  pwnd  : (L.map (·.1)).Nodup
  ownEq : own.map (·.2) = n.pointers
  /-- no block gave two pointers -/
  ownd  : (own.map (·.1)).Nodup
  /-- every pointer was read from a recorded block of its id, which still owns it -/
  owns  : ∀ x ∈ own, cf_Owns s n.out x.1 x.2.2 ∧ ∃ y ∈ L, y.1 = x.1 ∧ y.2.1 = x.2.1
  g1    : n.phase2 = none → n.graph = nf_tally L ∧ n.curList = []
  g2    : ∀ ptrs, n.phase2 = some ptrs → (∀ sh ∈ ptrs, sh ∈ n.pointers) ∧
            cf_netSpecP2 s n ptrs = nf_answer s n.auto L n.pageWe n.pointers ∧
            nf_left s n.curList ptrs ≤ own.length + cf_walkSum s own

namespace nf_Ok
variable {s : State} {t : T} {n : NetSt} {V : List Nat} {L : List nf_Page} {own : List cf_Ptr}

theorem init (s : State) (t : T) (out auto : Bool) : nf_Ok s t { out := out, auto := auto } [] [] [] :=
  ⟨fun _ => ⟨rfl, rfl, rfl, rfl⟩, (fun e => nomatch e), (fun e => nomatch e), (fun _ _ _ _ e => nomatch e), rfl,
    (fun _ h => nomatch h), .nil, rfl, .nil, (fun _ h => nomatch h), fun _ => ⟨rfl, rfl⟩, (fun _ e => nomatch e)⟩

theorem ids (hn : nf_Ok s t n V L own) : ∀ bk ∈ n.pageWe, bk.2 ≠ 0 := fun bk hbk => by
  rw [hn.pwEq] at hbk
  obtain ⟨x, hx, rfl⟩ := List.mem_map.mp hbk
  obtain ⟨_, _, _, h0, _⟩ := (hn.recd x hx).1
  exact h0

theorem heads (hn : nf_Ok s t n V L own) : ∀ sh ∈ n.pointers, sh.2 ≠ 0 ∧ sh.2 < s.links.size := fun sh hsh => by
  rw [← hn.ownEq] at hsh
  obtain ⟨x, hx, rfl⟩ := List.mem_map.mp hsh
  exact ⟨(hn.owns x hx).1.ne, (hn.owns x hx).1.hlt⟩

theorem owned (hn : nf_Ok s t n V L own) : ∀ x ∈ own, cf_Owns s n.out x.1 x.2.2 ∧ (x.1, x.2.1) ∈ n.pageWe :=
  fun x hx => by
    obtain ⟨ho, y, hy, e1, e2⟩ := hn.owns x hx
    exact ⟨ho, by rw [hn.pwEq, ← e1, ← e2]; exact List.mem_map.mpr ⟨y, hy, rfl⟩⟩

/-- **stable under what the other generators do** -/
theorem later {s' : State} {t' : T} (l : CoLater s t s' t') (hk : HeadsOk s) (hn : nf_Ok s t n V L own) :
    nf_Ok s' t' n V L own :=
  { hn with
    dfs := fun hs => (hn.dfs hs).mono l.shape l.ext l.le
    stack := fun hs => (hn.stack hs).later l
    pend := fun b we cur c e =>
      have ⟨cl, p, hm, h1, h2⟩ := hn.pend b we cur c e
      ⟨cl.trans (l.cell hm), p, l.ext.keep _ _ hm, h1.later l, h2.later l⟩
    recd := fun x hx =>
      have ⟨r, hv, hc⟩ := hn.recd x hx
      ⟨r.later l, hv, fun e => r.crawled l (hc e)⟩
    owns := fun x hx => ⟨(hn.owns x hx).1.mono l.le hk (l.heads hk) (l.grow hk), (hn.owns x hx).2⟩
    g2 := fun ptrs hp => by
      obtain ⟨hin, e, hmu⟩ := hn.g2 ptrs hp
      have hh := fun sh hsh => (hn.heads sh (hin sh hsh)).2
      refine ⟨hin, ?_, ?_⟩
      · rw [cf_netSpecP2_later l hk n ptrs hh, e]
        unfold nf_answer
        rw [nf_events_later l hk _ _ _ fun sh hsh => (hn.heads sh hsh).2]
      · rw [nf_left_later l hk _ ptrs hh,
          cf_walkSum_mono l.le hk (l.heads hk) own fun x hx => (hn.owns x hx).1.hlt]
        exact hmu }

theorem top (hn : nf_Ok s t n V L own) (hst : n.started = true) (hpe : n.pend = none) {b we : Nat}
    {rest : List (Nat × Nat)} (hs : n.stack = (b, we) :: rest) :
    cf_NI s t (b :: rest.map (·.1)) V ∧ b ∉ V ∧ (∀ x ∈ L, x.1 ∈ V) ∧ cnb_StackOk s t rest ∧
      ∃ p, (p, b) ∈ t.entries s [] ∧ cnb_Carry s t p.dropLast we := by
  have hdfs := hn.dfs hst
  simp only [cf_netFront, cf_netPend, hpe, hs, List.nil_append, List.map_cons] at hdfs
  have hst' := hn.stack hst
  rw [hs] at hst'
  refine ⟨hdfs, fun hv => (List.nodup_cons.mp hdfs.nd).1 (List.mem_append_right _ hv), fun x hx => ?_,
    fun y hy => hst' y (List.mem_cons_of_mem _ hy), hst' (b, we) (List.mem_cons_self ..)⟩
  simpa only [cf_netPend, hpe, List.nil_append] using (hn.recd x hx).2.1

theorem fresh_top (hn : nf_Ok s t n V L own) (hst : n.started = true) (hpe : n.pend = none) :
    ∀ m c rest, n.stack = (m, c) :: rest → ∀ bk ∈ n.pageWe, bk.1 ≠ m := fun m c rest hs bk hbk e => by
  obtain ⟨_, hbV, hLV, _⟩ := hn.top hst hpe hs
  rw [hn.pwEq] at hbk
  obtain ⟨x, hx, rfl⟩ := List.mem_map.mp hbk
  exact hbV (e ▸ hLV x hx)

/-- the state a first-pass iteration starts from: the root on the stack of a query that starts; the stale copy of the
    block visited last expanded, the block joining `V` -/
theorem norm (h : Shape s t) (hn : nf_Ok s t n V L own) :
    ∃ V', nf_Ok s t (netNorm s n) V' L own ∧ (netNorm s n).started = true ∧ (netNorm s n).pend = none ∧
      (netNorm s n).phase2 = n.phase2 ∧ V'.length = if n.started then (cf_netPend n).length + V.length else 0 := by
  obtain ⟨out, auto, started, stack, pend, pageWe, pointers, phase2, curSrc, curList, graph⟩ := n
  cases started with
  | false =>
    obtain ⟨e1, e2, e3, e4⟩ := hn.unst rfl
    cases e1; cases e2; cases e3; cases e4
    have hst : cnb_StackOk s t (if s.trie.size ≤ 1 then [] else [(1, 0)]) := by
      intro y hy
      by_cases hsz : s.trie.size ≤ 1
      · rw [if_pos hsz] at hy; cases hy
      · rw [if_neg hsz] at hy
        cases List.mem_singleton.mp hy
        have h1 := ((cf_NI.start h hsz).clos 1 (List.mem_singleton_self _)).1
        obtain ⟨p, he⟩ := t.addrs_mem_entries (s := s) [] h1
        exact ⟨p, he, Or.inl rfl⟩
    have hn0 : nf_Ok s t (netNorm s ⟨out, auto, false, stack, none, pageWe, pointers, none, curSrc, curList, graph⟩) [] [] [] :=
      { hn with unst := (fun e => nomatch e), dfs := fun _ => cf_NI.root h, stack := fun _ => hst, recd := (fun _ h => nomatch h) }
    exact ⟨[], hn0, rfl, rfl, rfl, rfl⟩
  | true =>
    cases pend with
    | none => exact ⟨V, hn, rfl, rfl, rfl, (Nat.zero_add _).symm⟩
    | some x =>
      obtain ⟨b, we, cur, c⟩ := x
      obtain ⟨cl, p, hm, hwe, hcur⟩ := hn.pend b we cur c rfl
      have hdfs : cf_NI s t (b :: stack.map (·.1)) V := hn.dfs rfl
      have hexp := hdfs.expand_copy h cl
      rw [← cf_dfsWePush_map b we cur c stack] at hexp
      exact ⟨b :: V, { hn with
        unst := (fun e => nomatch e), dfs := fun _ => hexp, stack := fun _ => (hn.stack rfl).push h cl hm hwe hcur,
        pend := (fun _ _ _ _ e => nomatch e),
        recd := fun x hx => ⟨(hn.recd x hx).1, (hn.recd x hx).2.1, (hn.recd x hx).2.2⟩ }, rfl, rfl, rfl, Nat.add_comm _ _⟩

/-- one iteration of the first pass on a normalised state; an iteration that goes on takes one of the iterations
    that are enough -/
theorem iter1 (h : Shape s t) (hk : HeadsOk s) (hn : nf_Ok s t n V L own) (hst : n.started = true)
    (hpe : n.pend = none) (hp2 : n.phase2 = none) :
    (netIter1 s n).All (fun n' => ∃ V' L' own', nf_Ok s t n' V' L' own' ∧
        ∀ F, nf_enough s n V own (F + 1) → nf_enough s n' V' own' F)
      (fun n' o => o = .yielded ∧ ∃ V' L' own', nf_Ok s t n' V' L' own') := by
  have hids := hn.ids
  have hheads := hn.heads
  obtain ⟨out, auto, started, stack, pend, pageWe, pointers, phase2, curSrc, curList, graph⟩ := n
  cases hst
  cases hpe
  cases hp2
  obtain ⟨hg, hcl⟩ := hn.g1 rfl
  cases hg
  cases hcl
  have hown : own.map (·.2) = pointers := hn.ownEq
  refine netIter1_cases ?_ ?_ ?_
  · -- the first pass is over: what the answer will be is the fold over the pointers recorded
    rintro rfl
    have hV := (hn.dfs rfl).length_le h
    have hle := hown ▸ nf_left_le_own s own
    refine ⟨V, L, own, { hn with
      unst := (fun e => nomatch e), g1 := (fun e => nomatch e),
      g2 := fun ptrs e => by
        cases e
        exact ⟨fun _ h => h, nf_outer_fold hids s pointers (nf_tally L) fun sh hsh => (hheads sh hsh).1, hle⟩ },
      fun F hF => ?_⟩
    simp only [nf_enough, cf_netFront, cf_netPend, List.map_nil, List.append_nil, List.length_nil, if_true] at hF hV ⊢
    omega
  · rintro b we rest cur head rfl hcd hhd hpg hne
    obtain ⟨hdfs, hbV, hLV, hrest, p, hm, hcarry⟩ := hn.top rfl rfl rfl
    have hcur := hcd ▸ cnb_Carry.step hm hcarry
    have hpw : pageWe = L.map fun x => (x.1, x.2.1) := hn.pwEq
    have hfresh : ∀ x ∈ L, x.1 ≠ b := fun x hx e => hbV (e ▸ hLV x hx)
    have hds : dictSet pageWe b cur = (L ++ [(b, cur, (s.cell b).flags.crawled)]).map fun x => (x.1, x.2.1) := by
      rw [List.map_append, ← hpw]
      refine dictSet_append_of_fresh _ _ _ fun e he => ?_
      rw [hpw] at he
      obtain ⟨x, hx, rfl⟩ := List.mem_map.mp he
      exact hfresh x hx
    -- the state with the page recorded, for any pointer list read from the blocks of `own'`
    have hrec : ∀ own', (own'.map (·.1)).Nodup → (∀ x ∈ own', cf_Owns s out x.1 x.2.2 ∧
          ∃ y ∈ L ++ [(b, cur, (s.cell b).flags.crawled)], y.1 = x.1 ∧ y.2.1 = x.2.1) →
        nf_Ok s t ⟨out, auto, true, rest, some (b, we, cur, s.cell b), dictSet pageWe b cur, own'.map (·.2), none,
          curSrc, [], netTouch (nf_tally L) cur (fun r => if (s.cell b).flags.crawled then { r with crawled := r.crawled + 1 }
                                        else { r with uncrawled := r.uncrawled + 1 })⟩ V
          (L ++ [(b, cur, (s.cell b).flags.crawled)]) own' := fun own' hnd hown =>
      { unst := (fun e => nomatch e), dfs := fun _ => hdfs, stack := fun _ => hrest
        pend := by rintro _ _ _ _ ⟨⟩; exact ⟨CellLe.refl _, p, hm, hcarry, hcur⟩
        pwEq := hds
        recd := fun x hx => by
          rcases List.mem_append.mp hx with hx | hx
          · exact ⟨(hn.recd x hx).1, by simp [cf_netPend, hLV x hx], (hn.recd x hx).2.2⟩
          · cases List.mem_singleton.mp hx
            exact ⟨⟨p, hm, hpg, hcur.resolve_left hne⟩, by simp [cf_netPend], id⟩
        pwnd := by
          rw [List.map_append, List.nodup_append]
          refine ⟨hn.pwnd, by simp, fun a ha c hc' => ?_⟩
          cases List.mem_singleton.mp (hc' : c ∈ [b])
          obtain ⟨x, hx, rfl⟩ := List.mem_map.mp ha
          exact hfresh x hx
        ownEq := rfl, ownd := hnd, owns := hown
        g1 := fun _ => ⟨(nf_tally_append L (b, cur, (s.cell b).flags.crawled)).symm, rfl⟩, g2 := (fun _ e => nomatch e) }
    have hold : ∀ x ∈ own, cf_Owns s out x.1 x.2.2 ∧
        ∃ y ∈ L ++ [(b, cur, (s.cell b).flags.crawled)], y.1 = x.1 ∧ y.2.1 = x.2.1 := fun x hx =>
      have ⟨y, hy, e⟩ := (hn.owns x hx).2
      ⟨(hn.owns x hx).1, y, List.mem_append_left _ hy, e⟩
    refine ⟨rfl, V, L ++ [(b, cur, (s.cell b).flags.crawled)], ?_⟩
    by_cases hh : head ≠ 0
    · -- the block has a list: its head is a new pointer, owned by the block
      rw [if_pos hh, ← hown, show own.map (·.2) ++ [(cur, head)] = (own ++ [(b, cur, head)]).map (·.2) by simp]
      refine ⟨own ++ [(b, cur, head)], hrec (own ++ [(b, cur, head)]) ?_ ?_⟩
      · rw [List.map_append, List.nodup_append]
        refine ⟨hn.ownd, by simp, fun a ha c hc' => ?_⟩
        cases List.mem_singleton.mp hc'
        obtain ⟨x, hx, rfl⟩ := List.mem_map.mp ha
        obtain ⟨y, hy, e, _⟩ := (hn.owns x hx).2
        exact fun e' => hfresh y hy (e.trans e')
      · intro x hx
        rcases List.mem_append.mp hx with hx | hx
        · exact hold x hx
        · cases List.mem_singleton.mp hx
          exact ⟨hhd ▸ cf_Owns.fresh h hk out (entries_addr_mem t [] p b hm) (by rw [hhd]; exact hh),
            _, List.mem_append_right _ (List.mem_singleton_self _), rfl, rfl⟩
    · rw [if_neg hh, ← hown]
      exact ⟨own, hrec own hn.ownd hold⟩
  · rintro b we rest cur rfl hcd -
    obtain ⟨hdfs, hbV, hLV, hrest, p, hm, hcarry⟩ := hn.top rfl rfl rfl
    have hexp := hdfs.expand_copy h (CellLe.refl (s.cell b))
    rw [← cf_dfsWePush_map b we cur (s.cell b) rest] at hexp
    refine ⟨b :: V, L, own, { hn with
      unst := (fun e => nomatch e), dfs := fun _ => hexp, pend := (fun _ _ _ _ e => nomatch e),
      stack := fun _ => hrest.push h (CellLe.refl _) hm hcarry (hcd ▸ cnb_Carry.step hm hcarry),
      recd := fun x hx => ⟨(hn.recd x hx).1, List.mem_cons_of_mem _ (hLV x hx), (hn.recd x hx).2.2⟩ }, fun F hF => ?_⟩
    simp only [nf_enough, cf_netPend, List.length_nil, List.length_cons, if_true] at hF ⊢
    omega

/-- an iteration of the second pass keeps the invariant, whatever it does, and takes one of the iterations that
    are enough -/
theorem second {ptrs : List (Nat × Nat)} {n' : NetSt} (hn : nf_Ok s t n V L own) (hp : n.phase2 = some ptrs)
    (st : nf_Second s n ptrs n') :
    nf_Ok s t n' V L own ∧ ∀ F, nf_enough s n V own (F + 1) → nf_enough s n' V own F := by
  obtain ⟨ptrs', src', cl', g', rfl, hsub, hspec, hmu'⟩ := st
  obtain ⟨hin, e, hmu⟩ := hn.g2 ptrs hp
  refine ⟨{ hn with
    unst := fun hst => (nomatch (hn.unst hst).2.1.symm.trans hp), g1 := (fun e => nomatch e),
    g2 := fun _ e' => by
      cases e'
      exact ⟨fun sh hsh => hin sh (hsub sh hsh), hspec.trans e, Nat.le_trans (Nat.le_of_succ_le (Nat.le_of_eq hmu')) hmu⟩ },
    fun F hF => ?_⟩
  simp only [nf_enough, hp] at hF ⊢
  omega

/-- **what the answer satisfies**, read off the folds -/
theorem ansFull (hn : nf_Ok s t n V L own) :
    cnb_AnsFull s t n.out n.auto (nf_answer s n.auto L n.pageWe n.pointers) := by
  refine ⟨n.pageWe, by rw [hn.pwEq, List.map_map]; exact hn.pwnd, fun bk hbk => ?_, ?_, fun A B => ?_⟩
  · rw [hn.pwEq] at hbk
    obtain ⟨x, hx, rfl⟩ := List.mem_map.mp hbk
    exact (hn.recd x hx).1
  · rw [hn.pwEq]
    refine nf_answer_ok (fun x hx => (hn.recd x hx).2.2) fun sh hsh => ?_
    rw [← hn.ownEq] at hsh
    obtain ⟨x, hx, rfl⟩ := List.mem_map.mp hsh
    obtain ⟨y, hy, _, e⟩ := (hn.owns x hx).2
    exact ⟨y, hy, e⟩
  · -- a member that counts is a recorded page of `B`
    refine Nat.le_trans ?_ (nf_owned_le hn.ownd hn.owned A B)
    rw [nf_answer_weight, ← hn.ownEq, List.map_map]
    refine sum_map_le _ _ own fun x _ => ?_
    show ((s.walk0 x.2.2).filter _).length ≤ _
    by_cases hA : x.2.1 = A
    · rw [if_pos hA, ← List.countP_eq_length_filter, ← List.countP_eq_length_filter]
      refine List.countP_mono_left fun c _ hc => ?_
      obtain ⟨⟨h0, _⟩, _, e⟩ := of_decide_eq_true hc
      exact decide_eq_true ((nf_res_eq (e ▸ h0)).mp e)
    · rw [if_neg hA]
      exact Nat.le_of_eq (List.length_eq_zero_iff.mpr (List.filter_eq_nil_iff.mpr fun c _ hc =>
        hA (of_decide_eq_true hc).2.1))

/-- the iterations `CoSt.resume` grants are enough, on an index whose lists share no stub -/
theorem enough (hg : cf_SumOk s) (hn : nf_Ok s t n V L own) :
    nf_enough s n V own (s.trie.size + s.links.size + n.pointers.length + 3) := by
  have hws := cf_walkSum_le hn.ownd fun x hx => (hn.owns x hx).1
  have hl : own.length = n.pointers.length := by rw [← hn.ownEq, List.length_map]
  have := hg.2
  unfold nf_enough
  cases hp : n.phase2 with
  | some ptrs => have := (hn.g2 ptrs hp).2.2; simp only; omega
  | none => simp only; omega

theorem not_enough_zero (h : Shape s t) (hn : nf_Ok s t n V L own) : ¬ nf_enough s n V own 0 := by
  intro hF
  unfold nf_enough at hF
  cases hp : n.phase2 with
  | some ptrs => rw [hp] at hF; simp only at hF; omega
  | none =>
    rw [hp] at hF
    cases hst : n.started with
    | false => rw [hst] at hF; simp only [Bool.false_eq_true, if_false] at hF; omega
    | true =>
      rw [hst] at hF
      have := (hn.dfs hst).length_le h
      simp only [if_true, cf_netFront, List.length_append, List.length_map] at hF this
      omega

end nf_Ok

theorem cnb_norm_flags (s : State) (n : NetSt) : (netNorm s n).auto = n.auto ∧ (netNorm s n).out = n.out := by
  obtain ⟨out, auto, started, stack, pend, pageWe, pointers, phase2, curSrc, curList, graph⟩ := n
  cases started <;> cases pend <;> exact ⟨rfl, rfl⟩

/-- the state of a query `get_webentities_links_iter(out, auto)`: the invariant, and a further local invariant `K` -/
def nf_J (s : State) (t : T) (out auto : Bool) (K : NetSt → Prop) (n : NetSt) : Prop :=
  n.out = out ∧ n.auto = auto ∧ (∃ V L own, nf_Ok s t n V L own) ∧ K n

/-- **one section of the network query**, given any number of iterations, for a further invariant `K` that the
    iterations of the first pass keep next to `nf_Ok` and that does not look at what the second pass changes: the
    section does not run out of iterations if they were enough at the start (`E`: whether that is asked for); both
    invariants are re-established; the answer is the fold over what a state satisfying both has recorded -/
theorem nf_sec {s : State} {t : T} (h : Shape s t) (hk : HeadsOk s) {out auto : Bool} {K : NetSt → Prop} {E : Prop}
    (hnorm : ∀ n, K n → n.phase2 = none → K (netNorm s n))
    (h1 : ∀ n V L own, nf_Ok s t n V L own → n.out = out → n.started = true → n.pend = none → n.phase2 = none →
      K n → (netIter1 s n).All K (fun n' _ => K n'))
    (h2 : ∀ n ptrs n', n.phase2 = some ptrs → nf_Second s n ptrs n' → K n → K n')
    {n : NetSt} (hJ : nf_J s t out auto K n) (fuel : Nat)
    (hE : E → ∀ V L own, nf_Ok s t n V L own → nf_enough s n V own fuel) :
    (∀ e, (netResume fuel s n).2 = .failed e → ¬ E) ∧
    ((netResume fuel s n).2 = .yielded → nf_J s t out auto K (netResume fuel s n).1) ∧
    (∀ a, (netResume fuel s n).2 = .done a → ∃ nf V L own, nf_Ok s t nf V L own ∧ K nf ∧ nf.out = out ∧ nf.auto = auto ∧
      nf.phase2 ≠ none ∧ a = .net (nf_answer s auto L nf.pageWe nf.pointers)) := by
  obtain ⟨ho, ha, ⟨V, L, own, hn⟩, hK⟩ := hJ
  have key := coIt_induct (run := fun F => netResume F s) (iter := netIter s)
    (fun F n => n.out = out ∧ n.auto = auto ∧ K n ∧ ∃ V L own, nf_Ok s t n V L own ∧ (E → nf_enough s n V own F))
    (fun n' o => (o = .failed (.other "fuel") ∧ ¬ E) ∨ (o = .yielded ∧ nf_J s t out auto K n') ∨
      ∃ nf V L own, nf_Ok s t nf V L own ∧ K nf ∧ nf.out = out ∧ nf.auto = auto ∧ nf.phase2 ≠ none ∧
        o = .done (.net (nf_answer s auto L nf.pageWe nf.pointers)))
    (fun _ => rfl) (fun F n _ => netResume_succ F s n)
    (fun _ ⟨_, _, _, _, _, _, hn, hF⟩ => .inl ⟨rfl, fun e => hn.not_enough_zero h (hF e)⟩) ?_ fuel n
    ⟨ho, ha, hK, V, L, own, hn, fun e => hE e V L own hn⟩
  · rcases key with ⟨e, hE'⟩ | ⟨e, hy⟩ | ⟨nf, V, L, own, hn, hK, ho, ha, hph, e⟩
    · exact ⟨fun _ _ => hE', fun e' => (nomatch e.symm.trans e'), fun a e' => (nomatch e.symm.trans e')⟩
    · exact ⟨fun _ e' => (nomatch e.symm.trans e'), fun _ => hy, fun a e' => (nomatch e.symm.trans e')⟩
    · exact ⟨fun _ e' => (nomatch e.symm.trans e'), fun e' => (nomatch e.symm.trans e'),
        fun a e' => ⟨nf, V, L, own, hn, hK, ho, ha, hph, CoOut.done.inj (e'.symm.trans e)⟩⟩
  · rintro F n' ⟨ho, ha, hK', V', L', own', hn', hF⟩
    cases hp : n'.phase2 with
    | some ptrs =>
      have e : netIter s n' = netIter2 s n' ptrs := by unfold netIter; rw [hp]
      rw [e]
      have keep : ∀ n'', nf_Second s n' ptrs n'' → n''.out = out ∧ n''.auto = auto ∧ K n'' ∧
          ∃ V L own, nf_Ok s t n'' V L own ∧ (E → nf_enough s n'' V own F) := fun n'' st =>
        have ⟨_, _, _, _, e, _⟩ := st
        ⟨e ▸ ho, e ▸ ha, h2 n' ptrs n'' hp st hK', V', L', own', (hn'.second hp st).1,
          fun e => (hn'.second hp st).2 F (hF e)⟩
      refine (netIter2_spec hp).imp keep fun n'' o hs => .inr ?_
      rcases hs with ⟨rfl, st⟩ | ⟨rfl, _⟩
      · have ⟨k1, k2, k3, V, L, own, k4, _⟩ := keep n'' st
        exact .inl ⟨rfl, k1, k2, ⟨V, L, own, k4⟩, k3⟩
      · exact .inr ⟨n', V', L', own', hn', hK', ho, ha, (fun e => nomatch hp.symm.trans e),
          by rw [(hn'.g2 ptrs hp).2.1, ha]⟩
    | none =>
      have e : netIter s n' = netIter1 s (netNorm s n') := by unfold netIter; rw [hp]
      obtain ⟨V1, hn1, e1, e2, e3, hV1⟩ := hn'.norm h
      have ho := (cnb_norm_flags s n').2.trans ho
      have ha := (cnb_norm_flags s n').1.trans ha
      have hF1 : E → nf_enough s (netNorm s n') V1 own' (F + 1) := fun e => by
        have hF := hF e
        simp only [nf_enough, hp, e3.trans hp, e1, e2, cf_netPend, if_true, List.length_nil, hV1] at hF ⊢
        omega
      rw [e]
      exact ((hn1.iter1 h hk e1 e2 (e3.trans hp)).and
          ((h1 _ V1 L' own' hn1 ho e1 e2 (e3.trans hp) (hnorm n' hK' hp)).and (netIter1_flags s _))).imp
        (fun n'' ⟨⟨V2, L2, own2, a, m⟩, b, f⟩ => ⟨f.2.trans ho, f.1.trans ha, b, V2, L2, own2, a, fun e => m F (hF1 e)⟩)
        (fun n'' o ⟨a, b, f⟩ => .inr (.inl ⟨a.1, f.2.trans ho, f.1.trans ha, a.2, b⟩))

theorem nf_sec_plain {s : State} {t : T} (h : Shape s t) (hk : HeadsOk s) {E : Prop} {n : NetSt} {V : List Nat}
    {L : List nf_Page} {own : List cf_Ptr} (hn : nf_Ok s t n V L own) (fuel : Nat)
    (hE : E → ∀ V L own, nf_Ok s t n V L own → nf_enough s n V own fuel) :
    (∀ e, (netResume fuel s n).2 = .failed e → ¬ E) ∧
    ((netResume fuel s n).2 = .yielded → nf_J s t n.out n.auto (fun _ => True) (netResume fuel s n).1) ∧
    (∀ a, (netResume fuel s n).2 = .done a → ∃ nf V L own, nf_Ok s t nf V L own ∧ nf.out = n.out ∧ nf.auto = n.auto ∧
      a = .net (nf_answer s n.auto L nf.pageWe nf.pointers)) :=
  have ⟨k1, k2, k3⟩ := nf_sec h hk (K := fun _ => True) (fun _ _ _ => trivial)
    (fun n _ _ _ _ _ _ _ _ _ => (netIter1_flags s n).imp (fun _ _ => trivial) (fun _ _ _ => trivial))
    (fun _ _ _ _ _ _ => trivial) ⟨rfl, rfl, ⟨V, L, own, hn⟩, trivial⟩ fuel hE
  ⟨k1, k2, fun a ea => have ⟨nf, V, L, own, hn, _, ho, ha, _, e⟩ := k3 a ea; ⟨nf, V, L, own, hn, ho, ha, e⟩⟩

def cf_NetInv (s : State) (t : T) (n : NetSt) : Prop := ∃ V L own, nf_Ok s t n V L own

theorem cf_NetInv.init (s : State) (t : T) (out auto : Bool) : cf_NetInv s t { out := out, auto := auto } :=
  ⟨[], [], [], .init s t out auto⟩

/-- **fuel sufficiency for one section of the network query**, in any state of the machine satisfying the
    local invariant, on an index whose link store satisfies `cf_SumOk` (lists of distinct blocks share no stub) -/
theorem cf_netResume_fuel {s : State} {t : T} {n : NetSt} (h : Shape s t) (hg : cf_SumOk s) (hn : cf_NetInv s t n) :
    (∀ e, (netResume (s.trie.size + s.links.size + n.pointers.length + 3) s n).2 ≠ .failed e) ∧
    ((netResume (s.trie.size + s.links.size + n.pointers.length + 3) s n).2 = .yielded →
      cf_NetInv s t (netResume (s.trie.size + s.links.size + n.pointers.length + 3) s n).1) :=
  have ⟨_, _, _, hn⟩ := hn
  have ⟨h1, h2, _⟩ := nf_sec_plain (E := True) h hg.1 hn _ fun _ _ _ _ hn' => hn'.enough hg
  ⟨fun e he => h1 e he trivial, fun ho => (h2 ho).2.2.1⟩

/-- **C16: no section of the network query ever fails**, for every schedule, whatever the
    other generators are and do, started from fresh generators on an index with the shape invariant whose link
    store satisfies `cf_SumOk` (true of every reachable index: `cf_sumOk_reachable`): the only failure in the
    trace of `reqs[i] = queryNet out auto` is `StopIteration` when resumed after its end; in particular never "fuel" -/
theorem cf_C16_net_query_failures {s : State} {t : T} (hs : Shape s t) (hg : cf_SumOk s) (reqs : List CoReq)
    (sched : Sched) (i : Nat) (out auto : Bool) (hreq : reqs[i]? = some (.queryNet out auto)) (e : Err)
    (hm : (i, CoOut.failed e) ∈ (Sys.run (s, reqs.map CoReq.init) sched).2) : e = .other "StopIteration" := by
  exact (Reader.net.sched (.of_state fun s _ c _ => cf_sumOk_resume s c) (fun _ => True) cf_NetInv
    (fun _ _ o => ∀ e, o ≠ .failed e)
    (fun h _ l _ _ ⟨V, L, own, hn⟩ => ⟨V, L, own, hn.later l h.2.1⟩) (fun _ _ _ a => a)
    (fun h _ hj => cf_netResume_fuel h.1 h.2 hj)
    sched (s, reqs.map CoReq.init) t ⟨hs, hg⟩ i { out := out, auto := auto } (CoReq.init_get hreq) (cf_NetInv.init s t out auto) (.trivial _ _) _ hm).elim
    CoOut.failed.inj fun ⟨_, _, _, a⟩ => absurd rfl (a e)

theorem cf_C16_net_query_no_fuel {s : State} {t : T} (hs : Shape s t) (hg : cf_SumOk s) (reqs : List CoReq)
    (sched : Sched) (i : Nat) (out auto : Bool) (hreq : reqs[i]? = some (.queryNet out auto)) :
    (i, CoOut.failed (.other "fuel")) ∉ (Sys.run (s, reqs.map CoReq.init) sched).2 := fun hm =>
  absurd (cf_C16_net_query_failures hs hg reqs sched i out auto hreq _ hm) (by decide)

/-- **the network query, what the answer IS, for every schedule, in terms of a system**: the two folds of the atomic
    request (`network_eq`) over what the query recorded — the tallies of the recorded pages `L`, then the link events
    of the recorded pointers, read in the FINAL index —, `L` and the pointers satisfying `nf_Ok` in the final index.
    Both bounds are read off this: `nf_Ok.ansFull`, `nf_answer_complete`. -/
theorem cnb_sched_sound_full (sched : Sched) (σ : Sys) (t : T) (h : Shape σ.1 t) (hk : HeadsOk σ.1) (i : Nat) (n : NetSt)
    (V : List Nat) (L : List nf_Page) (own : List cf_Ptr) (hi : σ.2[i]? = some (.net n)) (hn : nf_Ok σ.1 t n V L own)
    (a : Ans) (hm : (i, CoOut.done a) ∈ (σ.run sched).2) :
    ∃ t', CoLater σ.1 t (σ.run sched).1.1 t' ∧ ∃ nf V L own, nf_Ok (σ.run sched).1.1 t' nf V L own ∧
      nf.out = n.out ∧ nf.auto = n.auto ∧ a = .net (nf_answer (σ.run sched).1.1 n.auto L nf.pageWe nf.pointers) :=
  (Reader.net.sched .heads (fun _ => True) (fun s t n' => nf_J s t n.out n.auto (fun _ => True) n')
    (fun s t o => ∀ a, o = .done a → ∃ nf V L own, nf_Ok s t nf V L own ∧ nf.out = n.out ∧ nf.auto = n.auto ∧
      a = .net (nf_answer s n.auto L nf.pageWe nf.pointers))
    (fun h _ l _ _ ⟨ho, ha, ⟨V, L, own, hn⟩, _⟩ => ⟨ho, ha, ⟨V, L, own, hn.later l h.2⟩, trivial⟩)
    (fun h _ l hA a e =>
      have ⟨nf, V, L, own, hn, ho, ha, ea⟩ := hA a e
      ⟨nf, V, L, own, hn.later l h.2, ho, ha, by
        unfold nf_answer; rw [nf_events_later l h.2 _ _ _ fun sh hsh => (hn.heads sh hsh).2]; exact ea⟩)
    (fun {σ t n'} h _ hJ =>
      have ⟨V, L, own, hn'⟩ := hJ.2.2.1
      have ⟨_, h1, h2⟩ := nf_sec_plain (E := False) h.1 h.2 hn'
        (σ.1.trie.size + σ.1.links.size + n'.pointers.length + 3) nofun
      ⟨fun a ea => have ⟨nf, V, L, own, hn, ho, ha, e⟩ := h2 a ea
          ⟨nf, V, L, own, hn, ho.trans hJ.1, ha.trans hJ.2.1, hJ.2.1 ▸ e⟩,
        fun ho => have ⟨k1, k2, k3, _⟩ := h1 ho; ⟨k1.trans hJ.1, k2.trans hJ.2.1, k3, trivial⟩⟩)
    sched σ t ⟨h, hk⟩ i n hi ⟨rfl, rfl, ⟨V, L, own, hn⟩, trivial⟩ (.trivial _ _) _ hm).elim
    (fun e => nomatch e) fun ⟨t', _, l, hA⟩ => ⟨t', l, hA a rfl⟩

#print axioms cf_netResume_fuel
#print axioms cf_C16_net_query_failures
#print axioms cf_C16_net_query_no_fuel
#print axioms cnb_sched_sound_full

end Traph
