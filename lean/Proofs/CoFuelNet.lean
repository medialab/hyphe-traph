import Proofs.CoFuel
import Proofs.CoBuilt
/-! C16 — the network query `get_webentities_links_iter` (`CoSt.net`), what its fuel and its answer rest on.

    `trie.size + links.size + pointers.length + 3` iterations per section ARE sufficient, but only because the
    lists hanging off distinct blocks share no stub — a global fact of the link store (`cf_SumOk`: heads inside the
    store, and the lengths of all out-lists and in-lists add up to less than `links.size`), not a consequence of
    `Shape`/`Inv`. It is kept by every section of every generator (`cf_sumOk_resume`) and holds in every reachable
    state (`cf_sumOk_reachable`).

    The walk of the first pass pops every block once (`cf_NI`, ghost set `V`, as for the page query). A stale head read
    from block `b` walks a suffix of `b`'s present list (`cf_Owns`), so the second pass takes one iteration per pointer
    and per stub of lists in use (`cf_walkSum_le`). A section is taken one iteration at a time (`netIter`,
    `netResume_succ`); the local invariant, the fuel theorems and the answer are in `Proofs/CoNetFold`. -/
namespace Traph
open State Layout

theorem cf_edges_target_mem {u : T} (e : Nat × Slot × Nat) (he : e ∈ cf_edges u) : e.2.2 ∈ u.addrs := by
  cases u with
  | nil => simp [cf_edges] at he
  | node b l c r =>
    have h := cf_edges_targets 0 .L (.node b l c r)
    rw [← h]
    exact List.mem_map.mpr ⟨e, List.mem_append_right _ he, rfl⟩

theorem cf_root_one {s : State} {t : T} (h : Shape s t) {x : Nat} (hx : x ∈ t.addrs) : t.root = 1 ∧ 1 < s.trie.size := by
  rcases h.root_cases with ⟨_, rfl⟩ | ⟨hsz, l, c, r, rfl⟩
  · exact absurd hx List.not_mem_nil
  · exact ⟨rfl, Nat.lt_of_not_le hsz⟩

/-- the ghost part of the local invariant of the walk of the network query: `front` the blocks still to be
    expanded or popped, `V` the blocks expanded; distinct blocks of the tree, each the root or referred to by
    an expanded block -/
structure cf_NI (s : State) (t : T) (front V : List Nat) : Prop where
  nd   : (front ++ V).Nodup
  clos : ∀ x ∈ front ++ V, x ∈ t.addrs ∧ (x = 1 ∨ ∃ y ∈ V, ∃ sl, cf_Par s y sl x)

theorem cf_addrs_ext {s s' : State} {t t' : T} (x : Ext s t s' t') {a : Nat} (ha : a ∈ t.addrs) : a ∈ t'.addrs := by
  obtain ⟨p, he⟩ := t.addrs_mem_entries (s := s) [] ha
  exact entries_addr_mem _ _ _ _ (x.keep p a he)

theorem cf_NI.mono {s s' : State} {t t' : T} {front V : List Nat} (h : Shape s t) (x : Ext s t s' t') (le : s ⊑ s')
    (hp : cf_NI s t front V) : cf_NI s' t' front V where
  nd := hp.nd
  clos := fun a ha => by
    obtain ⟨h1, h2⟩ := hp.clos a ha
    refine ⟨cf_addrs_ext x h1, ?_⟩
    rcases h2 with h2 | ⟨y, hy, sl, hpar⟩
    · exact Or.inl h2
    · have hyA := (hp.clos y (List.mem_append_right _ hy)).1
      exact Or.inr ⟨y, hy, sl, hpar.mono le (h.rep.lt_size y hyA)⟩

theorem cf_NI.length_le {s : State} {t : T} {front V : List Nat} (h : Shape s t) (hp : cf_NI s t front V) :
    front.length + V.length ≤ s.trie.size := by
  rw [← List.length_append]
  exact nodup_length_le _ _ hp.nd (fun x hx => h.rep.lt_size x (hp.clos x hx).1)

theorem cf_NI.expand {s : State} {t : T} {b : Nat} {F V : List Nat} (h : Shape s t)
    (hp : cf_NI s t (b :: F) V) {c1 c2 c3 : Prop} [Decidable c1] [Decidable c2] [Decidable c3]
    {x1 x2 x3 : Nat} (h1 : c1 → cf_Par s b .C x1) (h2 : c2 → cf_Par s b .L x2) (h3 : c3 → cf_Par s b .R x3) :
    cf_NI s t ((if c1 then [x1] else []) ++ ((if c2 then [x2] else []) ++ ((if c3 then [x3] else []) ++ F))) (b :: V) := by
  have hbA : b ∈ t.addrs := (hp.clos b (List.mem_cons_self ..)).1
  have hbV : b ∉ V := fun hv => (List.nodup_cons.mp hp.nd).1 (List.mem_append_right _ hv)
  -- a block referred to by `b` is a block of the tree other than the root
  have hmem : ∀ sl x, cf_Par s b sl x → x ∈ t.addrs ∧ x ≠ 1 := by
    intro sl x hpar
    have he := cf_edges_mem t h.rep b sl hbA (by rw [hpar.2]; exact hpar.1)
    rw [hpar.2] at he
    exact ⟨cf_edges_target_mem _ he, (cf_root_one h hbA).1 ▸ cf_edges_not_root h.nodup _ he⟩
  have fresh : ∀ sl x, cf_Par s b sl x → x ∉ (b :: F) ++ V := by
    intro sl x hpar hx
    rcases (hp.clos x hx).2 with e | ⟨y, hy, sl', hpar'⟩
    · exact (hmem sl x hpar).2 e
    · cases (cf_par_unique h (hp.clos y (List.mem_append_right _ hy)).1 hbA hpar' hpar).1
      exact hbV hy
  have new : ∀ sl x, cf_Par s b sl x → x ∈ t.addrs ∧ (x = 1 ∨ ∃ y ∈ b :: V, ∃ sl, cf_Par s y sl x) :=
    fun sl x hpar => ⟨(hmem sl x hpar).1, .inr ⟨b, List.mem_cons_self .., sl, hpar⟩⟩
  refine ⟨cf_push_nodup h hbA hp.nd h1 h2 h3 (fun hc => fresh _ _ (h1 hc)) (fun hc => fresh _ _ (h2 hc))
    (fun hc => fresh _ _ (h3 hc)), fun x hx => ?_⟩
  rcases cf_push_mem.mp hx with ⟨hc, rfl⟩ | ⟨hc, rfl⟩ | ⟨hc, rfl⟩ | hx
  · exact new _ _ (h1 hc)
  · exact new _ _ (h2 hc)
  · exact new _ _ (h3 hc)
  · exact ⟨(hp.clos x hx).1, (hp.clos x hx).2.imp id fun ⟨y, hy, hpar⟩ => ⟨y, List.mem_cons_of_mem _ hy, hpar⟩⟩

theorem cf_dfsWePush_map (b we cur : Nat) (c : Cell) (stack : List (Nat × Nat)) :
    (dfsWePush b we cur c stack).map (·.1) =
      (if c.child ≠ 0 then [c.child] else []) ++ ((if c.left ≠ 0 then [c.left] else []) ++
        ((if c.right ≠ 0 then [c.right] else []) ++ stack.map (·.1))) := by
  unfold dfsWePush
  simp only [map_ite_cons]

theorem cf_NI.expand_copy {s : State} {t : T} {b : Nat} {F V : List Nat} (h : Shape s t)
    (hp : cf_NI s t (b :: F) V) {c : Cell} (cl : CellLe c (s.cell b)) :
    cf_NI s t ((if c.child ≠ 0 then [c.child] else []) ++ ((if c.left ≠ 0 then [c.left] else []) ++
        ((if c.right ≠ 0 then [c.right] else []) ++ F))) (b :: V) :=
  hp.expand h (fun hc => ⟨hc, cl.child hc⟩) (fun hc => ⟨hc, cl.left hc⟩) (fun hc => ⟨hc, cl.right hc⟩)

theorem cf_NI.start {s : State} {t : T} (h : Shape s t) (hsz : ¬ s.trie.size ≤ 1) : cf_NI s t [1] [] := by
  refine ⟨by simp, fun x hx => ?_⟩
  rcases h.root_cases with ⟨h0, _⟩ | ⟨_, l, c, r, rfl⟩
  · exact absurd h0 hsz
  · rw [List.mem_singleton.mp hx]
    exact ⟨List.mem_cons_self, Or.inl rfl⟩

theorem cf_NI.root {s : State} {t : T} (h : Shape s t) :
    cf_NI s t ((if s.trie.size ≤ 1 then [] else [(1, 0)] : List (Nat × Nat)).map (·.1)) [] := by
  by_cases hsz : s.trie.size ≤ 1
  · rw [if_pos hsz]; exact ⟨List.nodup_nil, fun _ hx => nomatch hx⟩
  · rw [if_neg hsz]; exact cf_NI.start h hsz

theorem cf_sum_erase (F : Nat → Nat) : ∀ (l : List Nat) (a : Nat), a ∈ l →
    (l.map F).sum = F a + ((l.erase a).map F).sum
  | [], _, h => by simp at h
  | x :: l, a, h => by
    by_cases hx : x = a
    · subst hx; simp
    · have ha : a ∈ l := by
        rcases List.mem_cons.mp h with e | e
        · exact absurd e.symm hx
        · exact e
      rw [List.erase_cons_tail (by simpa using hx)]
      simp only [List.map_cons, List.sum_cons]
      rw [cf_sum_erase F l a ha]; omega

theorem cf_sum_sub (F : Nat → Nat) : ∀ (l₁ l₂ : List Nat), l₁.Nodup → (∀ a ∈ l₁, a ∈ l₂) →
    (l₁.map F).sum ≤ (l₂.map F).sum
  | [], _, _, _ => by simp
  | a :: l₁, l₂, hnd, hsub => by
    rw [List.nodup_cons] at hnd
    have ha := hsub a (by simp)
    rw [cf_sum_erase F l₂ a ha]
    have ih := cf_sum_sub F l₁ (l₂.erase a) hnd.2 (fun b hb => by
      have hne : b ≠ a := fun e => hnd.1 (e ▸ hb)
      exact (List.mem_erase_of_ne hne).mpr (hsub b (List.mem_cons_of_mem _ hb)))
    simp only [List.map_cons, List.sum_cons]
    omega

theorem cf_sum_nodup_le (g : Nat → Nat) (n : Nat) (l : List Nat) (hnd : l.Nodup) (hl : ∀ x ∈ l, x < n) :
    (l.map g).sum ≤ cf_sumTo g n :=
  cf_sumTo_range g n ▸ cf_sum_sub g l (List.range n) hnd (fun x hx => List.mem_range.mpr (hl x hx))

/-- stubs in use: the lengths of all out-lists and in-lists -/
def cf_total (s : State) : Nat := cf_sumTo (fun a => (outList s a).length + (inList s a).length) s.trie.size

/-- **the global link invariant the network query needs**: heads inside the store, and the lists hanging off
    the blocks use distinct stubs: their lengths add up to less than the size of the store -/
def cf_SumOk (s : State) : Prop := HeadsOk s ∧ cf_total s + 1 ≤ s.links.size

/-- the list of block `b` on the side the network query was asked for (its flag `out`): the other ends of `b`'s
    out-links, else of its in-links, newest first, one occurrence per link -/
def cf_listOf (s : State) (out : Bool) (b : Nat) : List Nat := if out then outList s b else inList s b

theorem LinkGrow.listOf {s s' : State} (hg : LinkGrow s s') (out : Bool) (b : Nat) :
    ∃ new, cf_listOf s' out b = new ++ cf_listOf s out b := by
  cases out
  · exact (hg b).2
  · exact (hg b).1

/-- `head` was read from block `b` (its out-head or in-head) at some earlier moment: the list hanging off it is
    a suffix of the block's present list -/
structure cf_Owns (s : State) (out : Bool) (b head : Nat) : Prop where
  lt  : b < s.trie.size
  ne  : head ≠ 0
  hlt : head < s.links.size
  suf : ∃ new, cf_listOf s out b = new ++ s.walk head

theorem cf_Owns.mono {s s' : State} {out : Bool} {b head : Nat} (le : s ⊑ s') (hk : HeadsOk s) (hk' : HeadsOk s')
    (hg : LinkGrow s s') (ho : cf_Owns s out b head) : cf_Owns s' out b head := by
  obtain ⟨h1, h2, h3, new, h4⟩ := ho
  have hs' := le.stubs head _ (by simp [h3] : s.links[head]? = some s.links[head])
  refine ⟨Nat.lt_of_lt_of_le h1 le.size, h2, (Array.getElem?_eq_some_iff.mp hs').1, ?_⟩
  rw [cf_walk_le le hk.1 hk'.1 _ head (Nat.lt_succ_self _) h3]
  obtain ⟨n1, e1⟩ := hg.listOf out b
  exact ⟨n1 ++ new, by rw [e1, h4, List.append_assoc]⟩

theorem cf_Owns.fresh {s : State} {t : T} (h : Shape s t) (hk : HeadsOk s) (out : Bool) {b : Nat} (hb : b ∈ t.addrs)
    (hne : (if out then (s.cell b).out else (s.cell b).inn) ≠ 0) :
    cf_Owns s out b (if out then (s.cell b).out else (s.cell b).inn) := by
  refine ⟨h.rep.lt_size b hb, hne, ?_, [], ?_⟩
  · cases out
    · exact (hk.2 b).2
    · exact (hk.2 b).1
  · cases out with
    | true =>
      simp only [if_true] at hne ⊢
      simp [cf_listOf, outList, walk0, hne]
    | false =>
      simp only [Bool.false_eq_true, if_false] at hne ⊢
      simp [cf_listOf, inList, walk0, hne]

/-- (owner block, source webentity, head) : a pointer of the query with the block it was read from -/
abbrev cf_Ptr := Nat × Nat × Nat

def cf_walkSum (s : State) (l : List cf_Ptr) : Nat := (l.map (fun x => (s.walk x.2.2).length)).sum

theorem cf_walkSum_le {s : State} {out : Bool} {l : List cf_Ptr} (hnd : (l.map (·.1)).Nodup)
    (ho : ∀ x ∈ l, cf_Owns s out x.1 x.2.2) : cf_walkSum s l ≤ cf_total s := by
  have h1 : cf_walkSum s l ≤ ((l.map (·.1)).map (fun a => (outList s a).length + (inList s a).length)).sum := by
    clear hnd
    induction l with
    | nil => simp [cf_walkSum]
    | cons x xs ih =>
      have := ih (fun y hy => ho y (List.mem_cons_of_mem _ hy))
      obtain ⟨new, e⟩ := (ho x (by simp)).suf
      have hl : (s.walk x.2.2).length ≤ (outList s x.1).length + (inList s x.1).length := by
        have := congrArg List.length e
        simp only [List.length_append] at this
        unfold cf_listOf at this
        split at this <;> omega
      simp only [cf_walkSum, List.map_cons, List.sum_cons, List.map_map] at this ⊢
      omega
  refine Nat.le_trans h1 (cf_sum_nodup_le _ _ _ hnd (fun a ha => ?_))
  obtain ⟨x, hx, rfl⟩ := List.mem_map.mp ha
  exact (ho x hx).lt

def cf_netPend (n : NetSt) : List Nat :=
  match n.pend with
  | some (b, _, _, _) => [b]
  | none => []

def cf_netFront (n : NetSt) : List Nat := cf_netPend n ++ n.stack.map (·.1)

/-- the state a phase-1 iteration starts from: first section → the root on the stack; the stale copy of the block
    visited last is expanded -/
def netNorm (s : State) (n : NetSt) : NetSt :=
  let n := if n.started then n else { n with started := true, stack := if s.trie.size ≤ 1 then [] else [(1, 0)] }
  { n with stack := (match n.pend with
      | some (b, we, cur, c) => dfsWePush b we cur c n.stack
      | none => n.stack), pend := none }

/-- a phase-1 iteration on a normalised state -/
def netIter1 (s : State) (n : NetSt) : CoIt NetSt :=
  match n.stack with
  | [] => .cont { n with phase2 := some n.pointers }
  | (b, we) :: rest =>
    let c := s.cell b
    let cur := if c.we ≠ 0 then c.we else we
    if c.flags.page && cur ≠ 0 then
      let g := netTouch n.graph cur (fun r => if c.flags.crawled then { r with crawled := r.crawled + 1 }
                                               else { r with uncrawled := r.uncrawled + 1 })
      let head := if n.out then c.out else c.inn
      .stop { n with stack := rest, pend := some (b, we, cur, c), graph := g, pageWe := dictSet n.pageWe b cur,
                     pointers := if head ≠ 0 then n.pointers ++ [(cur, head)] else n.pointers } .yielded
    else .cont { n with stack := dfsWePush b we cur c rest }

def netIter2 (s : State) (n : NetSt) (ptrs : List (Nat × Nat)) : CoIt NetSt :=
  match n.curList with
  | (t, w) :: more =>
    (match dictGet? n.pageWe t with
     | none => .cont { n with curList := more }
     | some tWe =>
       if !n.auto && n.curSrc = tWe then .cont { n with curList := more }
       else
         let g := netTouch n.graph n.curSrc (fun r => { r with targets := counterAdd r.targets tWe w })
         .stop { n with curList := more, graph := g } .yielded)
  | [] =>
    match ptrs with
    | [] => .stop n (.done (.net n.graph))
    | (src, head) :: rest => .cont { n with phase2 := some rest, curSrc := src, curList := s.weighted head }

def netIter (s : State) (n : NetSt) : CoIt NetSt :=
  match n.phase2 with
  | some ptrs => netIter2 s n ptrs
  | none => netIter1 s (netNorm s n)

/-- **an iteration of phase 1 is one of three**: the stack is empty and the second pass begins with the pointers
    collected; the block on top is a page that resolves to an id `cur`, it is recorded (with the head of its list, if
    any) and the section ends; or the block is expanded -/
theorem netIter1_cases {s : State} {J : NetSt → Prop} {P : NetSt → CoOut → Prop} {out auto started : Bool}
    {stack : List (Nat × Nat)} {pend : Option (Nat × Nat × Nat × Cell)} {pageWe pointers : List (Nat × Nat)}
    {phase2 : Option (List (Nat × Nat))} {curSrc : Nat} {curList : List (Nat × Nat)} {graph : List NetRow}
    (hend : stack = [] → J ⟨out, auto, started, stack, pend, pageWe, pointers, some pointers, curSrc, curList, graph⟩)
    (hrec : ∀ b we rest cur head, stack = (b, we) :: rest → (if (s.cell b).we ≠ 0 then (s.cell b).we else we) = cur →
      (if out = true then (s.cell b).out else (s.cell b).inn) = head → (s.cell b).flags.page = true → cur ≠ 0 →
      P ⟨out, auto, started, rest, some (b, we, cur, s.cell b), dictSet pageWe b cur,
        if head ≠ 0 then pointers ++ [(cur, head)] else pointers, phase2, curSrc, curList,
        netTouch graph cur (fun r => if (s.cell b).flags.crawled then { r with crawled := r.crawled + 1 }
                                      else { r with uncrawled := r.uncrawled + 1 })⟩ .yielded)
    (hexp : ∀ b we rest cur, stack = (b, we) :: rest → (if (s.cell b).we ≠ 0 then (s.cell b).we else we) = cur →
      ¬ ((s.cell b).flags.page = true ∧ cur ≠ 0) →
      J ⟨out, auto, started, dfsWePush b we cur (s.cell b) rest, pend, pageWe, pointers, phase2, curSrc, curList, graph⟩) :
    (netIter1 s ⟨out, auto, started, stack, pend, pageWe, pointers, phase2, curSrc, curList, graph⟩).All J P := by
  unfold netIter1
  cases stack with
  | nil => exact hend rfl
  | cons top rest =>
    obtain ⟨b, we⟩ := top
    have hrec := hrec b we rest _ _ rfl rfl rfl
    have hexp := hexp b we rest _ rfl rfl
    simp only
    generalize (if (s.cell b).we ≠ 0 then (s.cell b).we else we) = cur at hrec hexp ⊢
    by_cases hc : ((s.cell b).flags.page && decide (cur ≠ 0)) = true
    · rw [if_pos hc]
      simp only [Bool.and_eq_true, decide_eq_true_eq] at hc
      exact hrec hc.1 hc.2
    · rw [if_neg hc]
      simp only [Bool.and_eq_true, decide_eq_true_eq] at hc
      exact hexp hc

/-- **an iteration of phase 2 is one of four**: the next entry of the Counter snapshot is skipped (its target is not a
    recorded page, or it is a self-link and those were not asked for); it is added to the graph and the section ends;
    snapshot and pointers are used up and the query returns; or the next pointer is opened -/
theorem netIter2_cases {s : State} {J : NetSt → Prop} {P : NetSt → CoOut → Prop} {out auto started : Bool}
    {stack : List (Nat × Nat)} {pend : Option (Nat × Nat × Nat × Cell)} {pageWe pointers : List (Nat × Nat)}
    {phase2 : Option (List (Nat × Nat))} {curSrc : Nat} {curList : List (Nat × Nat)} {graph : List NetRow}
    {ptrs : List (Nat × Nat)}
    (hskip : ∀ tt w more, curList = (tt, w) :: more →
      (∀ tWe, dictGet? pageWe tt = some tWe → auto = false ∧ curSrc = tWe) →
      J ⟨out, auto, started, stack, pend, pageWe, pointers, phase2, curSrc, more, graph⟩)
    (hadd : ∀ tt w more tWe, curList = (tt, w) :: more → dictGet? pageWe tt = some tWe →
      ¬ (auto = false ∧ curSrc = tWe) →
      P ⟨out, auto, started, stack, pend, pageWe, pointers, phase2, curSrc, more,
        netTouch graph curSrc (fun r => { r with targets := counterAdd r.targets tWe w })⟩ .yielded)
    (hret : curList = [] → ptrs = [] →
      P ⟨out, auto, started, stack, pend, pageWe, pointers, phase2, curSrc, curList, graph⟩ (.done (.net graph)))
    (hopen : ∀ src head rest, curList = [] → ptrs = (src, head) :: rest →
      J ⟨out, auto, started, stack, pend, pageWe, pointers, some rest, src, s.weighted head, graph⟩) :
    (netIter2 s ⟨out, auto, started, stack, pend, pageWe, pointers, phase2, curSrc, curList, graph⟩ ptrs).All J P := by
  unfold netIter2
  cases curList with
  | cons tw more =>
    obtain ⟨tt, w⟩ := tw
    simp only
    cases hd : dictGet? pageWe tt with
    | none => exact hskip tt w more rfl (fun _ e => by rw [hd] at e; cases e)
    | some tWe =>
      simp only
      by_cases hc : (!auto && decide (curSrc = tWe)) = true
      · rw [if_pos hc]
        simp only [Bool.and_eq_true, Bool.not_eq_true', decide_eq_true_eq] at hc
        exact hskip tt w more rfl (fun _ e => by rw [hd] at e; cases e; exact hc)
      · rw [if_neg hc]
        simp only [Bool.and_eq_true, Bool.not_eq_true', decide_eq_true_eq] at hc
        exact hadd tt w more tWe rfl hd hc
  | nil =>
    cases ptrs with
    | nil => exact hret rfl rfl
    | cons sh rest => exact hopen sh.1 sh.2 rest rfl rfl

theorem netIter1_flags (s : State) (n : NetSt) :
    (netIter1 s n).All (fun n' => n'.auto = n.auto ∧ n'.out = n.out) (fun n' _ => n'.auto = n.auto ∧ n'.out = n.out) :=
  netIter1_cases (fun _ => ⟨rfl, rfl⟩) (fun _ _ _ _ _ _ _ _ _ _ => ⟨rfl, rfl⟩) (fun _ _ _ _ _ _ _ => ⟨rfl, rfl⟩)

theorem netResume_succ (fuel : Nat) (s : State) (n : NetSt) :
    netResume (fuel + 1) s n = (netIter s n).run (netResume fuel s) := by
  obtain ⟨out, auto, started, stack, pend, pageWe, pointers, phase2, curSrc, curList, graph⟩ := n
  cases phase2 with
  | some ptrs =>
    rw [netResume]
    unfold netIter netIter2
    cases curList with
    | nil => cases ptrs <;> rfl
    | cons tw more =>
      simp only
      cases dictGet? pageWe tw.1 with
      | none => rfl
      | some tWe => simp only; split <;> rfl
  | none =>
    have key : ∀ st, netResume (fuel + 1) s ⟨out, auto, true, st, none, pageWe, pointers, none, curSrc, curList, graph⟩ =
        (netIter1 s ⟨out, auto, true, st, none, pageWe, pointers, none, curSrc, curList, graph⟩).run (netResume fuel s) := by
      intro st
      rw [netResume]
      unfold netIter1
      cases st with
      | nil => rfl
      | cons top rest =>
        obtain ⟨b, we⟩ := top
        simp only [if_true]
        generalize (if (s.cell b).we ≠ 0 then (s.cell b).we else we) = cur
        by_cases hc : ((s.cell b).flags.page && decide (cur ≠ 0)) = true
        · rw [if_pos hc, if_pos hc]; rfl
        · rw [if_neg hc, if_neg hc]; rfl
    cases started <;> cases pend <;> exact key _

/-- one Counter entry of a page of webentity `src`, with the page → webentity dictionary `D` -/
def cf_netInner (auto : Bool) (D : List (Nat × Nat)) (src : Nat) (g : List NetRow) (tw : Nat × Nat) : List NetRow :=
  match dictGet? D tw.1 with
  | none => g
  | some tWe =>
    if !auto && src = tWe then g
    else netTouch g src (fun r => { r with targets := counterAdd r.targets tWe tw.2 })

/-- one pointer of the second pass -/
def cf_netOuter (s : State) (auto : Bool) (D : List (Nat × Nat)) (g : List NetRow) (sh : Nat × Nat) : List NetRow :=
  (s.weighted sh.2).foldl (cf_netInner auto D sh.1) g

/-- what the second pass still has to compute from a state of the generator: what the answer will be -/
def cf_netSpecP2 (s : State) (n : NetSt) (ptrs : List (Nat × Nat)) : List NetRow :=
  ptrs.foldl (cf_netOuter s n.auto n.pageWe) (n.curList.foldl (cf_netInner n.auto n.pageWe n.curSrc) n.graph)

/-- iterations the second pass still takes before the one that returns: one per Counter entry, one per pointer -/
def nf_left (s : State) (cl ptrs : List (Nat × Nat)) : Nat :=
  cl.length + (ptrs.map fun sh => (s.weighted sh.2).length + 1).sum

/-- what an iteration of the second pass does: it consumes a Counter entry or opens the next pointer; what the answer
    will be stays as it is, and one iteration fewer remains -/
def nf_Second (s : State) (n : NetSt) (ptrs : List (Nat × Nat)) (n' : NetSt) : Prop :=
  ∃ ptrs' src' cl' g', n' = { n with phase2 := some ptrs', curSrc := src', curList := cl', graph := g' } ∧
    (∀ sh ∈ ptrs', sh ∈ ptrs) ∧ cf_netSpecP2 s n' ptrs' = cf_netSpecP2 s n ptrs ∧
    nf_left s cl' ptrs' + 1 = nf_left s n.curList ptrs

/-- **the second pass, once**: no invariant is needed to say what an iteration does -/
theorem netIter2_spec {s : State} {n : NetSt} {ptrs : List (Nat × Nat)} (hp : n.phase2 = some ptrs) :
    (netIter2 s n ptrs).All (nf_Second s n ptrs)
      (fun n' o => (o = .yielded ∧ nf_Second s n ptrs n') ∨
        (o = .done (.net (cf_netSpecP2 s n ptrs)) ∧ nf_left s n.curList ptrs = 0)) := by
  obtain ⟨out, auto, started, stack, pend, pageWe, pointers, phase2, curSrc, curList, graph⟩ := n
  cases hp
  -- a Counter entry is consumed, the graph becoming what `cf_netInner` makes of it
  have hgo : ∀ tw more g, curList = tw :: more → cf_netInner auto pageWe curSrc graph tw = g →
      nf_Second s ⟨out, auto, started, stack, pend, pageWe, pointers, some ptrs, curSrc, curList, graph⟩ ptrs
        ⟨out, auto, started, stack, pend, pageWe, pointers, some ptrs, curSrc, more, g⟩ := by
    rintro tw more g rfl rfl
    exact ⟨ptrs, curSrc, more, _, rfl, fun _ h => h, rfl, by simp only [nf_left, List.length_cons]; omega⟩
  refine netIter2_cases ?_ ?_ ?_ ?_
  · intro tt w more e hno
    refine hgo _ _ _ e ?_
    unfold cf_netInner
    cases hd : dictGet? pageWe tt with
    | none => rfl
    | some tWe =>
      obtain ⟨ha, hs⟩ := hno tWe hd
      simp only [ha, hs, Bool.not_false, Bool.true_and, decide_true, if_true]
  · intro tt w more tWe e hd hc
    refine .inl ⟨rfl, hgo _ _ _ e ?_⟩
    unfold cf_netInner
    simp only [hd]
    rw [if_neg]
    simpa only [Bool.and_eq_true, Bool.not_eq_true', decide_eq_true_eq] using hc
  · rintro rfl rfl
    exact .inr ⟨rfl, rfl⟩
  · rintro src head rest rfl rfl
    exact ⟨rest, src, s.weighted head, graph, rfl, fun _ h => List.mem_cons_of_mem _ h, rfl,
      by simp only [nf_left, List.map_cons, List.sum_cons, List.length_nil]; omega⟩

theorem cf_sumTo_zero_above (g : Nat → Nat) (n : Nat) (h0 : ∀ a, n ≤ a → g a = 0) : ∀ m, cf_sumTo g m ≤ cf_sumTo g n := by
  have up : ∀ k, cf_sumTo g (n + k) = cf_sumTo g n := by
    intro k
    induction k with
    | zero => rfl
    | succ k ih =>
      show cf_sumTo g (n + k) + g (n + k) = _
      rw [ih, h0 (n + k) (by omega)]; rfl
  have mono : ∀ a b, a ≤ b → cf_sumTo g a ≤ cf_sumTo g b := by
    intro a b hab
    induction hab with
    | refl => exact Nat.le_refl _
    | step _ ih => simp only [cf_sumTo]; omega
  intro m
  by_cases hm : m ≤ n
  · exact mono m n hm
  · obtain ⟨k, rfl⟩ : ∃ k, m = n + k := ⟨m - n, by omega⟩
    rw [up]; exact Nat.le_refl _

theorem cf_sumTo_bump {g g' : Nat → Nat} (p k : Nat) (h : ∀ a, g' a ≤ g a + (if a = p then k else 0)) :
    ∀ n, cf_sumTo g' n ≤ cf_sumTo g n + (if p < n then k else 0) := by
  intro n
  induction n with
  | zero => simp [cf_sumTo]
  | succ n ih =>
    simp only [cf_sumTo]
    have hn := h n
    by_cases hp : n = p
    · subst hp
      rw [if_pos rfl] at hn
      rw [if_neg (Nat.lt_irrefl _)] at ih
      rw [if_pos (Nat.lt_succ_self _)]
      omega
    · rw [if_neg hp] at hn
      by_cases hlt : p < n
      · rw [if_pos hlt] at ih
        rw [if_pos (by omega)]
        omega
      · rw [if_neg hlt] at ih
        rw [if_neg (by omega)]
        omega

theorem cf_outList_above (s : State) (a : Nat) (ha : s.trie.size ≤ a) : outList s a = [] ∧ inList s a = [] := by
  have : s.cell a = {} := cell_of_size_le s a ha
  simp only [outList, inList, this, walk0]
  exact ⟨rfl, rfl⟩

theorem cf_sumOk_frame {s s' : State} (f : PtrEq s s') (hg : cf_SumOk s) : cf_SumOk s' := by
  refine ⟨(f.step hg.1).1, ?_⟩
  rw [f.links]
  refine Nat.le_trans (Nat.add_le_add_right ?_ 1) hg.2
  unfold cf_total
  have e : (fun a => (outList s' a).length + (inList s' a).length) = (fun a => (outList s a).length + (inList s a).length) := by
    funext a; rw [f.outList, f.inList]
  rw [e]
  exact cf_sumTo_zero_above _ _ (fun a ha => by simp [(cf_outList_above s a ha).1, (cf_outList_above s a ha).2]) _

theorem cf_sumOk_addStubs {s : State} (page : Nat) (targets : List Nat) (out : Bool) (hg : cf_SumOk s) :
    cf_SumOk (s.addStubs page targets out) := by
  obtain ⟨hk', ho, hi⟩ := addStubs_lists hg.1 page targets out
  refine ⟨hk', ?_⟩
  rw [addStubs_size]
  unfold cf_total
  rw [addStubs_trie_size]
  have := cf_sumTo_bump (g := fun a => (outList s a).length + (inList s a).length)
    (g' := fun a => (outList (s.addStubs page targets out) a).length + (inList (s.addStubs page targets out) a).length)
    page targets.length (fun a => by
      simp only [ho a, hi a, List.length_append]
      by_cases ha : a = page
      · subst ha
        cases out <;> simp <;> split <;> simp <;> omega
      · simp [ha]) s.trie.size
  have h2 := hg.2
  unfold cf_total at h2
  split at this <;> omega

/-- the changes on the trie side are frames; `addStubs` uses as many new stubs as it lengthens a list by -/
theorem cf_sum_across (k ru : Bool) (wf : Prop) :
    Across k ru wf (fun _ => True) (fun _ _ => True) (fun s s' => cf_SumOk s → cf_SumOk s') where
  refl _ := id
  trans h1 h2 := fun h => h2 (h1 h)
  keep _ _ := trivial
  stable _ _ _ := trivial
  addLru s stems flag _ := ⟨cf_sumOk_frame (ptrEq_addLru s stems flag), trivial⟩
  lookup _ _ _ _ _ := trivial
  setPage s x _ _ _ := ⟨cf_sumOk_frame (ptrEq_modCell s x.node _ (fun _ => ⟨rfl, rfl⟩)), trivial⟩
  isPage _ _ _ _ _ := trivial
  setCrawled s x _ _ := cf_sumOk_frame (ptrEq_modCell s x.node _ (fun _ => ⟨rfl, rfl⟩))
  setRule _ s x _ _ _ := cf_sumOk_frame (ptrEq_modCell s x.node _ (fun _ => ⟨rfl, rfl⟩))
  setWe s x _ _ _ _ := cf_sumOk_frame (ptrEq_modCell s x.node _ (fun _ => ⟨rfl, rfl⟩))
  genId _ _ := cf_sumOk_frame (PtrEq.of_eq rfl rfl)
  addStubs _ _ page targets out _ _ := cf_sumOk_addStubs page targets out
  ram _ _ _ _ _ := cf_sumOk_frame (PtrEq.of_eq rfl rfl)

theorem cf_sumOk_resume (s : State) (c : CoSt) (hg : cf_SumOk s) : cf_SumOk (c.resume s).1 :=
  across_resume (cf_sum_across true true False) s c trivial hg

theorem cf_walkSum_mono {s s' : State} (le : s ⊑ s') (hk : HeadsOk s) (hk' : HeadsOk s') :
    ∀ l : List cf_Ptr, (∀ x ∈ l, x.2.2 < s.links.size) → cf_walkSum s' l = cf_walkSum s l
  | [], _ => rfl
  | x :: xs, hl => by
    have ih := cf_walkSum_mono le hk hk' xs (fun y hy => hl y (List.mem_cons_of_mem _ hy))
    simp only [cf_walkSum, List.map_cons, List.sum_cons] at ih ⊢
    rw [ih, cf_walk_le le hk.1 hk'.1 _ x.2.2 (Nat.lt_succ_self _) (hl x (by simp))]

theorem cf_sumOk_of_trie_init (s : State) (ht : s.trie = #[{}]) (hl : s.links = #[{}]) : cf_SumOk s := by
  refine ⟨headsOk_of_trie_init s ht hl, ?_⟩
  have h0 : s.cell 0 = {} := cell_of_trie_init ht 0
  have : cf_total s = 0 := by
    unfold cf_total
    rw [ht]
    show cf_sumTo _ 1 = 0
    simp only [cf_sumTo, outList, inList, h0, walk0]
    rfl
  rw [this, hl]
  decide

theorem cf_sumOk_hist : HistInv cf_SumOk :=
  ⟨cf_sumOk_of_trie_init, fun b h => (b.across (cf_sum_across _ _ _) trivial).1 h⟩

/-- **`cf_SumOk` holds in every reachable state**: the hypothesis of the network-query theorems is not vacuous -/
theorem cf_sumOk_reachable (cfg : Config) (dflt : Rule) (rules : List (Bytes × Rule)) (ops : List Op) :
    cf_SumOk ((State.fresh cfg dflt rules []).1.run ops) := cf_sumOk_hist.reachable cfg dflt rules ops

#print axioms cf_sumOk_resume
#print axioms cf_sumOk_reachable

end Traph
