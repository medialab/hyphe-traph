import Proofs.PtrOk
import Proofs.LinkLists
/-! C18, "traversed and queried without failure": in a `PtrOk` state no walk of the model ever reads a
    block that is not in the files.

    The model's accessors are total (`State.cell b` is the default cell when `b ≥ size`, `findSib`
    answers `.corrupt`, `readTail` / `walkGo` stop). To state that the totalisation is never exercised
    we give every walk a STRICT twin (suffix `S`) in `Option`: it is the same program, except that
    every read of a trie block goes through `s.trie[b]?`, every stem read through `stemAtS` (which
    also fails when an announced tail block is missing), every stub read through `s.links[j]?`, and
    any miss makes the whole walk `none`. The theorems say: under `PtrOkAt s d`, started from blocks
    below `d` (the complete prefix), the strict twin returns `some` of exactly what the model's walk
    returns, and every block it hands on (results, stack entries, parents, link targets) is below `d`
    again. Running out of fuel is not an out-of-range read and is kept as in the model (but `readTailS` answers `none`). -/
namespace Traph
open State

namespace State

def readTailS (s : State) : Nat → Nat → Option Bytes
  | 0, _ => none
  | fuel + 1, i =>
    match s.trie[i]? with
    | none => none
    | some c => if c.flags.hasTail then (readTailS s fuel (i + 1)).map (c.chunk ++ ·) else some c.chunk

def stemAtS (s : State) (i : Nat) : Option Stem :=
  match s.trie[i]? with
  | none => none
  | some c =>
    if c.flags.hasTail then (s.readTailS s.trie.size (i + 1)).map (c.chunk ++ ·) else some c.chunk

def findSibS (s : State) (stem : Stem) : Nat → Nat → Option Find
  | 0, _ => some .corrupt
  | fuel + 1, p =>
    match s.trie[p]?, s.stemAtS p with
    | some c, some cur =>
      if cur = stem then some (.found p)
      else if lexLt stem cur then
        (if c.left ≠ 0 then findSibS s stem fuel c.left else some (.missing p .L))
      else
        (if c.right ≠ 0 then findSibS s stem fuel c.right else some (.missing p .R))
    | _, _ => none

def lruNodeGoS (s : State) : List Stem → Nat → Option (Option Nat)
  | [], node => some (some node)
  | stem :: rest, node =>
    match s.findSibS stem (s.trie.size + 1) node with
    | none => none
    | some (.found i) =>
      if rest.isEmpty then some (some i)
      else match s.trie[i]? with
        | none => none
        | some c => if c.child = 0 then some none else lruNodeGoS s rest c.child
    | some _ => some none

def lruNodeS (s : State) (stems : LRU) : Option (Option Nat) :=
  if s.trie.size ≤ 1 then some none else s.lruNodeGoS stems 1

def followLruGoS (s : State) : List Stem → Nat → Nat → Hist → Option (Option Nat × Hist)
  | [], node, _, h => some (some node, h)
  | stem :: rest, node, pos, h =>
    match s.findSibS stem (s.trie.size + 1) node with
    | none => none
    | some (.found i) =>
      match s.trie[i]? with
      | none => none
      | some c =>
        let pos := pos + stem.length
        let h := h.visit c pos
        if rest.isEmpty then some (some i, h)
        else if c.child = 0 then some (none, h) else followLruGoS s rest c.child pos h
    | some _ => some (none, h)

def followLruS (s : State) (stems : LRU) : Option (Option Nat × Hist) :=
  if s.trie.size ≤ 1 then some (none, {}) else s.followLruGoS stems 1 0 {}

def parentsGoS (s : State) : Nat → Nat → Option (List Nat)
  | 0, _ => some []
  | fuel + 1, b =>
    match s.trie[b]? with
    | none => none
    | some c => if c.parent = 0 then some [] else (parentsGoS s fuel c.parent).map (c.parent :: ·)

def parentsS (s : State) (b : Nat) : Option (List Nat) := s.parentsGoS (s.trie.size + 1) b

def windupFoldS (s : State) : List Nat → Bytes → Option Bytes
  | [], acc => some acc
  | p :: ps, acc =>
    match s.stemAtS p with
    | none => none
    | some st => windupFoldS s ps (st ++ acc)

def windupS (s : State) (b : Nat) : Option Bytes :=
  match s.parentsS b, s.stemAtS b with
  | some ps, some st => s.windupFoldS ps st
  | _, _ => none

def dfsGoS (s : State) (fromRoot : Bool) (startBlock : Nat) (skipChildless : Bool) :
    Nat → List (Nat × Bytes) → Option (List (Nat × Bytes))
  | 0, _ => some []
  | _, [] => some []
  | fuel + 1, (b, lru) :: stack =>
    match s.trie[b]?, s.stemAtS b with
    | some c, some st =>
      let cur := lru ++ st
      let stack := if fromRoot || b ≠ startBlock then
          (let st := if c.right ≠ 0 then (c.right, lru) :: stack else stack
           if c.left ≠ 0 then (c.left, lru) :: st else st) else stack
      let stack := if skipChildless && c.flags.noChild then stack
                   else if c.child ≠ 0 then (c.child, cur) :: stack else stack
      (dfsGoS s fromRoot startBlock skipChildless fuel stack).map ((b, cur) :: ·)
    | _, _ => none

def dfsIterS (s : State) (start : Option (Nat × Bytes)) (skipChildless : Bool) : Option (List (Nat × Bytes)) :=
  match start with
  | none => if s.trie.size ≤ 1 then some [] else s.dfsGoS true 1 skipChildless (s.trie.size + 1) [(1, [])]
  | some (b, lru) => s.dfsGoS false b skipChildless (s.trie.size + 1) [(b, lruDirname lru)]

def weDfsGoS (s : State) (startBlock : Nat) (maxDepth : Option Nat) :
    Nat → List (Nat × Bytes × Nat) → Option (List (Nat × Bytes))
  | 0, _ => some []
  | _, [] => some []
  | fuel + 1, (b, lru, level) :: stack =>
    match s.trie[b]?, s.stemAtS b with
    | some c, some st =>
      let relevant := b = startBlock || c.we = 0
      let cur := lru ++ st
      let stack := if b ≠ startBlock then
          (let st := if c.right ≠ 0 then (c.right, lru, level) :: stack else stack
           if c.left ≠ 0 then (c.left, lru, level) :: st else st) else stack
      let stack := if relevant && c.child ≠ 0 then
          (match maxDepth with
           | some d => if level ≥ d then stack else (c.child, cur, level + 1) :: stack
           | none => (c.child, cur, level + 1) :: stack) else stack
      (weDfsGoS s startBlock maxDepth fuel stack).map (fun rest => if relevant then (b, cur) :: rest else rest)
    | _, _ => none

def weDfsS (s : State) (start : Nat) (startLru : Bytes) (maxDepth : Option Nat) : Option (List (Nat × Bytes)) :=
  s.weDfsGoS start maxDepth (s.trie.size + 1) [(start, lruDirname startLru, 0)]

def dfsWeGoS (s : State) : Nat → List (Nat × Nat) → Option (List (Nat × Nat))
  | 0, _ => some []
  | _, [] => some []
  | fuel + 1, (b, we) :: stack =>
    match s.trie[b]? with
    | none => none
    | some c =>
      let cur := if c.we ≠ 0 then c.we else we
      let st := if c.right ≠ 0 then (c.right, we) :: stack else stack
      let st := if c.left ≠ 0 then (c.left, we) :: st else st
      let st := if c.child ≠ 0 then (c.child, cur) :: st else st
      (dfsWeGoS s fuel st).map ((b, cur) :: ·)

def dfsWeS (s : State) : Option (List (Nat × Nat)) :=
  if s.trie.size ≤ 1 then some [] else s.dfsWeGoS (s.trie.size + 1) [(1, 0)]

/-- the inner option is the model's traversal exception (in `weInorderS` too) -/
def followPathS (s : State) : List Nat → Nat → Bytes → Option (Option Bytes)
  | [], n, lru => (s.stemAtS n).map (fun st => some (lru ++ st))
  | op :: ops, n, lru =>
    match s.trie[n]? with
    | none => none
    | some c =>
      if op = Layout.base4L then (if c.left = 0 then some none else followPathS s ops c.left lru)
      else if op = Layout.base4C then
        (if c.child = 0 then some none else
          match s.stemAtS n with
          | none => none
          | some st => followPathS s ops c.child (lru ++ st))
      else (if c.right = 0 then some none else followPathS s ops c.right lru)

def inorderGoS (s : State) (startBlock : Nat) (pag : Option (Bytes × Bytes)) :
    Nat → Nat → Bytes → Nat → Option (List (Nat × Bytes × Nat))
  | 0, _, _, _ => some []
  | fuel + 1, b, lru, path =>
    let pruned := match pag with | some (cmp, _) => !canFollowPath cmp path | none => false
    if pruned then some [] else
    match s.trie[b]?, s.stemAtS b with
    | some c, some st =>
      let lft := if b ≠ startBlock && c.left ≠ 0 then
          inorderGoS s startBlock pag fuel c.left lru (base4Append path 1) else some []
      let cur := lru ++ st
      let relevant := b = startBlock || c.we = 0
      let self := if relevant then
          (let ok := match pag with | some (_, plru) => lexLt plru cur | none => true
           if ok then [(b, cur, path)] else []) else []
      let chl := if relevant && c.child ≠ 0 then
          inorderGoS s startBlock pag fuel c.child cur (base4Append path 2) else some []
      let rgt := if b ≠ startBlock && c.right ≠ 0 then
          inorderGoS s startBlock pag fuel c.right lru (base4Append path 3) else some []
      match lft, chl, rgt with
      | some l, some ch, some r => some (l ++ self ++ ch ++ r)
      | _, _, _ => none
    | _, _ => none

def weInorderS (s : State) (start : Nat) (startLru : Bytes) (pagPath : Option Nat) :
    Option (Option (List (Nat × Bytes × Nat))) :=
  let dir := lruDirname startLru
  match pagPath with
  | none => (s.inorderGoS start none (s.trie.size + 1) start dir 0).map some
  | some p =>
    let cmp := if p = 0 then [] else intToBase4 p
    match s.followPathS cmp start dir with
    | none => none
    | some none => some none
    | some (some plru) => (s.inorderGoS start (some (cmp, plru)) (s.trie.size + 1) start dir 0).map some

def walkGoS (s : State) : Nat → Nat → Option (List Nat)
  | 0, _ => some []
  | fuel + 1, i =>
    match s.links[i]? with
    | none => none
    | some st => if st.prev ≠ 0 then (walkGoS s fuel st.prev).map (st.target :: ·) else some [st.target]

def walkS (s : State) (head : Nat) : Option (List Nat) := s.walkGoS (s.links.size + 1) head

end State

theorem PtrOkAt.lt_size {s : State} {d b : Nat} (h : PtrOkAt s d) (hb : b < d) : b < s.trie.size :=
  Nat.lt_of_lt_of_le hb h.dle

theorem PtrOkAt.get {s : State} {d b : Nat} (h : PtrOkAt s d) (hb : b < d) : s.trie[b]? = some (s.cell b) :=
  getElem?_cell (h.lt_size hb)

theorem PtrOkAt.readTailS_eq {s : State} {d : Nat} (h : PtrOkAt s d) :
    ∀ (fuel i : Nat), i < d → s.trie.size - i ≤ fuel → s.readTailS fuel i = some (s.readTail fuel i) := by
  intro fuel
  induction fuel with
  | zero => intro i hi hf; have := h.dle; omega
  | succ f ih =>
    intro i hi hf
    rw [State.readTailS, State.readTail, h.get hi]
    simp only
    by_cases hh : (s.cell i).flags.hasTail = true
    · have hnext := h.tails i _ (h.get hi) hi hh
      rw [if_pos hh, if_pos hh, ih (i + 1) hnext (Nat.pred_le_pred hf)]; rfl
    · rw [if_neg hh, if_neg hh]; simp

theorem PtrOkAt.stemAtS_eq {s : State} {d : Nat} (h : PtrOkAt s d) {b : Nat} (hb : b < d) :
    s.stemAtS b = some (s.stemAt b) := by
  rw [State.stemAtS, State.stemAt, h.get hb]
  simp only
  by_cases hh : (s.cell b).flags.hasTail = true
  · have hnext := h.tails b _ (h.get hb) hb hh
    rw [if_pos hh, if_pos hh, h.readTailS_eq _ (b + 1) hnext (Nat.sub_le _ _)]; rfl
  · rw [if_neg hh, if_neg hh]; simp

theorem PtrOkAt.findSibS_eq {s : State} {d : Nat} (h : PtrOkAt s d) (stem : Stem) :
    ∀ (fuel p : Nat), p < d →
      s.findSibS stem fuel p = some (s.findSib stem fuel p) ∧
      (∀ i, s.findSib stem fuel p = .found i → i < d) ∧
      (∀ q sl, s.findSib stem fuel p = .missing q sl → q < d) := by
  intro fuel
  induction fuel with
  | zero => intro p _; exact ⟨rfl, fun _ hi => (nomatch hi), fun _ _ hq => nomatch hq⟩
  | succ f ih =>
    intro p hp
    have hc := h.cellOk p
    rw [State.findSibS, State.findSib, h.get hp, h.stemAtS_eq hp]
    dsimp only
    by_cases h1 : s.stemAt p = stem
    · rw [if_pos h1, if_pos h1]
      exact ⟨rfl, fun i hi => by cases hi; exact hp, fun q sl hq => nomatch hq⟩
    · rw [if_neg h1, if_neg h1]
      by_cases h2 : lexLt stem (s.stemAt p) = true
      · rw [if_pos h2, if_pos h2]
        by_cases h3 : (s.cell p).left ≠ 0
        · rw [if_pos h3, if_pos h3]
          exact ih _ hc.left
        · rw [if_neg h3, if_neg h3]
          exact ⟨rfl, fun i hi => (nomatch hi), fun q sl hq => by cases hq; exact hp⟩
      · rw [if_neg h2, if_neg h2]
        by_cases h3 : (s.cell p).right ≠ 0
        · rw [if_pos h3, if_pos h3]
          exact ih _ hc.right
        · rw [if_neg h3, if_neg h3]
          exact ⟨rfl, fun i hi => (nomatch hi), fun q sl hq => by cases hq; exact hp⟩

theorem PtrOkAt.lruNodeGoS_eq {s : State} {d : Nat} (h : PtrOkAt s d) :
    ∀ (stems : List Stem) (node : Nat), node < d →
      s.lruNodeGoS stems node = some (s.lruNodeGo stems node) ∧
      (∀ n, s.lruNodeGo stems node = some n → n < d) := by
  intro stems
  induction stems with
  | nil => intro node hn; exact ⟨rfl, fun n hx => by cases hx; exact hn⟩
  | cons stem rest ih =>
    intro node hn
    obtain ⟨e, hf, _⟩ := h.findSibS_eq stem (s.trie.size + 1) node hn
    rw [State.lruNodeGoS, State.lruNodeGo, e]
    cases hfs : s.findSib stem (s.trie.size + 1) node with
    | found i =>
      have hi := hf i hfs
      dsimp only
      by_cases hr : rest.isEmpty = true
      · rw [if_pos hr, if_pos hr]
        exact ⟨rfl, fun n hx => by cases hx; exact hi⟩
      · rw [if_neg hr, if_neg hr, h.get hi]
        dsimp only
        by_cases hc : (s.cell i).child = 0
        · rw [if_pos hc, if_pos hc]
          exact ⟨rfl, fun n hx => nomatch hx⟩
        · rw [if_neg hc, if_neg hc]
          exact ih _ (h.cellOk i).child
    | missing q sl => exact ⟨rfl, fun n hx => nomatch hx⟩
    | corrupt => exact ⟨rfl, fun n hx => nomatch hx⟩

/-- `lru_node`: no read outside the file, the node found is below the complete prefix
    (`1 < d`: the root is complete — see `PtrOkAt.root_cases`) -/
theorem PtrOkAt.lruNodeS_eq {s : State} {d : Nat} (h : PtrOkAt s d) (hr : s.trie.size ≤ 1 ∨ 1 < d)
    (stems : LRU) :
    s.lruNodeS stems = some (s.lruNode stems) ∧ (∀ n, s.lruNode stems = some n → n < d) := by
  unfold State.lruNodeS State.lruNode
  by_cases h1 : s.trie.size ≤ 1
  · simp only [if_pos h1]; exact ⟨trivial, fun n hx => by cases hx⟩
  · simp only [if_neg h1]
    exact h.lruNodeGoS_eq stems 1 (hr.resolve_left h1)

theorem PtrOkAt.followLruGoS_eq {s : State} {d : Nat} (h : PtrOkAt s d) :
    ∀ (stems : List Stem) (node pos : Nat) (hi : Hist), node < d →
      s.followLruGoS stems node pos hi = some (s.followLruGo stems node pos hi) ∧
      (∀ n, (s.followLruGo stems node pos hi).1 = some n → n < d) := by
  intro stems
  induction stems with
  | nil => intro node pos hi hn; exact ⟨rfl, fun n hx => by cases hx; exact hn⟩
  | cons stem rest ih =>
    intro node pos hist hn
    obtain ⟨e, hf, _⟩ := h.findSibS_eq stem (s.trie.size + 1) node hn
    rw [State.followLruGoS, State.followLruGo, e]
    cases hfs : s.findSib stem (s.trie.size + 1) node with
    | found i =>
      have hi := hf i hfs
      dsimp only
      rw [h.get hi]
      dsimp only
      by_cases hr : rest.isEmpty = true
      · rw [if_pos hr, if_pos hr]
        exact ⟨rfl, fun n hx => by cases hx; exact hi⟩
      · rw [if_neg hr, if_neg hr]
        by_cases hc : (s.cell i).child = 0
        · rw [if_pos hc, if_pos hc]
          exact ⟨rfl, fun n hx => nomatch hx⟩
        · rw [if_neg hc, if_neg hc]
          exact ih _ _ _ (h.cellOk i).child
    | missing q sl => exact ⟨rfl, fun n hx => nomatch hx⟩
    | corrupt => exact ⟨rfl, fun n hx => nomatch hx⟩

theorem PtrOkAt.followLruS_eq {s : State} {d : Nat} (h : PtrOkAt s d) (hr : s.trie.size ≤ 1 ∨ 1 < d)
    (stems : LRU) :
    s.followLruS stems = some (s.followLru stems) ∧ (∀ n, (s.followLru stems).1 = some n → n < d) := by
  unfold State.followLruS State.followLru
  by_cases h1 : s.trie.size ≤ 1
  · simp only [if_pos h1]; exact ⟨trivial, fun n hx => by cases hx⟩
  · simp only [if_neg h1]
    exact h.followLruGoS_eq stems 1 0 {} (hr.resolve_left h1)

theorem PtrOkAt.parentsGoS_eq {s : State} {d : Nat} (h : PtrOkAt s d) :
    ∀ (fuel b : Nat), b < d →
      s.parentsGoS fuel b = some (s.parentsGo fuel b) ∧ (∀ p ∈ s.parentsGo fuel b, p < d) := by
  intro fuel
  induction fuel with
  | zero => intro b _; simp [State.parentsGoS, State.parentsGo]
  | succ f ih =>
    intro b hb
    simp only [State.parentsGoS, State.parentsGo, h.get hb]
    by_cases hp : (s.cell b).parent = 0
    · simp [hp]
    · have hlt := (h.cellOk b).parent
      obtain ⟨e, hall⟩ := ih _ hlt
      simp only [hp, if_false, e, Option.map_some]
      refine ⟨trivial, fun p hp' => ?_⟩
      rcases List.mem_cons.mp hp' with rfl | hp'
      · exact hlt
      · exact hall p hp'

theorem PtrOkAt.parentsS_eq {s : State} {d : Nat} (h : PtrOkAt s d) {b : Nat} (hb : b < d) :
    s.parentsS b = some (s.parents b) ∧ (∀ p ∈ s.parents b, p < d) :=
  h.parentsGoS_eq _ b hb

theorem PtrOkAt.windupFoldS_eq {s : State} {d : Nat} (h : PtrOkAt s d) :
    ∀ (ps : List Nat) (acc : Bytes), (∀ p ∈ ps, p < d) →
      s.windupFoldS ps acc = some (ps.foldl (fun acc p => s.stemAt p ++ acc) acc)
  | [], acc, _ => rfl
  | p :: ps, acc, hall => by
    rw [State.windupFoldS, h.stemAtS_eq (hall p (by simp))]
    simp only [List.foldl_cons]
    exact PtrOkAt.windupFoldS_eq h ps _ (fun q hq => hall q (by simp [hq]))

/-- `windup_lru(block)` -/
theorem PtrOkAt.windupS_eq {s : State} {d : Nat} (h : PtrOkAt s d) {b : Nat} (hb : b < d) :
    s.windupS b = some (s.windup b) := by
  obtain ⟨e, hall⟩ := h.parentsS_eq hb
  unfold State.windupS State.windup
  rw [e, h.stemAtS_eq hb]
  exact h.windupFoldS_eq _ _ hall

/-- `windup_lru_for_webentity`: the blocks it reads are `b` and its ancestors -/
theorem PtrOkAt.windupWe_reads {s : State} {d : Nat} (h : PtrOkAt s d) {b : Nat} (hb : b < d) :
    ∀ p ∈ b :: s.parents b, p < s.trie.size := by
  intro p hp
  rcases List.mem_cons.mp hp with rfl | hp
  · exact h.lt_size hb
  · exact h.lt_size ((h.parentsS_eq hb).2 p hp)

def AllLt {α : Type} (d : Nat) (st : List (Nat × α)) : Prop := ∀ x ∈ st, x.1 < d

theorem AllLt.nil {α : Type} (d : Nat) : AllLt d ([] : List (Nat × α)) := fun _ h => by cases h

theorem AllLt.cons {α : Type} {d : Nat} {st : List (Nat × α)} {b : Nat} {a : α} (hb : b < d)
    (h : AllLt d st) : AllLt d ((b, a) :: st) := by
  intro x hx
  rcases List.mem_cons.mp hx with rfl | hx
  · exact hb
  · exact h x hx

theorem AllLt.tail {α : Type} {d : Nat} {st : List (Nat × α)} {x : Nat × α} (h : AllLt d (x :: st)) :
    AllLt d st := fun y hy => h y (List.mem_cons_of_mem _ hy)

theorem AllLt.head {α : Type} {d : Nat} {st : List (Nat × α)} {x : Nat × α} (h : AllLt d (x :: st)) :
    x.1 < d := h x (by simp)

theorem AllLt.ite {α : Type} {d : Nat} {a b : List (Nat × α)} (c : Prop) [Decidable c]
    (ha : AllLt d a) (hb : AllLt d b) : AllLt d (if c then a else b) := by
  split
  · exact ha
  · exact hb

theorem AllLt.push {α : Type} {d : Nat} {st : List (Nat × α)} {b : Nat} {a : α} (c : Prop) [Decidable c]
    (hb : b < d) (h : AllLt d st) : AllLt d (if c then (b, a) :: st else st) :=
  AllLt.ite c (AllLt.cons hb h) h

theorem PtrOkAt.dfsGoS_eq {s : State} {d : Nat} (h : PtrOkAt s d) (fromRoot : Bool) (startBlock : Nat)
    (skip : Bool) : ∀ (fuel : Nat) (stack : List (Nat × Bytes)), AllLt d stack →
      s.dfsGoS fromRoot startBlock skip fuel stack = some (s.dfsGo fromRoot startBlock skip fuel stack) ∧
      AllLt d (s.dfsGo fromRoot startBlock skip fuel stack) := by
  intro fuel
  induction fuel with
  | zero => intro stack _; exact ⟨rfl, AllLt.nil d⟩
  | succ f ih =>
    intro stack hst
    cases stack with
    | nil => exact ⟨rfl, AllLt.nil d⟩
    | cons x stack =>
      obtain ⟨b, lru⟩ := x
      have hb : b < d := hst.head
      have hc := h.cellOk b
      rw [State.dfsGoS, State.dfsGo.eq_def, h.get hb, h.stemAtS_eq hb]
      show Option.map _ (State.dfsGoS s fromRoot startBlock skip f ?stk) = _ ∧ _
      -- pushed: the siblings, unless the walk started here; then the child
      have h1 := AllLt.ite (fromRoot || b ≠ startBlock) (AllLt.push (a := lru) ((s.cell b).left ≠ 0) hc.left
        (AllLt.push (a := lru) ((s.cell b).right ≠ 0) hc.right hst.tail)) hst.tail
      have hnew : AllLt d ?stk := AllLt.ite _ h1 (AllLt.push _ hc.child h1)
      obtain ⟨e, hall⟩ := ih _ hnew
      rw [e]
      exact ⟨rfl, AllLt.cons hb hall⟩

/-- `dfs_iter` from the root (`pages_iter`, `webentity_prefix_iter` are filters of it, `links_iter` starts from it) -/
theorem PtrOkAt.dfsIterS_root {s : State} {d : Nat} (h : PtrOkAt s d) (hr : s.trie.size ≤ 1 ∨ 1 < d)
    (skip : Bool) :
    s.dfsIterS none skip = some (s.dfsIter none skip) ∧ AllLt d (s.dfsIter none skip) := by
  unfold State.dfsIterS State.dfsIter
  by_cases h1 : s.trie.size ≤ 1
  · simp only [if_pos h1]; exact ⟨trivial, AllLt.nil d⟩
  · simp only [if_neg h1]
    exact h.dfsGoS_eq true 1 skip _ _ (AllLt.cons (hr.resolve_left h1) (AllLt.nil d))

/-- `dfs_iter` from a node (children of a webentity) -/
theorem PtrOkAt.dfsIterS_from {s : State} {d : Nat} (h : PtrOkAt s d) {b : Nat} (hb : b < d) (lru : Bytes)
    (skip : Bool) :
    s.dfsIterS (some (b, lru)) skip = some (s.dfsIter (some (b, lru)) skip) ∧
    AllLt d (s.dfsIter (some (b, lru)) skip) := by
  unfold State.dfsIterS State.dfsIter
  exact h.dfsGoS_eq false b skip _ _ (AllLt.cons hb (AllLt.nil d))

theorem PtrOkAt.weDfsGoS_eq {s : State} {d : Nat} (h : PtrOkAt s d) (startBlock : Nat) (maxDepth : Option Nat) :
    ∀ (fuel : Nat) (stack : List (Nat × Bytes × Nat)), AllLt d stack →
      s.weDfsGoS startBlock maxDepth fuel stack = some (s.weDfsGo startBlock maxDepth fuel stack) ∧
      AllLt d (s.weDfsGo startBlock maxDepth fuel stack) := by
  intro fuel
  induction fuel with
  | zero => intro stack _; exact ⟨rfl, AllLt.nil d⟩
  | succ f ih =>
    intro stack hst
    cases stack with
    | nil => exact ⟨rfl, AllLt.nil d⟩
    | cons x stack =>
      obtain ⟨b, lru, level⟩ := x
      have hb : b < d := hst.head
      have hc := h.cellOk b
      rw [State.weDfsGoS, State.weDfsGo.eq_def, h.get hb, h.stemAtS_eq hb]
      show Option.map _ (State.weDfsGoS s startBlock maxDepth f ?stk) = _ ∧ _
      -- pushed: the siblings, unless the walk started here; then the child, depth permitting
      have h1 := AllLt.ite (b ≠ startBlock) (AllLt.push (a := (lru, level)) ((s.cell b).left ≠ 0) hc.left
        (AllLt.push (a := (lru, level)) ((s.cell b).right ≠ 0) hc.right hst.tail)) hst.tail
      have hnew : AllLt d ?stk := by
        refine AllLt.ite _ ?_ h1
        cases maxDepth with
        | none => exact AllLt.cons hc.child h1
        | some m => exact AllLt.ite _ h1 (AllLt.cons hc.child h1)
      obtain ⟨e, hall⟩ := ih _ hnew
      rw [e]
      exact ⟨rfl, AllLt.ite _ (AllLt.cons hb hall) hall⟩

/-- `webentity_dfs_iter` from a block below the complete prefix (the start block of a prefix found by
    `lru_node`): every block popped — also the ones that belong to other webentities and are not
    reported — is in the file -/
theorem PtrOkAt.weDfsS_eq {s : State} {d : Nat} (h : PtrOkAt s d) {b : Nat} (hb : b < d) (lru : Bytes)
    (maxDepth : Option Nat) :
    s.weDfsS b lru maxDepth = some (s.weDfs b lru maxDepth) ∧ AllLt d (s.weDfs b lru maxDepth) := by
  unfold State.weDfsS State.weDfs
  exact h.weDfsGoS_eq b maxDepth _ _ (AllLt.cons hb (AllLt.nil d))

theorem PtrOkAt.dfsWeGoS_eq {s : State} {d : Nat} (h : PtrOkAt s d) :
    ∀ (fuel : Nat) (stack : List (Nat × Nat)), AllLt d stack →
      s.dfsWeGoS fuel stack = some (s.dfsWeGo fuel stack) ∧ AllLt d (s.dfsWeGo fuel stack) := by
  intro fuel
  induction fuel with
  | zero => intro stack _; exact ⟨rfl, AllLt.nil d⟩
  | succ f ih =>
    intro stack hst
    cases stack with
    | nil => exact ⟨rfl, AllLt.nil d⟩
    | cons x stack =>
      obtain ⟨b, we⟩ := x
      have hb : b < d := hst.head
      have hc := h.cellOk b
      rw [State.dfsWeGoS, State.dfsWeGo.eq_def, h.get hb]
      show Option.map _ (State.dfsWeGoS s f ?stk) = _ ∧ _
      have hnew : AllLt d ?stk :=
        AllLt.push _ hc.child (AllLt.push _ hc.left (AllLt.push _ hc.right hst.tail))
      obtain ⟨e, hall⟩ := ih _ hnew
      rw [e]
      exact ⟨rfl, AllLt.cons hb hall⟩

/-- `dfs_with_webentity_iter` (the network queries) -/
theorem PtrOkAt.dfsWeS_eq {s : State} {d : Nat} (h : PtrOkAt s d) (hr : s.trie.size ≤ 1 ∨ 1 < d) :
    s.dfsWeS = some s.dfsWe ∧ AllLt d s.dfsWe := by
  unfold State.dfsWeS State.dfsWe
  by_cases h1 : s.trie.size ≤ 1
  · simp only [if_pos h1]; exact ⟨trivial, AllLt.nil d⟩
  · simp only [if_neg h1]
    exact h.dfsWeGoS_eq _ _ (AllLt.cons (hr.resolve_left h1) (AllLt.nil d))

/-- `link_nodes_iter(head)` from a head inside the link store -/
theorem PtrOkAt.walkGoS_eq {s : State} {d : Nat} (h : PtrOkAt s d) :
    ∀ (fuel i : Nat), i < s.links.size →
      s.walkGoS fuel i = some (s.walkGo fuel i) ∧ (∀ t ∈ s.walkGo fuel i, t < d) := by
  intro fuel
  induction fuel with
  | zero => intro i _; simp [State.walkGoS, State.walkGo]
  | succ f ih =>
    intro i hi
    have hget : s.links[i]? = some s.links[i] := Array.getElem?_eq_getElem hi
    obtain ⟨hprev, htgt⟩ := h.stubs i _ hget
    simp only [State.walkGoS, State.walkGo, hget]
    by_cases hp : s.links[i].prev ≠ 0
    · obtain ⟨e, hall⟩ := ih _ hprev
      simp only [if_pos hp, e, Option.map_some]
      refine ⟨trivial, fun t ht => ?_⟩
      rcases List.mem_cons.mp ht with rfl | ht
      · exact htgt
      · exact hall t ht
    · simp only [if_neg hp]
      refine ⟨trivial, fun t ht => ?_⟩
      rcases List.mem_cons.mp ht with rfl | ht
      · exact htgt
      · cases ht

theorem PtrOkAt.walkS_eq {s : State} {d : Nat} (h : PtrOkAt s d) {head : Nat} (hh : head < s.links.size) :
    s.walkS head = some (s.walk head) ∧ (∀ t ∈ s.walk head, t < d) :=
  h.walkGoS_eq _ head hh

theorem PtrOkAt.heads {s : State} {d : Nat} (h : PtrOkAt s d) (b : Nat) :
    (s.cell b).out < s.links.size ∧ (s.cell b).inn < s.links.size :=
  ⟨(h.cellOk b).out, (h.cellOk b).inn⟩

theorem AllLt.append {α : Type} {d : Nat} {a b : List (Nat × α)} (ha : AllLt d a) (hb : AllLt d b) :
    AllLt d (a ++ b) := by
  intro x hx
  rcases List.mem_append.mp hx with hx | hx
  · exact ha x hx
  · exact hb x hx

theorem PtrOkAt.followPathS_eq {s : State} {d : Nat} (h : PtrOkAt s d) :
    ∀ (ops : List Nat) (n : Nat) (lru : Bytes), n < d →
      s.followPathS ops n lru = some (s.followPath ops n lru) := by
  intro ops
  induction ops with
  | nil => intro n lru hn; rw [State.followPathS, State.followPath, h.stemAtS_eq hn]; rfl
  | cons op ops ih =>
    intro n lru hn
    have hc := h.cellOk n
    rw [State.followPathS, State.followPath, h.get hn, h.stemAtS_eq hn]
    dsimp only
    by_cases h1 : op = Layout.base4L
    · rw [if_pos h1, if_pos h1]
      by_cases h2 : (s.cell n).left = 0
      · rw [if_pos h2, if_pos h2]
      · rw [if_neg h2, if_neg h2]; exact ih _ _ hc.left
    · rw [if_neg h1, if_neg h1]
      by_cases h3 : op = Layout.base4C
      · rw [if_pos h3, if_pos h3]
        by_cases h2 : (s.cell n).child = 0
        · rw [if_pos h2, if_pos h2]
        · rw [if_neg h2, if_neg h2]; exact ih _ _ hc.child
      · rw [if_neg h3, if_neg h3]
        by_cases h2 : (s.cell n).right = 0
        · rw [if_pos h2, if_pos h2]
        · rw [if_neg h2, if_neg h2]; exact ih _ _ hc.right

theorem PtrOkAt.inorderGoS_eq {s : State} {d : Nat} (h : PtrOkAt s d) (startBlock : Nat)
    (pag : Option (Bytes × Bytes)) :
    ∀ (fuel b : Nat) (lru : Bytes) (path : Nat), b < d →
      s.inorderGoS startBlock pag fuel b lru path = some (s.inorderGo startBlock pag fuel b lru path) ∧
      AllLt d (s.inorderGo startBlock pag fuel b lru path) := by
  intro fuel
  induction fuel with
  | zero => intro b lru path _; exact ⟨rfl, AllLt.nil d⟩
  | succ f ih =>
    intro b lru path hb
    have hc := h.cellOk b
    have eL : ∀ l p, s.inorderGoS startBlock pag f (s.cell b).left l p =
        some (s.inorderGo startBlock pag f (s.cell b).left l p) := fun l p => (ih _ l p hc.left).1
    have eC : ∀ l p, s.inorderGoS startBlock pag f (s.cell b).child l p =
        some (s.inorderGo startBlock pag f (s.cell b).child l p) := fun l p => (ih _ l p hc.child).1
    have eR : ∀ l p, s.inorderGoS startBlock pag f (s.cell b).right l p =
        some (s.inorderGo startBlock pag f (s.cell b).right l p) := fun l p => (ih _ l p hc.right).1
    have aL : ∀ l p, AllLt d (s.inorderGo startBlock pag f (s.cell b).left l p) := fun l p => (ih _ l p hc.left).2
    have aC : ∀ l p, AllLt d (s.inorderGo startBlock pag f (s.cell b).child l p) := fun l p => (ih _ l p hc.child).2
    have aR : ∀ l p, AllLt d (s.inorderGo startBlock pag f (s.cell b).right l p) := fun l p => (ih _ l p hc.right).2
    have aN : AllLt d ([] : List (Nat × Bytes × Nat)) := AllLt.nil d
    simp only [State.inorderGoS, State.inorderGo, h.get hb, h.stemAtS_eq hb, eL, eC, eR, ← apply_ite some]
    refine ⟨rfl, ?_⟩
    refine AllLt.ite _ aN ?_
    refine AllLt.append (AllLt.append (AllLt.append ?_ ?_) ?_) ?_
    · exact AllLt.ite _ (aL _ _) aN
    · repeat' (first | exact aN | apply AllLt.ite | exact AllLt.cons hb aN)
    · exact AllLt.ite _ (aC _ _) aN
    · exact AllLt.ite _ (aR _ _) aN

/-- `webentity_inorder_iter` from the start block of a prefix (the paginated page / pagelink queries) -/
theorem PtrOkAt.weInorderS_eq {s : State} {d : Nat} (h : PtrOkAt s d) {start : Nat} (hs : start < d)
    (startLru : Bytes) (pagPath : Option Nat) :
    s.weInorderS start startLru pagPath = some (s.weInorder start startLru pagPath) ∧
    (∀ items, s.weInorder start startLru pagPath = some items → AllLt d items) := by
  unfold State.weInorderS State.weInorder
  cases pagPath with
  | none =>
    obtain ⟨e, ha⟩ := h.inorderGoS_eq start none (s.trie.size + 1) start (lruDirname startLru) 0 hs
    simp only [e, Option.map_some]
    exact ⟨trivial, fun items hi => by cases hi; exact ha⟩
  | some p =>
    simp only [h.followPathS_eq _ start _ hs]
    cases hf : s.followPath (if p = 0 then [] else intToBase4 p) start (lruDirname startLru) with
    | none => exact ⟨rfl, fun items hi => by cases hi⟩
    | some plru =>
      obtain ⟨e, ha⟩ := h.inorderGoS_eq start (some ((if p = 0 then [] else intToBase4 p), plru))
        (s.trie.size + 1) start (lruDirname startLru) 0 hs
      simp only [e, Option.map_some]
      exact ⟨trivial, fun items hi => by cases hi; exact ha⟩

/-- the three situations of the root (block 1) in a cut state: no root yet; the root is complete; or the
    cut fell inside the very first node of the trie (a first stem longer than one block), whose head is
    block 1 and whose tail blocks are not all there -/
theorem PtrOkAt.root_cases {s : State} {d : Nat} (h : PtrOkAt s d) :
    s.trie.size ≤ 1 ∨ 1 < d ∨ (d = 1 ∧ 1 < s.trie.size) := by
  have := h.dpos; have := h.dle; omega

/-- the third situation of `root_cases` -/
theorem PtrOkAt.dangling_root {s : State} (h : PtrOkAt s 1) :
    (∀ (b : Nat) (c : Cell), s.trie[b]? = some c → c.left = 0 ∧ c.right = 0 ∧ c.child = 0 ∧ c.parent = 0) ∧
    (∀ (j : Nat) (st : Stub), s.links[j]? = some st → st.target = 0) ∧
    (∀ (b : Nat) (c : Cell), s.trie[b]? = some c → 1 ≤ b → c.flags.hasTail = true) := by
  refine ⟨fun b c hc => ?_, fun j st hst => ?_, fun b c hc hb => h.run b c hc hb⟩
  · have := h.cells b c hc
    have h1 := this.left; have h2 := this.right; have h3 := this.child; have h4 := this.parent
    omega
  · have := (h.stubs j st hst).2; omega

/-- … and the full scan then visits block 1 alone (its stem read runs to the end of the file, which the
    repaired `read` tolerates — `readTail` stops at end of storage) -/
theorem PtrOkAt.dfsIter_dangling_root {s : State} (h : PtrOkAt s 1) (h1 : 1 < s.trie.size) (skip : Bool) :
    s.dfsIter none skip = [(1, s.stemAt 1)] := by
  have hc := (h.dangling_root).1 1 _ (getElem?_cell h1)
  unfold State.dfsIter
  simp only [if_neg (Nat.not_le.mpr h1), State.dfsGo, hc.1, hc.2.1, hc.2.2.1]
  simp [dfsGo_nil]

theorem PtrOkAt.readTailS_dangling {s : State} {d : Nat} (h : PtrOkAt s d) :
    ∀ (fuel i : Nat), d ≤ i → s.readTailS fuel i = none := by
  intro fuel
  induction fuel with
  | zero => intro i _; rfl
  | succ f ih =>
    intro i hi
    rw [State.readTailS]
    cases hc : s.trie[i]? with
    | none => rfl
    | some c =>
      simp only
      rw [if_pos (h.run i c hc hi), ih (i + 1) (Nat.le_succ_of_le hi)]; rfl

/-- the strict stem read DOES fail on the blocks of the incomplete node: the invariant is not vacuous,
    these are exactly the reads that the repaired code (D7) survives by stopping at end of file -/
theorem PtrOkAt.stemAtS_dangling {s : State} {d : Nat} (h : PtrOkAt s d) {b : Nat} (hb : d ≤ b) :
    s.stemAtS b = none := by
  rw [State.stemAtS]
  cases hc : s.trie[b]? with
  | none => rfl
  | some c =>
    simp only
    rw [if_pos (h.run b c hc hb), h.readTailS_dangling _ (b + 1) (Nat.le_succ_of_le hb)]; rfl

/-- linear scans (`count_pages`, `metrics`, `links_metrics`) enumerate existing blocks only -/
theorem mem_allBlocks_ptr {s : State} {b : Nat} (hb : b ∈ s.allBlocks) : 1 ≤ b ∧ b < s.trie.size := by
  unfold State.allBlocks at hb
  have h1 := List.mem_of_mem_drop hb
  rw [List.mem_range] at h1
  refine ⟨?_, h1⟩
  rcases List.mem_iff_getElem.mp hb with ⟨i, hi, rfl⟩
  simp only [List.getElem_drop, List.getElem_range]
  omega

theorem PtrOkAt.deduped_lt {s : State} {d : Nat} (h : PtrOkAt s d) {head : Nat} (hh : head < s.links.size) :
    ∀ t ∈ s.deduped head, t < d :=
  fun t ht => (h.walkS_eq hh).2 t ((deduped_mem s head t).mp ht)

theorem PtrOkAt.weighted_lt {s : State} {d : Nat} (h : PtrOkAt s d) {head : Nat} (hh : head < s.links.size) :
    ∀ tw ∈ s.weighted head, tw.1 < d := by
  intro tw htw
  apply h.deduped_lt hh
  unfold State.deduped
  exact List.mem_map.mpr ⟨tw, htw, rfl⟩

theorem mapM_some_ptr {α β : Type} (f : α → Option β) (g : α → β) :
    ∀ (l : List α), (∀ x ∈ l, f x = some (g x)) → l.mapM f = some (l.map g)
  | [], _ => rfl
  | a :: l, h => by
    rw [List.mapM_cons, h a (by simp), mapM_some_ptr f g l (fun x hx => h x (by simp [hx]))]
    rfl

namespace State

def linksIterS (s : State) (out : Bool) : Option (List (Bytes × Bytes)) :=
  match s.dfsIterS none false with
  | none => none
  | some nodes =>
    (nodes.mapM (fun (bl : Nat × Bytes) =>
      match s.trie[bl.1]? with
      | none => none
      | some c =>
        if c.flags.page then
          (let head := if out then c.out else c.inn
           if head = 0 then some [] else
           match s.walkS head with
           | none => none
           | some ts => ts.eraseDups.mapM (fun t => (s.windupS t).map (fun w => (bl.2, w))))
        else some [])).map List.flatten

end State

theorem PtrOkAt.linksIterS_eq {s : State} {d : Nat} (h : PtrOkAt s d) (hr : s.trie.size ≤ 1 ∨ 1 < d)
    (out : Bool) : s.linksIterS out = some (s.linksIter out) := by
  obtain ⟨e, hall⟩ := h.dfsIterS_root hr false
  unfold State.linksIterS State.linksIter
  rw [e]
  simp only
  rw [mapM_some_ptr _ (fun (bl : Nat × Bytes) => if (s.cell bl.1).flags.page then
      (if (if out = true then (s.cell bl.1).out else (s.cell bl.1).inn) = 0 then []
       else (s.deduped (if out = true then (s.cell bl.1).out else (s.cell bl.1).inn)).map
          (fun t => (bl.2, s.windup t))) else [])]
  · rw [Option.map_some, filter_flatMap_if]; rfl
  · intro bl hbl
    have hb : bl.1 < d := hall bl hbl
    rw [h.get hb]
    simp only
    by_cases hp : (s.cell bl.1).flags.page = true
    · rw [if_pos hp, if_pos hp]
      have hhead : (if out = true then (s.cell bl.1).out else (s.cell bl.1).inn) < s.links.size := by
        split
        · exact (h.heads bl.1).1
        · exact (h.heads bl.1).2
      by_cases h0 : (if out = true then (s.cell bl.1).out else (s.cell bl.1).inn) = 0
      · simp only [if_pos h0]
      · simp only [if_neg h0]
        rw [(h.walkS_eq hhead).1]
        simp only
        rw [deduped_eq]
        apply mapM_some_ptr
        intro t ht
        have ht' : t ∈ s.deduped (if out = true then (s.cell bl.1).out else (s.cell bl.1).inn) := by
          rw [deduped_eq]; exact ht
        rw [h.windupS_eq (h.deduped_lt hhead t ht')]; rfl
    · rw [if_neg hp, if_neg hp]

#print axioms PtrOkAt.findSibS_eq
#print axioms PtrOkAt.lruNodeS_eq
#print axioms PtrOkAt.followLruS_eq
#print axioms PtrOkAt.windupS_eq
#print axioms PtrOkAt.dfsIterS_root
#print axioms PtrOkAt.weDfsS_eq
#print axioms PtrOkAt.dfsWeS_eq
#print axioms PtrOkAt.weInorderS_eq
#print axioms PtrOkAt.walkS_eq
#print axioms PtrOkAt.linksIterS_eq
#print axioms PtrOkAt.dfsIter_dangling_root
#print axioms PtrOkAt.stemAtS_dangling

end Traph
