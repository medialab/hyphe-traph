import Proofs.ObsEquiv
import Proofs.Kept
/-! What no write request can tell: the ghost write log `State.log` is never read, and the RAM rule dict is read
    by look-up only. `s.ghost rs l` is `s` with `rs` for the RAM dict and `l` underneath the log; every request
    below the rule-editing ones commutes with it when `rs` has the content of `s.rules` (`…_ghost`), the
    rule-editing ones edit `rs` the same way (`addRule_ghost`, `removeRule_ghost`, `step_ghost`).
    `rs := s.rules` gives log-independence (`step_addLog`), `l := []` the congruence of `≃ₒ` (Proofs/ObsEquivOps). -/
namespace Traph
open State

/-- `l` goes underneath the log: the log is newest-first, so older entries go at the end -/
def State.addLog (s : State) (l : List Write) : State := { s with log := s.log ++ l }

def State.ghost (s : State) (rs : List (Bytes × Rule)) (l : List Write) : State := (s.oe_setRules rs).addLog l

theorem obsEq_addLog (s : State) (l : List Write) : s ≃ₒ s.addLog l := ⟨rfl, rfl, rfl, rfl, rfl, RulesEq.refl _⟩

namespace State

@[simp] theorem addLog_trie (s : State) (l : List Write) : (s.addLog l).trie = s.trie := rfl
@[simp] theorem addLog_links (s : State) (l : List Write) : (s.addLog l).links = s.links := rfl
@[simp] theorem addLog_hdrId (s : State) (l : List Write) : (s.addLog l).hdrId = s.hdrId := rfl
@[simp] theorem addLog_rules (s : State) (l : List Write) : (s.addLog l).rules = s.rules := rfl
@[simp] theorem addLog_dflt (s : State) (l : List Write) : (s.addLog l).dflt = s.dflt := rfl
@[simp] theorem addLog_cfg (s : State) (l : List Write) : (s.addLog l).cfg = s.cfg := rfl
@[simp] theorem addLog_log (s : State) (l : List Write) : (s.addLog l).log = s.log ++ l := rfl
@[simp] theorem addLog_cell (s : State) (l : List Write) (i : Nat) : (s.addLog l).cell i = s.cell i := rfl

@[simp] theorem addLog_nil (s : State) : s.addLog [] = s := by
  cases s; simp only [addLog, List.append_nil]

@[simp] theorem addLog_addLog (s : State) (a b : List Write) : (s.addLog a).addLog b = s.addLog (a ++ b) := by
  cases s; simp only [addLog, List.append_assoc]

theorem nolog_addLog (s : State) : ({ s with log := [] } : State).addLog s.log = s := rfl

theorem mk_addLog (h : Nat) (t : Array Cell) (k : Array Stub) (r : List (Bytes × Rule)) (d : Rule) (c : Config)
    (lg l : List Write) :
    (⟨h, t, k, r, d, c, lg ++ l⟩ : State) = (⟨h, t, k, r, d, c, lg⟩ : State).addLog l := rfl

theorem ghost_trie (s : State) (rs l) : (s.ghost rs l).trie = s.trie := rfl
theorem ghost_cell (s : State) (rs l) (i : Nat) : (s.ghost rs l).cell i = s.cell i := rfl
theorem ghost_rules (s : State) (rs l) : (s.ghost rs l).rules = rs := rfl
theorem ghost_dflt (s : State) (rs l) : (s.ghost rs l).dflt = s.dflt := rfl
theorem ghost_cfg (s : State) (rs l) : (s.ghost rs l).cfg = s.cfg := rfl

theorem ghost_self (s : State) : s.ghost s.rules [] = s := addLog_nil s

theorem ghost_nil (s : State) (rs) : s.ghost rs [] = s.oe_setRules rs := addLog_nil _

theorem addLog_eq_ghost (s : State) (l : List Write) : s.addLog l = s.ghost s.rules l := rfl

/-- a function that commutes with replacing the RAM dict keeps it -/
theorem rules_of_ghost {α} {f : State → State × α} {s : State}
    (h : f (s.ghost s.rules []) = ((f s).1.ghost s.rules [], (f s).2)) : (f s).1.rules = s.rules := by
  rw [ghost_self] at h
  exact congrArg (fun x => x.1.rules) h

theorem appendCell_addLog (s : State) (l : List Write) (c : Cell) :
    (s.addLog l).appendCell c = ((s.appendCell c).1.addLog l, (s.appendCell c).2) := rfl

theorem setCell_addLog (s : State) (l : List Write) (i : Nat) (c : Cell) :
    (s.addLog l).setCell i c = (s.setCell i c).addLog l := rfl

theorem appendStub_addLog (s : State) (l : List Write) (b : Stub) :
    (s.addLog l).appendStub b = ((s.appendStub b).1.addLog l, (s.appendStub b).2) := rfl

theorem setHdr_addLog (s : State) (l : List Write) (id : Nat) :
    (s.addLog l).setHdr id = (s.setHdr id).addLog l := rfl

theorem genId_addLog (s : State) (l : List Write) :
    (s.addLog l).genId = (s.genId.1.addLog l, s.genId.2) := rfl

theorem longestCandidate_addLog (s : State) (l : List Write) (lru : Bytes) (h : Hist) :
    (s.addLog l).longestCandidate lru h = s.longestCandidate lru h := rfl

theorem reopen_addLog (s : State) (l : List Write) (dflt : Rule) (rules : List (Bytes × Rule)) :
    (s.addLog l).reopen dflt rules = (s.reopen dflt rules).addLog l := rfl

theorem appendCell_ghost (s : State) (rs l) (c : Cell) :
    (s.ghost rs l).appendCell c = ((s.appendCell c).1.ghost rs l, (s.appendCell c).2) := rfl

theorem appendStub_ghost (s : State) (rs l) (b : Stub) :
    (s.ghost rs l).appendStub b = ((s.appendStub b).1.ghost rs l, (s.appendStub b).2) := rfl

theorem genId_ghost (s : State) (rs l) : (s.ghost rs l).genId = (s.genId.1.ghost rs l, s.genId.2) := rfl

theorem modCell_ghost (s : State) (rs l) (i : Nat) (f : Cell → Cell) :
    (s.ghost rs l).modCell i f = (s.modCell i f).ghost rs l := by
  unfold modCell
  simp only [ghost_trie]
  cases s.trie[i]? <;> rfl

theorem foldl_modCell_ghost {α} (g : α → Nat) (f : α → Cell → Cell) (xs : List α) (s : State) (rs l) :
    xs.foldl (fun st x => st.modCell (g x) (f x)) (s.ghost rs l)
      = (xs.foldl (fun st x => st.modCell (g x) (f x)) s).ghost rs l := by
  induction xs generalizing s with
  | nil => rfl
  | cons x xs ih => simp only [List.foldl_cons, modCell_ghost, ih]

theorem stemAt_ghost (s : State) (rs l) (i : Nat) : (s.ghost rs l).stemAt i = s.stemAt i := oe_stemAt s rs _ i

theorem findSib_ghost (s : State) (rs l) (stem : Stem) (fuel p : Nat) :
    (s.ghost rs l).findSib stem fuel p = s.findSib stem fuel p := oe_findSib s rs _ stem fuel p

theorem lruNode_ghost (s : State) (rs l) (stems : LRU) : (s.ghost rs l).lruNode stems = s.lruNode stems :=
  oe_lruNode s rs _ stems

theorem deleteScanChecked_ghost (s : State) (rs l) (weid : Nat) (ps : List Bytes) (idx : List (Bytes × Nat)) :
    (s.ghost rs l).deleteScanChecked weid ps idx = s.deleteScanChecked weid ps idx := by
  induction ps generalizing idx with
  | nil => rfl
  | cons p ps ih =>
    simp only [deleteScanChecked, lruNode_ghost, ghost_cell, ih]
    rfl

theorem appendCells_ghost (s : State) (rs l) (cs : List Cell) :
    (s.ghost rs l).appendCells cs = (s.appendCells cs).ghost rs l := by
  induction cs generalizing s with
  | nil => rfl
  | cons c cs ih => simp only [appendCells, appendCell_ghost, ih]

theorem writeNew_ghost (s : State) (rs l) (stem : Stem) (parent : Nat) (canHave : Bool) :
    (s.ghost rs l).writeNew stem parent canHave
      = ((s.writeNew stem parent canHave).1.ghost rs l, (s.writeNew stem parent canHave).2) := by
  simp only [writeNew, appendCell_ghost, appendCells_ghost]

theorem ensureStem_ghost (s : State) (rs l) (start : Nat) (ex : Bool) (stem : Stem) :
    (s.ghost rs l).ensureStem start ex stem
      = ((s.ensureStem start ex stem).1.ghost rs l, (s.ensureStem start ex stem).2) := by
  unfold ensureStem
  simp only [findSib_ghost, ghost_trie, ghost_cell, writeNew_ghost, modCell_ghost]
  split
  · rfl
  · split <;> rfl

theorem markCanHave_ghost (s : State) (rs l) (n : Nat) (b : Bool) :
    (s.ghost rs l).markCanHave n b = (s.markCanHave n b).ghost rs l := by
  unfold markCanHave
  split
  · rw [modCell_ghost]
  · rfl

theorem addLruDescend_ghost (flag : Bool) (s : State) (rs l) (stems : List Stem)
    (node : Nat) (ex : Bool) (pos : Nat) (h : Hist) :
    addLruDescend flag (s.ghost rs l) stems node ex pos h
      = ((addLruDescend flag s stems node ex pos h).1.ghost rs l, (addLruDescend flag s stems node ex pos h).2) := by
  induction stems generalizing s node ex pos h with
  | nil => rfl
  | cons stem rest ih =>
    simp only [addLruDescend, ensureStem_ghost, ghost_cell, markCanHave_ghost, ih]
    split <;> rfl

theorem addLruCreate_ghost (flag : Bool) (s : State) (rs l) (stems : List Stem) (node : Nat) :
    addLruCreate flag (s.ghost rs l) stems node
      = ((addLruCreate flag s stems node).1.ghost rs l, (addLruCreate flag s stems node).2) := by
  induction stems generalizing s node with
  | nil => rfl
  | cons stem rest ih =>
    simp only [addLruCreate, writeNew_ghost, modCell_ghost, ih]

theorem addLru_ghost (s : State) (rs l) (stems : LRU) (flag : Bool) :
    (s.ghost rs l).addLru stems flag = ((s.addLru stems flag).1.ghost rs l, (s.addLru stems flag).2) := by
  simp only [addLru, addLruDescend_ghost, ghost_trie, addLruCreate_ghost]
  rfl

theorem addLru_rules (s : State) (stems : LRU) (flag : Bool) : (s.addLru stems flag).1.rules = s.rules :=
  kept_rules.addLru s stems flag

theorem addPageTrie_ghost (s : State) (rs l) (stems : LRU) (crawled : Bool) :
    (s.ghost rs l).addPageTrie stems crawled
      = ((s.addPageTrie stems crawled).1.ghost rs l, (s.addPageTrie stems crawled).2) := by
  unfold addPageTrie
  rw [addLru_ghost]
  generalize s.addLru stems false = X
  rcases X with ⟨s1, n, h⟩
  simp only [ghost_cell, modCell_ghost]
  cases (s1.cell n).flags.page
  · rfl
  · cases (crawled && !(s1.cell n).flags.crawled) <;> rfl

theorem addPageTrie_rules (s : State) (stems : LRU) (crawled : Bool) :
    (s.addPageTrie stems crawled).1.rules = s.rules :=
  rules_of_ghost (f := fun s => s.addPageTrie stems crawled) (addPageTrie_ghost s _ _ _ _)

theorem addStubsGo_ghost (s : State) (rs l) (tail : Nat) (ts : List Nat) :
    addStubsGo (s.ghost rs l) tail ts = ((addStubsGo s tail ts).1.ghost rs l, (addStubsGo s tail ts).2) := by
  induction ts generalizing s tail with
  | nil => rfl
  | cons t ts ih => simp only [addStubsGo, appendStub_ghost, ih]

theorem addStubs_ghost (s : State) (rs l) (page : Nat) (targets : List Nat) (out : Bool) :
    (s.ghost rs l).addStubs page targets out = (s.addStubs page targets out).ghost rs l := by
  cases targets with
  | nil => rfl
  | cons t ts =>
    unfold addStubs
    simp only [addStubsGo_ghost, ghost_cell, modCell_ghost]
    rfl

theorem addStubs_rules (s : State) (page : Nat) (targets : List Nat) (out : Bool) :
    (s.addStubs page targets out).rules = s.rules := kept_rules.addStubs (fun _ _ => rfl) s page targets out

theorem rules_across {k : Bool} {wf : Prop} :
    Across k false wf (fun _ => True) (fun _ _ => True) (fun a b => b.rules = a.rules) :=
  kept_rules.across (fun _ _ => rfl) (fun _ _ _ => rfl) nofun

theorem addPrefixesScan_ghost (s : State) (rs l) (ps : List Bytes) (valid : List (Bytes × Nat)) (nInvalid : Nat) :
    addPrefixesScan (s.ghost rs l) ps valid nInvalid
      = ((addPrefixesScan s ps valid nInvalid).1.ghost rs l, (addPrefixesScan s ps valid nInvalid).2) := by
  induction ps generalizing s valid nInvalid with
  | nil => rfl
  | cons p ps ih =>
    simp only [addPrefixesScan, addLru_ghost, ghost_cell]
    split
    · rw [ih]
    · rw [ih]

theorem addPrefixes_ghost (s : State) (rs l) (prefixes : List Bytes) (best : Bool) :
    (s.ghost rs l).addPrefixes prefixes best
      = ((s.addPrefixes prefixes best).1.ghost rs l, (s.addPrefixes prefixes best).2) := by
  unfold addPrefixes
  rw [addPrefixesScan_ghost]
  generalize s.addPrefixesScan prefixes [] 0 = X
  rcases X with ⟨s1, valid, nInvalid⟩
  simp only [genId_ghost, foldl_modCell_ghost]
  cases (decide (nInvalid > 0) && !best)
  · by_cases h : nInvalid = prefixes.length
    · simp only [if_pos h]; rfl
    · simp only [if_neg h]; rfl
  · rfl

theorem createWebentityAuto_ghost (s : State) (rs l) (pfx : Bytes) :
    (s.ghost rs l).createWebentityAuto pfx
      = ((s.createWebentityAuto pfx).1.ghost rs l, (s.createWebentityAuto pfx).2) := by
  unfold createWebentityAuto
  rw [addPrefixes_ghost]
  generalize s.addPrefixes (lruVariations pfx) true = X
  rcases X with ⟨s1, (e | ⟨(_ | id), ps⟩)⟩ <;> rfl

theorem createWebentity_ghost (s : State) (rs l) (prefixes : List Bytes) :
    (s.ghost rs l).createWebentity prefixes
      = ((s.createWebentity prefixes).1.ghost rs l, (s.createWebentity prefixes).2) := by
  unfold createWebentity
  rw [addPrefixes_ghost]
  generalize s.addPrefixes prefixes false = X
  rcases X with ⟨s1, (e | ⟨id, ps⟩)⟩ <;> rfl

theorem deleteWebentity_ghost (s : State) (rs l) (weid : Nat) (prefixes : List Bytes) :
    (s.ghost rs l).deleteWebentity weid prefixes
      = ((s.deleteWebentity weid prefixes).1.ghost rs l, (s.deleteWebentity weid prefixes).2) := by
  unfold deleteWebentity
  rw [deleteScanChecked_ghost]
  cases s.deleteScanChecked weid prefixes [] with
  | error e => rfl
  | ok idx => simp only [foldl_modCell_ghost]

theorem addPrefix_ghost (s : State) (rs l) (pfx : Bytes) (weid : Nat) :
    (s.ghost rs l).addPrefix pfx weid = ((s.addPrefix pfx weid).1.ghost rs l, (s.addPrefix pfx weid).2) := by
  unfold addPrefix
  rw [addLru_ghost]
  generalize s.addLru (lruIter pfx) true = X
  rcases X with ⟨s1, n, h⟩
  simp only [ghost_cell, modCell_ghost]
  split <;> rfl

theorem removePrefix_ghost (s : State) (rs l) (pfx : Bytes) (weid : Option Nat) :
    (s.ghost rs l).removePrefix pfx weid
      = ((s.removePrefix pfx weid).1.ghost rs l, (s.removePrefix pfx weid).2) := by
  cases weid with
  | none =>
    simp only [removePrefix, addLru_ghost, modCell_ghost]
    generalize s.addLru (lruIter pfx) false = X
    rfl
  | some w =>
    simp only [removePrefix, addLru_ghost, ghost_cell, modCell_ghost]
    split <;> rfl

theorem movePrefix_ghost (s : State) (rs l) (pfx : Bytes) (target : Nat) (source : Option Nat) :
    (s.ghost rs l).movePrefix pfx target source
      = ((s.movePrefix pfx target source).1.ghost rs l, (s.movePrefix pfx target source).2) := by
  unfold movePrefix
  rw [removePrefix_ghost]
  generalize s.removePrefix pfx source = X
  rcases X with ⟨s1, (e | u)⟩
  · rfl
  · exact addPrefix_ghost _ _ _ _ _

theorem longestCandidate_ghost (s : State) (rs l) (hr : RulesEq s.rules rs) (lru : Bytes) (h : Hist) :
    (s.ghost rs l).longestCandidate lru h = s.longestCandidate lru h := oe_longestCandidate s rs _ hr lru h

theorem autoDecision_ghost (s : State) (rs l) (hr : RulesEq s.rules rs) (lru : Bytes) (h : Hist) :
    (s.ghost rs l).autoDecision lru h = s.autoDecision lru h := by
  simp only [autoDecision, longestCandidate_ghost s rs l hr, ghost_dflt]

theorem addPageCore_ghost (s : State) (rs l) (hr : RulesEq s.rules rs) (lru : Bytes) (crawled : Bool) :
    (s.ghost rs l).addPageCore lru crawled
      = ((s.addPageCore lru crawled).1.ghost rs l, (s.addPageCore lru crawled).2) := by
  have hr1 : RulesEq (s.addPageTrie (lruIter lru) crawled).1.rules rs := by rw [addPageTrie_rules]; exact hr
  rw [addPageCore_eq, addPageCore_eq, addPageTrie_ghost]
  generalize s.addPageTrie (lruIter lru) crawled = X at hr1 ⊢
  rcases X with ⟨s1, n, h⟩
  simp only [autoDecision_ghost s1 rs l hr1]
  rcases s1.autoDecision lru h with _ | _ | K
  · rfl
  · rfl
  · simp only [createWebentityAuto_ghost]

theorem addPageCore_rules (s : State) (lru : Bytes) (crawled : Bool) : (s.addPageCore lru crawled).1.rules = s.rules :=
  rules_of_ghost (f := fun s => s.addPageCore lru crawled) (addPageCore_ghost s _ _ (RulesEq.refl _) lru crawled)

theorem addPage_ghost (s : State) (rs l) (hr : RulesEq s.rules rs) (lru : Bytes) (crawled : Bool) :
    (s.ghost rs l).addPage lru crawled = ((s.addPage lru crawled).1.ghost rs l, (s.addPage lru crawled).2) := by
  simp only [addPage, addPageCore_ghost s rs l hr]

theorem run_ghost (s : State) (rs l) (hr : RulesEq s.rules rs) (a : Run) (i : Instr) :
    i.run (s.ghost rs l) a = ((i.run s a).1.ghost rs l, (i.run s a).2) := by
  cases i with
  | add x c always =>
    simp only [Instr.run, addPageCore_ghost s rs l hr]
    rcases s.addPageCore x c with ⟨s1, n, (e | r)⟩
    · rfl
    · cases always
      · rfl
      · simp only [if_true, modCell_ghost]
  | ensure x c =>
    simp only [Instr.run, addPageCore_ghost s rs l hr, ghost_cell, modCell_ghost]
    cases dictGet? a.pages x with
    | none => rcases s.addPageCore x c with ⟨s1, n, (e | r)⟩ <;> rfl
    | some n => simp only; split <;> rfl
  | stubs p ts out => simp only [Instr.run, addStubs_ghost]

theorem run_rules (s : State) (a : Run) (i : Instr) : (i.run s a).1.rules = s.rules :=
  rules_of_ghost (f := fun s => i.run s a) (run_ghost s _ _ (RulesEq.refl _) a i)

theorem exec_ghost (rs l) : ∀ (is : List Instr) (s : State) (a : Run), RulesEq s.rules rs →
    exec (s.ghost rs l) a is = ((exec s a is).1.ghost rs l, (exec s a is).2)
  | [], _, _, _ => rfl
  | i :: is, s, a, hr => by
    have hr1 : RulesEq (i.run s a).1.rules rs := by rw [run_rules]; exact hr
    rw [exec, exec, run_ghost s rs l hr]
    generalize i.run s a = X at hr1 ⊢
    rcases X with ⟨s1, (e | a1)⟩
    · rfl
    · exact exec_ghost rs l is s1 a1 hr1

theorem addPages_ghost (s : State) (rs l) (hr : RulesEq s.rules rs) (lrus : List Bytes) (crawled : Bool) :
    (s.ghost rs l).addPages lrus crawled
      = ((s.addPages lrus crawled).1.ghost rs l, (s.addPages lrus crawled).2) := by
  simp only [addPages, ghost_cfg, addPagesGo_eq _ _ _ _ {}, exec_ghost rs l _ s _ hr, Run.lift]

theorem addLinks_ghost (s : State) (rs l) (hr : RulesEq s.rules rs) (links : List (Bytes × Bytes)) :
    (s.ghost rs l).addLinks links = ((s.addLinks links).1.ghost rs l, (s.addLinks links).2) := by
  simp only [addLinks_eq, exec_ghost rs l _ s _ hr, Run.lift]

theorem batch_ghost (s : State) (rs l) (hr : RulesEq s.rules rs) (data : List (Bytes × List Bytes)) :
    (s.ghost rs l).batch data = ((s.batch data).1.ghost rs l, (s.batch data).2) := by
  simp only [batch_eq, exec_ghost rs l _ s _ hr, Run.lift]

/-- the first step of `batchSources` on one source (the `r1` of its body) -/
def bsHead (s : State) (acc : LinkAcc) (src : Bytes) : State × Except Err LinkAcc :=
  match dictGet? acc.pages src with
  | none => s.ensurePageCached acc src true
  | some n =>
    if !(s.cell n).flags.crawled then
      (s.modCell n (fun c => { c with flags := { c.flags with crawled := true } }), .ok acc)
    else (s, .ok acc)

/-- the rest of the body of `batchSources` after `r1` -/
def bsCont (src : Bytes) (tgts : List Bytes) (rest : List (Bytes × List Bytes))
    (r1 : State × Except Err LinkAcc) : State × Except Err LinkAcc :=
  match r1 with
  | (s1, .error e) => (s1, .error e)
  | (s1, .ok acc1) =>
    match batchTargets s1 src tgts acc1 [] with
    | (s2, .error e) => (s2, .error e)
    | (s2, .ok (acc2, tb)) =>
      let s3 := s2.addStubs ((dictGet? acc2.pages src).getD 0) tb true
      batchSources s3 rest acc2

theorem batchSources_cons (s : State) (src : Bytes) (tgts : List Bytes) (rest : List (Bytes × List Bytes))
    (acc : LinkAcc) :
    batchSources s ((src, tgts) :: rest) acc = bsCont src tgts rest (bsHead s acc src) := rfl

theorem ruleVisit_ghost (s : State) (rs l) (hr : RulesEq s.rules rs) (b : Nat) (lru : Bytes) (rep : Report) :
    ruleVisit (s.ghost rs l) b lru rep = ((ruleVisit s b lru rep).1.ghost rs l, (ruleVisit s b lru rep).2) := by
  simp only [ruleVisit, ghost_cell, stemAt_ghost, addPageCore_ghost s rs l hr]
  split
  · generalize s.addPageCore (lru ++ s.stemAt b) false = X
    rcases X with ⟨s1, n, (e | r)⟩ <;> rfl
  · rfl

theorem ruleVisit_rules (s : State) (b : Nat) (lru : Bytes) (rep : Report) : (ruleVisit s b lru rep).1.rules = s.rules :=
  rules_of_ghost (f := fun s => ruleVisit s b lru rep) (ruleVisit_ghost s _ _ (RulesEq.refl _) b lru rep)

theorem addRuleLoop_ghost (start : Nat) (rs l) : ∀ (fuel : Nat) (s : State) (stack : List (Nat × Bytes))
    (rep : Report), RulesEq s.rules rs →
    addRuleLoop start fuel (s.ghost rs l) stack rep
      = ((addRuleLoop start fuel s stack rep).1.ghost rs l, (addRuleLoop start fuel s stack rep).2)
  | 0, s, _, _, _ => by simp only [addRuleLoop_zero]
  | _ + 1, s, [], _, _ => by simp only [addRuleLoop_nil]
  | fuel + 1, s, (b, lru) :: stack, rep, hr => by
    have hr1 : RulesEq (ruleVisit s b lru rep).1.rules rs := by rw [ruleVisit_rules]; exact hr
    rw [addRuleLoop_succ_cons, addRuleLoop_succ_cons, ruleVisit_ghost s rs l hr, ghost_cell, stemAt_ghost]
    generalize ruleVisit s b lru rep = X at hr1 ⊢
    rcases X with ⟨s1, (e | rep1)⟩
    · rfl
    · exact addRuleLoop_ghost start rs l fuel s1 _ _ hr1

theorem addRuleLoop_rules (start fuel : Nat) (s : State) (stack : List (Nat × Bytes)) (rep : Report) :
    (addRuleLoop start fuel s stack rep).1.rules = s.rules :=
  rules_of_ghost (f := fun s => addRuleLoop start fuel s stack rep)
    (addRuleLoop_ghost start _ _ fuel s stack rep (RulesEq.refl _))

theorem addRule_ghost (s : State) (rs l) (hr : RulesEq s.rules rs) (anchor : Bytes) (r : Rule) (w : Bool) :
    (s.ghost rs l).addRule anchor r w
      = ((s.addRule anchor r w).1.ghost (dictSet rs anchor r) l, (s.addRule anchor r w).2) ∧
    (s.addRule anchor r w).1.rules = dictSet s.rules anchor r := by
  cases w with
  | false => exact ⟨rfl, rfl⟩
  | true =>
    have e0 : ({ s.ghost rs l with rules := dictSet (s.ghost rs l).rules anchor r } : State)
        = ({ s with rules := dictSet s.rules anchor r } : State).ghost (dictSet rs anchor r) l := rfl
    unfold addRule
    rw [e0]
    generalize hs0 : ({ s with rules := dictSet s.rules anchor r } : State) = s0
    have hk0 : s0.rules = dictSet s.rules anchor r := by rw [← hs0]
    have hk1 := addLru_rules s0 (lruIter anchor) false
    simp only [Bool.not_true, Bool.false_eq_true, if_false, addLru_ghost, modCell_ghost, ghost_trie]
    generalize s0.addLru (lruIter anchor) false = X at hk1 ⊢
    rcases X with ⟨s1, n, h⟩
    have hk2 : (s1.modCell n (fun c => { c with flags := { c.flags with rule := true } })).rules
        = dictSet s.rules anchor r := by rw [rules_modCell, ← hk0]; exact hk1
    refine ⟨addRuleLoop_ghost _ _ _ _ _ _ _ (by rw [hk2]; exact hr.dictSet anchor r), ?_⟩
    rw [addRuleLoop_rules, hk2]

theorem removeRule_ghost (s : State) (rs l) (hr : RulesEq s.rules rs) (anchor : Bytes) :
    (s.ghost rs l).removeRule anchor
      = ((s.removeRule anchor).1.ghost (rs.filter (fun p => p.1 ≠ anchor)) l, (s.removeRule anchor).2) ∧
    (s.removeRule anchor).1.rules = s.rules.filter (fun p => p.1 ≠ anchor) := by
  unfold removeRule
  simp only [ghost_rules, ← hr anchor]
  cases hg : dictGet? s.rules anchor with
  | none =>
    simp only
    rw [oe_filter_of_none rs anchor (by rw [← hr anchor]; exact hg), oe_filter_of_none s.rules anchor hg]
    exact ⟨rfl, rfl⟩
  | some v =>
    simp only
    have e0 : ({ s.ghost rs l with rules := rs.filter (fun p => p.1 ≠ anchor) } : State)
        = ({ s with rules := s.rules.filter (fun p => p.1 ≠ anchor) } : State).ghost
            (rs.filter (fun p => p.1 ≠ anchor)) l := rfl
    rw [e0]
    generalize hs0 : ({ s with rules := s.rules.filter (fun p => p.1 ≠ anchor) } : State) = s0
    have hk0 : s0.rules = s.rules.filter (fun p => p.1 ≠ anchor) := by rw [← hs0]
    simp only [lruNode_ghost, modCell_ghost]
    cases s0.lruNode (lruIter anchor) with
    | none => exact ⟨rfl, hk0⟩
    | some n =>
      refine ⟨rfl, ?_⟩
      simp only
      rw [rules_modCell]; exact hk0

theorem addRule_addLog (s : State) (l : List Write) (anchor : Bytes) (r : Rule) (w : Bool) :
    (s.addLog l).addRule anchor r w = ((s.addRule anchor r w).1.addLog l, (s.addRule anchor r w).2) := by
  obtain ⟨h1, h2⟩ := addRule_ghost s s.rules l (RulesEq.refl _) anchor r w
  rw [addLog_eq_ghost, h1, addLog_eq_ghost, h2]

/-- the constructor's and `clear`'s loop starts from an empty RAM dict on both sides: only the log differs -/
theorem installRules_addLog (s : State) (l : List Write) (rules : List (Bytes × Rule)) (w : Bool) :
    installRules (s.addLog l) rules w = ((installRules s rules w).1.addLog l, (installRules s rules w).2) := by
  induction rules generalizing s with
  | nil => rfl
  | cons x rest ih =>
    obtain ⟨a, r⟩ := x
    unfold installRules
    rw [addRule_addLog]
    generalize s.addRule a r w = X
    rcases X with ⟨s1, (e | u)⟩
    · rfl
    · exact ih _

end State

/-- a request that commutes with `ghost` — all but `addRule`, `removeRule`, `reopen`, `clear` -/
theorem step_ghost_of {α} {f : State → State × Except Err α} {s : State}
    (h : ∀ rs l, RulesEq s.rules rs → f (s.ghost rs l) = ((f s).1.ghost rs l, (f s).2))
    (g : α → Ans) (rs l) (hr : RulesEq s.rules rs) :
    ∃ rs', RulesEq (f s).1.rules rs' ∧ (rs = s.rules → rs' = (f s).1.rules) ∧
      ((f (s.ghost rs l)).1, Ans.ofExcept g (f (s.ghost rs l)).2) = ((f s).1.ghost rs' l, Ans.ofExcept g (f s).2) := by
  have hk : (f s).1.rules = s.rules := rules_of_ghost (h _ _ (RulesEq.refl _))
  exact ⟨rs, by rw [hk]; exact hr, fun e => by rw [hk]; exact e, by rw [h rs l hr]⟩

/-- every write request, run with a RAM dict `rs` of the same content and with `l` underneath the log: the same
    answer, the same files, the same new log entries, and a RAM dict `rs'` of the same content again — the very
    same dict if `rs` was -/
theorem step_ghost (s : State) (rs : List (Bytes × Rule)) (l : List Write) (hr : RulesEq s.rules rs) (op : Op) :
    ∃ rs', RulesEq (s.step op).1.rules rs' ∧ (rs = s.rules → rs' = (s.step op).1.rules) ∧
      (s.ghost rs l).step op = ((s.step op).1.ghost rs' l, (s.step op).2) := by
  cases op with
  | addPage x c => simp only [step_addPage]; exact step_ghost_of (f := fun s => s.addPage x c) (fun rs l h => State.addPage_ghost s rs l h x c) _ rs l hr
  | addPages ls c =>
    simp only [step_addPages]; exact step_ghost_of (f := fun s => s.addPages ls c) (fun rs l h => State.addPages_ghost s rs l h ls c) _ rs l hr
  | addLinks ls => simp only [step_addLinks]; exact step_ghost_of (f := fun s => s.addLinks ls) (fun rs l h => State.addLinks_ghost s rs l h ls) _ rs l hr
  | batch d => simp only [step_batch]; exact step_ghost_of (f := fun s => s.batch d) (fun rs l h => State.batch_ghost s rs l h d) _ rs l hr
  | create ps =>
    simp only [step_create]; exact step_ghost_of (f := fun s => s.createWebentity ps) (fun rs l _ => State.createWebentity_ghost s rs l ps) _ rs l hr
  | delete w ps =>
    simp only [step_delete]; exact step_ghost_of (f := fun s => s.deleteWebentity w ps) (fun rs l _ => State.deleteWebentity_ghost s rs l w ps) _ rs l hr
  | addPrefix p w =>
    simp only [step_addPrefix]; exact step_ghost_of (f := fun s => s.addPrefix p w) (fun rs l _ => State.addPrefix_ghost s rs l p w) _ rs l hr
  | removePrefix p w =>
    simp only [step_removePrefix]; exact step_ghost_of (f := fun s => s.removePrefix p w) (fun rs l _ => State.removePrefix_ghost s rs l p w) _ rs l hr
  | movePrefix p t f =>
    simp only [step_movePrefix]; exact step_ghost_of (f := fun s => s.movePrefix p t f) (fun rs l _ => State.movePrefix_ghost s rs l p t f) _ rs l hr
  | addRule a r =>
    obtain ⟨h1, h2⟩ := State.addRule_ghost s rs l hr a r true
    simp only [step_addRule]
    exact ⟨dictSet rs a r, by rw [h2]; exact hr.dictSet a r, fun e => by rw [h2, e], by rw [h1]⟩
  | removeRule a =>
    obtain ⟨h1, h2⟩ := State.removeRule_ghost s rs l hr a
    simp only [step_removeRule]
    exact ⟨rs.filter (fun p => p.1 ≠ a), by rw [h2]; exact hr.erase a, fun e => by rw [h2, e], by rw [h1]⟩
  | reopen d rs0 => exact ⟨_, RulesEq.refl _, fun _ => rfl, rfl⟩
  | clear d rs0 =>
    simp only [step_clear]
    cases rs0 with
    | none => exact ⟨rs, hr, id, rfl⟩
    | some rs0 =>
      have h := State.installRules_addLog
        { cfg := s.cfg, dflt := d.getD s.dflt, rules := [], log := .linkHdr :: .hdr 0 :: s.log } l rs0 true
      exact ⟨_, RulesEq.refl _, fun _ => rfl, by rw [show (s.ghost rs l).clear d (some rs0) = _ from h]; rfl⟩

theorem step_rules (s : State) (op : Op) (hr : op.ruleChange = false) (hc : ∀ d rs, op ≠ .clear d rs) :
    (s.step op).1.rules = s.rules := by
  obtain ⟨N, b⟩ := built_step (k := true) (ru := false) (wf := False) s op hc (fun h => h.elim) (fun _ => rfl)
    (fun h => by rw [hr] at h; cases h)
  exact (b.across State.rules_across trivial).1

theorem step_addLog (s : State) (op : Op) (l : List Write) :
    (s.addLog l).step op = (((s.step op).1).addLog l, (s.step op).2) := by
  obtain ⟨rs', _, h2, h3⟩ := step_ghost s s.rules l (RulesEq.refl _) op
  rw [h2 rfl] at h3
  exact h3

theorem fresh_addLog (cfg : Config) (dflt : Rule) (rules : List (Bytes × Rule)) (l : List Write) :
    State.fresh cfg dflt rules l
      = (((State.fresh cfg dflt rules []).1).addLog l, (State.fresh cfg dflt rules []).2) :=
  State.installRules_addLog { cfg := cfg, dflt := dflt, log := [.linkHdr, .hdr 0] } l rules true

theorem run_addLog (ops : List Op) (s : State) (l : List Write) : (s.addLog l).run ops = (s.run ops).addLog l := by
  induction ops generalizing s with
  | nil => rfl
  | cons op ops ih =>
    simp only [run, List.foldl_cons] at ih ⊢
    rw [step_addLog]
    exact ih _

/-- `step_addLog` in the form the driver uses (it runs each request from `{ s with log := [] }`); `step_log` is its log component -/
theorem step_eq_of_nolog (s : State) (op : Op) :
    s.step op = (((({ s with log := [] } : State).step op).1).addLog s.log,
                 (({ s with log := [] } : State).step op).2) :=
  step_addLog { s with log := [] } op s.log

theorem step_log (s : State) (op : Op) :
    (s.step op).1.log = (({ s with log := [] } : State).step op).1.log ++ s.log := by
  rw [step_eq_of_nolog s op]
  rfl

namespace State

theorem modCell_addLog (s : State) (l : List Write) (i : Nat) (f : Cell → Cell) :
    (s.addLog l).modCell i f = (s.modCell i f).addLog l := by
  rw [addLog_eq_ghost, modCell_ghost, addLog_eq_ghost, rules_modCell]

theorem addStubs_addLog (s : State) (l : List Write) (page : Nat) (targets : List Nat) (out : Bool) :
    (s.addLog l).addStubs page targets out = (s.addStubs page targets out).addLog l := by
  rw [addLog_eq_ghost, addStubs_ghost, addLog_eq_ghost, addStubs_rules]

theorem addPageCore_addLog (s : State) (l : List Write) (lru : Bytes) (crawled : Bool) :
    (s.addLog l).addPageCore lru crawled
      = ((s.addPageCore lru crawled).1.addLog l, (s.addPageCore lru crawled).2) := by
  rw [addLog_eq_ghost, addPageCore_ghost s _ l (RulesEq.refl _), addLog_eq_ghost, addPageCore_rules]

end State

theorem exec_rules (s : State) (a : Run) (is : List Instr) : (exec s a is).1.rules = s.rules :=
  rules_of_ghost (f := fun s => exec s a is) (exec_ghost _ _ is s a (RulesEq.refl _))

theorem exec_addLog (s : State) (l : List Write) (a : Run) (is : List Instr) :
    exec (s.addLog l) a is = ((exec s a is).1.addLog l, (exec s a is).2) := by
  rw [addLog_eq_ghost, exec_ghost _ l is s a (RulesEq.refl _), addLog_eq_ghost, exec_rules]

end Traph

#print axioms Traph.step_addLog
#print axioms Traph.fresh_addLog
#print axioms Traph.run_addLog
#print axioms Traph.step_eq_of_nolog
#print axioms Traph.step_log
