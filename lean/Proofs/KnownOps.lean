import Proofs.Known
import Proofs.AutoCreate
/-! C02 / C19, one request at a time (histories: KnownRun for C02, SizesRun for C19): what every write request does
    to the set of stored LRUs (`named_step`).
    `State.named s op` lists the LRUs the request names: the byte strings of its arguments (`Op.lrus`)
    and the prefixes the library attaches to automatically created webentities, as announced in the
    write report of the request (`Ans.attached`). `Done` packages, for a piece of a request, the `KStep` with the
    report accumulated so far; `run_done`, `exec_done`, `RuleRun.done` are its instances. -/
namespace Traph
open State Layout

def Report.attached (r : Report) : List Bytes := r.we.flatMap (·.2)

/-- the byte strings a write request names: pages, both ends of links, sources and targets of a batch,
    webentity prefixes (also of a *removal*, which looks the prefix up by inserting it), rule anchors;
    `delete` and `removeRule` only look up -/
def Op.lrus : Op → List Bytes
  | .addPage l _ => [l]
  | .addPages ls _ => ls
  | .addLinks links => links.flatMap (fun st => [st.1, st.2])
  | .batch data => data.flatMap (fun d => d.1 :: d.2)
  | .create ps => ps
  | .delete _ _ => []
  | .addPrefix p _ => [p]
  | .removePrefix p _ => [p]
  | .movePrefix p _ _ => [p]
  | .addRule a _ => [a]
  | .removeRule _ => []
  | .reopen _ _ => []
  | .clear _ _ => []

def Ans.attached : Ans → List Bytes
  | .report r => r.attached
  | _ => []

def State.named (s : State) (op : Op) : List LRU := (op.lrus ++ (s.step op).2.attached).map lruIter

theorem kstep_addPrefixesScan (ps : List Bytes) (s : State) (t : T) (valid : List (Bytes × Nat)) (nInv : Nat)
    (g : Good s t) : ∃ t', KStep (ps.map lruIter) s t (s.addPrefixesScan ps valid nInv).1 t' ∧
      ∀ x ∈ (s.addPrefixesScan ps valid nInv).2.1.map (·.1), x ∈ valid.map (·.1) ∨ x ∈ ps := by
  induction ps generalizing s t valid nInv with
  | nil =>
    rw [addPrefixesScan]
    exact ⟨t, KStep.refl g, fun x hx => Or.inl hx⟩
  | cons p ps ih =>
    obtain ⟨t1, k1, _⟩ := kstep_addLru g (lruIter p) true (lruIter_wf p)
    rcases ha : s.addLru (lruIter p) true with ⟨s1, n, hh⟩
    rw [ha] at k1
    simp only [addPrefixesScan, ha]
    split
    · obtain ⟨t2, k2, h2⟩ := ih s1 t1 valid (nInv + 1) k1.good
      exact ⟨t2, k1.trans k2, fun x hx => (h2 x hx).imp id (List.mem_cons_of_mem _)⟩
    · obtain ⟨t2, k2, h2⟩ := ih s1 t1 (dictSet valid p n) nInv k1.good
      refine ⟨t2, k1.trans k2, fun x hx => ?_⟩
      rcases h2 x hx with h | h
      · rcases (mem_keys_dictSet valid p n x).mp h with h | rfl
        · exact Or.inl h
        · exact Or.inr List.mem_cons_self
      · exact Or.inr (List.mem_cons_of_mem _ h)

theorem kstep_addPrefixes {s : State} {t : T} (g : Good s t) (ps : List Bytes) (best : Bool) :
    ∃ t', KStep (ps.map lruIter) s t (s.addPrefixes ps best).1 t' ∧
      ∀ id l, (s.addPrefixes ps best).2 = .ok (id, l) → ∀ x ∈ l, x ∈ ps := by
  obtain ⟨t1, k1, h1⟩ := kstep_addPrefixesScan ps s t [] 0 g
  rcases ha : s.addPrefixesScan ps [] 0 with ⟨s1, valid, nInv⟩
  rw [ha] at k1 h1
  generalize hr : s.addPrefixes ps best = r
  simp only [addPrefixes, ha] at hr
  split at hr
  · subst hr; exact ⟨t1, k1, fun id l he => nomatch he⟩
  · split at hr
    · subst hr; exact ⟨t1, k1, fun id l he => by cases he; exact fun _ hx => nomatch hx⟩
    · subst hr
      have k2 : KStep [] s1 t1 s1.genId.1 t1 := KStep.of_trie_eq k1.good rfl
      refine ⟨t1, (k1.trans_nil k2).trans_nil (kstep_foldl_modCell (fun pn : Bytes × Nat => pn.2)
        (fun _ c => { c with we := s1.genId.2 }) (fun _ _ => ⟨rfl, rfl, rfl, rfl, rfl⟩) valid _ t1 k2.good),
        fun id l he => ?_⟩
      cases he
      exact fun x hx => (h1 x hx).elim (fun h => nomatch h) id

/-- `__create_webentity` while adding a page: every variation is inserted; by `createWebentityAuto_spec` the ones
    the report does not announce carried a webentity, so they were stored: what gets stored is the prefix closure
    of the announced ones -/
theorem kstep_createWebentityAuto {s : State} {t : T} (g : Good s t) (x : Bytes)
    (hne : ∀ v ∈ lruVariations x, lruIter v ≠ []) :
    ∃ t', KStep ((s.createWebentityAuto x).2.attached.map lruIter) s t (s.createWebentityAuto x).1 t' := by
  obtain ⟨t1, k1, _⟩ := kstep_addPrefixes g (lruVariations x) true
  obtain ⟨_, a1, a2⟩ := createWebentityAuto_spec g.shape x hne
  have known : ∀ v, s.weMap (lruIter v) ≠ 0 → Known s t (lruIter v) := fun v hv =>
    have ⟨b, hb, _⟩ := weMap_ne_zero g.shape hv
    ⟨b, hb⟩
  have e : (s.createWebentityAuto x).1 = (s.addPrefixes (lruVariations x) true).1 := by rw [createWebentityAuto_eq]
  rw [e]
  refine ⟨t1, ?_⟩
  by_cases hall : ∀ v ∈ lruVariations x, s.weMap (lruIter v) ≠ 0
  · rw [(a1 hall).1]
    exact k1.exchange_map (fun v hv => Or.inr fun _ => known v (hall v hv)) (fun _ hv => nomatch hv)
  · rw [(a2 (Classical.byContradiction fun hn => hall fun v hv hz => hn ⟨v, hv, hz⟩)).1]
    have hm : ∀ v, v ∈ ({ we := [(some (s.hdrId + 1), freeOf s.weMap (lruVariations x))] } : Report).attached ↔
        v ∈ lruVariations x ∧ s.weMap (lruIter v) = 0 := fun v => by
      simp only [Report.attached, List.flatMap_cons, List.flatMap_nil, List.append_nil, mem_freeOf]
    exact k1.exchange_map (fun v hv => (Nat.eq_zero_or_pos (s.weMap (lruIter v))).elim
      (fun hz => Or.inl ((hm v).mpr ⟨hv, hz⟩)) (fun hp => Or.inr fun _ => known v (Nat.pos_iff_ne_zero.mp hp)))
      (fun v hv => ((hm v).mp hv).1)

theorem kstep_addPageTrie {s : State} {t : T} (g : Good s t) (stems : LRU) (c : Bool)
    (hst : ∀ x ∈ stems, StemWf x) :
    ∃ t', KStep [stems] s t (s.addPageTrie stems c).1 t' := by
  obtain ⟨t1, k1, _⟩ := kstep_addLru g stems false hst
  exact ⟨t1, k1.trans_nil (KStep.of_noStruct k1.good (addPageTrie_noStruct s stems c).1)⟩

theorem kstep_addPageCore {s : State} {t : T} (g : Good s t) (lru : Bytes) (c : Bool) :
    ∀ x, s.addPageCore lru c = x →
    ∃ t', (∃ L, KStep L s t x.1 t') ∧
      ∀ r, x.2.2 = .ok r → KStep ([lruIter lru] ++ r.attached.map lruIter) s t x.1 t' := by
  intro x hx
  obtain ⟨t1, k1⟩ := kstep_addPageTrie g (lruIter lru) c (lruIter_wf lru)
  rw [addPageCore_eq] at hx
  split at hx
  · subst hx
    dsimp only
    exact ⟨t1, ⟨_, k1⟩, fun r hr => nomatch hr⟩
  · subst hx
    dsimp only
    refine ⟨t1, ⟨_, k1⟩, fun r hr => ?_⟩
    cases Except.ok.inj hr
    exact k1
  · rename_i K hd
    subst hx
    dsimp only
    obtain ⟨hK, hcut, _⟩ := autoDecision_some hd
    obtain ⟨t2, k2⟩ := kstep_createWebentityAuto k1.good K (lruVariations_ne_nil K (hcut.sep hK))
    refine ⟨t2, ⟨_, k1.trans k2⟩, fun r hr => ?_⟩
    cases Except.ok.inj hr
    rw [Report.attached, (Report.add_one (rep := { pages := _ }) (fun _ hkv => absurd hkv List.not_mem_nil)
      (createWebentityAuto_we _ K)).1]
    dsimp only [List.nil_append]
    exact k1.trans k2

/-- tree-free form of "the pages of the request's cache are stored" -/
def CacheN (s : State) (pages : List (Bytes × Nat)) : Prop :=
  ∀ l n, (l, n) ∈ pages → lruIter l ≠ [] → ∃ b, s.lruNode (lruIter l) = some b

theorem known_iff_lruNode {s : State} {t : T} (h : Shape s t) (p : LRU) (hne : p ≠ []) :
    Known s t p ↔ ∃ b, s.lruNode p = some b := by
  unfold Known
  constructor
  · rintro ⟨b, hb⟩; exact ⟨b, (lruNode_iff_entries h p hne b).mpr hb⟩
  · rintro ⟨b, hb⟩; exact ⟨b, (lruNode_iff_entries h p hne b).mp hb⟩

theorem CacheN.mono {L : List LRU} {s s' : State} {t t' : T} {pages : List (Bytes × Nat)}
    (g : Good s t) (k : KStep L s t s' t') (hc : CacheN s pages) : CacheN s' pages := by
  intro l n hm hne
  have h1 := (known_iff_lruNode g.shape _ hne).mpr (hc l n hm hne)
  exact (known_iff_lruNode k.good.shape _ hne).mp ((k.known _).mpr (Or.inl h1))

theorem CacheN.known {s : State} {t : T} {pages : List (Bytes × Nat)} (g : Good s t) (hc : CacheN s pages)
    {l : Bytes} {n : Nat} (hm : (l, n) ∈ pages) (hne : lruIter l ≠ []) : Known s t (lruIter l) :=
  (known_iff_lruNode g.shape _ hne).mpr (hc l n hm hne)

/-- a piece of a request run from `(s, t)` to `s'` with accumulated report `rep` on entry: `Good` is kept
    whatever the outcome; when the piece succeeds with `a`, the report `proj a` extends `rep` by the
    entries `A`, all its keys are ids issued so far, the post-condition holds, and the stored set grew by
    exactly the prefix closure of `E` and of the prefixes announced in `A` -/
def Done {α : Type} (s : State) (t : T) (s' : State) (rep : Report) (E : List LRU)
    (res : Except Err α) (proj : α → Report) (post : α → Prop) : Prop :=
  ∃ t', (∃ L, KStep L s t s' t') ∧ s.hdrId ≤ s'.hdrId ∧
    ∀ a, res = .ok a → post a ∧ ∃ A : List (Option Nat × List Bytes),
      (proj a).we = rep.we ++ A ∧ (proj a).KeysLe s'.hdrId ∧
      KStep (E ++ (A.flatMap (·.2)).map lruIter) s t s' t'

theorem Done.good {α : Type} {s s' : State} {t : T} {rep : Report} {E : List LRU} {res : Except Err α}
    {proj : α → Report} {post : α → Prop} (h : Done s t s' rep E res proj post) :
    ∃ t' L, KStep L s t s' t' := by
  obtain ⟨t', ⟨L, k⟩, _⟩ := h
  exact ⟨t', L, k⟩

theorem Done.to_error {α β : Type} {s s' : State} {t : T} {rep rep' : Report} {E E' : List LRU}
    {res : Except Err α} {proj : α → Report} {post : α → Prop} (h : Done s t s' rep E res proj post)
    (e : Err) (proj' : β → Report) (post' : β → Prop) :
    Done s t s' rep' E' (.error e : Except Err β) proj' post' := by
  obtain ⟨t', hk, hle, _⟩ := h
  exact ⟨t', hk, hle, fun a ha => by cases ha⟩

theorem Done.ret {α : Type} {s : State} {t : T} (g : Good s t) {rep : Report} (a : α) (proj : α → Report)
    (post : α → Prop) (hp : proj a = rep) (hk : rep.KeysLe s.hdrId) (hpost : post a) :
    Done s t s rep [] (.ok a) proj post := by
  refine ⟨t, ⟨[], KStep.refl g⟩, Nat.le_refl _, fun a' ha => ?_⟩
  cases ha
  exact ⟨hpost, [], by rw [hp, List.append_nil], by rw [hp]; exact hk, KStep.refl g⟩

theorem Done.bind {α β : Type} {s s1 s2 : State} {t : T} {rep : Report} {E1 E2 : List LRU}
    {res1 : Except Err α} {a1 : α} {proj1 : α → Report} {post1 : α → Prop}
    {res2 : Except Err β} {proj2 : β → Report} {post2 : β → Prop}
    (h1 : Done s t s1 rep E1 res1 proj1 post1) (e : res1 = .ok a1)
    (h2 : ∀ t1 L, KStep L s t s1 t1 → post1 a1 → (proj1 a1).KeysLe s1.hdrId →
      (∀ l ∈ E1, l ≠ [] → Known s1 t1 l) → Done s1 t1 s2 (proj1 a1) E2 res2 proj2 post2) :
    Done s t s2 rep (E1 ++ E2) res2 proj2 post2 := by
  obtain ⟨t1, _, hle1, ok1⟩ := h1
  obtain ⟨hp1, A1, we1, keys1, K1⟩ := ok1 a1 e
  have hE1 : ∀ l ∈ E1, l ≠ [] → Known s1 t1 l := fun l hl hne =>
    (K1.known l).mpr (Or.inr (covered_self (List.mem_append_left _ hl) hne))
  obtain ⟨t2, ⟨L2, K2⟩, hle2, ok2⟩ := h2 t1 _ K1 hp1 keys1 hE1
  refine ⟨t2, ⟨_, K1.trans K2⟩, Nat.le_trans hle1 hle2, fun a2 ha2 => ?_⟩
  obtain ⟨hp2, A2, we2, keys2, K2'⟩ := ok2 a2 ha2
  refine ⟨hp2, A1 ++ A2, by rw [we2, we1, List.append_assoc], keys2, ?_⟩
  refine (K1.trans K2').of_mem (fun l => ?_)
  simp only [List.flatMap_append, List.map_append, List.mem_append]
  exact or_or_or_comm

theorem Done.then_nil {α : Type} {s s1 s2 : State} {t : T} {rep : Report} {E : List LRU}
    {res : Except Err α} {proj : α → Report} {post post' : α → Prop}
    (h : Done s t s1 rep E res proj post) (n : NoStruct s1 s2) (hid : s2.hdrId = s1.hdrId)
    (hpost : ∀ t1, Good s1 t1 → KStep [] s1 t1 s2 t1 → ∀ a, post a → post' a) :
    Done s t s2 rep E res proj post' := by
  obtain ⟨t1, ⟨L, K⟩, hle, ok⟩ := h
  have kn := KStep.of_noStruct K.good n
  refine ⟨t1, ⟨L, K.trans_nil kn⟩, by rw [hid]; exact hle, fun a ha => ?_⟩
  obtain ⟨hp, A, we, keys, K'⟩ := ok a ha
  exact ⟨hpost t1 K.good kn a hp, A, we, by rw [hid]; exact keys, K'.trans_nil kn⟩

theorem Done.nil_then {α : Type} {s s1 s2 : State} {t : T} {rep : Report} {E : List LRU}
    {res : Except Err α} {proj : α → Report} {post : α → Prop}
    (g : Good s t) (n : NoStruct s s1) (hid : s1.hdrId = s.hdrId)
    (h : Done s1 t s2 rep E res proj post) : Done s t s2 rep E res proj post := by
  have kn := KStep.of_noStruct g n
  obtain ⟨t2, ⟨L, K⟩, hle, ok⟩ := h
  refine ⟨t2, ⟨L, kn.nil_trans K⟩, by rw [← hid]; exact hle, fun a ha => ?_⟩
  obtain ⟨hp, A, we, keys, K'⟩ := ok a ha
  exact ⟨hp, A, we, keys, kn.nil_trans K'⟩

theorem Done.congrE {α : Type} {s s' : State} {t : T} {rep : Report} {E E' : List LRU}
    {res : Except Err α} {proj : α → Report} {post : α → Prop}
    (h : Done s t s' rep E res proj post)
    (h1 : ∀ l ∈ E, l ∈ E' ∨ (l ≠ [] → Known s t l)) (h2 : ∀ l ∈ E', l ∈ E ∨ (l ≠ [] → Known s t l)) :
    Done s t s' rep E' res proj post := by
  obtain ⟨t', hk, hle, ok⟩ := h
  refine ⟨t', hk, hle, fun a ha => ?_⟩
  obtain ⟨hp, A, we, keys, K⟩ := ok a ha
  have key : ∀ (X Y : List LRU), (∀ l ∈ X, l ∈ Y ∨ (l ≠ [] → Known s t l)) →
      ∀ l ∈ X ++ (A.flatMap (·.2)).map lruIter, l ∈ Y ++ (A.flatMap (·.2)).map lruIter ∨ (l ≠ [] → Known s t l) :=
    fun X Y hXY l hl => (List.mem_append.mp hl).elim (fun h => (hXY l h).imp (List.mem_append_left _) id)
      (fun h => Or.inl (List.mem_append_right _ h))
  exact ⟨hp, A, we, keys, K.exchange (key E E' h1) (key E' E h2)⟩

theorem Done.map {α β : Type} {s s' : State} {t : T} {rep : Report} {E : List LRU}
    {res : Except Err α} {proj : α → Report} {post : α → Prop}
    {res' : Except Err β} {proj' : β → Report} {post' : β → Prop}
    (h : Done s t s' rep E res proj post)
    (hres : ∀ b, res' = .ok b → ∃ a, res = .ok a ∧ proj' b = proj a ∧
      (∀ t', Good s' t' → (∀ l ∈ E, l ≠ [] → Known s' t' l) → (∀ p, Known s t p → Known s' t' p) → post a → post' b)) :
    Done s t s' rep E res' proj' post' := by
  obtain ⟨t', hk, hle, ok⟩ := h
  refine ⟨t', hk, hle, fun b hb => ?_⟩
  obtain ⟨a, ha, hp, hpost⟩ := hres b hb
  obtain ⟨hpa, A, we, keys, K⟩ := ok a ha
  refine ⟨hpost t' K.good ?_ (fun p hp => (K.known p).mpr (Or.inl hp)) hpa, A, by rw [hp]; exact we,
    by rw [hp]; exact keys, K⟩
  exact fun l hl hne => (K.known l).mpr (Or.inr (covered_self (List.mem_append_left _ hl) hne))

theorem Done.final {s s' : State} {t : T} {E : List LRU} {res : Except Err Report} {post : Report → Prop}
    (h : Done s t s' {} E res (fun r => r) post) :
    ∃ t', (∃ L, KStep L s t s' t') ∧ s.hdrId ≤ s'.hdrId ∧
      ∀ r, res = .ok r → KStep (E ++ r.attached.map lruIter) s t s' t' := by
  obtain ⟨t', hk, hle, ok⟩ := h
  refine ⟨t', hk, hle, fun r hr => ?_⟩
  obtain ⟨_, A, we, _, K⟩ := ok r hr
  have : r.we = A := by simpa using we
  unfold Report.attached
  rw [this]
  exact K

theorem done_addPageCore {s : State} {t : T} (g : Good s t) (lru : Bytes) (c : Bool) (rep : Report)
    (hrep : rep.KeysLe s.hdrId) :
    Done s t (s.addPageCore lru c).1 rep [lruIter lru] (s.addPageCore lru c).2.2
      (fun r => rep.add r) (fun _ => True) := by
  obtain ⟨t1, hk, ok⟩ := kstep_addPageCore g lru c _ rfl
  obtain ⟨hle, hwe⟩ := addPageCore_we s lru c
  refine ⟨t1, hk, hle, fun r hr => ?_⟩
  obtain ⟨e, keys⟩ := Report.add_one hrep (hwe r hr)
  exact ⟨trivial, r.we, e, keys, ok r hr⟩

theorem done_cached {s : State} {t : T} (g : Good s t) (a : Run) {l : Bytes} {n : Nat}
    (hrep : a.rep.KeysLe s.hdrId) (hc : CacheN s a.pages) (heq : dictGet? a.pages l = some n) :
    Done s t s a.rep [lruIter l] (.ok a : Except Err Run) Run.rep (fun a1 => CacheN s a1.pages) := by
  refine (Done.ret g a _ _ rfl hrep hc).congrE (fun _ hl' => absurd hl' List.not_mem_nil)
    (fun l' hl' => Or.inr (fun hne => ?_))
  rw [List.mem_singleton] at hl'
  subst hl'
  exact hc.known g (dictGet?_mem _ _ _ heq) hne

theorem run_done {s : State} {t : T} (g : Good s t) (a : Run) (i : Instr) (hrep : a.rep.KeysLe s.hdrId)
    (hc : CacheN s a.pages) :
    Done s t (i.run s a).1 a.rep (i.lrus.map lruIter) (i.run s a).2 Run.rep
      (fun a1 => CacheN (i.run s a).1 a1.pages) := by
  cases i with
  | add l c always =>
    have h1 := done_addPageCore g l c a.rep hrep
    simp only [Instr.run]
    split
    · rename_i s1 _ e heq
      rw [heq] at h1
      exact h1.to_error e _ _
    · rename_i s1 n r heq
      rw [heq] at h1
      simp only at h1
      refine (h1.map (res' := (.ok { a with rep := a.rep.add r } : Except Err Run)) (proj' := Run.rep)
        (post' := fun a1 => CacheN s1 a1.pages) fun b hb => ?_).then_nil ?_ (hdrId_ite_modCell _ _ _ _)
        fun t1 g1 k1 _ hp => CacheN.mono g1 k1 hp
      · cases hb
        exact ⟨r, rfl, rfl, fun t' g' _ hmono _ l' n' hm hne =>
          (known_iff_lruNode g'.shape _ hne).mp (hmono _ (hc.known g hm hne))⟩
      · split
        · exact noStruct_markCrawled s1 n
        · exact NoStruct.refl s1
  | ensure l c =>
    simp only [Instr.run]
    split
    · have h1 := done_addPageCore g l c a.rep hrep
      split
      · rename_i s1 _ e heq2
        rw [heq2] at h1
        exact h1.to_error e _ _
      · rename_i s1 n r heq2
        rw [heq2] at h1
        simp only at h1
        refine h1.map (fun b hb => ?_)
        cases hb
        refine ⟨r, rfl, rfl, fun t' g' hE hmono _ l' n' hm hne => ?_⟩
        rcases List.mem_append.mp hm with hm | hm
        · exact (known_iff_lruNode g'.shape _ hne).mp (hmono _ (hc.known g hm hne))
        · simp only [List.mem_singleton, Prod.mk.injEq] at hm
          obtain ⟨rfl, rfl⟩ := hm
          exact (known_iff_lruNode g'.shape _ hne).mp (hE _ (List.mem_singleton.mpr rfl) hne)
    · rename_i n heq
      have h0 := done_cached g a hrep hc heq
      split
      · exact h0.then_nil (noStruct_markCrawled s n) (hdrId_modCell _ _ _)
          (fun t1 g1 k1 a hp => CacheN.mono g1 k1 hp)
      · exact h0
  | stubs p ts out =>
    exact (Done.ret g a _ _ rfl hrep hc).then_nil (noStruct_addStubs _ _ _ _) (hdrId_addStubs _ _ _ _)
      (fun t1 g1 k1 a hp => CacheN.mono g1 k1 hp)

theorem exec_done (is : List Instr) (s : State) (t : T) (a : Run) (g : Good s t) (hrep : a.rep.KeysLe s.hdrId)
    (hc : CacheN s a.pages) :
    Done s t (exec s a is).1 a.rep ((is.flatMap Instr.lrus).map lruIter) (exec s a is).2 Run.rep
      (fun a1 => CacheN (exec s a is).1 a1.pages) := by
  fun_induction exec s a is generalizing t with
  | case1 s a => exact Done.ret g a _ _ rfl hrep hc
  | case2 s a i _ s1 e heq =>
    have h1 := run_done g a i hrep hc
    rw [heq] at h1
    exact h1.to_error e _ _
  | case3 s a i is s1 a1 heq ih =>
    have h1 := run_done g a i hrep hc
    rw [heq] at h1
    rw [List.flatMap_cons, List.map_append]
    exact Done.bind h1 rfl fun t1 L K hp1 keys1 _ => ih t1 K.good keys1 hp1

theorem prog_done {s : State} {t : T} (g : Good s t) (is : List Instr) :
    Done s t (exec s {} is).1 {} ((is.flatMap Instr.lrus).map lruIter) ((exec s {} is).2.map Run.rep)
      (fun r => r) (fun _ => True) :=
  (exec_done is s t {} g (keysLe_empty _) (fun _ _ hm => absurd hm List.not_mem_nil)).map fun _ hb =>
    have ⟨a, ha, e⟩ := Except.map_eq_ok hb
    ⟨a, ha, e.symm, fun _ _ _ _ _ => trivial⟩

/-- `__add_page` of the page stored at block `b`, as the walk of a rule installation submits it: nothing is named
    but the prefixes announced -/
theorem done_stored {s : State} {t : T} (g : Good s t) {b : Nat} {lru : Bytes}
    (hs : ∃ p, (p, b) ∈ t.entries s [] ∧ lru = p.dropLast.flatten) (rep : Report) (hrep : rep.KeysLe s.hdrId) :
    Done s t (s.addPageCore (lru ++ s.stemAt b) false).1 rep [] (s.addPageCore (lru ++ s.stemAt b) false).2.2
      (fun r => rep.add r) (fun _ => True) := by
  obtain ⟨p, hm, e2⟩ := entry_cur g.shape g.wf hs
  have h1 := done_addPageCore g (lru ++ s.stemAt b) false rep hrep
  rw [e2] at h1
  exact h1.congrE (fun l hl => Or.inr fun _ => by rw [List.mem_singleton] at hl; subst hl; exact ⟨b, hm⟩)
    (fun _ hl => absurd hl List.not_mem_nil)

theorem RuleRun.done {start : Nat} {s : State} {stack : List (Nat × Bytes)} {rep : Report}
    {out : State × Except Err Report} (r : RuleRun start s stack rep out) {t : T} (g : Good s t)
    (hrep : rep.KeysLe s.hdrId) (hs : StackOk s t stack) :
    Done s t out.1 rep [] out.2 (fun r => r) (fun _ => True) := by
  induction r generalizing t with
  | stop => exact Done.ret g _ _ _ rfl hrep trivial
  | skip _ _ ih => exact ih g hrep (stackOk_next g.shape hs)
  | @fail s b lru _ rep _ _ e _ ha =>
    have h1 := done_stored g (hs b lru List.mem_cons_self) rep hrep
    rw [ha] at h1
    exact h1.to_error e _ _
  | @page s b lru _ rep s1 _ r1 _ _ ha _ ih =>
    have h1 := done_stored g (hs b lru List.mem_cons_self) rep hrep
    rw [ha] at h1
    have h2 : Done s t s1 rep [] (.ok (rep.add r1) : Except Err Report) (fun r => r) (fun _ => True) :=
      h1.map fun _ hb' => by cases hb'; exact ⟨r1, rfl, rfl, fun _ _ _ _ _ => trivial⟩
    exact Done.bind h2 rfl fun t1 L K _ keys1 _ => ih K.good keys1 ((stackOk_next g.shape hs).mono K.ext)

theorem Done.after {α : Type} {s s1 s2 : State} {t t1 : T} {L : List LRU} {rep : Report} {E : List LRU}
    {res : Except Err α} {proj : α → Report} {post : α → Prop}
    (k : KStep L s t s1 t1) (hid : s1.hdrId = s.hdrId) (h : Done s1 t1 s2 rep E res proj post) :
    Done s t s2 rep (L ++ E) res proj post := by
  obtain ⟨t2, ⟨L2, K⟩, hle, ok⟩ := h
  refine ⟨t2, ⟨_, k.trans K⟩, by rw [← hid]; exact hle, fun a ha => ?_⟩
  obtain ⟨hp, A, we, keys, K'⟩ := ok a ha
  refine ⟨hp, A, we, keys, ?_⟩
  have := k.trans K'
  rwa [← List.append_assoc] at this

theorem addRuleLoop_outside (start fuel : Nat) (s : State) (b : Nat) (lru : Bytes) (rep : Report)
    (hb : s.trie.size ≤ b) : addRuleLoop start fuel s [(b, lru)] rep = (s, .ok rep) := by
  cases fuel with
  | zero => rw [addRuleLoop_zero]
  | succ fuel =>
    have hc : s.cell b = {} := cell_of_size_le s b hb
    have hv : ruleVisit s b lru rep = (s, .ok rep) := by
      unfold ruleVisit
      rw [hc]
      rfl
    have hn : ruleNext start b ({} : Cell) lru (lru ++ s.stemAt b) [] = [] := by
      unfold ruleNext
      by_cases h : b = start <;> simp [h]
    rw [addRuleLoop_succ_cons, hv, hc]
    simp only [hn, addRuleLoop_nil]

theorem stackOk_single {s : State} {t : T} {b : Nat} {lru : Bytes}
    (h : ∃ p, (p, b) ∈ t.entries s [] ∧ lru = p.dropLast.flatten) : StackOk s t [(b, lru)] :=
  fun _ _ hm => by cases List.mem_singleton.mp hm; exact h

theorem rulePrologue_kstep {s : State} {t : T} (g : Good s t) (anchor : Bytes) (r : Rule) :
    ∃ t1, KStep [lruIter anchor] s t (s.rulePrologue anchor r).1 t1 ∧
      (lruIter anchor ≠ [] →
        (lruIter anchor, (s.rulePrologue anchor r).2) ∈ t1.entries (s.rulePrologue anchor r).1 []) := by
  have k0 : KStep [] s t { s with rules := dictSet s.rules anchor r } t := KStep.of_trie_eq g rfl
  unfold State.rulePrologue
  generalize ({ s with rules := dictSet s.rules anchor r } : State) = s0 at k0 ⊢
  simp only
  obtain ⟨t1, k1, hent⟩ := kstep_addLru k0.good (lruIter anchor) false (lruIter_wf anchor)
  have k2 := KStep.of_noStruct k1.good (noStruct_setRule _ (s0.addLru (lruIter anchor) false).2.1 true)
  exact ⟨t1, k0.nil_trans (k1.trans_nil k2), fun hne => k2.keep _ _ (hent hne)⟩

/-- `add_webentity_creation_rule(rule_prefix, pattern, write_in_trie=True)`: the anchor is inserted; the pages
    below it are re-submitted (nothing new), and the webentities this creates are announced in the report -/
theorem done_addRule {s : State} {t : T} (g : Good s t) (anchor : Bytes) (r : Rule) :
    Done s t (s.addRule anchor r true).1 {} [lruIter anchor] (s.addRule anchor r true).2
      (fun r => r) (fun _ => True) := by
  obtain ⟨t1, k, hent⟩ := rulePrologue_kstep g anchor r
  rw [addRule_true_eq]
  refine Done.after (E := []) k (hdrId_rulePrologue s anchor r) ?_
  by_cases hne : lruIter anchor = []
  · have e2 : (s.rulePrologue anchor r).2 = 1 := by unfold State.rulePrologue; rw [hne, addLru_nil]
    have esz : (s.rulePrologue anchor r).1.trie.size = s.trie.size := by
      unfold State.rulePrologue; rw [hne, addLru_nil, trie_modCell_size]
    rw [e2]
    by_cases hsz : s.trie.size ≤ 1
    · -- empty trie, anchor without any stem: the walk starts outside the store
      rw [addRuleLoop_outside _ _ _ _ _ _ (by rw [esz]; exact hsz)]
      dsimp only
      exact Done.ret k.good _ _ _ rfl (keysLe_empty _) trivial
    · -- anchor without any stem: the walk starts at the root
      have hroot := g.shape.root
      rw [if_neg hsz] at hroot
      have hre := root_entry (s := s) t [] (by rw [hroot]; omega)
      rw [hroot] at hre
      exact (addRuleLoop_run 1 ..).done k.good (keysLe_empty _)
        (stackOk_single ⟨_, k.keep _ _ hre, by simp [lruDirname, hne, flatten]⟩)
  · exact (addRuleLoop_run ..).done k.good (keysLe_empty _) (stackOk_single ⟨lruIter anchor, hent hne, rfl⟩)

theorem kstep_addPrefix {s : State} {t : T} (g : Good s t) (pfx : Bytes) (weid : Nat) :
    ∃ t', KStep [lruIter pfx] s t (s.addPrefix pfx weid).1 t' := by
  obtain ⟨t1, k1, _⟩ := kstep_addLru g (lruIter pfx) true (lruIter_wf pfx)
  rcases ha : s.addLru (lruIter pfx) true with ⟨s1, n, hh⟩
  rw [ha] at k1
  simp only [addPrefix, ha]
  split
  · exact ⟨t1, k1⟩
  · exact ⟨t1, k1.trans_nil (KStep.of_noStruct k1.good (noStruct_setWe s1 n weid))⟩

/-- `remove_prefix_from_webentity`: the prefix is *inserted* (the code looks it up with `add_lru`),
    whatever the answer -/
theorem kstep_removePrefix {s : State} {t : T} (g : Good s t) (pfx : Bytes) (weid : Option Nat) :
    ∃ t', KStep [lruIter pfx] s t (s.removePrefix pfx weid).1 t' := by
  obtain ⟨t1, k1, _⟩ := kstep_addLru g (lruIter pfx) false (lruIter_wf pfx)
  rcases ha : s.addLru (lruIter pfx) false with ⟨s1, n, hh⟩
  rw [ha] at k1
  simp only at k1
  simp only [removePrefix, ha]
  split <;> split <;> first
    | exact ⟨t1, k1⟩
    | exact ⟨t1, k1.trans_nil (KStep.of_noStruct k1.good (noStruct_setWe s1 n 0))⟩

theorem kstep_movePrefix {s : State} {t : T} (g : Good s t) (pfx : Bytes) (target : Nat) (source : Option Nat) :
    ∃ t', KStep [lruIter pfx] s t (s.movePrefix pfx target source).1 t' := by
  obtain ⟨t1, k1⟩ := kstep_removePrefix g pfx source
  unfold movePrefix
  split
  · rename_i heq; rw [heq] at k1; exact ⟨t1, k1⟩
  · rename_i s1 _ heq
    rw [heq] at k1
    obtain ⟨t2, k2⟩ := kstep_addPrefix k1.good pfx target
    exact ⟨t2, (k1.trans k2).of_mem (fun l => by simp)⟩

theorem kstep_deleteWebentity {s : State} {t : T} (g : Good s t) (weid : Nat) (prefixes : List Bytes) :
    KStep [] s t (s.deleteWebentity weid prefixes).1 t := by
  unfold deleteWebentity
  split
  · exact KStep.refl g
  · exact KStep.of_noStruct g (noStruct_foldl_modCell (fun pn : Bytes × Nat => pn.2)
      (fun _ c => { c with we := 0 }) (fun _ _ => ⟨rfl, rfl, rfl, rfl, rfl⟩) _ s)

theorem kstep_removeRule {s : State} {t : T} (g : Good s t) (anchor : Bytes) :
    KStep [] s t (s.removeRule anchor).1 t := KStep.of_noStruct g (noStruct_removeRule s anchor).1

theorem kstep_reopen {s : State} {t : T} (g : Good s t) (dflt : Rule) (rules : List (Bytes × Rule)) :
    KStep [] s t (s.reopen dflt rules) t := KStep.of_trie_eq g rfl

theorem kstep_createWebentity {s : State} {t : T} (g : Good s t) (ps : List Bytes) :
    ∃ t', KStep (ps.map lruIter) s t (s.createWebentity ps).1 t' ∧
      ∀ x ∈ (Ans.ofExcept .report (s.createWebentity ps).2).attached, x ∈ ps := by
  obtain ⟨t1, k1, hres⟩ := kstep_addPrefixes g ps false
  unfold createWebentity
  split
  · rename_i heq; rw [heq] at k1; exact ⟨t1, k1, fun x hx => nomatch hx⟩
  · rename_i s1 id l heq
    rw [heq] at k1 hres
    refine ⟨t1, k1, fun x hx => hres id l rfl x ?_⟩
    simpa [Ans.ofExcept, Ans.attached, Report.attached] using hx

theorem named_of_report {s s' : State} {t : T} {E : List Bytes} {res : Except Err Report}
    (h : ∃ t', (∃ L, KStep L s t s' t') ∧ s.hdrId ≤ s'.hdrId ∧
      ∀ r, res = .ok r → KStep (E.map lruIter ++ r.attached.map lruIter) s t s' t')
    (herr : ∀ e, res = .error e → e = .other "KeyError") :
    ∃ t', (∃ L, KStep L s t s' t') ∧ (Ans.ofExcept .report res ≠ .err (.other "KeyError") →
      KStep ((E ++ (Ans.ofExcept .report res).attached).map lruIter) s t s' t') := by
  obtain ⟨t', hk, _, ok⟩ := h
  refine ⟨t', hk, fun hne => ?_⟩
  obtain ⟨r, hr, ha⟩ := ofExcept_report_ok herr hne
  rw [ha, List.map_append]
  exact ok r hr

theorem named_of_unit {s s' : State} {t t' : T} {E : List Bytes} (res : Except Err Unit)
    (k : KStep (E.map lruIter) s t s' t') :
    ∃ t', (∃ L, KStep L s t s' t') ∧ (Ans.ofExcept (fun _ => .unit) res ≠ .err (.other "KeyError") →
      KStep ((E ++ (Ans.ofExcept (fun _ => .unit) res).attached).map lruIter) s t s' t') := by
  have e : (Ans.ofExcept (fun _ => Ans.unit) res).attached = [] := by cases res <;> rfl
  rw [e, List.append_nil]
  exact ⟨t', ⟨_, k⟩, fun _ => k⟩

/-- `Good` is kept by every write request (except `clear`, which starts a new index);
    unless the request is aborted by the `KeyError` of `__add_page`, the LRUs stored afterwards are those
    stored before plus the non-empty stem-prefixes of the LRUs named by the request -/
theorem named_step {s : State} {t : T} (g : Good s t) (op : Op) (hop : ∀ d rs, op ≠ .clear d rs) :
    ∃ t', (∃ L, KStep L s t (s.step op).1 t') ∧
      ((s.step op).2 ≠ .err (.other "KeyError") → KStep (s.named op) s t (s.step op).1 t') := by
  cases op with
  | addPage l c =>
    simp only [State.named, step_addPage, addPage_eq]
    obtain ⟨t1, hk, ok⟩ := kstep_addPageCore g l c _ rfl
    exact named_of_report (E := [l]) ⟨t1, hk, (addPageCore_we s l c).1, ok⟩ (addPageCore_err s l c)
  | addPages ls c =>
    have := (prog_done g (pagesProg ls c s.cfg.addPagesAlwaysCrawled)).final
    rw [lrus_pagesProg] at this
    simp only [State.named, step_addPages]
    rw [addPages, addPagesGo_eq _ _ _ _ {}]
    exact named_of_report this (by
      have := addPagesGo_err s.cfg.addPagesAlwaysCrawled ls s c {}
      rwa [addPagesGo_eq _ _ _ _ {}] at this)
  | addLinks links =>
    have := (prog_done g (linksProg links)).final
    rw [lrus_linksProg] at this
    simp only [State.named, step_addLinks]
    have herr := addLinks_err s links
    rw [addLinks_eq] at herr ⊢
    exact named_of_report this herr
  | batch data =>
    have := (prog_done g (batchProg data)).final
    rw [lrus_batchProg] at this
    simp only [State.named, step_batch]
    have herr := batch_err s data
    rw [batch_eq] at herr ⊢
    exact named_of_report this herr
  | create ps =>
    simp only [State.named, step_create]
    obtain ⟨t1, k1, hsub⟩ := kstep_createWebentity g ps
    exact ⟨t1, ⟨_, k1⟩, fun _ => k1.exchange_map (fun x hx => Or.inl (List.mem_append_left _ hx))
      (fun x hx => (List.mem_append.mp hx).elim id (hsub x))⟩
  | delete w ps =>
    simp only [State.named, step_delete]
    exact named_of_unit (E := []) _ (kstep_deleteWebentity g w ps)
  | addPrefix p w =>
    simp only [State.named, step_addPrefix]
    obtain ⟨t1, k1⟩ := kstep_addPrefix g p w
    exact named_of_unit (E := [p]) _ k1
  | removePrefix p w =>
    simp only [State.named, step_removePrefix]
    obtain ⟨t1, k1⟩ := kstep_removePrefix g p w
    exact named_of_unit (E := [p]) _ k1
  | movePrefix p tg f =>
    simp only [State.named, step_movePrefix]
    obtain ⟨t1, k1⟩ := kstep_movePrefix g p tg f
    exact named_of_unit (E := [p]) _ k1
  | addRule a r =>
    simp only [State.named, step_addRule]
    refine named_of_report (E := [a]) (done_addRule g a r).final (fun e he => ?_)
    exact addRule_err s a r true e he
  | removeRule a =>
    simp only [State.named, step_removeRule]
    exact named_of_unit (E := []) _ (kstep_removeRule g a)
  | reopen d rs =>
    simp only [step_reopen]
    exact ⟨t, ⟨_, kstep_reopen g d rs⟩, fun _ => kstep_reopen g d rs⟩
  | clear d rs => exact absurd rfl (hop d rs)

theorem good_step {s : State} {t : T} (g : Good s t) (op : Op) (hop : ∀ d rs, op ≠ .clear d rs) :
    ∃ t', Good (s.step op).1 t' ∧ s.trie.size ≤ (s.step op).1.trie.size ∧
      ∀ p b, (p, b) ∈ t.entries s [] → (p, b) ∈ t'.entries (s.step op).1 [] := by
  obtain ⟨t', ⟨L, k⟩, _⟩ := named_step g op hop
  exact ⟨t', k.good, k.size, k.keep⟩

#print axioms named_step

end Traph
