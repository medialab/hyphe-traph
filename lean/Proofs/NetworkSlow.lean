import Proofs.NetworkAgg
import Proofs.LinkBagC03
/-! C07, both variants as one pass of link events. `State.netEvents out auto` is the list of
    `(source webentity, target webentity, weight)` triples of the index: for each block the carrying
    traversal (`s.dfsWe`) meets that is a page, resolves to a webentity and has a list on the requested side, for
    each distinct other end of that list (with its multiplicity as weight), the other end's bottom-up
    webentity — dropped when there is none, or when it is the source's and self-links are not requested.
    `networkSlow_eq`: the memory-light variant is the fold of these events from the empty answer (its
    cache is transparent). `network_eq`: the two-pass variant is the fold of the same events from the
    tally rows. -/
namespace Traph
open State

/-- a list member of a page of `A` gives rise to an event unless its other end has no webentity or the link is a
    self-link that was not requested -/
def keepEv (auto : Bool) (A tWe : Nat) : Prop := tWe ≠ 0 ∧ ¬ (!auto && decide (A = tWe)) = true

instance (auto : Bool) (A tWe : Nat) : Decidable (keepEv auto A tWe) := by unfold keepEv; infer_instance

def evOf (auto : Bool) (A tWe w : Nat) : Option (Nat × Nat × Nat) :=
  if keepEv auto A tWe then some (A, tWe, w) else none

/-- the two tests in the order the code makes them -/
theorem evOf_eq (auto : Bool) (A tWe w : Nat) :
    evOf auto A tWe w =
      if tWe = 0 then none else if (!auto && decide (A = tWe)) = true then none else some (A, tWe, w) := by
  unfold evOf
  by_cases h0 : tWe = 0
  · rw [if_pos h0, if_neg fun h : keepEv auto A tWe => h.1 h0]
  · by_cases ha : (!auto && decide (A = tWe)) = true
    · rw [if_neg h0, if_pos ha, if_neg fun h : keepEv auto A tWe => h.2 ha]
    · rw [if_neg h0, if_neg ha, if_pos (show keepEv auto A tWe from ⟨h0, ha⟩)]

namespace State

def blockEvents (s : State) (out auto : Bool) (bw : Nat × Nat) : List (Nat × Nat × Nat) :=
  readList s (headOf s out bw.1) ((s.cell bw.1).flags.page && decide (bw.2 ≠ 0))
    (fun c => keepEv auto bw.2 (s.windupWe c)) (fun c k => (bw.2, s.windupWe c, k))

def netEvents (s : State) (out auto : Bool) : List (Nat × Nat × Nat) :=
  s.dfsWe.flatMap (s.blockEvents out auto)

/-- first pass of the two-pass variant: one row per webentity that has a page, with its page tallies -/
def netTally (s : State) : List NetRow :=
  netFold (·.2) (fun (bw : Nat × Nat) r =>
      if (s.cell bw.1).flags.crawled then { r with crawled := r.crawled + 1 }
      else { r with uncrawled := r.uncrawled + 1 }) []
    (s.dfsWe.filter (fun bw => (s.cell bw.1).flags.page && decide (bw.2 ≠ 0)))

end State

theorem blockEvents_def (s : State) (out auto : Bool) (bw : Nat × Nat) :
    s.blockEvents out auto bw =
      if ((s.cell bw.1).flags.page && decide (bw.2 ≠ 0)) = true ∧
          (if out then (s.cell bw.1).out else (s.cell bw.1).inn) ≠ 0 then
        (s.weighted (if out then (s.cell bw.1).out else (s.cell bw.1).inn)).filterMap
          (fun tw => evOf auto bw.2 (s.windupWe tw.1) tw.2)
      else [] := by
  unfold State.blockEvents
  by_cases hq : ((s.cell bw.1).flags.page && decide (bw.2 ≠ 0)) = true ∧
      (if out then (s.cell bw.1).out else (s.cell bw.1).inn) ≠ 0
  · rw [if_pos hq, hq.1]; exact readList_on s _ _ _ hq.2
  · rw [if_neg hq]
    refine readList_nil s _ _ _ _ ?_
    by_cases h0 : (if out then (s.cell bw.1).out else (s.cell bw.1).inn) = 0
    · exact Or.inl h0
    · exact Or.inr (Bool.eq_false_iff.mpr fun hp => hq ⟨hp, h0⟩)

theorem netFold_append {α : Type} (key : α → Nat) (f : α → NetRow → NetRow) (g : List NetRow) (l₁ l₂ : List α) :
    netFold key f g (l₁ ++ l₂) = netFold key f (netFold key f g l₁) l₂ := by
  unfold netFold; rw [List.foldl_append]

/-- the cache only ever holds bottom-up webentities -/
def WeCacheOk (s : State) (c : List (Nat × Nat)) : Prop := ∀ bw ∈ c, bw.2 = s.windupWe bw.1

theorem WeCacheOk.get {s : State} {c : List (Nat × Nat)} (h : WeCacheOk s c) {b w : Nat} (hg : dictGet? c b = some w) :
    w = s.windupWe b := h (b, w) (dictGet?_mem c b w hg)

theorem WeCacheOk.set {s : State} {c : List (Nat × Nat)} (h : WeCacheOk s c) (b : Nat) :
    WeCacheOk s (dictSet c b (s.windupWe b)) := by
  intro bw hbw
  rcases mem_dictSet c b _ bw hbw with e | hm
  · subst e; rfl
  · exact h bw hm

theorem cdSlowStep_def (s : State) (out auto : Bool) (acc : List NetRow × List (Nat × Nat)) (bw : Nat × Nat) :
    cdSlowStep s out auto acc bw =
      if (!(s.cell bw.1).flags.page || decide ((if out then (s.cell bw.1).out else (s.cell bw.1).inn) = 0)
          || decide (bw.2 = 0)) = true then acc
      else (s.weighted (if out then (s.cell bw.1).out else (s.cell bw.1).inn)).foldl (cdSlowInner s auto bw.2)
        (acc.1, dictSet acc.2 bw.1 bw.2) := rfl

theorem cdSlowInner_spec (s : State) (auto : Bool) (A : Nat) (acc : List NetRow × List (Nat × Nat)) (tw : Nat × Nat)
    (hc : WeCacheOk s acc.2) :
    ∃ c', WeCacheOk s c' ∧
      cdSlowInner s auto A acc tw =
        ((evOf auto A (s.windupWe tw.1) tw.2).elim acc.1 (fun e => netTouch acc.1 e.1 (netAdd e)), c') := by
  unfold cdSlowInner
  rw [evOf_eq]
  cases hg : dictGet? acc.2 tw.1 with
  | some w =>
    have hw := hc.get hg
    subst hw
    refine ⟨acc.2, hc, ?_⟩
    simp only
    by_cases h0 : s.windupWe tw.1 = 0
    · rw [if_pos h0, if_pos h0]; rfl
    · rw [if_neg h0, if_neg h0]
      by_cases ha : (!auto && decide (A = s.windupWe tw.1)) = true
      · rw [if_pos ha, if_pos ha]; rfl
      · rw [if_neg ha, if_neg ha]; rfl
  | none =>
    simp only
    by_cases h0 : s.windupWe tw.1 = 0
    · refine ⟨acc.2, hc, ?_⟩
      rw [if_pos h0, if_pos h0, if_pos h0]; rfl
    · refine ⟨dictSet acc.2 tw.1 (s.windupWe tw.1), hc.set _, ?_⟩
      rw [if_neg h0, if_neg h0, if_neg h0]
      by_cases ha : (!auto && decide (A = s.windupWe tw.1)) = true
      · rw [if_pos ha, if_pos ha]; rfl
      · rw [if_neg ha, if_neg ha]; rfl

theorem cdSlowInner_fold (s : State) (auto : Bool) (A : Nat) : ∀ (W : List (Nat × Nat))
    (acc : List NetRow × List (Nat × Nat)), WeCacheOk s acc.2 →
    WeCacheOk s (W.foldl (cdSlowInner s auto A) acc).2 ∧
      (W.foldl (cdSlowInner s auto A) acc).1 =
        netFold (·.1) netAdd acc.1 (W.filterMap (fun tw => evOf auto A (s.windupWe tw.1) tw.2))
  | [], acc, hc => ⟨hc, rfl⟩
  | tw :: W, acc, hc => by
    obtain ⟨c', hc', e⟩ := cdSlowInner_spec s auto A acc tw hc
    rw [List.foldl_cons, e]
    have ih := cdSlowInner_fold s auto A W
      ((evOf auto A (s.windupWe tw.1) tw.2).elim acc.1 (fun e => netTouch acc.1 e.1 (netAdd e)), c') hc'
    refine ⟨ih.1, ?_⟩
    rw [ih.2]
    simp only [List.filterMap_cons]
    cases evOf auto A (s.windupWe tw.1) tw.2 <;> rfl

theorem cdSlowStep_fold (s : State) (out auto : Bool) : ∀ (D : List (Nat × Nat)),
    (∀ bw ∈ D, bw.2 ≠ 0 → bw.2 = s.windupWe bw.1) → ∀ (acc : List NetRow × List (Nat × Nat)), WeCacheOk s acc.2 →
    (D.foldl (cdSlowStep s out auto) acc).1 = netFold (·.1) netAdd acc.1 (D.flatMap (s.blockEvents out auto))
  | [], _, _, _ => rfl
  | bw :: D, hD, acc, hc => by
    rw [List.foldl_cons, List.flatMap_cons, netFold_append]
    have hD' : ∀ bw ∈ D, bw.2 ≠ 0 → bw.2 = s.windupWe bw.1 := fun x hx => hD x (List.mem_cons_of_mem _ hx)
    rw [cdSlowStep_def, blockEvents_def]
    -- the loop's `continue` test is the negation of the guard of `blockEvents`
    have hskip : (!(s.cell bw.1).flags.page || decide ((if out then (s.cell bw.1).out else (s.cell bw.1).inn) = 0)
          || decide (bw.2 = 0)) = true ↔ ¬ (((s.cell bw.1).flags.page && decide (bw.2 ≠ 0)) = true ∧
        (if out then (s.cell bw.1).out else (s.cell bw.1).inn) ≠ 0) := by
      generalize (if out then (s.cell bw.1).out else (s.cell bw.1).inn) = head
      cases (s.cell bw.1).flags.page <;> by_cases hb : bw.2 = 0 <;> simp [hb]
    by_cases hq : ((s.cell bw.1).flags.page && decide (bw.2 ≠ 0)) = true ∧
        (if out then (s.cell bw.1).out else (s.cell bw.1).inn) ≠ 0
    · rw [if_neg (fun h => hskip.mp h hq), if_pos hq]
      have hbw : bw.2 ≠ 0 := by
        have := hq.1; simp only [Bool.and_eq_true, decide_eq_true_eq] at this; exact this.2
      have hc1 : WeCacheOk s (dictSet acc.2 bw.1 bw.2) := by
        rw [hD bw (List.mem_cons_self ..) hbw]; exact hc.set _
      have hin := cdSlowInner_fold s auto bw.2
        (s.weighted (if out then (s.cell bw.1).out else (s.cell bw.1).inn)) (acc.1, dictSet acc.2 bw.1 bw.2) hc1
      rw [cdSlowStep_fold s out auto D hD' _ hin.1, hin.2]
    · rw [if_pos (hskip.mpr hq), if_neg hq, netFold_nil]
      exact cdSlowStep_fold s out auto D hD' acc hc

theorem dfsWe_windupWe {s : State} {t : T} (h : Shape s t) (hp : ParOk s t 0) {b w : Nat}
    (hm : (b, w) ∈ s.dfsWe) : w = s.windupWe b := by
  obtain ⟨p, hb, hw⟩ := (dfsWe_mem_iff h b w).mp hm
  rw [hw, windupWe_eq h hp hb]

theorem dfsWe_of_entry {s : State} {t : T} (h : Shape s t) (hp : ParOk s t 0) {p : LRU} {b : Nat}
    (hb : (p, b) ∈ t.entries s []) : (b, s.windupWe b) ∈ s.dfsWe :=
  (dfsWe_mem_iff h b _).mpr ⟨p, hb, windupWe_eq h hp hb⟩

theorem networkSlow_eq {s : State} {t : T} (h : Shape s t) (hp : ParOk s t 0) (out auto : Bool) :
    s.networkSlow out auto = netFold (·.1) netAdd [] (s.netEvents out auto) := by
  rw [cd_networkSlow_eq]
  exact cdSlowStep_fold s out auto s.dfsWe (fun _ hbw _ => dfsWe_windupWe h hp hbw) ([], [])
    (by intro bw hm; simp at hm)

theorem foldl_nested_eq {α β γ ε : Type} (step : γ → ε → γ) (hl : α → List β) (k : α → β → Option ε)
    (inner : α → γ → β → γ) : ∀ (l : List α),
    (∀ x ∈ l, ∀ y ∈ hl x, ∀ g, inner x g y = (k x y).elim g (step g)) → ∀ (g : γ),
    l.foldl (fun g x => (hl x).foldl (inner x) g) g = (l.flatMap (fun x => (hl x).filterMap (k x))).foldl step g := by
  have hinner : ∀ (x : α) (W : List β), (∀ y ∈ W, ∀ g, inner x g y = (k x y).elim g (step g)) → ∀ g,
      W.foldl (inner x) g = (W.filterMap (k x)).foldl step g := by
    intro x W
    induction W with
    | nil => intro _ _; rfl
    | cons y W ih =>
      intro hW g
      rw [List.foldl_cons, hW y (List.mem_cons_self ..), ih (fun y' hy' => hW y' (List.mem_cons_of_mem _ hy'))]
      cases hk : k x y with
      | none => rw [List.filterMap_cons_none hk]; rfl
      | some e => rw [List.filterMap_cons_some hk]; rfl
  intro l
  induction l with
  | nil => intro _ _; rfl
  | cons x l ih =>
    intro hin g
    rw [List.foldl_cons, List.flatMap_cons, List.foldl_append,
      hinner x (hl x) (hin x (List.mem_cons_self ..)),
      ih (fun x' hx' => hin x' (List.mem_cons_of_mem _ hx'))]

theorem flatMap_pointers {α β ε : Type} (q : α → Bool) (c : α → Prop) [DecidablePred c] (mk : α → β)
    (F : β → List ε) : ∀ (D : List α),
    ((D.filter q).filterMap (fun x => if c x then some (mk x) else none)).flatMap F =
      D.flatMap (fun x => if q x = true ∧ c x then F (mk x) else [])
  | [] => rfl
  | x :: D => by
    rw [List.flatMap_cons, ← flatMap_pointers q c mk F D]
    by_cases hq : q x = true
    · rw [List.filter_cons_of_pos hq]
      by_cases hc : c x
      · rw [List.filterMap_cons_some (by rw [if_pos hc]), List.flatMap_cons, if_pos ⟨hq, hc⟩]
      · rw [List.filterMap_cons_none (by rw [if_neg hc]), if_neg (fun h => hc h.2), List.nil_append]
    · rw [List.filter_cons_of_neg hq, if_neg (fun h => hq h.1), List.nil_append]

/-- the page → webentity dictionary of the first pass, read at a page entry -/
theorem pagesWe_get {s : State} {t : T} (h : Shape s t) (hp : ParOk s t 0) {p : LRU} {b : Nat}
    (hb : (p, b) ∈ t.entries s []) (hpg : (s.cell b).flags.page = true) :
    dictGet? (s.dfsWe.filter (fun bw => (s.cell bw.1).flags.page && decide (bw.2 ≠ 0))) b =
      if s.windupWe b = 0 then none else some (s.windupWe b) := by
  cases hg : dictGet? (s.dfsWe.filter (fun bw => (s.cell bw.1).flags.page && decide (bw.2 ≠ 0))) b with
  | some w =>
    have hm := List.mem_filter.mp (dictGet?_mem _ _ _ hg)
    have hw := dfsWe_windupWe h hp hm.1
    have hne : w ≠ 0 := by
      have := hm.2; simp only [Bool.and_eq_true, decide_eq_true_eq] at this; exact this.2
    rw [← hw, if_neg hne]
  | none =>
    by_cases h0 : s.windupWe b = 0
    · rw [if_pos h0]
    · exfalso
      have hm : (b, s.windupWe b) ∈ s.dfsWe.filter (fun bw => (s.cell bw.1).flags.page && decide (bw.2 ≠ 0)) :=
        List.mem_filter.mpr ⟨dfsWe_of_entry h hp hb, by simp [hpg, h0]⟩
      unfold dictGet? at hg
      rw [Option.map_eq_none_iff, List.find?_eq_none] at hg
      exact hg _ hm (by simp)

theorem network_eq {s : State} {t : T} {L : List (Bytes × Bytes)} (v : LinkView s t L) (out auto : Bool) :
    s.network out auto = netFold (·.1) netAdd s.netTally (s.netEvents out auto) := by
  have key := foldl_nested_eq (γ := List NetRow) (fun g e => netTouch g e.1 (netAdd e))
    (fun (sh : Nat × Nat) => s.weighted sh.2)
    (fun sh tw => evOf auto sh.1 (s.windupWe tw.1) tw.2)
    (fun sh g tw =>
      match dictGet? (s.dfsWe.filter (fun bw => (s.cell bw.1).flags.page && decide (bw.2 ≠ 0))) tw.1 with
      | none => g
      | some tWe =>
        if !auto && sh.1 = tWe then g
        else netTouch g sh.1 (fun r => { r with targets := counterAdd r.targets tWe tw.2 }))
    ((s.dfsWe.filter (fun bw => (s.cell bw.1).flags.page && decide (bw.2 ≠ 0))).filterMap (fun bw =>
      if (if out then (s.cell bw.1).out else (s.cell bw.1).inn) ≠ 0 then
        some (bw.2, if out then (s.cell bw.1).out else (s.cell bw.1).inn) else none))
    (by
      intro sh hsh tw htw g
      obtain ⟨bw, hbw, hsome⟩ := List.mem_filterMap.mp hsh
      by_cases hh : (if out then (s.cell bw.1).out else (s.cell bw.1).inn) ≠ 0
      · rw [if_pos hh] at hsome
        simp only [Option.some.injEq] at hsome
        subst hsome
        simp only at htw ⊢
        obtain ⟨hbw1, _⟩ := List.mem_filter.mp hbw
        obtain ⟨p, hpb, _⟩ := (dfsWe_mem_iff v.shape bw.1 bw.2).mp hbw1
        have hmem : tw.1 ∈ s.bag out bw.1 := by
          rw [bag_eq_walk s out bw.1 hh]
          exact ((weighted_spec s _ tw.1 tw.2).mp htw).1
        obtain ⟨q, hq, hqp⟩ := v.graph.bag_entry v.shape hmem
        rw [pagesWe_get v.shape v.par hq hqp, evOf_eq]
        by_cases h0 : s.windupWe tw.1 = 0
        · rw [if_pos h0, if_pos h0]; rfl
        · rw [if_neg h0, if_neg h0]
          simp only
          by_cases ha : (!auto && decide (bw.2 = s.windupWe tw.1)) = true
          · rw [if_pos ha, if_pos ha]; rfl
          · rw [if_neg ha, if_neg ha]; rfl
      · rw [if_neg hh] at hsome; cases hsome)
    s.netTally
  have hflat := flatMap_pointers (fun (bw : Nat × Nat) => (s.cell bw.1).flags.page && decide (bw.2 ≠ 0))
    (fun bw => (if out then (s.cell bw.1).out else (s.cell bw.1).inn) ≠ 0)
    (fun bw => (bw.2, if out then (s.cell bw.1).out else (s.cell bw.1).inn))
    (fun sh => (s.weighted sh.2).filterMap (fun tw => evOf auto sh.1 (s.windupWe tw.1) tw.2)) s.dfsWe
  unfold State.netEvents netFold
  rw [funext (blockEvents_def s out auto), ← hflat]
  exact key

end Traph

section
open Traph
#print axioms networkSlow_eq
#print axioms network_eq
end
