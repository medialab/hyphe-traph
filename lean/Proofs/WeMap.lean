import Proofs.PageSet
import Proofs.TrieEq
/-! The prefix map of an index, `s.weMap`. It is defined through the model's own look-up `lru_node`, so it
    does not mention the ghost tree; under `Shape s t`, `s.weMap p` is the `we` field of the entry of `p` in the
    finite map of `t` (`weMap_entry`). A step that keeps the entries with their `we` and adds only entries with `we` 0
    leaves it alone (`weMap_frame`); setting the `we` of an entry is a point update (`weMap_setWe`, as `mapSet`). -/
namespace Traph
open State Layout

/-- the webentity id attached to the stem path `p`, 0 if `p` carries none (or is not in the index) -/
def State.weMap (s : State) (p : LRU) : Nat :=
  if p = [] then 0 else
  match s.lruNode p with
  | some b => (s.cell b).we
  | none => 0

theorem weMap_nil (s : State) : s.weMap [] = 0 := by simp [State.weMap]

theorem weMap_entry {s : State} {t : T} (h : Shape s t) {p : LRU} {b : Nat}
    (hm : (p, b) ∈ t.entries s []) : s.weMap p = (s.cell b).we := by
  have hne := entry_ne_nil hm
  unfold State.weMap
  rw [if_neg hne, (lruNode_iff_entries h p hne b).mpr hm]

theorem weMap_not_entry {s : State} {t : T} (h : Shape s t) {p : LRU}
    (hn : ∀ b, (p, b) ∉ t.entries s []) : s.weMap p = 0 := by
  unfold State.weMap
  by_cases hne : p = []
  · rw [if_pos hne]
  · rw [if_neg hne]
    cases hl : s.lruNode p with
    | none => rfl
    | some b => exact absurd ((lruNode_iff_entries h p hne b).mp hl) (hn b)

theorem weMap_ne_zero {s : State} {t : T} (h : Shape s t) {p : LRU} (hw : s.weMap p ≠ 0) :
    ∃ b, (p, b) ∈ t.entries s [] ∧ (s.cell b).we = s.weMap p := by
  by_cases hex : ∃ b, (p, b) ∈ t.entries s []
  · obtain ⟨b, hb⟩ := hex
    exact ⟨b, hb, (weMap_entry h hb).symm⟩
  · exact absurd (weMap_not_entry h (fun b hb => hex ⟨b, hb⟩)) hw

theorem weMap_trie_eq {s s' : State} (e : s'.trie = s.trie) : s'.weMap = s.weMap := by
  funext p
  simp only [State.weMap, State.lruNode_of_trie_eq e, State.cell_of_trie_eq e]

theorem weMap_frame {s s' : State} {t t' : T} (h : Shape s t) (h' : Shape s' t')
    (keep : ∀ p b, (p, b) ∈ t.entries s [] → (p, b) ∈ t'.entries s' [])
    (old : ∀ p b, (p, b) ∈ t.entries s [] → (s'.cell b).we = (s.cell b).we)
    (new : ∀ p b, (p, b) ∈ t'.entries s' [] → (p, b) ∈ t.entries s [] ∨ (s'.cell b).we = 0) :
    s'.weMap = s.weMap := by
  funext p
  by_cases hex : ∃ b0, (p, b0) ∈ t.entries s []
  · obtain ⟨b0, hb0⟩ := hex
    rw [weMap_entry h hb0, weMap_entry h' (keep p b0 hb0), old p b0 hb0]
  · rw [weMap_not_entry h (fun b hb => hex ⟨b, hb⟩)]
    by_cases hex' : ∃ b, (p, b) ∈ t'.entries s' []
    · obtain ⟨b, hb⟩ := hex'
      rw [weMap_entry h' hb]
      rcases new p b hb with h1 | h1
      · exact absurd ⟨b, h1⟩ hex
      · exact h1
    · exact weMap_not_entry h' (fun b hb => hex' ⟨b, hb⟩)

theorem weMap_noStruct {s s' : State} {t : T} (h : Shape s t) (n : NoStruct s s')
    (hw : ∀ b, (s'.cell b).we = (s.cell b).we) : s'.weMap = s.weMap := by
  have e := n.entries t []
  exact weMap_frame h (n.shape h) (fun p b hm => by rw [e]; exact hm) (fun p b _ => hw b)
    (fun p b hm => Or.inl (by rw [e] at hm; exact hm))

theorem weMap_modCell {s : State} {t : T} (h : Shape s t) (i : Nat) (f : Cell → Cell)
    (hf : ∀ c, (f c).left = c.left ∧ (f c).right = c.right ∧ (f c).child = c.child ∧
      (f c).chunk = c.chunk ∧ (f c).flags.hasTail = c.flags.hasTail)
    (hw : ∀ c, (f c).we = c.we) : (s.modCell i f).weMap = s.weMap :=
  weMap_noStruct h (noStruct_modCell s i f hf) (fun b => by rw [cell_modCell]; split <;> simp [hw])

/-- `remove_webentity_creation_rule` changes the RAM rules and one rule flag at most -/
theorem noStruct_removeRule (s : State) (a : Bytes) :
    NoStruct s (s.removeRule a).1 ∧ ∀ b, ((s.removeRule a).1.cell b).we = (s.cell b).we := by
  unfold removeRule
  split
  · exact ⟨.refl s, fun _ => rfl⟩
  · dsimp only
    split
    · exact ⟨noStruct_of_trie_eq rfl, fun _ => rfl⟩
    · exact ⟨(noStruct_of_trie_eq rfl).trans (noStruct_modCell _ _ _ fun _ => ⟨rfl, rfl, rfl, rfl, rfl⟩),
        fun b => by rw [cell_modCell]; split <;> rfl⟩

/-- `add_lru` leaves the map alone: old nodes keep their id, fresh nodes have none -/
theorem weMap_addLru {s : State} {t : T} (h : Shape s t) (stems : LRU) (flag : Bool) :
    (s.addLru stems flag).1.weMap = s.weMap := by
  by_cases hne : stems = []
  · subst hne; rw [addLru_nil]
  · obtain ⟨t', g, _⟩ := addLru_grow h stems flag hne
    have a := attrStep_addLru s stems flag
    exact weMap_frame h g.shape g.keep (fun p b hm => (a.old b (entry_lt h hm)).we)
      (fun p b hm => by
        rcases g.new p b hm with h1 | ⟨hb, _⟩
        · exact Or.inl h1
        · exact Or.inr (a.new b hb).we)

theorem weMap_setWe {s : State} {t : T} (h : Shape s t) {q : LRU} {n : Nat}
    (hm : (q, n) ∈ t.entries s []) (v : Nat) :
    (s.modCell n (fun c => { c with we := v })).weMap = fun p => if p = q then v else s.weMap p := by
  have ns : NoStruct s (s.modCell n (fun c => { c with we := v })) :=
    noStruct_modCell s n _ (fun _ => ⟨rfl, rfl, rfl, rfl, rfl⟩)
  have h' := ns.shape h
  have e := ns.entries t []
  have hlt := entry_lt h hm
  funext p
  by_cases hpq : p = q
  · subst hpq
    rw [if_pos rfl, weMap_entry h' (by rw [e]; exact hm), cell_modCell, if_pos ⟨rfl, hlt⟩]
  · rw [if_neg hpq]
    by_cases hex : ∃ b, (p, b) ∈ t.entries s []
    · obtain ⟨b, hb⟩ := hex
      rw [weMap_entry h hb, weMap_entry h' (by rw [e]; exact hb), cell_modCell, if_neg]
      rintro ⟨rfl, _⟩
      exact hpq (entries_addr_injective h.nodup hb hm)
    · rw [weMap_not_entry h (fun b hb => hex ⟨b, hb⟩),
        weMap_not_entry h' (fun b hb => hex ⟨b, by rw [e] at hb; exact hb⟩)]

theorem weMap_rulePrologue {s : State} {t : T} (h : Shape s t) (anchor : Bytes) (r : Rule) :
    (s.rulePrologue anchor r).1.weMap = s.weMap := by
  have k0 : Keeps s t { s with rules := dictSet s.rules anchor r } t := Keeps.of_trie_eq h rfl
  have w0 : ({ s with rules := dictSet s.rules anchor r } : State).weMap = s.weMap := weMap_trie_eq rfl
  unfold State.rulePrologue
  generalize ({ s with rules := dictSet s.rules anchor r } : State) = s0 at k0 w0 ⊢
  obtain ⟨t1, k1, _⟩ := keeps_addLruIter k0.shape anchor false
  simp only
  rw [weMap_modCell k1.shape, weMap_addLru k0.shape, w0]
  · intro c; exact ⟨rfl, rfl, rfl, rfl, rfl⟩
  · intro c; rfl

def mapSet (M : LRU → Nat) (q : LRU) (v : Nat) : LRU → Nat := fun p => if p = q then v else M p

theorem mapSet_same (M : LRU → Nat) (q : LRU) (v : Nat) : mapSet M q v q = v := by simp [mapSet]
theorem mapSet_other (M : LRU → Nat) {p q : LRU} (v : Nat) (h : p ≠ q) : mapSet M q v p = M p := by
  simp [mapSet, h]

theorem mapSet_self (M : LRU → Nat) (q : LRU) : mapSet M q (M q) = M := by
  funext p; unfold mapSet; split
  · rename_i e; rw [e]
  · rfl

end Traph
