import Proofs.PagApi
import Proofs.PagLinksApi
import Proofs.PagInsert
/-! C09 / C10 with write requests between two calls.

    A token issued in a state `s` is fed back in a later state `s'` (any history of well-formed write requests
    without `clear` and `KeyError` in between: insertions of pages and links, but also webentity and rule requests). The call does
    not fail, and the episode continued in `s'` returns exactly: the pages (resp. the links of the pages) of
    the *current* walk of the token's prefix that sort after the token's page, then those of the later
    prefixes. So nothing already delivered is delivered again (everything delivered before lies in an
    earlier prefix or sorts at or before the token's page), nothing lying after the token's page is skipped,
    and what was inserted behind the token's page in the meantime is included. -/
namespace Traph
open State Pag

theorem allOk_later {s s' : State} {t t' : T} (h : Shape s t) (hl : Later s t s' t') {ps : List Bytes}
    (hok : AllOk s ps) : AllOk s' ps := by
  apply allOk_of_shape hl.shape hl.wf
  intro p hp
  obtain ⟨n, hn, _⟩ := hok p hp
  rw [lruNode_later h hl hn]; rfl

/-- where a token of `s` leads in a later state `s'`: the prefix `p` it belongs to, the prefixes `tl` behind
    it, and the tail of the walk of `s'` the resumed loop runs over -/
theorem later_tail {s s' : State} {t t' : T} (h : Shape s t) (hw : WfStems s t) (hl : Later s t s' t')
    {ps : List Bytes} (hok : AllOk s ps) (pre : List GX) (x : GX) (post : List GX)
    (hG : gItems s (enumFrom 0 ps) = pre ++ x :: post) :
    ∃ p tl n, ps.drop x.1 = p :: tl ∧ p ∈ ps ∧ (∀ q ∈ tl, q ∈ ps) ∧
      (enumFrom 0 ps).drop x.1 = (x.1, p) :: enumFrom (x.1 + 1) tl ∧
      s'.lruNode (lruIter p) = some n ∧
      s'.weInorder n p (some x.2.2.2) = some ((walkOf s' p).filter (fun y => lexLt x.2.2.1 y.2.1)) ∧
      ∃ pre', gItems s' (enumFrom 0 ps) = pre' ++
        (((walkOf s' p).filter (fun y => lexLt x.2.2.1 y.2.1)).map (fun it => (x.1, it))
          ++ gItems s' (enumFrom (x.1 + 1) tl)) := by
  obtain ⟨p, tl, L0, L1, _, htl, hdrop, hL, _⟩ := gItems_split s ps 0 pre x post hG
  rw [Nat.sub_zero] at htl hdrop
  have hp : p ∈ ps := List.mem_of_mem_drop (htl ▸ List.mem_cons_self)
  obtain ⟨n, hn, _⟩ := hok p hp
  have hn' := lruNode_later h hl hn
  have hit : x.2 ∈ walkOf s p := by rw [hL]; simp
  have hres := walk_resume_later h hw hl hn hit
  have hok' := allOk_later h hl hok
  obtain ⟨n'', hn'', hw''⟩ := hok' p hp
  refine ⟨p, tl, n, htl, hp, ?_, hdrop, hn', hres, ?_⟩
  · intro q hq
    exact List.mem_of_mem_drop (i := x.1) (by rw [htl]; simp [hq])
  · refine ⟨gItems s' ((enumFrom 0 ps).take x.1) ++
      ((walkOf s' p).filter (fun y => !lexLt x.2.2.1 y.2.1)).map (fun it => (x.1, it)), ?_⟩
    have e1 : enumFrom 0 ps = (enumFrom 0 ps).take x.1 ++ (x.1, p) :: enumFrom (x.1 + 1) tl := by
      rw [← hdrop, List.take_append_drop]
    have e2 := sorted_partition x.2.2.1 (walkOf s' p) hw''.sorted
    conv => lhs; rw [e1, gItems_append, gItems]
    conv => lhs; rw [e2]
    simp only [List.map_append, List.append_assoc]

/-- C09, writes between two calls: the token of any item `x` of the walk of `s` (in particular every token
    `paginate_webentity_pages` issued in `s`), fed back in a later state `s'`, starts an episode none of whose
    calls fails, returning exactly the pages of `s'` that sort after `x` in the prefix of `x`, in ascending
    order, followed by the pages of the later prefixes -/
theorem C09_resume_after_writes {s s' : State} {t t' : T} (h : Shape s t) (hi : Inv s t)
    (hl : Later s t s' t') {ps : List Bytes} {all : List (Bytes × Bool)}
    (hall : s.webentityPages ps = .ok all) (crawledOnly : Bool) (count : Nat) (hc : 1 ≤ count)
    (pre : List GX) (x : GX) (post : List GX) (hG : gItems s (enumFrom 0 ps) = pre ++ x :: post) :
    ∃ p tl chunks, ps.drop x.1 = p :: tl ∧
      PageEpisode s' ps crawledOnly count (some (buildToken x.1 x.2.2.2)) chunks ∧
      chunks.flatMap (·.pages)
        = ((walkOf s' p).filter (fun y => lexLt x.2.2.1 y.2.1)).flatMap
            (fun it => pgOut s' crawledOnly (it.1, it.2.1))
          ++ tl.flatMap (pagesOfPrefix s' crawledOnly) ∧
      (∀ ch ∈ chunks.dropLast, ch.pages.length = count) := by
  have hok : AllOk s ps := allOk_of_answered h hi hall
  have hok' := allOk_later h hl hok
  obtain ⟨p, tl, n, htl, hp, htlps, hdrop, hn', hres, hpre'⟩ := later_tail h hi.wf hl hok pre x post hG
  have hpf : PfxOk s' (enumFrom (x.1 + 1) tl) :=
    pfxOk_of_allOk (fun q hq => hok' q (htlps q hq)) (x.1 + 1)
  have hcall : s'.paginatePages ps (some count) (some (buildToken x.1 x.2.2.2)) crawledOnly
      = mkPage (gRun (pageCls s' crawledOnly) count
          (((walkOf s' p).filter (fun y => lexLt x.2.2.1 y.2.1)).map (fun it => (x.1, it))
            ++ gItems s' (enumFrom (x.1 + 1) tl)) {}) := by
    simp only [paginatePages, buildToken_ne_nil, parseToken_buildToken, Option.map, Bool.false_eq_true, if_false]
    rw [hdrop]
    exact (pagesLoop s' crawledOnly count).resume x.1 p _ {} pinv_init hpf hn' hres
  obtain ⟨chunks, _, hep, _, _, a1, a2, _⟩ := pageEpisode_from hok' crawledOnly count hc _ _ hcall hpre'
  refine ⟨p, tl, chunks, htl, hep, ?_, fun ch hch => (a2 ch hch).2.1⟩
  rw [a1, pageCls_outs_eq, List.flatMap_append, List.flatMap_map,
    gItems_flatMap s' (fun it => pgOut s' crawledOnly (it.1, it.2.1)) tl (x.1 + 1)]
  rfl

/-- the same for a history of write requests: any well-formed requests without `clear` and without
    `KeyError` answer between the call that issued the token and the call that uses it -/
theorem C09_resume_after_run {s : State} {t : T} (h : Shape s t) (hi : Inv s t) (hlive : Live s)
    (ops : List Op) (hop : ∀ op ∈ ops, ∀ d rs, op ≠ .clear d rs) (hwf : ∀ op ∈ ops, OpWf op)
    (hok : NoKeyErr s ops) {ps : List Bytes} {all : List (Bytes × Bool)}
    (hall : s.webentityPages ps = .ok all) (crawledOnly : Bool) (count : Nat) (hc : 1 ≤ count)
    (pre : List GX) (x : GX) (post : List GX) (hG : gItems s (enumFrom 0 ps) = pre ++ x :: post) :
    ∃ p tl chunks, ps.drop x.1 = p :: tl ∧
      PageEpisode (s.run ops) ps crawledOnly count (some (buildToken x.1 x.2.2.2)) chunks ∧
      chunks.flatMap (·.pages)
        = ((walkOf (s.run ops) p).filter (fun y => lexLt x.2.2.1 y.2.1)).flatMap
            (fun it => pgOut (s.run ops) crawledOnly (it.1, it.2.1))
          ++ tl.flatMap (pagesOfPrefix (s.run ops) crawledOnly) ∧
      (∀ ch ∈ chunks.dropLast, ch.pages.length = count) := by
  obtain ⟨t', hl, _⟩ := later_run h hi hlive ops hop hwf hok
  exact C09_resume_after_writes h hi hl hall crawledOnly count hc pre x post hG

/-- C10, writes between two calls: the token of any item `x` of the walk of `s` (in particular every token
    `paginate_webentity_pagelinks` issued in `s`), fed back in a later state `s'`, starts an episode none of
    whose calls fails, returning exactly the links of the pages of `s'` that sort after `x` in the prefix of
    `x`, followed by the links of the pages of the later prefixes -/
theorem C10_resume_after_writes {s s' : State} {t t' : T} (h : Shape s t) (hi : Inv s t)
    (hl : Later s t s' t') {weid : Nat} {ps : List Bytes} {incInt incOut : Bool} {all : List PageLink}
    (hall : s.webentityPagelinks weid ps false incInt incOut = .ok all) (count : Nat) (hc : 1 ≤ count)
    (pre : List GX) (x : GX) (post : List GX) (hG : gItems s (enumFrom 0 ps) = pre ++ x :: post) :
    ∃ p tl chunks, ps.drop x.1 = p :: tl ∧
      LinkEpisode s' weid ps incInt incOut count (some (buildToken x.1 x.2.2.2)) chunks ∧
      chunks.flatMap (·.links)
        = ((walkOf s' p).filter (fun y => lexLt x.2.2.1 y.2.1)).flatMap
            (fun it => srcLinks s' weid incInt incOut (it.1, it.2.1))
          ++ tl.flatMap (fun q => (walkOf s' q).flatMap (fun it => srcLinks s' weid incInt incOut (it.1, it.2.1))) ∧
      (∀ ch ∈ chunks.dropLast, ch.sourcePages = count) := by
  obtain ⟨hsw, hok⟩ := pagelinks_answered h hi hall
  have hok' := allOk_later h hl hok
  obtain ⟨p, tl, n, htl, hp, htlps, hdrop, hn', hres, hpre'⟩ := later_tail h hi.wf hl hok pre x post hG
  have hpf : PfxOk s' (enumFrom (x.1 + 1) tl) :=
    pfxOk_of_allOk (fun q hq => hok' q (htlps q hq)) (x.1 + 1)
  have hsw' := switches_on hsw
  have hcall : s'.paginateLinks weid ps incInt incOut (some count) (some (buildToken x.1 x.2.2.2))
      = mkLink (gRun (linkCls s' weid incInt incOut) count
          (((walkOf s' p).filter (fun y => lexLt x.2.2.1 y.2.1)).map (fun it => (x.1, it))
            ++ gItems s' (enumFrom (x.1 + 1) tl)) {}) := by
    simp only [paginateLinks, hsw', Bool.false_eq_true, if_false, buildToken_ne_nil, parseToken_buildToken,
      Option.map]
    rw [hdrop]
    exact (linksLoop s' weid incInt incOut count).resume x.1 p _ {} trivial hpf hn' hres
  obtain ⟨chunks, _, hep, _, _, a1, a2, _⟩ :=
    linkEpisode_from hok' weid incInt incOut hsw count hc _ _ hcall hpre'
  refine ⟨p, tl, chunks, htl, hep, ?_, fun ch hch => (a2 ch hch).2.1⟩
  rw [a1, linkCls_outs_eq, List.flatMap_append, List.flatMap_map,
    gItems_flatMap s' (fun it => srcLinks s' weid incInt incOut (it.1, it.2.1)) tl (x.1 + 1)]

theorem C10_resume_after_run {s : State} {t : T} (h : Shape s t) (hi : Inv s t) (hlive : Live s)
    (ops : List Op) (hop : ∀ op ∈ ops, ∀ d rs, op ≠ .clear d rs) (hwf : ∀ op ∈ ops, OpWf op)
    (hok : NoKeyErr s ops) {weid : Nat} {ps : List Bytes} {incInt incOut : Bool} {all : List PageLink}
    (hall : s.webentityPagelinks weid ps false incInt incOut = .ok all) (count : Nat) (hc : 1 ≤ count)
    (pre : List GX) (x : GX) (post : List GX) (hG : gItems s (enumFrom 0 ps) = pre ++ x :: post) :
    ∃ p tl chunks, ps.drop x.1 = p :: tl ∧
      LinkEpisode (s.run ops) weid ps incInt incOut count (some (buildToken x.1 x.2.2.2)) chunks ∧
      chunks.flatMap (·.links)
        = ((walkOf (s.run ops) p).filter (fun y => lexLt x.2.2.1 y.2.1)).flatMap
            (fun it => srcLinks (s.run ops) weid incInt incOut (it.1, it.2.1))
          ++ tl.flatMap (fun q => (walkOf (s.run ops) q).flatMap
              (fun it => srcLinks (s.run ops) weid incInt incOut (it.1, it.2.1))) ∧
      (∀ ch ∈ chunks.dropLast, ch.sourcePages = count) := by
  obtain ⟨t', hl, _⟩ := later_run h hi hlive ops hop hwf hok
  exact C10_resume_after_writes h hi hl hall count hc pre x post hG

/-! The model on a concrete index: webentity 1 with prefix `x|`, pages `x|1|`, `x|3|`. The first call (one page)
    returns `x|1|` and a token. Then `x|0|` and `x|2|` are inserted. The token, fed back, yields `x|2|` and `x|3|`: the
    page inserted behind the resume point is delivered, the one inserted before it is not, nothing is repeated. -/
section Examples

private def exX : Bytes := [120, 124]
private def exPg (l : List Nat) : Bytes := exX ++ l ++ [124]
private def exS : State :=
  (State.fresh {} .never [] []).1.run [.create [exX], .addPage (exPg [49]) false, .addPage (exPg [51]) false]
private def exS' : State := exS.run [.addPage (exPg [48]) false, .addPage (exPg [50]) true]

/-- the model run once; the examples below read the answers off -/
private theorem exS_eval :
    (exS.paginatePages [exX] (some 1) none false).toOption.map (fun c => (c.pages, c.token))
      = some ([(exPg [49], false)], some [48, 35, 50]) ∧
    (episodePages exS' [exX] false 1 3 (some [48, 35, 50])).map (fun cs => cs.map (·.pages))
      = some [[(exPg [50], true)], [(exPg [51], false)]] ∧
    (exS'.webentityPages [exX]).toOption.map (fun l => l.map (·.1))
      = some [exPg [49], exPg [48], exPg [51], exPg [50]] := by decide +kernel

example : (exS.paginatePages [exX] (some 1) none false).toOption.map (fun c => (c.pages, c.token))
    = some ([(exPg [49], false)], some [48, 35, 50]) := exS_eval.1
example : (episodePages exS' [exX] false 1 3 (some [48, 35, 50])).map (fun cs => cs.map (·.pages))
    = some [[(exPg [50], true)], [(exPg [51], false)]] := exS_eval.2.1
example : (exS'.webentityPages [exX]).toOption.map (fun l => l.map (·.1))
    = some [exPg [49], exPg [48], exPg [51], exPg [50]] := exS_eval.2.2

end Examples

end Traph

section
open Traph
#print axioms C09_resume_after_writes
#print axioms C09_resume_after_run
#print axioms C10_resume_after_writes
#print axioms C10_resume_after_run
end
