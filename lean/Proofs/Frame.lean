import Proofs.TrieEq
import Traph.Crash
/-! Heap order `s ⊑ s'`: the monotone history of the two stores. Nodes are never moved or
    deleted; the only mutations are: append a block, change a null pointer to non-null, set flag bits,
    set/clear the webentity id, move a list head. Every primitive write of every operation is
    ⊑-increasing; the order is reflexive and transitive, so every operation is. Also here: `Kept π` and `Trace`. -/
namespace Traph
open State

/-- what may happen to one trie block over time -/
structure CellLe (c c' : Cell) : Prop where
  chunk   : c'.chunk = c.chunk
  parent  : c'.parent = c.parent
  hasTail : c'.flags.hasTail = c.flags.hasTail
  isTail  : c'.flags.isTail = c.flags.isTail
  page    : c.flags.page = true → c'.flags.page = true
  crawled : c.flags.crawled = true → c'.flags.crawled = true
  noChild : c'.flags.noChild = true → c.flags.noChild = true
  left    : c.left ≠ 0 → c'.left = c.left
  right   : c.right ≠ 0 → c'.right = c.right
  child   : c.child ≠ 0 → c'.child = c.child

theorem CellLe.refl (c : Cell) : CellLe c c :=
  ⟨rfl, rfl, rfl, rfl, id, id, id, fun _ => rfl, fun _ => rfl, fun _ => rfl⟩

theorem CellLe.trans {a b c : Cell} (h1 : CellLe a b) (h2 : CellLe b c) : CellLe a c where
  chunk := h2.chunk.trans h1.chunk
  parent := h2.parent.trans h1.parent
  hasTail := h2.hasTail.trans h1.hasTail
  isTail := h2.isTail.trans h1.isTail
  page := fun h => h2.page (h1.page h)
  crawled := fun h => h2.crawled (h1.crawled h)
  noChild := fun h => h1.noChild (h2.noChild h)
  left := fun h => by rw [h2.left (by rw [h1.left h]; exact h), h1.left h]
  right := fun h => by rw [h2.right (by rw [h1.right h]; exact h), h1.right h]
  child := fun h => by rw [h2.child (by rw [h1.child h]; exact h), h1.child h]

structure Le (s s' : State) : Prop where
  cells : ∀ (i : Nat) (c : Cell), s.trie[i]? = some c → ∃ c', s'.trie[i]? = some c' ∧ CellLe c c'
  stubs : ∀ (i : Nat) (b : Stub), s.links[i]? = some b → s'.links[i]? = some b

infix:50 " ⊑ " => Le

theorem Le.size {s s' : State} (h : s ⊑ s') : s.trie.size ≤ s'.trie.size :=
  Nat.le_of_not_lt fun hlt => by
    obtain ⟨_, hc', _⟩ := h.cells s'.trie.size _ (Array.getElem?_eq_getElem hlt)
    exact Nat.lt_irrefl _ (Array.getElem?_eq_some_iff.mp hc').1

theorem Le.lsize {s s' : State} (h : s ⊑ s') : s.links.size ≤ s'.links.size :=
  Nat.le_of_not_lt fun hlt =>
    Nat.lt_irrefl _ (Array.getElem?_eq_some_iff.mp (h.stubs s'.links.size _ (Array.getElem?_eq_getElem hlt))).1

theorem Le.of_eq {s s' : State} (ht : s'.trie = s.trie) (hl : s'.links = s.links) : s ⊑ s' :=
  ⟨fun i c h => ⟨c, by rw [ht]; exact h, CellLe.refl c⟩, fun i b h => by rw [hl]; exact h⟩

def State.files (s : State) : Files := { hdrId := s.hdrId, trie := s.trie, links := s.links }

def Files.Le (f g : Files) : Prop :=
  (∀ (i : Nat) (c : Cell), f.trie[i]? = some c → ∃ c', g.trie[i]? = some c' ∧ CellLe c c') ∧
  (∀ (i : Nat) (b : Stub), f.links[i]? = some b → g.links[i]? = some b)

theorem Files.Le.refl (f : Files) : Files.Le f f :=
  ⟨fun _ c h => ⟨c, h, CellLe.refl c⟩, fun _ _ h => h⟩

theorem Files.Le.trans {f g h : Files} (h1 : Files.Le f g) (h2 : Files.Le g h) : Files.Le f h :=
  ⟨fun i x hx => by
      obtain ⟨y, hy, l1⟩ := h1.1 i x hx
      obtain ⟨z, hz, l2⟩ := h2.1 i y hy
      exact ⟨z, hz, l1.trans l2⟩,
   fun i x hx => h2.2 i x (h1.2 i x hx)⟩

theorem Le.files {s s' : State} (h : s ⊑ s') : Files.Le s.files s'.files := ⟨h.cells, h.stubs⟩

theorem Files.Le.of_files {s s' : State} (h : Files.Le s.files s'.files) : s ⊑ s' := ⟨h.1, h.2⟩

theorem Le.refl (s : State) : s ⊑ s := Files.Le.of_files (.refl _)

theorem Le.trans {a b c : State} (h1 : a ⊑ b) (h2 : b ⊑ c) : a ⊑ c :=
  Files.Le.of_files (h1.files.trans h2.files)

def Write.Mono (f : Files) : Write → Prop
  | .trieSet i c => ∃ c0, f.trie[i]? = some c0 ∧ CellLe c0 c
  | _ => True

theorem Files.le_apply {f : Files} {w : Write} (h : w.Mono f) : Files.Le f (f.apply w) := by
  cases w with
  | hdr id =>
    refine ⟨fun i c hc => ⟨c, ?_, CellLe.refl c⟩, fun _ _ hb => hb⟩
    have : ¬ f.trie.size = 0 := Nat.ne_of_gt (Nat.zero_lt_of_lt (Array.getElem?_eq_some_iff.mp hc).1)
    simp only [Files.apply, if_neg this]; exact hc
  | trieAppend c =>
    refine ⟨fun i x hx => ⟨x, ?_, CellLe.refl x⟩, fun _ _ hb => hb⟩
    simp only [Files.apply, Array.getElem?_push]
    rw [if_neg (Nat.ne_of_lt (Array.getElem?_eq_some_iff.mp hx).1)]; exact hx
  | trieSet i c =>
    obtain ⟨c0, h0, hle⟩ := h
    refine ⟨fun j x hx => ?_, fun _ _ hb => hb⟩
    simp only [Files.apply, Array.getElem?_setIfInBounds]
    by_cases hij : i = j
    · subst hij
      rw [h0] at hx; cases hx
      exact ⟨c, by rw [if_pos rfl, if_pos (Array.getElem?_eq_some_iff.mp h0).1], hle⟩
    · exact ⟨x, by rw [if_neg hij]; exact hx, CellLe.refl x⟩
  | linkHdr =>
    refine ⟨fun i c hc => ⟨c, hc, CellLe.refl c⟩, fun i b hb => ?_⟩
    have : ¬ f.links.size = 0 := Nat.ne_of_gt (Nat.zero_lt_of_lt (Array.getElem?_eq_some_iff.mp hb).1)
    simp only [Files.apply, if_neg this]; exact hb
  | linkAppend b =>
    refine ⟨fun i c hc => ⟨c, hc, CellLe.refl c⟩, fun i x hx => ?_⟩
    simp only [Files.apply, Array.getElem?_push]
    rw [if_neg (Nat.ne_of_lt (Array.getElem?_eq_some_iff.mp hx).1)]; exact hx

theorem le_appendCell (s : State) (c : Cell) : s ⊑ (s.appendCell c).1 :=
  Files.Le.of_files (Files.le_apply (f := s.files) (w := .trieAppend c) trivial)

theorem le_appendStub (s : State) (b : Stub) : s ⊑ (s.appendStub b).1 :=
  Files.Le.of_files (Files.le_apply (f := s.files) (w := .linkAppend b) trivial)

theorem le_setHdr (s : State) (id : Nat) : s ⊑ s.setHdr id := Le.of_eq rfl rfl

theorem le_modCell (s : State) (i : Nat) (f : Cell → Cell) (hf : ∀ c, s.trie[i]? = some c → CellLe c (f c)) :
    s ⊑ s.modCell i f := by
  unfold modCell
  cases hi : s.trie[i]? with
  | none => exact Le.refl s
  | some c => exact Files.Le.of_files (Files.le_apply (f := s.files) (w := .trieSet i (f c)) ⟨c, hi, hf c hi⟩)

theorem cell_of_getElem? {s : State} {i : Nat} {c : Cell} (h : s.trie[i]? = some c) : s.cell i = c := by
  unfold cell; rw [h]; rfl

theorem getElem?_cell {s : State} {i : Nat} (h : i < s.trie.size) : s.trie[i]? = some (s.cell i) := by
  unfold cell; rw [Array.getElem?_eq_getElem h]; rfl

theorem cell_of_size_le (s : State) (b : Nat) (h : s.trie.size ≤ b) : s.cell b = {} := by
  unfold cell; rw [Array.getElem?_eq_none h]; rfl

/-- the files of a new index hold the header slot only -/
theorem cell_of_trie_init {s : State} (h : s.trie = #[{}]) (b : Nat) : s.cell b = {} := by
  unfold cell; rw [h]; cases b <;> rfl

@[simp] theorem trie_modCell_size (s : State) (i : Nat) (f : Cell → Cell) : (s.modCell i f).trie.size = s.trie.size := by
  unfold modCell; cases s.trie[i]? <;> simp [setCell]

/-- a component of the state that the writes into the trie file leave alone: neither appending a block nor
    rewriting one changes `π s`. The link file, the id counter, the RAM rules, the default rule and the
    configuration are such components. -/
structure Kept {β : Type} (π : State → β) : Prop where
  appendCell : ∀ s c, π (s.appendCell c).1 = π s
  setCell : ∀ s i c, π (s.setCell i c) = π s

theorem Kept.modCell {β : Type} {π : State → β} (K : Kept π) (s : State) (i : Nat) (f : Cell → Cell) :
    π (s.modCell i f) = π s := by
  unfold State.modCell
  split
  · rfl
  · exact K.setCell s i _

theorem Kept.appendCells {β : Type} {π : State → β} (K : Kept π) (cs : List Cell) (s : State) :
    π (s.appendCells cs) = π s := by
  induction cs generalizing s with
  | nil => rfl
  | cons c cs ih => rw [State.appendCells, ih, K.appendCell]

theorem Kept.writeNew {β : Type} {π : State → β} (K : Kept π) (s : State) (stem : Stem) (p : Nat) (c : Bool) :
    π (s.writeNew stem p c).1 = π s := by
  unfold State.writeNew
  exact (K.appendCells _ _).trans (K.appendCell s _)

theorem kept_links : Kept State.links := ⟨fun _ _ => rfl, fun _ _ _ => rfl⟩
theorem kept_hdrId : Kept State.hdrId := ⟨fun _ _ => rfl, fun _ _ _ => rfl⟩
theorem kept_rules : Kept State.rules := ⟨fun _ _ => rfl, fun _ _ _ => rfl⟩
theorem kept_dflt : Kept State.dflt := ⟨fun _ _ => rfl, fun _ _ _ => rfl⟩
theorem kept_cfg : Kept State.cfg := ⟨fun _ _ => rfl, fun _ _ _ => rfl⟩

@[simp] theorem links_modCell (s : State) (i : Nat) (f : Cell → Cell) : (s.modCell i f).links = s.links :=
  kept_links.modCell s i f

@[simp] theorem hdrId_modCell (s : State) (i : Nat) (f : Cell → Cell) : (s.modCell i f).hdrId = s.hdrId :=
  kept_hdrId.modCell s i f

@[simp] theorem rules_modCell (s : State) (i : Nat) (f : Cell → Cell) : (s.modCell i f).rules = s.rules :=
  kept_rules.modCell s i f

@[simp] theorem dflt_modCell (s : State) (i : Nat) (f : Cell → Cell) : (s.modCell i f).dflt = s.dflt :=
  kept_dflt.modCell s i f

@[simp] theorem cfg_modCell (s : State) (i : Nat) (f : Cell → Cell) : (s.modCell i f).cfg = s.cfg :=
  kept_cfg.modCell s i f

theorem getElem?_modCell (s : State) (i j : Nat) (f : Cell → Cell) :
    (s.modCell i f).trie[j]? = if i = j then (s.trie[j]?).map f else s.trie[j]? := by
  unfold modCell
  cases hi : s.trie[i]? with
  | none =>
    by_cases hij : i = j
    · subst hij; simp [hi]
    · simp [hij]
  | some c =>
    simp only [setCell]
    rw [Array.getElem?_setIfInBounds]
    by_cases hij : i = j
    · subst hij
      have hlt := (Array.getElem?_eq_some_iff.mp hi).1
      have hget := (Array.getElem?_eq_some_iff.mp hi).2
      simp [hlt, hget]
    · simp [hij]

theorem cell_modCell (s : State) (i j : Nat) (f : Cell → Cell) :
    (s.modCell i f).cell j = if i = j ∧ j < s.trie.size then f (s.cell j) else s.cell j := by
  unfold cell
  rw [getElem?_modCell]
  by_cases hij : i = j
  · subst hij
    by_cases hlt : i < s.trie.size <;> simp [hlt]
  · simp [hij]

@[simp] theorem trie_appendCell (s : State) (c : Cell) : (s.appendCell c).1.trie = s.trie.push c := rfl
@[simp] theorem snd_appendCell (s : State) (c : Cell) : (s.appendCell c).2 = s.trie.size := rfl
@[simp] theorem links_appendCell' (s : State) (c : Cell) : (s.appendCell c).1.links = s.links := rfl
@[simp] theorem hdrId_appendCell (s : State) (c : Cell) : (s.appendCell c).1.hdrId = s.hdrId := rfl
@[simp] theorem rules_appendCell (s : State) (c : Cell) : (s.appendCell c).1.rules = s.rules := rfl
@[simp] theorem dflt_appendCell (s : State) (c : Cell) : (s.appendCell c).1.dflt = s.dflt := rfl
@[simp] theorem cfg_appendCell (s : State) (c : Cell) : (s.appendCell c).1.cfg = s.cfg := rfl

/-! `Trace s s'`: `s'` is reached from `s` by primitive storage writes, each increasing where it is applied, and changes
that touch neither file nor the ghost write log `State.log`. Every change a request is made of is stated as a `Trace`,
so that both `⊑` (`Trace.le`) and the list of the writes (`Trace.writes`, TraceCore) can be read off it. -/

inductive Trace : State → State → Prop
  | refl (s) : Trace s s
  | ram {s s1 s2} : Trace s s1 → s2.trie = s1.trie → s2.links = s1.links → s2.hdrId = s1.hdrId →
      s2.log = s1.log → Trace s s2
  | appendCell {s s1} (c : Cell) : Trace s s1 → Trace s (s1.appendCell c).1
  | modCell {s s1} (i : Nat) (f : Cell → Cell) : Trace s s1 →
      (∀ c, s1.trie[i]? = some c → CellLe c (f c)) → Trace s (s1.modCell i f)
  | appendStub {s s1} (b : Stub) : Trace s s1 → Trace s (s1.appendStub b).1
  | setHdr {s s1} (id : Nat) : Trace s s1 → Trace s (s1.setHdr id)

theorem Trace.trans {a b c : State} (h1 : Trace a b) (h2 : Trace b c) : Trace a c := by
  induction h2 with
  | refl => exact h1
  | ram _ e1 e2 e3 e4 ih => exact Trace.ram ih e1 e2 e3 e4
  | appendCell c _ ih => exact Trace.appendCell c ih
  | modCell i f _ hf ih => exact Trace.modCell i f ih hf
  | appendStub b _ ih => exact Trace.appendStub b ih
  | setHdr id _ ih => exact Trace.setHdr id ih

theorem Trace.le {s s' : State} (h : Trace s s') : s ⊑ s' := by
  induction h with
  | refl => exact Le.refl _
  | ram _ e1 e2 _ _ ih => exact ih.trans (Le.of_eq e1 e2)
  | appendCell c _ ih => exact ih.trans (le_appendCell _ c)
  | modCell i f _ hf ih => exact ih.trans (le_modCell _ i f hf)
  | appendStub b _ ih => exact ih.trans (le_appendStub _ b)
  | setHdr id _ ih => exact ih.trans (le_setHdr _ id)

theorem Trace.of_eq {s s' : State} (ht : s'.trie = s.trie) (hl : s'.links = s.links)
    (hh : s'.hdrId = s.hdrId) (hlog : s'.log = s.log) : Trace s s' :=
  Trace.ram (Trace.refl s) ht hl hh hlog

theorem trace_appendCell (s : State) (c : Cell) : Trace s (s.appendCell c).1 :=
  Trace.appendCell c (Trace.refl s)

theorem trace_appendStub (s : State) (b : Stub) : Trace s (s.appendStub b).1 :=
  Trace.appendStub b (Trace.refl s)

theorem trace_setHdr (s : State) (id : Nat) : Trace s (s.setHdr id) :=
  Trace.setHdr id (Trace.refl s)

theorem trace_modCell (s : State) (i : Nat) (f : Cell → Cell)
    (hf : ∀ c, s.trie[i]? = some c → CellLe c (f c)) : Trace s (s.modCell i f) :=
  Trace.modCell i f (Trace.refl s) hf

end Traph
