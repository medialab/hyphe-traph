import Proofs.LinkBagQuery
/-! C03 at the level of whole request histories: the state a `clear`-free history of well-formed requests with no
    `KeyError` reaches satisfies `LinkView` for the links
    the history submitted (`view_run`), so every reading theorem of Proofs/LinkBagQuery.lean applies; the `C03_*`
    statements spell them out for a fresh index. -/
namespace Traph
open State

structure Blank (b : State) : Prop where
  trie : b.trie = #[{}]
  links : b.links = #[{}]

theorem blank_freshBase (cfg : Config) (dflt : Rule) (log : List Write) :
    Blank ({ cfg := cfg, dflt := dflt, log := .linkHdr :: .hdr 0 :: log } : State) := ⟨rfl, rfl⟩

/-- `p` was sent to the index as a page by some request of `ops`: to `add_page`/`add_pages`, as an end of a link of
    `add_links`, or as a source or target of `index_batch_crawl` -/
def Submitted (ops : List Op) (p : LRU) : Prop := ∃ op ∈ ops, ∃ x ∈ op.pages, x.1 = p

theorem view_init {b : State} (hb : Blank b) (rs : List (Bytes × Rule)) (hrs : ∀ ar ∈ rs, lruIter ar.1 ≠ []) :
    ∃ t, Shape (installRules b rs true).1 t ∧ Inv (installRules b rs true).1 t ∧
      (∀ p, ¬ IsPage (installRules b rs true).1 t p) ∧ Graph (installRules b rs true).1 t [] := by
  obtain ⟨t, x, f⟩ := installRules_step rs b .nil true (shape_of_trie_init b hb.trie)
  have a := f hrs (inv_nil b)
  have hnp : ∀ p, ¬ IsPage (installRules b rs true).1 t p := by
    intro p hp
    rcases (a.page p).mp hp with hp | ⟨_, hx, _⟩
    · exact not_isPage_nil _ p hp
    · exact absurd hx List.not_mem_nil
  have pe := ptrEq_installRules rs b true
  have hbag : ∀ o c, (installRules b rs true).1.bag o c = [] := by
    intro o c
    rw [pe.bag]
    unfold State.bag
    rw [cell_of_trie_init hb.trie]
    cases o <;> exact lbWalk0_zero _
  have hsz : (installRules b rs true).1.links.size = 1 := by rw [pe.size, hb.links]; rfl
  exact ⟨t, x.shape, a.inv, hnp, pe.linksOk (linksOk_of_init hb.trie hb.links), fun _ hst => absurd hst List.not_mem_nil,
    fun a b' => by rw [hbag]; rfl, fun a b' => by rw [hbag]; rfl, by rw [hsz]; rfl⟩

/-- THE STATE REACHED by a history without `clear`, none of whose requests answers `KeyError`, from rules
    installed on a blank index: its (unique) ghost tree and the invariants the link queries are read back
    through, for the links the history submitted; its pages are the submitted LRUs, with their crawled marks.
    The constructor and `clear` both start such a history (`linkView_run`, `linkView_all`). -/
theorem view_run {b : State} (hb : Blank b) (rs : List (Bytes × Rule)) (hrs : ∀ ar ∈ rs, lruIter ar.1 ≠ [])
    (seg : List Op) (hfree : ∀ op ∈ seg, ∀ d rs, op ≠ .clear d rs) (hwf : ∀ op ∈ seg, OpWf op)
    (hok : NoKeyErr (installRules b rs true).1 seg) :
    ∃ t, LinkView ((installRules b rs true).1.run seg) t (seg.flatMap Op.links) ∧
      (∀ p, IsPage ((installRules b rs true).1.run seg) t p ↔ Submitted seg p) ∧
      (∀ p, (IsCrawled ((installRules b rs true).1.run seg) t p →
                ∃ op ∈ seg, ∃ x ∈ op.pages, x.1 = p ∧ x.2.2 = true) ∧
            ((∃ op ∈ seg, ∃ x ∈ op.pages, x.1 = p ∧ x.2.1 = true) →
                IsCrawled ((installRules b rs true).1.run seg) t p)) := by
  obtain ⟨t0, h0, hi0, hnp, gr0⟩ := view_init hb rs hrs
  obtain ⟨t, x, f⟩ := run_spec seg _ t0 h0 hfree
  have a := f hwf hi0 hok
  obtain ⟨t1, h1, _, gr⟩ := run_graph seg _ t0 [] h0 hi0 gr0 hfree hwf hok
  cases h1.unique x.shape
  rw [List.nil_append] at gr
  exact ⟨t, ⟨x.shape, a.inv, LinkBag.parOk_based hb.trie rs seg hfree x.shape, gr⟩, (a.submitted hnp).1,
    (a.submitted hnp).2⟩

theorem linkView_run (cfg : Config) (dflt : Rule) (rules : List (Bytes × Rule)) (ops : List Op)
    (hrules : ∀ ar ∈ rules, lruIter ar.1 ≠ [])
    (hop : ∀ op ∈ ops, ∀ d rs, op ≠ .clear d rs) (hwf : ∀ op ∈ ops, OpWf op)
    (hok : NoKeyErr (State.fresh cfg dflt rules []).1 ops) :
    ∃ t, LinkView ((State.fresh cfg dflt rules []).1.run ops) t (ops.flatMap Op.links) ∧
      ∀ p, IsPage ((State.fresh cfg dflt rules []).1.run ops) t p ↔ ∃ op ∈ ops, ∃ x ∈ op.pages, x.1 = p := by
  obtain ⟨t, v, hp, _⟩ := view_run (blank_freshBase cfg dflt []) rules hrules ops hop hwf hok
  exact ⟨t, v, hp⟩

/-- C03, the invariant: after any `clear`-free history of well-formed write requests with no `KeyError` on a
    fresh index (rule anchors of at least one stem), the bags are exactly the submitted links -/
theorem C03_graph (cfg : Config) (dflt : Rule) (rules : List (Bytes × Rule)) (ops : List Op)
    (hrules : ∀ ar ∈ rules, lruIter ar.1 ≠ [])
    (hop : ∀ op ∈ ops, ∀ d rs, op ≠ .clear d rs) (hwf : ∀ op ∈ ops, OpWf op)
    (hok : NoKeyErr (State.fresh cfg dflt rules []).1 ops) :
    ∃ t, Shape ((State.fresh cfg dflt rules []).1.run ops) t ∧ Inv ((State.fresh cfg dflt rules []).1.run ops) t ∧
      Graph ((State.fresh cfg dflt rules []).1.run ops) t (ops.flatMap Op.links) :=
  have ⟨t, v, _⟩ := linkView_run cfg dflt rules ops hrules hop hwf hok
  ⟨t, v.shape, v.inv, v.graph⟩

theorem LinkView.flatten_eq {s : State} {t : T} {L : List (Bytes × Bytes)} (v : LinkView s t L) {q q' : LRU}
    (hq : IsPage s t q) (hq' : IsPage s t q') : q'.flatten = q.flatten ↔ q' = q := by
  obtain ⟨_, _, _, h, _⟩ := isPage_node v.shape hq
  obtain ⟨_, _, _, h', _⟩ := isPage_node v.shape hq'
  exact flatten_inj v.inv h h'

/-- `LinkView.mem_pageLinks` read at one triple between pages -/
theorem LinkView.mem_pageLinks_pages {s : State} {t : T} {L : List (Bytes × Bytes)} (v : LinkView s t L)
    {p a b : LRU} (hp : IsPage s t p) (ha : IsPage s t a) (hb : IsPage s t b) (incIn incInt incOut : Bool) (n : Nat) :
    (a.flatten, b.flatten, n) ∈ s.pageLinks p.flatten incIn incInt incOut ↔
      (0 < n ∧ n = nsub L a b) ∧
        ((a = p ∧ ((incOut = true ∧ b ≠ p) ∨ (incInt = true ∧ b = p))) ∨ (incIn = true ∧ b = p ∧ a ≠ p)) := by
  rw [v.mem_pageLinks hp]
  constructor
  · -- a reported triple names its pages by their byte strings, which tell pages apart
    rintro (⟨q, hpos, hsw, e⟩ | ⟨hin, q, hpos, hne, e⟩)
    · obtain ⟨e1, e2, rfl⟩ : a.flatten = p.flatten ∧ b.flatten = q.flatten ∧ n = nsub L p q := by simpa using e
      cases (v.flatten_eq hp ha).mp e1
      cases (v.flatten_eq (nsub_pos_pages v.graph hpos).2 hb).mp e2
      exact ⟨⟨hpos, rfl⟩, Or.inl ⟨rfl, hsw⟩⟩
    · obtain ⟨e1, e2, rfl⟩ : a.flatten = q.flatten ∧ b.flatten = p.flatten ∧ n = nsub L q p := by simpa using e
      cases (v.flatten_eq hp hb).mp e2
      cases (v.flatten_eq (nsub_pos_pages v.graph hpos).1 ha).mp e1
      exact ⟨⟨hpos, rfl⟩, Or.inr ⟨hin, rfl, hne⟩⟩
  · rintro ⟨⟨hpos, rfl⟩, ⟨rfl, hsw⟩ | ⟨hin, rfl, hne⟩⟩
    · exact Or.inl ⟨b, hpos, hsw, rfl⟩
    · exact Or.inr ⟨hin, a, hpos, hne, rfl⟩

theorem LinkView.out_weight {s : State} {t : T} {L : List (Bytes × Bytes)} (v : LinkView s t L)
    {p q : LRU} (hp : IsPage s t p) (hq : IsPage s t q) (hne : q ≠ p) (n : Nat) :
    (p.flatten, q.flatten, n) ∈ s.pageLinks p.flatten false false true ↔ (0 < n ∧ n = nsub L p q) := by
  simp [v.mem_pageLinks_pages hp hp hq, hne]

theorem LinkView.in_weight {s : State} {t : T} {L : List (Bytes × Bytes)} (v : LinkView s t L)
    {p q : LRU} (hp : IsPage s t p) (hq : IsPage s t q) (hne : q ≠ p) (n : Nat) :
    (p.flatten, q.flatten, n) ∈ s.pageLinks q.flatten true false false ↔ (0 < n ∧ n = nsub L p q) := by
  simp [v.mem_pageLinks_pages hq hp hq, Ne.symm hne]

theorem LinkView.self_weight {s : State} {t : T} {L : List (Bytes × Bytes)} (v : LinkView s t L)
    {p : LRU} (hp : IsPage s t p) (incIn incOut : Bool) (n : Nat) :
    (p.flatten, p.flatten, n) ∈ s.pageLinks p.flatten incIn true incOut ↔ (0 < n ∧ n = nsub L p p) := by
  simp [v.mem_pageLinks_pages hp hp hp]

/-- without the internal switch a self-link is not reported at all (it is stored on both sides, the
    out side files it as internal and the in side skips it) -/
theorem LinkView.self_hidden {s : State} {t : T} {L : List (Bytes × Bytes)} (v : LinkView s t L)
    {p : LRU} (hp : IsPage s t p) (incIn incOut : Bool) (n : Nat) :
    (p.flatten, p.flatten, n) ∉ s.pageLinks p.flatten incIn false incOut := by
  simp [v.mem_pageLinks_pages hp hp hp]

/-- `C03_history` for any state read through a `LinkView` -/
theorem LinkView.history {s : State} {t : T} {L : List (Bytes × Bytes)} (v : LinkView s t L) :
    (∀ p q, IsPage s t p → IsPage s t q → q ≠ p → ∀ n,
      ((p.flatten, q.flatten, n) ∈ s.pageLinks p.flatten false false true ↔ (0 < n ∧ n = nsub L p q)) ∧
      ((p.flatten, q.flatten, n) ∈ s.pageLinks q.flatten true false false ↔ (0 < n ∧ n = nsub L p q))) ∧
    (∀ p, IsPage s t p → ∀ incIn incOut n,
      ((p.flatten, p.flatten, n) ∈ s.pageLinks p.flatten incIn true incOut ↔ (0 < n ∧ n = nsub L p p)) ∧
      (p.flatten, p.flatten, n) ∉ s.pageLinks p.flatten incIn false incOut) ∧
    (∀ p, IsPage s t p → ∀ incIn incInt incOut, (s.pageLinks p.flatten incIn incInt incOut).Nodup) :=
  ⟨fun _ _ hp hq hne n => ⟨v.out_weight hp hq hne n, v.in_weight hp hq hne n⟩,
    fun _ hp incIn incOut n => ⟨v.self_weight hp incIn incOut n, v.self_hidden hp incIn incOut n⟩,
    fun _ hp => v.pageLinks_nodup hp⟩

theorem LinkView.totals {s : State} {t : T} {L : List (Bytes × Bytes)} (v : LinkView s t L) :
    s.countLinks2 = 2 * L.length ∧
    (∀ x y, (x, y) ∈ s.linksIter true ↔ (y, x) ∈ s.linksIter false) ∧
    (∀ x y, (x, y) ∈ s.linksIter true ↔ ∃ st ∈ L, x = (lruIter st.1).flatten ∧ y = (lruIter st.2).flatten) ∧
    (∀ p, IsPage s t p →
      s.pageDegree p.flatten .outdeg true =
        (L.filter (fun st => decide (lruIter st.1 = p ∧ lruIter st.2 ≠ p))).length ∧
      s.pageDegree p.flatten .indeg true =
        (L.filter (fun st => decide (lruIter st.2 = p ∧ lruIter st.1 ≠ p))).length ∧
      s.pageDegree p.flatten .deg true =
        (L.filter (fun st => decide (lruIter st.1 = p))).length +
        (L.filter (fun st => decide (lruIter st.2 = p ∧ lruIter st.1 ≠ p))).length) :=
  ⟨v.graph.countLinks2, v.linksIter_transpose, v.mem_linksIter_out,
    fun _ hp => ⟨v.outdegree hp, v.indegree hp, v.degree hp⟩⟩

/-- C03, weights. For every history as in `C03_graph` and every ordered pair of distinct pages `(p, q)`: the weight
    reported on the outbound side of `p` towards `q` and the weight reported on the inbound side of `q`
    from `p` are both the number of times `p → q` was submitted (and the pair is reported on either side
    iff that number is positive); a self-link is reported, as internal, with its submission count, and
    no answer of `get_page_links` repeats a triple. -/
theorem C03_history (cfg : Config) (dflt : Rule) (rules : List (Bytes × Rule)) (ops : List Op)
    (hrules : ∀ ar ∈ rules, lruIter ar.1 ≠ [])
    (hop : ∀ op ∈ ops, ∀ d rs, op ≠ .clear d rs) (hwf : ∀ op ∈ ops, OpWf op)
    (hok : NoKeyErr (State.fresh cfg dflt rules []).1 ops) :
    (∀ p q, Submitted ops p → Submitted ops q → q ≠ p → ∀ n,
      ((p.flatten, q.flatten, n) ∈ ((State.fresh cfg dflt rules []).1.run ops).pageLinks p.flatten false false true ↔
        (0 < n ∧ n = nsub (ops.flatMap Op.links) p q)) ∧
      ((p.flatten, q.flatten, n) ∈ ((State.fresh cfg dflt rules []).1.run ops).pageLinks q.flatten true false false ↔
        (0 < n ∧ n = nsub (ops.flatMap Op.links) p q))) ∧
    (∀ p, Submitted ops p → ∀ incIn incOut n,
      ((p.flatten, p.flatten, n) ∈ ((State.fresh cfg dflt rules []).1.run ops).pageLinks p.flatten incIn true incOut ↔
        (0 < n ∧ n = nsub (ops.flatMap Op.links) p p)) ∧
      (p.flatten, p.flatten, n) ∉ ((State.fresh cfg dflt rules []).1.run ops).pageLinks p.flatten incIn false incOut) ∧
    (∀ p, Submitted ops p → ∀ incIn incInt incOut,
      (((State.fresh cfg dflt rules []).1.run ops).pageLinks p.flatten incIn incInt incOut).Nodup) := by
  obtain ⟨t, v, hpg⟩ := linkView_run cfg dflt rules ops hrules hop hwf hok
  exact ⟨fun p q hp hq => v.history.1 p q ((hpg p).mpr hp) ((hpg q).mpr hq),
    fun p hp => v.history.2.1 p ((hpg p).mpr hp), fun p hp => v.history.2.2 p ((hpg p).mpr hp)⟩

/-- C03, the complete answer of `get_page_links` for a page of the history, any switches -/
theorem C03_pageLinks (cfg : Config) (dflt : Rule) (rules : List (Bytes × Rule)) (ops : List Op)
    (hrules : ∀ ar ∈ rules, lruIter ar.1 ≠ [])
    (hop : ∀ op ∈ ops, ∀ d rs, op ≠ .clear d rs) (hwf : ∀ op ∈ ops, OpWf op)
    (hok : NoKeyErr (State.fresh cfg dflt rules []).1 ops)
    (p : LRU) (hp : Submitted ops p) (incIn incInt incOut : Bool) (x : PageLink) :
    x ∈ ((State.fresh cfg dflt rules []).1.run ops).pageLinks p.flatten incIn incInt incOut ↔
      (∃ q, 0 < nsub (ops.flatMap Op.links) p q ∧ ((incOut = true ∧ q ≠ p) ∨ (incInt = true ∧ q = p)) ∧
        x = (p.flatten, q.flatten, nsub (ops.flatMap Op.links) p q)) ∨
      (incIn = true ∧ ∃ q, 0 < nsub (ops.flatMap Op.links) q p ∧ q ≠ p ∧
        x = (q.flatten, p.flatten, nsub (ops.flatMap Op.links) q p)) := by
  obtain ⟨t, v, hpg⟩ := linkView_run cfg dflt rules ops hrules hop hwf hok
  exact v.mem_pageLinks ((hpg p).mpr hp) incIn incInt incOut x

/-- C03, totals, enumerations, degrees. The global link count is the total number of submissions; the
    two enumerations are transposes of each other and list exactly the submitted links; the weighted
    degree figures of a page are the corresponding sums over the submitted links. -/
theorem C03_totals (cfg : Config) (dflt : Rule) (rules : List (Bytes × Rule)) (ops : List Op)
    (hrules : ∀ ar ∈ rules, lruIter ar.1 ≠ [])
    (hop : ∀ op ∈ ops, ∀ d rs, op ≠ .clear d rs) (hwf : ∀ op ∈ ops, OpWf op)
    (hok : NoKeyErr (State.fresh cfg dflt rules []).1 ops) :
    ((State.fresh cfg dflt rules []).1.run ops).countLinks2 = 2 * (ops.flatMap Op.links).length ∧
    (∀ x y, (x, y) ∈ ((State.fresh cfg dflt rules []).1.run ops).linksIter true ↔
      (y, x) ∈ ((State.fresh cfg dflt rules []).1.run ops).linksIter false) ∧
    (∀ x y, (x, y) ∈ ((State.fresh cfg dflt rules []).1.run ops).linksIter true ↔
      ∃ st ∈ ops.flatMap Op.links, x = (lruIter st.1).flatten ∧ y = (lruIter st.2).flatten) ∧
    (∀ p, Submitted ops p →
      ((State.fresh cfg dflt rules []).1.run ops).pageDegree p.flatten .outdeg true =
        ((ops.flatMap Op.links).filter (fun st => decide (lruIter st.1 = p ∧ lruIter st.2 ≠ p))).length ∧
      ((State.fresh cfg dflt rules []).1.run ops).pageDegree p.flatten .indeg true =
        ((ops.flatMap Op.links).filter (fun st => decide (lruIter st.2 = p ∧ lruIter st.1 ≠ p))).length ∧
      ((State.fresh cfg dflt rules []).1.run ops).pageDegree p.flatten .deg true =
        ((ops.flatMap Op.links).filter (fun st => decide (lruIter st.1 = p))).length +
        ((ops.flatMap Op.links).filter (fun st => decide (lruIter st.2 = p ∧ lruIter st.1 ≠ p))).length) := by
  obtain ⟨t, v, hpg⟩ := linkView_run cfg dflt rules ops hrules hop hwf hok
  exact ⟨v.totals.1, v.totals.2.1, v.totals.2.2.1, fun p hp => v.totals.2.2.2 p ((hpg p).mpr hp)⟩

/-- C03, unweighted degree figures: the numbers of distinct pages linked to / from -/
theorem C03_degrees_unweighted (cfg : Config) (dflt : Rule) (rules : List (Bytes × Rule)) (ops : List Op)
    (hrules : ∀ ar ∈ rules, lruIter ar.1 ≠ [])
    (hop : ∀ op ∈ ops, ∀ d rs, op ≠ .clear d rs) (hwf : ∀ op ∈ ops, OpWf op)
    (hok : NoKeyErr (State.fresh cfg dflt rules []).1 ops) (p : LRU) (hp : Submitted ops p) :
    ∃ outAll outOther inOther : List LRU, outAll.Nodup ∧ outOther.Nodup ∧ inOther.Nodup ∧
      (∀ q, q ∈ outAll ↔ 0 < nsub (ops.flatMap Op.links) p q) ∧
      (∀ q, q ∈ outOther ↔ (0 < nsub (ops.flatMap Op.links) p q ∧ q ≠ p)) ∧
      (∀ q, q ∈ inOther ↔ (0 < nsub (ops.flatMap Op.links) q p ∧ q ≠ p)) ∧
      ((State.fresh cfg dflt rules []).1.run ops).pageDegree p.flatten .outdeg false = outOther.length ∧
      ((State.fresh cfg dflt rules []).1.run ops).pageDegree p.flatten .indeg false = inOther.length ∧
      ((State.fresh cfg dflt rules []).1.run ops).pageDegree p.flatten .deg false =
        outAll.length + inOther.length := by
  obtain ⟨t, v, hpg⟩ := linkView_run cfg dflt rules ops hrules hop hwf hok
  exact v.degree_unweighted ((hpg p).mpr hp)

/-- C03, symmetry of the stored lists themselves (blocks, multisets), after every history as in `C03_graph` -/
theorem C03_symmetry (cfg : Config) (dflt : Rule) (rules : List (Bytes × Rule)) (ops : List Op)
    (hrules : ∀ ar ∈ rules, lruIter ar.1 ≠ [])
    (hop : ∀ op ∈ ops, ∀ d rs, op ≠ .clear d rs) (hwf : ∀ op ∈ ops, OpWf op)
    (hok : NoKeyErr (State.fresh cfg dflt rules []).1 ops) (a b : Nat) :
    LinksOk ((State.fresh cfg dflt rules []).1.run ops) ∧
    count b (((State.fresh cfg dflt rules []).1.run ops).outBag a) =
      count a (((State.fresh cfg dflt rules []).1.run ops).inBag b) := by
  obtain ⟨t, v, _⟩ := linkView_run cfg dflt rules ops hrules hop hwf hok
  exact ⟨v.graph.ok, v.graph.symm a b⟩

#print axioms view_run
#print axioms linkView_run
#print axioms C03_graph
#print axioms C03_history
#print axioms C03_pageLinks
#print axioms C03_totals
#print axioms C03_degrees_unweighted
#print axioms C03_symmetry

end Traph
