import Proofs.ShapeOps
/-! C19, trie store: the block accounting invariant `SizeOk` ("one header block plus, for every stored
    stem-prefix, the blocks of its last stem — and nothing else"), carried through `add_lru` on the ghost
    tree of `addLru_ins` together with the exact growth of the store (`addLru_account`); re-submitting a
    known LRU allocates nothing. -/
namespace Traph
open State

def SizeOk (s : State) (t : T) : Prop :=
  s.trie.size = 1 + ((t.entries s []).map (fun pb => blocksFor (s.stemAt pb.2))).sum

theorem sizeOk_init : SizeOk ({} : State) .nil := rfl

theorem sizeOk_of_trie_init (s : State) (h : s.trie = #[{}]) : SizeOk s .nil := by
  unfold SizeOk; rw [h]; rfl

theorem sizeOk_fresh (cfg : Config) (dflt : Rule) (log : List Write) :
    SizeOk (State.fresh cfg dflt [] log).1 .nil := sizeOk_of_trie_init _ rfl

theorem map_blocks_congr {s s' : State} (t : T) (pre : LRU)
    (hst : ∀ a ∈ t.addrs, s'.stemAt a = s.stemAt a) :
    (t.entries s pre).map (fun pb => blocksFor (s'.stemAt pb.2)) =
      (t.entries s pre).map (fun pb => blocksFor (s.stemAt pb.2)) := by
  apply List.map_congr_left
  intro pb hm
  rw [hst pb.2 (entries_addr_mem t pre pb.1 pb.2 hm)]

theorem sizeOk_iff_addrs (s : State) (t : T) :
    SizeOk s t ↔ s.trie.size = 1 + (t.addrs.map (fun a => blocksFor (s.stemAt a))).sum := by
  have hp := (entries_addrs_perm (s := s) t []).map (fun a => blocksFor (s.stemAt a))
  rw [List.map_map] at hp
  unfold SizeOk
  rw [← hp.sum_nat, Function.comp_def]

theorem SizeOk.frame {s s' : State} {t : T} (hz : SizeOk s t) (hsz : s'.trie.size = s.trie.size)
    (hst : ∀ a ∈ t.addrs, s'.stemAt a = s.stemAt a) : SizeOk s' t := by
  unfold SizeOk at *
  rw [T.entries_frame t [] hst, map_blocks_congr t [] hst, hsz, hz]

theorem NoStruct.size_stems {s s' : State} (n : NoStruct s s') :
    s'.trie.size = s.trie.size ∧ ∀ a, s'.stemAt a = s.stemAt a := ⟨n.1, n.stemAt⟩

theorem SizeOk.noStruct {s s' : State} {t : T} (hz : SizeOk s t) (n : NoStruct s s') : SizeOk s' t :=
  hz.frame n.1 (fun a _ => n.stemAt a)

theorem SizeOk.graft {s s' : State} {t : T} {q b : Nat} {sl : Slot} {x : Stem} {pre' : LRU}
    {lo' hi' : Option Stem} (hz : SizeOk s t) (hnd : t.addrs.Nodup)
    (hh : Hole s q sl t [] none none pre' lo' hi')
    (hst : ∀ a ∈ t.addrs, s'.stemAt a = s.stemAt a) (hnew : s'.stemAt b = x)
    (hsz : s'.trie.size = s.trie.size + blocksFor x) : SizeOk s' (t.graft q sl b) := by
  have hperm := (hh.graft_entries (b := b) hnd hst hnew).map (fun pb => blocksFor (s'.stemAt pb.2))
  unfold SizeOk at *
  rw [hperm.sum_nat, List.map_cons, List.sum_cons, map_blocks_congr t [] hst, hsz, hz]
  simp only [hnew]
  omega

theorem size_write (s : State) (q : Nat) (sl : Slot) (x : Stem) (par : Nat) (ch : Bool) (v : Nat) :
    ((s.writeNew x par ch).1.modCell q (fun c => c.setSlot sl v)).trie.size =
      s.trie.size + blocksFor x := by
  rw [trie_modCell_size, writeNew_size]

theorem ensureStem_missing_size (s : State) (start : Nat) (stem : Stem) (q : Nat) (sl : Slot)
    (hf : s.findSib stem (s.trie.size + 1) start = .missing q sl) :
    (s.ensureStem start true stem).1.trie.size = s.trie.size + blocksFor stem := by
  rw [ensureStem_missing s start stem q sl hf]
  exact size_write s q sl stem (s.cell q).parent false s.trie.size

theorem ensureStem_found_size (s : State) (start : Nat) (stem : Stem) (i : Nat)
    (hf : s.findSib stem (s.trie.size + 1) start = .found i) :
    (s.ensureStem start true stem).1 = s := by
  rw [ensureStem_found s start stem i hf]

/-- the first node of an empty trie -/
theorem ensureStem_first_size (s : State) (start : Nat) (stem : Stem) :
    (s.ensureStem start false stem).1.trie.size = s.trie.size + blocksFor stem := by
  rw [ensureStem_absent]
  exact writeNew_size s stem 0 false

theorem addLruCreate_cons_size (flag : Bool) (s : State) (x : Stem) (rest : List Stem) (q : Nat) :
    ∃ s1 : State, addLruCreate flag s (x :: rest) q = addLruCreate flag s1 rest s.trie.size ∧
      s1.trie.size = s.trie.size + blocksFor x :=
  ⟨_, addLruCreate_cons flag s x rest q, size_write s q .C x q (!rest.isEmpty && flag) s.trie.size⟩

theorem sizeOk_insInv : InsInv SizeOk where
  first s x hsz _ := by
    have hst : (s.writeNew x 0 false).1.stemAt 1 = x := hsz ▸ stemAt_writeNew' s x 0 false
    unfold SizeOk
    rw [writeNew_size, hsz, T.entries_leaf, List.map_singleton, List.sum_singleton, hst]
  mark n b hz := hz.noStruct (noStruct_markCanHave _ n b)
  write {s t q sl} _ _ _ x ch hs hh hz := by
    have g := hh.graftStep hs x (slotPar s q sl) ch
    exact hz.graft hs.nodup hh (fun a ha => g.stems a (hs.rep.lt_size a ha)) g.stemNew (size_write ..)

/-- what `add_lru stems` has done on the ghost tree when it returns block `n` in state `s'`: the finite map has
    grown by the missing stem-prefixes (`Grow`), the accounting invariant is kept, the stored prefixes of `stems`
    were exactly those of length `≤ k`, and the store has grown by the blocks of the stems after the `k`-th — one
    node per prefix that was not stored, `blocksFor` its last stem each -/
structure Account (stems : LRU) (s : State) (t : T) (s' : State) (n : Nat) (t' : T) (k : Nat) : Prop where
  grow : Grow stems s t s' t'
  sizeOk : SizeOk s t → SizeOk s' t'
  entry : (stems, n) ∈ t'.entries s' []
  size : s'.trie.size = s.trie.size + ((stems.drop k).map blocksFor).sum
  le : k ≤ stems.length
  stored : ∀ j, 0 < j → j ≤ stems.length → ((∃ b, (stems.take j, b) ∈ t.entries s []) ↔ j ≤ k)

section
variable {stems : LRU} {flag : Bool} {s0 : State} {t0 : T} {p : LRU} {rest : List Stem} {n : Nat} {s : State} {t : T}

/-- the bill of a run: the stems consumed were stored up to the `k`-th, and the store has grown by the blocks of
    the others -/
theorem Ins.bill (h0 : Shape s0 t0) (i : Ins stems flag s0 t0 p rest n s t) :
    ∃ k, k ≤ p.length ∧ s.trie.size = s0.trie.size + ((p.drop k).map blocksFor).sum ∧
      ∀ j, 0 < j → j ≤ p.length → ((∃ b, (p.take j, b) ∈ t0.entries s0 []) ↔ j ≤ k) := by
  induction i with
  | @walk p _ n _ w =>
    refine ⟨p.length, Nat.le_refl _, by rw [List.drop_length]; exact w.marked.noStruct.1, fun j hj1 hj2 =>
      ⟨fun _ => hj2, fun _ => entries_prefix_closed t0 [] p n (w.entry ?_) j hj1 hj2⟩⟩
    rintro rfl; exact absurd hj2 (Nat.not_le_of_lt hj1)
  | @first x rest _ _ ht =>
    subst ht
    exact ⟨0, Nat.zero_le _, by rw [size_markCanHave, writeNew_size]; simp, fun j hj _ =>
      ⟨fun ⟨_, hb⟩ => (nomatch hb), fun h => absurd hj (Nat.not_lt.mpr h)⟩⟩
  | @write p x rest n s t q sl lo hi ch m i hs hh b1 b2 _ ih =>
    obtain ⟨k, hk, hsz, hst⟩ := ih
    refine ⟨k, Nat.le_trans hk (List.length_append ▸ Nat.le_add_right _ _), ?_, fun j hj1 hj2 => ?_⟩
    · rw [size_markCanHave, size_write, hsz, List.drop_append_of_le_length hk, List.map_append, List.sum_append,
        Nat.add_assoc]
      rfl
    · rcases take_snoc_cases p x hj2 with ⟨hj, e⟩ | ⟨hj, e⟩ <;> rw [e]
      · exact hst j hj1 hj
      · exact ⟨fun hb => absurd hb (i.not_stored h0 hs hh b1 b2),
          fun h => absurd (Nat.le_trans h hk) (by rw [hj]; exact Nat.not_succ_le_self _)⟩

end

theorem addLru_account {s : State} {t : T} (h : Shape s t) (stems : LRU) (hne : stems ≠ []) (flag : Bool) :
    ∃ t' k, Account stems s t (s.addLru stems flag).1 (s.addLru stems flag).2.1 t' k := by
  obtain ⟨t', i, _⟩ := addLru_ins h stems flag hne
  obtain ⟨k, hk, hsz, hst⟩ := i.bill h
  exact ⟨t', k, (i.grow h).1, fun hz => i.inv sizeOk_insInv hz, (i.grow h).2 hne, hsz, hk, hst⟩

theorem addLru_sizeOk {s : State} {t : T} (h : Shape s t) (hz : SizeOk s t) (stems : LRU) (hne : stems ≠ [])
    (flag : Bool) :
    ∃ t', Grow stems s t (s.addLru stems flag).1 t' ∧ SizeOk (s.addLru stems flag).1 t' ∧
      (stems, (s.addLru stems flag).2.1) ∈ t'.entries (s.addLru stems flag).1 [] := by
  obtain ⟨t', _, ac⟩ := addLru_account h stems hne flag
  exact ⟨t', ac.grow, ac.sizeOk hz, ac.entry⟩

/-- the two invariants together -/
theorem addLru_shape_sizeOk {s : State} {t : T} (h : Shape s t) (hz : SizeOk s t) (stems : LRU)
    (hne : stems ≠ []) (flag : Bool) :
    ∃ t', Shape (s.addLru stems flag).1 t' ∧ SizeOk (s.addLru stems flag).1 t' ∧
      (stems, (s.addLru stems flag).2.1) ∈ t'.entries (s.addLru stems flag).1 [] := by
  obtain ⟨t', gr, hz', hent⟩ := addLru_sizeOk h hz stems hne flag
  exact ⟨t', gr.shape, hz', hent⟩

/-- re-submitting a known LRU: the first loop finds its block and no block, pointer or stem is written (`NoStruct`) -/
theorem addLru_known {s : State} {t : T} (h : Shape s t) (stems : LRU) (hne : stems ≠ [])
    (flag : Bool) (b : Nat) (hb : (stems, b) ∈ t.entries s []) :
    NoStruct s (s.addLru stems flag).1 ∧ (s.addLru stems flag).2.1 = b := by
  obtain ⟨_, i, _⟩ := addLru_ins h stems flag hne
  have w := i.of_stored h hb
  exact ⟨w.marked.noStruct, entries_path_injective h.ord h.nodup (w.entry hne) hb⟩

theorem addLru_known_no_growth {s : State} {t : T} (h : Shape s t) (stems : LRU) (hne : stems ≠ [])
    (flag : Bool) (b : Nat) (hb : (stems, b) ∈ t.entries s []) :
    (s.addLru stems flag).1.trie.size = s.trie.size ∧ (s.addLru stems flag).2.1 = b :=
  ⟨(addLru_known h stems hne flag b hb).1.1, (addLru_known h stems hne flag b hb).2⟩

/-- …and keeps every stem, hence the whole finite map -/
theorem addLru_known_entries {s : State} {t : T} (h : Shape s t) (stems : LRU) (hne : stems ≠ [])
    (flag : Bool) (b : Nat) (hb : (stems, b) ∈ t.entries s []) :
    Shape (s.addLru stems flag).1 t ∧ t.entries (s.addLru stems flag).1 [] = t.entries s [] :=
  have n := (addLru_known h stems hne flag b hb).1
  ⟨n.shape h, n.entries t []⟩

#print axioms sizeOk_init
#print axioms addLru_sizeOk
#print axioms addLru_known_no_growth

end Traph
