import Traph.Api
/-! C20: the bounded heap of the most-linked-pages query (`topK`), fed entries with distinct arrival numbers, holds
    `min k n` of them, ascending in `(indegree, arrival)`, and every entry it dropped is below every entry it kept:
    the loop invariant `Inv`, which `topK_inv` gives of the whole fold. -/
namespace Traph.State

def keyLt (x y : Nat × Nat × Bytes) : Prop := x.1 < y.1 ∨ (x.1 = y.1 ∧ x.2.1 < y.2.1)

def SortedAsc (l : List (Nat × Nat × Bytes)) : Prop := l.Pairwise keyLt

theorem keyLt_trans {a b c : Nat × Nat × Bytes} (h1 : keyLt a b) (h2 : keyLt b c) : keyLt a c := by
  rcases h1 with h | ⟨e, h⟩ <;> rcases h2 with h' | ⟨e', h'⟩
  · exact Or.inl (Nat.lt_trans h h')
  · exact Or.inl (e' ▸ h)
  · exact Or.inl (e ▸ h')
  · exact Or.inr ⟨e.trans e', Nat.lt_trans h h'⟩

theorem keyLt_irrefl (a : Nat × Nat × Bytes) : ¬ keyLt a a := by
  unfold keyLt; omega

theorem keyLt_total {a b : Nat × Nat × Bytes} (hne : a.2.1 ≠ b.2.1) (h : ¬ keyLt a b) : keyLt b a := by
  unfold keyLt at *; omega

theorem keyLt_fst_le {a b : Nat × Nat × Bytes} (h : keyLt a b) : a.1 ≤ b.1 := by
  unfold keyLt at h; omega

theorem heapCond_iff (x y : Nat × Nat × Bytes) :
    (decide (x.1 < y.1) || (decide (x.1 = y.1) && decide (x.2.1 < y.2.1))) = true ↔ keyLt x y := by
  simp [keyLt]

theorem heapInsert_perm (x : Nat × Nat × Bytes) (l : List (Nat × Nat × Bytes)) :
    (heapInsert x l).Perm (x :: l) := by
  induction l with
  | nil => exact List.Perm.refl _
  | cons y ys ih =>
    unfold heapInsert
    split
    · exact List.Perm.refl _
    · exact (List.Perm.cons y ih).trans (List.Perm.swap x y ys)

theorem mem_heapInsert {x z : Nat × Nat × Bytes} {l : List (Nat × Nat × Bytes)} :
    z ∈ heapInsert x l ↔ z = x ∨ z ∈ l := by
  rw [(heapInsert_perm x l).mem_iff, List.mem_cons]

theorem heapInsert_length (x : Nat × Nat × Bytes) (l : List (Nat × Nat × Bytes)) :
    (heapInsert x l).length = l.length + 1 := by
  rw [(heapInsert_perm x l).length_eq, List.length_cons]

theorem heapInsert_sorted (x : Nat × Nat × Bytes) (l : List (Nat × Nat × Bytes))
    (hl : SortedAsc l) (hx : ∀ y ∈ l, y.2.1 ≠ x.2.1) : SortedAsc (heapInsert x l) := by
  unfold SortedAsc at *
  induction l with
  | nil => simp [heapInsert]
  | cons y ys ih =>
    rw [List.pairwise_cons] at hl
    obtain ⟨hy, hys⟩ := hl
    unfold heapInsert
    by_cases hc : keyLt x y
    · rw [if_pos ((heapCond_iff x y).2 hc)]
      refine List.pairwise_cons.2 ⟨?_, List.pairwise_cons.2 ⟨hy, hys⟩⟩
      intro z hz
      rcases List.mem_cons.1 hz with rfl | hz
      · exact hc
      · exact keyLt_trans hc (hy z hz)
    · rw [if_neg (fun h => hc ((heapCond_iff x y).1 h))]
      refine List.pairwise_cons.2 ⟨?_, ih hys (fun z hz => hx z (List.mem_cons_of_mem _ hz))⟩
      intro z hz
      rcases mem_heapInsert.1 hz with rfl | hz
      · exact keyLt_total (Ne.symm (hx y (List.mem_cons_self ..))) hc
      · exact hy z hz

/-- invariant of the bounded heap `h` after the prefix `ys`, with `dr` the elements dropped so far -/
structure Inv (k : Nat) (h dr ys : List (Nat × Nat × Bytes)) : Prop where
  sorted : SortedAsc h
  perm : (h ++ dr).Perm ys
  len : h.length = min k ys.length
  low : ∀ d ∈ dr, ∀ y ∈ h, keyLt d y

theorem Inv.nil (k : Nat) : Inv k [] [] [] :=
  ⟨List.Pairwise.nil, List.Perm.refl _, by simp, by simp⟩

/-- the heap is full: its length stays `k`; it is not: nothing was dropped and it grows by one -/
theorem boundedPush_len {k hl dl yl : Nat} (hlen : hl = min k yl) (hp : hl + dl = yl) :
    (hl + 1 > k → hl = min k (yl + 1)) ∧ (¬ hl + 1 > k → dl = 0 ∧ hl + 1 = min k (yl + 1)) := by
  rcases Nat.lt_or_ge yl k with h | h
  · rw [Nat.min_eq_right (Nat.le_of_lt h)] at hlen
    rw [Nat.min_eq_right h]
    omega
  · rw [Nat.min_eq_left h] at hlen
    rw [Nat.min_eq_left (Nat.le_succ_of_le h)]
    omega

theorem Inv.step {k : Nat} {h dr ys : List (Nat × Nat × Bytes)} {x : Nat × Nat × Bytes}
    (inv : Inv k h dr ys) (hx : ∀ y ∈ ys, y.2.1 ≠ x.2.1) :
    ∃ dr', Inv k (boundedPush k h x) dr' (ys ++ [x]) := by
  obtain ⟨hs, hp, hlen, hlow⟩ := inv
  have hmem : ∀ y ∈ h, y ∈ ys := fun y hy => hp.mem_iff.1 (List.mem_append_left _ hy)
  have hs1 : SortedAsc (heapInsert x h) := heapInsert_sorted x h hs (fun y hy => hx y (hmem y hy))
  have hp1 := heapInsert_perm x h
  have hl1 := heapInsert_length x h
  obtain ⟨lfull, lroom⟩ := boundedPush_len hlen (List.length_append ▸ hp.length_eq)
  have hlys : (ys ++ [x]).length = ys.length + 1 := List.length_append
  unfold boundedPush
  by_cases hk : (heapInsert x h).length > k
  · rw [if_pos hk]
    have hfull := lfull (hl1 ▸ hk)
    -- the minimum `m` is dropped
    cases hh : heapInsert x h with
    | nil => rw [hh] at hl1; cases hl1
    | cons m t =>
      rw [hh] at hs1 hp1 hl1
      obtain ⟨hm, ht⟩ := List.pairwise_cons.mp hs1
      refine ⟨m :: dr, ⟨ht, ?_, ?_, ?_⟩⟩
      · -- t ++ m :: dr ~ m :: t ++ dr ~ x :: h ++ dr ~ x :: ys ~ ys ++ [x]
        exact List.perm_middle.trans ((List.Perm.append_right dr hp1).trans
          ((List.Perm.cons x hp).trans (List.perm_append_singleton x ys).symm))
      · rw [List.drop_one, List.tail_cons, hlys, ← hfull]
        exact Nat.succ.inj hl1
      · intro d hd y hy
        have hy' : y ∈ t := hy
        rcases List.mem_cons.1 hd with rfl | hd
        · exact hm y hy'
        · have hyh : y ∈ heapInsert x h := by rw [hh]; exact List.mem_cons_of_mem _ hy'
          rcases mem_heapInsert.1 hyh with rfl | hyh
          · -- y is the new element; the dropped minimum `m` is below it
            have hmy : keyLt m y := hm y hy'
            have hmh : m ∈ heapInsert y h := by rw [hh]; exact List.mem_cons_self ..
            rcases mem_heapInsert.1 hmh with rfl | hmh
            · exact absurd hmy (keyLt_irrefl _)
            · exact keyLt_trans (hlow d hd m hmh) hmy
          · exact hlow d hd y hyh
  · rw [if_neg hk]
    -- nothing has been dropped yet
    obtain ⟨hdr0, hlen'⟩ := lroom (hl1 ▸ hk)
    have hdr : dr = [] := List.eq_nil_of_length_eq_zero hdr0
    subst hdr
    rw [List.append_nil] at hp
    exact ⟨[], ⟨hs1, (List.append_nil _).symm ▸ hp1.trans ((List.Perm.cons x hp).trans
      (List.perm_append_singleton x ys).symm), by rw [hl1, hlys]; exact hlen', fun _ hd => nomatch hd⟩⟩

theorem foldl_inv (k : Nat) : ∀ (xs h dr ys : List (Nat × Nat × Bytes)),
    Inv k h dr ys → ((ys ++ xs).map (·.2.1)).Nodup →
    ∃ dr', Inv k (xs.foldl (boundedPush k) h) dr' (ys ++ xs) := by
  intro xs
  induction xs with
  | nil => intro h dr ys inv _; exact ⟨dr, by simpa using inv⟩
  | cons x xs ih =>
    intro h dr ys inv hnd
    have hx : ∀ y ∈ ys, y.2.1 ≠ x.2.1 := by
      intro y hy
      rw [List.map_append, List.nodup_append] at hnd
      exact hnd.2.2 _ (List.mem_map_of_mem hy) _ (List.mem_map_of_mem (List.mem_cons_self ..))
    obtain ⟨dr1, inv1⟩ := inv.step hx
    have := ih (boundedPush k h x) dr1 (ys ++ [x]) inv1 (by simpa using hnd)
    simpa using this

theorem topK_inv (k : Nat) (xs : List (Nat × Nat × Bytes)) (hnd : (xs.map (·.2.1)).Nodup) :
    ∃ dr, Inv k (topK k xs) dr xs := by
  simpa [topK] using foldl_inv k xs [] [] [] (Inv.nil k) (by simpa using hnd)

theorem topK_sorted (k : Nat) (xs : List (Nat × Nat × Bytes)) (hnd : (xs.map (·.2.1)).Nodup) :
    SortedAsc (topK k xs) := by
  obtain ⟨_, inv⟩ := topK_inv k xs hnd
  exact inv.sorted

theorem topK_sublist_perm (k : Nat) (xs : List (Nat × Nat × Bytes)) (hnd : (xs.map (·.2.1)).Nodup) :
    ∃ dropped, (topK k xs ++ dropped).Perm xs := by
  obtain ⟨dr, inv⟩ := topK_inv k xs hnd
  exact ⟨dr, inv.perm⟩

theorem topK_length (k : Nat) (xs : List (Nat × Nat × Bytes)) (hnd : (xs.map (·.2.1)).Nodup) :
    (topK k xs).length = min k xs.length := by
  obtain ⟨_, inv⟩ := topK_inv k xs hnd
  exact inv.len

theorem topK_max (k : Nat) (xs : List (Nat × Nat × Bytes)) (hnd : (xs.map (·.2.1)).Nodup) :
    ∀ kept ∈ topK k xs, ∀ d, d ∈ xs → d ∉ topK k xs → keyLt d kept := by
  obtain ⟨dr, inv⟩ := topK_inv k xs hnd
  intro kept hkept d hd hnot
  have : d ∈ topK k xs ++ dr := inv.perm.mem_iff.2 hd
  rcases List.mem_append.1 this with h | h
  · exact absurd h hnot
  · exact inv.low d h kept hkept

/-- in particular no omitted page has a larger indegree than a listed one -/
theorem topK_max_indegree (k : Nat) (xs : List (Nat × Nat × Bytes)) (hnd : (xs.map (·.2.1)).Nodup) :
    ∀ kept ∈ topK k xs, ∀ d, d ∈ xs → d ∉ topK k xs → d.1 ≤ kept.1 :=
  fun kept hk d hd hn => keyLt_fst_le (topK_max k xs hnd kept hk d hd hn)

theorem topK_reverse_nonincreasing (k : Nat) (xs : List (Nat × Nat × Bytes))
    (hnd : (xs.map (·.2.1)).Nodup) :
    ((topK k xs).reverse.map (·.1)).Pairwise (· ≥ ·) := by
  have hs := topK_sorted k xs hnd
  unfold SortedAsc at hs
  rw [List.pairwise_map, List.pairwise_reverse]
  exact hs.imp (fun h => keyLt_fst_le h)

/-- Python's `enumerate(l, i)` is core's `zipIdx` with the components exchanged -/
theorem enumFrom_eq_zipIdx {α} : ∀ (l : List α) (i : Nat), enumFrom i l = (l.zipIdx i).map (fun x => (x.2, x.1))
  | [], _ => rfl
  | a :: l, i => congrArg ((i, a) :: ·) (enumFrom_eq_zipIdx l (i + 1))

theorem enumFrom_arrivals_nodup {α} (i : Nat) (l : List α) : ((enumFrom i l).map (·.1)).Nodup := by
  rw [enumFrom_eq_zipIdx, List.map_map]
  exact List.zipIdx_map_snd i l ▸ List.nodup_range'

theorem enumFrom_length {α} (l : List α) (i : Nat) : (enumFrom i l).length = l.length := by
  rw [enumFrom_eq_zipIdx, List.length_map, List.length_zipIdx]

theorem enumFrom_map_snd {α} (l : List α) (i : Nat) : (enumFrom i l).map (·.2) = l := by
  rw [enumFrom_eq_zipIdx, List.map_map]; exact List.zipIdx_map_fst i l

theorem mem_enumFrom {α} (l : List α) (i j : Nat) (a : α) :
    (j, a) ∈ enumFrom i l ↔ i ≤ j ∧ l[j - i]? = some a := by
  rw [enumFrom_eq_zipIdx, ← List.mk_mem_zipIdx_iff_le_and_getElem?_sub, List.mem_map]
  exact ⟨fun ⟨x, hx, e⟩ => by cases e; exact hx, fun h => ⟨_, h, rfl⟩⟩

theorem mostLinked_keys_nodup (pages : List (Bytes × Nat)) :
    ((((enumFrom 1 pages).map (fun ip => (ip.2.2, ip.1, ip.2.1))).map (·.2.1))).Nodup := by
  rw [List.map_map]
  exact enumFrom_arrivals_nodup 1 pages

#print axioms heapInsert_perm
#print axioms heapInsert_sorted
#print axioms topK_sorted
#print axioms topK_length
#print axioms topK_max
#print axioms topK_sublist_perm
#print axioms topK_reverse_nonincreasing
#print axioms enumFrom_arrivals_nodup
#print axioms mostLinked_keys_nodup

end Traph.State
