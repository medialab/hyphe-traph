import Proofs.Dict
import Proofs.TrieEq
import Traph.Bytes
import Traph.Step
/-! Observational equivalence of index states (C11), `s ≃ₒ s'`. The RAM rule dicts are compared by CONTENT
    (`RulesEq`: the same answer to every look-up — the association lists may be permutations of one another, may
    repeat shadowed keys…). Every read-only request (`Query`, all 26) has the same answer in equivalent states
    (`oe_ask`); the write requests are in `Proofs/LogIndep.lean` and `Proofs/ObsEquivOps.lean`. -/
namespace Traph
open State

def RulesEq {α β} [DecidableEq α] (a b : List (α × β)) : Prop := ∀ k, dictGet? a k = dictGet? b k

theorem RulesEq.refl {α β} [DecidableEq α] (a : List (α × β)) : RulesEq a a := fun _ => rfl
theorem RulesEq.symm {α β} [DecidableEq α] {a b : List (α × β)} (h : RulesEq a b) : RulesEq b a := fun k => (h k).symm
theorem RulesEq.trans {α β} [DecidableEq α] {a b c : List (α × β)} (h : RulesEq a b) (h' : RulesEq b c) :
    RulesEq a c := fun k => (h k).trans (h' k)

theorem RulesEq.dictSet {α β} [DecidableEq α] {a b : List (α × β)} (h : RulesEq a b) (x : α) (v : β) :
    RulesEq (dictSet a x v) (dictSet b x v) := fun k => by
  rw [oe_dictGet_dictSet, oe_dictGet_dictSet, h k]

theorem RulesEq.erase {α β} [DecidableEq α] {a b : List (α × β)} (h : RulesEq a b) (x : α) :
    RulesEq (a.filter (fun p => p.1 ≠ x)) (b.filter (fun p => p.1 ≠ x)) := fun k => by
  rw [oe_dictGet_erase, oe_dictGet_erase, h k]

/-- a dict built by successive assignments: the LAST assignment of a key wins -/
theorem oe_dictGet_build {α β} [DecidableEq α] (rs : List (α × β)) (acc : List (α × β)) (k : α) :
    dictGet? (rs.foldl (fun d ar => dictSet d ar.1 ar.2) acc) k
      = (dictGet? rs.reverse k).or (dictGet? acc k) := by
  induction rs generalizing acc with
  | nil => simp [oe_dictGet_nil]
  | cons x rest ih =>
    obtain ⟨a, v⟩ := x
    rw [List.foldl_cons, ih, oe_dictGet_dictSet, List.reverse_cons, dictGet?_append, oe_dictGet_cons, oe_dictGet_nil]
    cases dictGet? rest.reverse k with
    | some w => rfl
    | none =>
      simp only [Option.none_or]
      split <;> rfl

/-- the content of the dict a caller's list of `(anchor, rule)` items builds (`Traph(…, webentity_creation_rules=…)`) -/
theorem oe_dictGet_built {α β} [DecidableEq α] (rs : List (α × β)) (k : α) :
    dictGet? (rs.foldl (fun d ar => dictSet d ar.1 ar.2) []) k = dictGet? rs.reverse k := by
  rw [oe_dictGet_build, oe_dictGet_nil, Option.or_none]

theorem oe_dictGet_eq_some_iff {α β} [DecidableEq α] {d : List (α × β)} (hn : (d.map (·.1)).Nodup) {k : α} {v : β} :
    dictGet? d k = some v ↔ (k, v) ∈ d := by
  refine ⟨dictGet?_mem d k v, fun hm => ?_⟩
  induction d with
  | nil => simp at hm
  | cons x rest ih =>
    obtain ⟨k', v'⟩ := x
    simp only [List.map_cons, List.nodup_cons] at hn
    rw [oe_dictGet_cons]
    rcases List.mem_cons.mp hm with e | hm
    · cases e; simp
    · have : k' ≠ k := by
        intro e; subst e
        exact hn.1 (List.mem_map.mpr ⟨(k', v), hm, rfl⟩)
      rw [if_neg this]
      exact ih hn.2 hm

theorem RulesEq.of_perm {α β} [DecidableEq α] {a b : List (α × β)} (hn : (a.map (·.1)).Nodup) (hp : a.Perm b) :
    RulesEq a b := by
  have hn' : (b.map (·.1)).Nodup := (hp.map (·.1)).nodup_iff.mp hn
  intro k
  cases h : dictGet? b k with
  | some v =>
    rw [oe_dictGet_eq_some_iff hn]
    exact hp.mem_iff.mpr (dictGet?_mem _ _ _ h)
  | none =>
    rw [oe_dictGet_none_iff] at h ⊢
    intro hm
    exact h ((hp.map (·.1)).mem_iff.mp hm)

/-- observational equivalence: the same files, id counter, configuration, default rule, and the same content of the
    RAM rule dict; the ghost write log is ignored -/
structure ObsEq (s s' : State) : Prop where
  hdrId : s'.hdrId = s.hdrId
  trie  : s'.trie = s.trie
  links : s'.links = s.links
  cfg   : s'.cfg = s.cfg
  dflt  : s'.dflt = s.dflt
  rules : RulesEq s.rules s'.rules

@[inherit_doc] infix:50 " ≃ₒ " => ObsEq

theorem ObsEq.refl (s : State) : s ≃ₒ s := ⟨rfl, rfl, rfl, rfl, rfl, RulesEq.refl _⟩
theorem ObsEq.symm {s s' : State} (h : s ≃ₒ s') : s' ≃ₒ s :=
  ⟨h.hdrId.symm, h.trie.symm, h.links.symm, h.cfg.symm, h.dflt.symm, h.rules.symm⟩
theorem ObsEq.trans {a b c : State} (h : a ≃ₒ b) (h' : b ≃ₒ c) : a ≃ₒ c :=
  ⟨h'.hdrId.trans h.hdrId, h'.trie.trans h.trie, h'.links.trans h.links, h'.cfg.trans h.cfg,
    h'.dflt.trans h.dflt, h.rules.trans h'.rules⟩

theorem obsEq_equivalence : Equivalence ObsEq := ⟨ObsEq.refl, ObsEq.symm, ObsEq.trans⟩

/-- rules and log replaced (the read lemmas speak of this one; `oe_setRules rs = oe_ram rs s.log`: `oe_sr_eq_ram`, Proofs/ObsEquivOps) -/
def State.oe_ram (s : State) (rs : List (Bytes × Rule)) (lg : List Write) : State := { s with rules := rs, log := lg }

/-- rules only (`State.ghost` of Proofs/LogIndep is built on this one) -/
def State.oe_setRules (s : State) (rs : List (Bytes × Rule)) : State := { s with rules := rs }

namespace State

theorem oe_ram_trie (s : State) (rs lg) : (s.oe_ram rs lg).trie = s.trie := rfl
theorem oe_ram_links (s : State) (rs lg) : (s.oe_ram rs lg).links = s.links := rfl
theorem oe_ram_hdrId (s : State) (rs lg) : (s.oe_ram rs lg).hdrId = s.hdrId := rfl
theorem oe_ram_cfg (s : State) (rs lg) : (s.oe_ram rs lg).cfg = s.cfg := rfl
theorem oe_ram_dflt (s : State) (rs lg) : (s.oe_ram rs lg).dflt = s.dflt := rfl
theorem oe_ram_rules (s : State) (rs lg) : (s.oe_ram rs lg).rules = rs := rfl
theorem oe_ram_log (s : State) (rs lg) : (s.oe_ram rs lg).log = lg := rfl
theorem oe_ram_cell (s : State) (rs lg) (i : Nat) : (s.oe_ram rs lg).cell i = s.cell i := rfl
theorem oe_ram_self (s : State) : s.oe_ram s.rules s.log = s := rfl

end State

theorem ObsEq.eq_ram {s s' : State} (h : s ≃ₒ s') : s' = s.oe_ram s'.rules s'.log := by
  obtain ⟨h1, h2, h3, h4, h5, _⟩ := h
  cases s; cases s'
  simp only at h1 h2 h3 h4 h5
  subst h1 h2 h3 h4 h5
  rfl

theorem obsEq_ram (s : State) (rs : List (Bytes × Rule)) (lg : List Write) (h : RulesEq s.rules rs) :
    s ≃ₒ s.oe_ram rs lg := ⟨rfl, rfl, rfl, rfl, rfl, h⟩

theorem obsEq_iff (s s' : State) : s ≃ₒ s' ↔ ∃ rs lg, RulesEq s.rules rs ∧ s' = s.oe_ram rs lg :=
  ⟨fun h => ⟨s'.rules, s'.log, h.rules, h.eq_ram⟩, fun ⟨rs, lg, h, e⟩ => e ▸ obsEq_ram s rs lg h⟩

namespace State

theorem oe_stemAt (s : State) (rs lg) (i : Nat) : (s.oe_ram rs lg).stemAt i = s.stemAt i :=
  stemAt_of_trie_eq (s := s) (s' := s.oe_ram rs lg) rfl i

theorem oe_findSib (s : State) (rs lg) (stem : Stem) (fuel p : Nat) :
    (s.oe_ram rs lg).findSib stem fuel p = s.findSib stem fuel p :=
  findSib_of_trie_eq (s := s) (s' := s.oe_ram rs lg) rfl stem fuel p

theorem oe_lruNode (s : State) (rs lg) (stems : LRU) : (s.oe_ram rs lg).lruNode stems = s.lruNode stems :=
  lruNode_of_trie_eq (s := s) (s' := s.oe_ram rs lg) rfl stems

theorem oe_allBlocks (s : State) (rs lg) : (s.oe_ram rs lg).allBlocks = s.allBlocks := rfl

theorem oe_countPages (s : State) (rs lg) : (s.oe_ram rs lg).countPages = s.countPages := rfl
theorem oe_countCrawledPages (s : State) (rs lg) : (s.oe_ram rs lg).countCrawledPages = s.countCrawledPages := rfl
theorem oe_countLinks2 (s : State) (rs lg) : (s.oe_ram rs lg).countLinks2 = s.countLinks2 := rfl
theorem oe_metrics (s : State) (rs lg) : (s.oe_ram rs lg).metrics = s.metrics := by unfold metrics; rfl

/-- where a query reads the RAM dict: its CONTENT only -/
theorem oe_longestCandidate (s : State) (rs lg) (hr : RulesEq s.rules rs) (lru : Bytes) (h : Hist) :
    (s.oe_ram rs lg).longestCandidate lru h = s.longestCandidate lru h := by
  simp only [longestCandidate, oe_ram_rules, ← hr _]

set_option smartUnfolding false in
/-- THE READ LAYER. No function that answers a query projects `rules` or `log` out of the state, `longestCandidate`
    apart: with another RAM dict and another log the two answers unfold to the same term, whatever the fuel and the
    arguments are. (`smartUnfolding`: the elaborator does not by itself unfold a structural recursion whose fuel is
    a variable; the kernel needs no such hint.) -/
theorem oe_ask_ram (s : State) (rs lg) (hr : RulesEq s.rules rs) (q : Query) : (s.oe_ram rs lg).ask q = s.ask q := by
  cases q with
  | potentialPrefix l =>
    simp only [ask, potentialPrefix, oe_longestCandidate s rs lg hr]
    rfl
  -- three answers in which the same sub-answer occurs several times: it is compared once
  | metrics => simp only [ask, oe_metrics]; rfl
  | weDegrees ps =>
    have h : ∀ o, (s.oe_ram rs lg).citedWebentities ps o = s.citedWebentities ps o := fun _ => by rfl
    simp only [ask, webentityDegrees, h]
  | pageDegree l k w =>
    have h : ∀ i n o, (s.oe_ram rs lg).pageLinks l i n o = s.pageLinks l i n o := fun _ _ _ => by rfl
    simp only [ask, pageDegree, h]
  | _ => rfl

end State

/-- **every observable answer is identical in equivalent states** (all 26 read-only requests) -/
theorem oe_ask {s s' : State} (h : s ≃ₒ s') (q : Query) : s'.ask q = s.ask q := by
  rw [h.eq_ram]
  exact State.oe_ask_ram s _ _ h.rules q

theorem oe_files {s s' : State} (h : s ≃ₒ s') : encodeTrie s' = encodeTrie s ∧ encodeLinks s' = encodeLinks s := by
  rw [h.eq_ram]; exact ⟨rfl, rfl⟩

#print axioms oe_ask
#print axioms obsEq_equivalence

end Traph
