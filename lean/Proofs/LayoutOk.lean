import Traph.Bytes
import Traph.Helpers
/-! Facts about the GENERATED layout that the rest of the development relies on, re-proved by `decide`
    against whatever `gen/gen_layout.py` measured in the sources on this run. -/
namespace Traph.LayoutOk
open Traph Layout

theorem littleEndian_ok : littleEndian = true := by decide
theorem sep_ok : sep = 124 := by decide
theorem stemCap_pos : 0 < stemCap := by decide
theorem stemField_ok : stemField = stemCap + 1 ∧ stemField ≤ 256 := by decide
theorem node_fields_ok :
    offStem = 0 ∧ offStem + stemField ≤ offFlags ∧ widthFlags = 1 ∧ offFlags + widthFlags ≤ offWe ∧
    offWe + widthWe ≤ offLeft ∧ offLeft + widthLeft = offRight ∧ offRight + widthRight = offChild ∧
    offChild + widthChild = offParent ∧ offParent + widthParent = offOut ∧ offOut + widthOut = offInn ∧
    offInn + widthInn = trieBlock := by decide
theorem widths_ok : widthWe = 4 ∧ widthLeft = 8 ∧ widthRight = 8 ∧ widthChild = 8 ∧ widthParent = 8 ∧
    widthOut = 8 ∧ widthInn = 8 ∧ widthTarget = 8 ∧ widthPrev = 8 ∧ hdrWidthId = 4 := by decide
theorem flags_ok : [fPage, fCrawled, fLinked, fDeleted, fRule, fHasTail, fIsTail, fNoChild].Nodup ∧
    (∀ p ∈ [fPage, fCrawled, fLinked, fDeleted, fRule, fHasTail, fIsTail, fNoChild], p < 8) := by decide
theorem defaultFlags_ok : defaultFlags = ({} : Flags).encode := by decide
theorem header_ok : hdrBlock = trieBlock ∧ hdrOffId + hdrWidthId ≤ hdrOffVer ∧ hdrOffVer + hdrVerField ≤ hdrBlock ∧
    version.length < hdrVerField ∧ trieHeaderBlocks = 1 ∧ trieFirstData = trieBlock := by decide
theorem link_ok : offTarget = 0 ∧ offTarget + widthTarget = offPrev ∧ offPrev + widthPrev = linkBlock ∧
    linkHdrBlock = linkBlock ∧ linkHdrOffVer + linkHdrVerField ≤ linkHdrBlock ∧ version.length < linkHdrVerField ∧
    linkHeaderBlocks = 1 ∧ linkFirstData = linkBlock := by decide
/-- the link header read with the stub format has no `previous` (D4: the walk from block 0 stops) -/
theorem headerStub_prev_zero : headerStubRaw.2 = 0 := by decide
/-- the alphabet of `int_to_base64`: digits, lower case, upper case, `-`, `_` -/
theorem base64_eq : base64 = List.range' 48 10 ++ List.range' 97 26 ++ List.range' 65 26 ++ [45, 95] := by
  rfl
theorem base64_ok : base64.length = 64 ∧ base64.Nodup := by
  refine ⟨by decide, ?_⟩
  rw [base64_eq]
  simp only [List.nodup_append, List.mem_range'_1, List.mem_append, List.mem_cons, List.not_mem_nil, or_false]
  exact ⟨⟨⟨List.nodup_range', List.nodup_range', fun a ha b hb => by omega⟩, List.nodup_range',
    fun a ha b hb => by omega⟩, by decide, fun a ha b hb => by omega⟩
theorem base4_ops_ok : base4L = digitChar 1 ∧ base4C = digitChar 2 ∧ base4R = digitChar 3 := by decide
theorem toLE_length (n k : Nat) : (toLE n k).length = k := by
  induction k generalizing n with
  | zero => rfl
  | succ k ih => simp [toLE, ih]
theorem encodeTrieHeader_length (id : Nat) : (encodeTrieHeader id).length = hdrBlock := by
  simp only [encodeTrieHeader, List.length_append, toLE_length]
  decide
theorem encodeLinkHeader_length : encodeLinkHeader.length = linkHdrBlock := by decide

end Traph.LayoutOk
