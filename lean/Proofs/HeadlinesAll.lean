import Proofs.ReachableAll
import Proofs.DisciplinePrune
import Proofs.PagesApi
import Proofs.MostLinked
import Proofs.NetworkRun
import Proofs.WeLinks
import Proofs.PagApi
import Proofs.PagLinksApi
/-! The headline theorems WITHOUT the two blanket hypotheses ("no `clear` in the history", "no request aborted by
    `KeyError`"): for EVERY history of well-formed requests on a fresh index whose constructor anchors are complete
    LRUs (`rulesCanonical`), under the API's own discipline (`Disciplined`, Proofs/Discipline.lean). `clear` is a
    reset: the history-level statements speak of the requests since the last `clear` (`sinceClear ops`) and ask
    well-formedness of those only (`OpWf`; C04: `OpWfWe`; C02, C19: none); the per-state statements hold of every
    `Reachable` state (Proofs/ReachableAll.lean). `linkView_all0`, `C01_pages_all0`: under `Disciplined0`
    (Proofs/DisciplinePrune.lean), with `OpWf` of every request. -/
namespace Traph
open State Pag

theorem linkView_all (cfg : Config) (dflt : Rule) (rules : List (Bytes × Rule)) (ops : List Op)
    (hr : rulesCanonical rules) (hwf : ∀ op ∈ sinceClear ops, OpWf op)
    (hd : Disciplined (State.fresh cfg dflt rules []).1 ops) :
    ∃ t, LinkView ((State.fresh cfg dflt rules []).1.run ops) t ((sinceClear ops).flatMap Op.links) ∧
      (∀ p, IsPage ((State.fresh cfg dflt rules []).1.run ops) t p ↔ Submitted (sinceClear ops) p) ∧
      (∀ p, (IsCrawled ((State.fresh cfg dflt rules []).1.run ops) t p →
                ∃ op ∈ sinceClear ops, ∃ x ∈ op.pages, x.1 = p ∧ x.2.2 = true) ∧
            ((∃ op ∈ sinceClear ops, ∃ x ∈ op.pages, x.1 = p ∧ x.2.1 = true) →
                IsCrawled ((State.fresh cfg dflt rules []).1.run ops) t p)) := by
  obtain ⟨b, rs, hb, hc, hrun, hdis, _⟩ := history_based cfg dflt rules ops hr hd
  rw [hrun]
  exact view_run hb rs (fun ar har => (hc ar har).1) (sinceClear ops) (sinceClear_free ops) hwf
    (based_disciplined hb rs hc hdis).1

/-- **C01, pages, every history** (under `rulesCanonical`, `OpWf` since the last `clear`, `Disciplined`): the pages of
    the index are exactly the LRUs submitted as pages since the last `clear` -/
theorem C01_pages_all (cfg : Config) (dflt : Rule) (rules : List (Bytes × Rule)) (ops : List Op)
    (hr : rulesCanonical rules) (hwf : ∀ op ∈ sinceClear ops, OpWf op)
    (hd : Disciplined (State.fresh cfg dflt rules []).1 ops) :
    ∃ t, Shape ((State.fresh cfg dflt rules []).1.run ops) t ∧
      ∀ p, IsPage ((State.fresh cfg dflt rules []).1.run ops) t p ↔
        ∃ op ∈ sinceClear ops, ∃ x ∈ op.pages, x.1 = p := by
  obtain ⟨t, v, hp, _⟩ := linkView_all cfg dflt rules ops hr hwf hd
  exact ⟨t, v.shape, hp⟩

theorem C01_crawled_all (cfg : Config) (dflt : Rule) (rules : List (Bytes × Rule)) (ops : List Op)
    (hr : rulesCanonical rules) (hwf : ∀ op ∈ sinceClear ops, OpWf op)
    (hd : Disciplined (State.fresh cfg dflt rules []).1 ops) :
    ∃ t, Shape ((State.fresh cfg dflt rules []).1.run ops) t ∧
      ∀ p, (IsCrawled ((State.fresh cfg dflt rules []).1.run ops) t p →
              ∃ op ∈ sinceClear ops, ∃ x ∈ op.pages, x.1 = p ∧ x.2.2 = true) ∧
           ((∃ op ∈ sinceClear ops, ∃ x ∈ op.pages, x.1 = p ∧ x.2.1 = true) →
              IsCrawled ((State.fresh cfg dflt rules []).1.run ops) t p) := by
  obtain ⟨t, v, _, hcr⟩ := linkView_all cfg dflt rules ops hr hwf hd
  exact ⟨t, v.shape, hcr⟩

/-- **C01, enumeration, every history** (under `rulesCanonical`, `OpWf` since the last `clear`, `Disciplined`):
    `pages_iter` lists exactly the flattened byte strings (`flatten`) of the LRUs submitted as pages since the last
    `clear`, each once -/
theorem C01_enumeration_all (cfg : Config) (dflt : Rule) (rules : List (Bytes × Rule)) (ops : List Op)
    (hr : rulesCanonical rules) (hwf : ∀ op ∈ sinceClear ops, OpWf op)
    (hd : Disciplined (State.fresh cfg dflt rules []).1 ops) :
    (∀ lru, (∃ c, (lru, c) ∈ ((State.fresh cfg dflt rules []).1.run ops).pagesIter) ↔
        ∃ op ∈ sinceClear ops, ∃ x ∈ op.pages, lru = x.1.flatten) ∧
    ((((State.fresh cfg dflt rules []).1.run ops).pagesIter).map (·.1)).Nodup := by
  obtain ⟨t, v, hp, _⟩ := linkView_all cfg dflt rules ops hr hwf hd
  refine ⟨fun lru => ?_, pagesIter_nodup v.shape v.inv.wf⟩
  rw [pagesIter_isPage v.shape]
  constructor
  · rintro ⟨p, hpp, rfl⟩
    obtain ⟨op, ho, x, hx, rfl⟩ := (hp p).mp hpp
    exact ⟨op, ho, x, hx, rfl⟩
  · rintro ⟨op, ho, x, hx, rfl⟩
    exact ⟨x.1, (hp _).mpr ⟨op, ho, x, hx, rfl⟩, rfl⟩

open Classical in
/-- **C01, reports, every `Reachable` state**: the report of the next request, if well-formed (`OpWf`), counts
    exactly the distinct LRUs it submits that were not pages of the index reached so far -/
theorem C01_report_all {s : State} (hs : Reachable s) (op : Op) (hop : ∀ d rs, op ≠ .clear d rs) (hwf : OpWf op)
    (r : Report) (hrep : (s.step op).2 = .report r) :
    ∃ t, Shape s t ∧
      r.pages = ((op.pages.map (·.1)).eraseDups.filter (fun p => decide (¬ IsPage s t p))).length := by
  obtain ⟨t, h, hi, _⟩ := reachable_invariants hs
  exact ⟨t, h, C01_report h hi op hop hwf r hrep⟩

/-- **C03, weights, every history** (under `rulesCanonical`, `OpWf` since the last `clear`, `Disciplined`): the link
    multigraph is the multiset of links submitted since the last `clear` -/
theorem C03_history_all (cfg : Config) (dflt : Rule) (rules : List (Bytes × Rule)) (ops : List Op)
    (hr : rulesCanonical rules) (hwf : ∀ op ∈ sinceClear ops, OpWf op)
    (hd : Disciplined (State.fresh cfg dflt rules []).1 ops) :
    (∀ p q, Submitted (sinceClear ops) p → Submitted (sinceClear ops) q → q ≠ p → ∀ n,
      ((p.flatten, q.flatten, n) ∈ ((State.fresh cfg dflt rules []).1.run ops).pageLinks p.flatten false false true ↔
        (0 < n ∧ n = nsub ((sinceClear ops).flatMap Op.links) p q)) ∧
      ((p.flatten, q.flatten, n) ∈ ((State.fresh cfg dflt rules []).1.run ops).pageLinks q.flatten true false false ↔
        (0 < n ∧ n = nsub ((sinceClear ops).flatMap Op.links) p q))) ∧
    (∀ p, Submitted (sinceClear ops) p → ∀ incIn incOut n,
      ((p.flatten, p.flatten, n) ∈ ((State.fresh cfg dflt rules []).1.run ops).pageLinks p.flatten incIn true incOut ↔
        (0 < n ∧ n = nsub ((sinceClear ops).flatMap Op.links) p p)) ∧
      (p.flatten, p.flatten, n) ∉ ((State.fresh cfg dflt rules []).1.run ops).pageLinks p.flatten incIn false incOut) ∧
    (∀ p, Submitted (sinceClear ops) p → ∀ incIn incInt incOut,
      (((State.fresh cfg dflt rules []).1.run ops).pageLinks p.flatten incIn incInt incOut).Nodup) := by
  obtain ⟨t, v, hpg, _⟩ := linkView_all cfg dflt rules ops hr hwf hd
  exact ⟨fun p q hp hq => v.history.1 p q ((hpg p).mpr hp) ((hpg q).mpr hq),
    fun p hp => v.history.2.1 p ((hpg p).mpr hp), fun p hp => v.history.2.2 p ((hpg p).mpr hp)⟩

theorem C03_pageLinks_all (cfg : Config) (dflt : Rule) (rules : List (Bytes × Rule)) (ops : List Op)
    (hr : rulesCanonical rules) (hwf : ∀ op ∈ sinceClear ops, OpWf op)
    (hd : Disciplined (State.fresh cfg dflt rules []).1 ops)
    (p : LRU) (hp : Submitted (sinceClear ops) p) (incIn incInt incOut : Bool) (x : PageLink) :
    x ∈ ((State.fresh cfg dflt rules []).1.run ops).pageLinks p.flatten incIn incInt incOut ↔
      (∃ q, 0 < nsub ((sinceClear ops).flatMap Op.links) p q ∧ ((incOut = true ∧ q ≠ p) ∨ (incInt = true ∧ q = p)) ∧
        x = (p.flatten, q.flatten, nsub ((sinceClear ops).flatMap Op.links) p q)) ∨
      (incIn = true ∧ ∃ q, 0 < nsub ((sinceClear ops).flatMap Op.links) q p ∧ q ≠ p ∧
        x = (q.flatten, p.flatten, nsub ((sinceClear ops).flatMap Op.links) q p)) := by
  obtain ⟨t, v, hpg, _⟩ := linkView_all cfg dflt rules ops hr hwf hd
  exact v.mem_pageLinks ((hpg p).mpr hp) incIn incInt incOut x

theorem C03_totals_all (cfg : Config) (dflt : Rule) (rules : List (Bytes × Rule)) (ops : List Op)
    (hr : rulesCanonical rules) (hwf : ∀ op ∈ sinceClear ops, OpWf op)
    (hd : Disciplined (State.fresh cfg dflt rules []).1 ops) :
    ((State.fresh cfg dflt rules []).1.run ops).countLinks2 = 2 * ((sinceClear ops).flatMap Op.links).length ∧
    (∀ x y, (x, y) ∈ ((State.fresh cfg dflt rules []).1.run ops).linksIter true ↔
      (y, x) ∈ ((State.fresh cfg dflt rules []).1.run ops).linksIter false) ∧
    (∀ x y, (x, y) ∈ ((State.fresh cfg dflt rules []).1.run ops).linksIter true ↔
      ∃ st ∈ (sinceClear ops).flatMap Op.links, x = (lruIter st.1).flatten ∧ y = (lruIter st.2).flatten) ∧
    (∀ p, Submitted (sinceClear ops) p →
      ((State.fresh cfg dflt rules []).1.run ops).pageDegree p.flatten .outdeg true =
        (((sinceClear ops).flatMap Op.links).filter (fun st => decide (lruIter st.1 = p ∧ lruIter st.2 ≠ p))).length ∧
      ((State.fresh cfg dflt rules []).1.run ops).pageDegree p.flatten .indeg true =
        (((sinceClear ops).flatMap Op.links).filter (fun st => decide (lruIter st.2 = p ∧ lruIter st.1 ≠ p))).length ∧
      ((State.fresh cfg dflt rules []).1.run ops).pageDegree p.flatten .deg true =
        (((sinceClear ops).flatMap Op.links).filter (fun st => decide (lruIter st.1 = p))).length +
        (((sinceClear ops).flatMap Op.links).filter (fun st => decide (lruIter st.2 = p ∧ lruIter st.1 ≠ p))).length) := by
  obtain ⟨t, v, hpg, _⟩ := linkView_all cfg dflt rules ops hr hwf hd
  exact ⟨v.totals.1, v.totals.2.1, v.totals.2.2.1, fun p hp => v.totals.2.2.2 p ((hpg p).mpr hp)⟩

theorem C03_degrees_unweighted_all (cfg : Config) (dflt : Rule) (rules : List (Bytes × Rule)) (ops : List Op)
    (hr : rulesCanonical rules) (hwf : ∀ op ∈ sinceClear ops, OpWf op)
    (hd : Disciplined (State.fresh cfg dflt rules []).1 ops) (p : LRU) (hp : Submitted (sinceClear ops) p) :
    ∃ outAll outOther inOther : List LRU, outAll.Nodup ∧ outOther.Nodup ∧ inOther.Nodup ∧
      (∀ q, q ∈ outAll ↔ 0 < nsub ((sinceClear ops).flatMap Op.links) p q) ∧
      (∀ q, q ∈ outOther ↔ (0 < nsub ((sinceClear ops).flatMap Op.links) p q ∧ q ≠ p)) ∧
      (∀ q, q ∈ inOther ↔ (0 < nsub ((sinceClear ops).flatMap Op.links) q p ∧ q ≠ p)) ∧
      ((State.fresh cfg dflt rules []).1.run ops).pageDegree p.flatten .outdeg false = outOther.length ∧
      ((State.fresh cfg dflt rules []).1.run ops).pageDegree p.flatten .indeg false = inOther.length ∧
      ((State.fresh cfg dflt rules []).1.run ops).pageDegree p.flatten .deg false =
        outAll.length + inOther.length := by
  obtain ⟨t, v, hpg, _⟩ := linkView_all cfg dflt rules ops hr hwf hd
  exact v.degree_unweighted ((hpg p).mpr hp)

theorem C03_symmetry_all (cfg : Config) (dflt : Rule) (rules : List (Bytes × Rule)) (ops : List Op)
    (hr : rulesCanonical rules) (hwf : ∀ op ∈ sinceClear ops, OpWf op)
    (hd : Disciplined (State.fresh cfg dflt rules []).1 ops) (a b : Nat) :
    LinksOk ((State.fresh cfg dflt rules []).1.run ops) ∧
    count b (((State.fresh cfg dflt rules []).1.run ops).outBag a) =
      count a (((State.fresh cfg dflt rules []).1.run ops).inBag b) := by
  obtain ⟨t, v, _⟩ := linkView_all cfg dflt rules ops hr hwf hd
  exact ⟨v.graph.ok, v.graph.symm a b⟩

/-- **C04, every history** (under `rulesCanonical`, `OpWfWe` since the last `clear`, `Disciplined`): resolution
    of any query LRU is longest-stem-prefix match in the map obtained by folding the abstract edits over the
    transcript SINCE THE LAST `clear` (`sinceClearT`), starting from the empty map -/
theorem C04_history_all (cfg : Config) (dflt : Rule) (rules : List (Bytes × Rule)) (ops : List Op)
    (hr : rulesCanonical rules) (hwe : ∀ op ∈ sinceClear ops, OpWfWe op)
    (hd : Disciplined (State.fresh cfg dflt rules []).1 ops) (q : Bytes) :
    let s0 := (State.fresh cfg dflt rules []).1
    let M := specFold (fun _ => 0) (sinceClearT (s0.transcript ops))
    (∀ w, (s0.run ops).retrieveWebentity q = .ok w ↔
      ∃ k, LongestAt M (lruIter q) k ∧ w = M ((lruIter q).take k)) ∧
    (∀ e, (s0.run ops).retrieveWebentity q = .error e ↔ e = .traph ∧ NoneAt M (lruIter q)) ∧
    (∀ p, (s0.run ops).retrievePrefix q = .ok p ↔
      ∃ k, LongestAt M (lruIter q) k ∧ p = ((lruIter q).take k).flatten) ∧
    (∀ e, (s0.run ops).retrievePrefix q = .error e ↔ e = .traph ∧ NoneAt M (lruIter q)) := by
  intro s0 M
  obtain ⟨b, rs, hb, hc, hrun, hdis, htr, _⟩ := history_based cfg dflt rules ops hr hd
  obtain ⟨t0, g0, _, hw0⟩ := based_init hb rs
  have key := C04_history g0.shape (sinceClear ops) (sinceClear_free ops) hwe (based_disciplined hb rs hc hdis).1 q
  rw [hw0, ← htr, ← hrun] at key
  exact key

/-- **C02, known LRUs, every history** (under `rulesCanonical`, `Disciplined`): stored = prefix closure of what was
    named since the last `clear` (the rule anchors installed by that `clear`, or by the constructor, included) -/
theorem C02_known_all (cfg : Config) (dflt : Rule) (rules : List (Bytes × Rule)) (ops : List Op)
    (hr : rulesCanonical rules) (hd : Disciplined (State.fresh cfg dflt rules []).1 ops) :
    ∃ t, Good ((State.fresh cfg dflt rules []).1.run ops) t ∧
      ∀ p, Known ((State.fresh cfg dflt rules []).1.run ops) t p ↔
        Covered ((State.fresh cfg dflt rules []).1.namedSince (anchors rules) ops) p :=
  C02_known_since cfg dflt rules ops (reachable_noKeyErr cfg dflt rules ops hr hd)

/-- **C19, both stores, every history** (under `rulesCanonical`, `Disciplined`): the trie store holds one header
    block plus the blocks of the last stem of every LRU of the prefix closure of what was named since the last
    `clear` (the rule anchors installed by that `clear`, or by the constructor, included); the link store holds one
    header stub plus two stubs per link submitted since the last `clear` -/
theorem C19_all (cfg : Config) (dflt : Rule) (rules : List (Bytes × Rule)) (ops : List Op)
    (hr : rulesCanonical rules) (hd : Disciplined (State.fresh cfg dflt rules []).1 ops) :
    ((State.fresh cfg dflt rules []).1.run ops).trie.size =
      1 + ((prefixClosure ((State.fresh cfg dflt rules []).1.namedSince (anchors rules) ops)).map lruBlocks).sum ∧
    ((State.fresh cfg dflt rules []).1.run ops).links.size = 1 + 2 * linksSince 0 ops :=
  ⟨C19_trie_history_since cfg dflt rules ops (reachable_noKeyErr cfg dflt rules ops hr hd),
   C19_links_history_since cfg dflt rules ops (reachable_noKeyErr cfg dflt rules ops hr hd)⟩

/-- what `linksSince 0 ops` of `C19_all` is: the links submitted since the last `clear` -/
theorem linksSince_eq (ops : List Op) : linksSince 0 ops = linksSubmitted (sinceClear ops) := by
  -- what was counted before a `clear` is forgotten
  have pre : ∀ (a : List Op) (acc : Nat) (d : Option Rule) (rs : Option (List (Bytes × Rule))) (l : List Op),
      linksSince acc (a ++ .clear d rs :: l) = linksSince 0 l := by
    intro a
    induction a with
    | nil => intro acc d rs l; rfl
    | cons op a ih =>
      intro acc d rs l
      rw [List.cons_append]
      cases hc : op.isClear with
      | false => rw [linksSince_cons _ _ (Op.not_clear_of_isClear hc)]; exact ih _ d rs l
      | true => obtain ⟨d', rs', rfl⟩ := Op.eq_clear_of_isClear hc; exact ih 0 d rs l
  rcases sinceClear_cases ops with ⟨h1, h2, _⟩ | ⟨d, rs, _, h2⟩
  · rw [h2, linksSince_of_noClear ops 0 h1, Nat.zero_add]
  · conv => lhs; rw [h2]
    rw [pre, linksSince_of_noClear _ 0 (sinceClear_free ops), Nat.zero_add]

theorem C05_all {s : State} (hs : Reachable s) :
    ∃ t, Shape s t ∧ Inv s t ∧
      (∀ w ps, FullPrefixList s w ps →
        ∃ l, s.webentityPages ps = .ok l ∧
          (∀ lru c, (lru, c) ∈ l ↔
            lru = (lruIter lru).flatten ∧ IsPage s t (lruIter lru) ∧ s.retrieveWebentity lru = .ok w ∧
              (c = true ↔ IsCrawled s t (lruIter lru))) ∧
          ((ps.map lruIter).Nodup → (l.map (·.1)).Nodup) ∧
          (∀ lru c, (lru, c) ∈ l → ∃ P, P <+: lruIter lru ∧ IsPrefixOf s w P ∧
            (l.map (·.1)).count lru = (ps.map lruIter).count P) ∧
          (∀ X, IsPage s t X → s.retrieveWebentity X.flatten = .ok w → ∃ c, (X.flatten, c) ∈ l) ∧
          (∀ lru c, (lru, c) ∈ l → ∀ w' ps' l', FullPrefixList s w' ps' → s.webentityPages ps' = .ok l' →
            (∃ c', (lru, c') ∈ l') → w' = w) ∧
          (∀ lru e, s.retrieveWebentity lru = .error e → ∀ c, (lru, c) ∉ l) ∧
          s.webentityCrawledPages ps = .ok (l.filter (·.2)) ∧
          (∀ lru c, (lru, c) ∈ l.filter (·.2) ↔
            c = true ∧ lru = (lruIter lru).flatten ∧ IsCrawled s t (lruIter lru) ∧
              s.retrieveWebentity lru = .ok w)) ∧
      (∀ w, w ≠ 0 → FullPrefixList s w (prefixesOf s w) ∧ ((prefixesOf s w).map lruIter).Nodup) := by
  obtain ⟨t, h, hi, _⟩ := reachable_invariants hs
  exact ⟨t, h, hi, C05_of_inv h hi⟩

/-- …with no reference to the ghost tree -/
theorem C05_model_all {s : State} (hs : Reachable s)
    (w : Nat) (ps : List Bytes) (hf : FullPrefixList s w ps) :
    ∃ l, s.webentityPages ps = .ok l ∧
      (∀ lru c, (lru, c) ∈ l ↔
        lru = (lruIter lru).flatten ∧ s.retrieveWebentity lru = .ok w ∧
          ∃ b, s.lruNode (lruIter lru) = some b ∧ (s.cell b).flags.page = true ∧
            c = (s.cell b).flags.crawled) ∧
      ((ps.map lruIter).Nodup → (l.map (·.1)).Nodup) ∧
      s.webentityCrawledPages ps = .ok (l.filter (·.2)) := by
  obtain ⟨t, h, hi, _⟩ := reachable_invariants hs
  exact C05_model_of_inv h hi hf

/-- **C07, every history** (under `rulesCanonical`, `OpWf` since the last `clear`, `Disciplined`): the webentity network
    counts the links submitted since the last `clear` -/
theorem C07_all (cfg : Config) (dflt : Rule) (rules : List (Bytes × Rule)) (ops : List Op)
    (hr : rulesCanonical rules) (hwf : ∀ op ∈ sinceClear ops, OpWf op)
    (hd : Disciplined (State.fresh cfg dflt rules []).1 ops)
    (s : State) (hs : s = (State.fresh cfg dflt rules []).1.run ops) (out auto : Bool) :
    NetOk (s.network out auto) ∧ NetOk (s.networkSlow out auto) ∧
    (∀ A B, netGet (s.network out auto) A B = s.specDir ((sinceClear ops).flatMap Op.links) out auto A B) ∧
    (∀ A B, netGet (s.networkSlow out auto) A B = netGet (s.network out auto) A B) ∧
    (∀ A B, netGet (s.network false auto) B A = netGet (s.network true auto) A B) ∧
    (∀ A B, netGet (s.networkSlow false auto) B A = netGet (s.networkSlow true auto) A B) ∧
    (∀ A B w, (∃ r ∈ s.network out auto, r.src = A ∧ (B, w) ∈ r.targets) ↔
      0 < w ∧ w = s.specDir ((sinceClear ops).flatMap Op.links) out auto A B) ∧
    (∀ A B w, (∃ r ∈ s.networkSlow out auto, r.src = A ∧ (B, w) ∈ r.targets) ↔
      0 < w ∧ w = s.specDir ((sinceClear ops).flatMap Op.links) out auto A B) ∧
    (∀ A, A ∈ (s.network out auto).map (·.src) ↔ A ≠ 0 ∧ ∃ lc ∈ s.pagesIter, s.weOf lc.1 = A) ∧
    (∀ A, A ∈ (s.networkSlow out auto).map (·.src) ↔
      ∃ B, 0 < s.specDir ((sinceClear ops).flatMap Op.links) out auto A B) ∧
    (∀ r ∈ s.network out auto,
      r.crawled = s.pageCount true r.src ∧ r.uncrawled = s.pageCount false r.src) ∧
    (∀ r ∈ s.networkSlow out auto, r.crawled = 0 ∧ r.uncrawled = 0 ∧ r.targets ≠ []) := by
  subst hs
  obtain ⟨t, v, _⟩ := linkView_all cfg dflt rules ops hr hwf hd
  exact v.C07 out auto

/-- …block-level form -/
theorem C07_blocks_all (cfg : Config) (dflt : Rule) (rules : List (Bytes × Rule)) (ops : List Op)
    (hr : rulesCanonical rules) (hwf : ∀ op ∈ sinceClear ops, OpWf op)
    (hd : Disciplined (State.fresh cfg dflt rules []).1 ops)
    (s : State) (hs : s = (State.fresh cfg dflt rules []).1.run ops) (out auto : Bool) (A B : Nat) :
    netW (s.network out auto) A B = (if netCond auto A B then s.blockW out A B else 0) ∧
    netW (s.networkSlow out auto) A B = (if netCond auto A B then s.blockW out A B else 0) ∧
    s.blockW false B A = s.blockW true A B ∧
    s.blockW out A B =
      (if out then s.linkCount ((sinceClear ops).flatMap Op.links) A B else s.linkCount ((sinceClear ops).flatMap Op.links) B A) := by
  subst hs
  obtain ⟨t, v, _⟩ := linkView_all cfg dflt rules ops hr hwf hd
  exact v.C07_blocks out auto A B

theorem C08_all {s : State} (hs : Reachable s)
    (w : Nat) (ps : List Bytes) (hf : FullPrefixList s w ps) :
    (∀ incIn incInt incOut : Bool,
      (incIn = false ∧ incInt = false ∧ incOut = false →
        s.webentityPagelinks w ps incIn incInt incOut = .error .traph) ∧
      ((incIn || incInt || incOut) = true →
        ∃ l, s.webentityPagelinks w ps incIn incInt incOut = .ok l ∧
          (∀ src tgt k, (src, tgt, k) ∈ l ↔
            (OutLink s src tgt k ∧ s.retrieveWebentity src = .ok w ∧ SwitchOut s w incInt incOut tgt) ∨
            (incIn = true ∧ InLink s src tgt k ∧ s.retrieveWebentity tgt = .ok w ∧
              s.retrieveWebentity src ≠ .ok w)) ∧
          ((ps.map lruIter).Nodup → (l.map wlEnds).Nodup))) ∧
    (∀ src tgt k, OutLink s src tgt k → ∃ c, NodeOf s tgt c ∧ (s.cell c).flags.page = true) ∧
    (∀ src tgt k, InLink s src tgt k → ∃ c, NodeOf s src c ∧ (s.cell c).flags.page = true) ∧
    (∀ out : Bool, ∃ l, s.citedWebentities ps out = .ok l ∧ StrictAsc l ∧
      ∀ x, x ∈ l ↔ ∃ own other k, s.retrieveWebentity own = .ok w ∧
        ((out = true ∧ OutLink s own other k) ∨ (out = false ∧ InLink s other own k)) ∧ x = weOf s other) ∧
    (∃ cited citing, s.citedWebentities ps true = .ok cited ∧ s.citedWebentities ps false = .ok citing ∧
      s.webentityDegrees ps = .ok [citing.length, cited.length, citing.length + cited.length]) := by
  obtain ⟨t, h, hi, _, _, _, hk, _⟩ := reachable_invariants hs
  exact C08_of_inv h hi hk hf

theorem C08_switches_all {s : State} (hs : Reachable s)
    (w : Nat) (ps : List Bytes) (hf : FullPrefixList s w ps) :
    ∃ lInt lOut lIn, s.webentityPagelinks w ps false true false = .ok lInt ∧
      s.webentityPagelinks w ps false false true = .ok lOut ∧
      s.webentityPagelinks w ps true false false = .ok lIn ∧
      (∀ x, x ∈ lInt → x ∉ lOut) ∧ (∀ x, x ∈ lInt → x ∉ lIn) ∧ (∀ x, x ∈ lOut → x ∉ lIn) ∧
      ∀ (incIn incInt incOut : Bool) (l : List PageLink), s.webentityPagelinks w ps incIn incInt incOut = .ok l →
        ∀ x, x ∈ l ↔ (incInt = true ∧ x ∈ lInt) ∨ (incOut = true ∧ x ∈ lOut) ∨ (incIn = true ∧ x ∈ lIn) := by
  obtain ⟨t, h, hi, _, _, _, hk, _⟩ := reachable_invariants hs
  exact C08_switches_of_inv h hi hk hf

theorem C09_all {s : State} (hs : Reachable s)
    (ps : List Bytes) (all : List (Bytes × Bool)) (hall : s.webentityPages ps = .ok all)
    (crawledOnly : Bool) (count : Nat) (hc : 1 ≤ count) :
    (∃ chunks : List PageChunk,
      PageEpisode s ps crawledOnly count none chunks ∧
      episodePages s ps crawledOnly count ((pageSeq s ps crawledOnly).length / count + 1) none = some chunks ∧
      chunks.flatMap (·.pages) = ps.flatMap (pagesOfPrefix s crawledOnly) ∧
      (ps.flatMap (pagesOfPrefix s crawledOnly)).Perm (if crawledOnly then all.filter (·.2) else all) ∧
      (∀ ch ∈ chunks, ch.count = ch.pages.length ∧ ch.crawled = crawledCount ch.pages) ∧
      (∀ ch ∈ chunks.dropLast, ch.done = false ∧ ch.pages.length = count ∧ ch.token.isSome = true) ∧
      (∃ l, chunks.getLast? = some l ∧ l.done = true ∧ l.token = none ∧ l.pages.length ≤ count)) ∧
    (∀ p ∈ ps, ((pagesOfPrefix s crawledOnly p).map (·.1)).Pairwise (fun a b => lexLt a b = true)) ∧
    (∀ pre x post, gItems s (enumFrom 0 ps) = pre ++ x :: post → ∀ count', 1 ≤ count' →
      ∃ chunks, PageEpisode s ps crawledOnly count' (some (buildToken x.1 x.2.2.2)) chunks ∧
        chunks.flatMap (·.pages) = post.flatMap (fun y => pgOut s crawledOnly (y.2.1, y.2.2.1))) := by
  obtain ⟨t, h, hi, _⟩ := reachable_invariants hs
  exact C09_of_inv h hi hall crawledOnly count hc

theorem C10_all {s : State} (hs : Reachable s)
    (weid : Nat) (ps : List Bytes) (incInt incOut : Bool) (all : List PageLink)
    (hall : s.webentityPagelinks weid ps false incInt incOut = .ok all) (count : Nat) (hc : 1 ≤ count) :
    (∃ (chunks : List LinkChunk) (groups : List (List GX)),
      LinkEpisode s weid ps incInt incOut count none chunks ∧
      episodeLinks s weid ps incInt incOut count
        ((linkSources s weid ps incInt incOut).length / count + 1) none = some chunks ∧
      (chunks.flatMap (·.links)).Perm all ∧
      groups.flatten = linkSources s weid ps incInt incOut ∧
      Forall2 (fun (ch : LinkChunk) grp =>
          ch.links = grp.flatMap (fun x => s.outLinksOfPage weid x.2.1 x.2.2.1 incInt incOut) ∧
          ch.sourcePages = grp.length) chunks groups ∧
      (∀ grp ∈ groups.dropLast, grp.length = count) ∧
      (∀ ch ∈ chunks.dropLast, ch.done = false ∧ ch.sourcePages = count ∧ ch.token.isSome = true) ∧
      (∃ l, chunks.getLast? = some l ∧ l.done = true ∧ l.token = none ∧ l.sourcePages ≤ count)) ∧
    (∀ pre x post, gItems s (enumFrom 0 ps) = pre ++ x :: post → ∀ count', 1 ≤ count' →
      ∃ chunks, LinkEpisode s weid ps incInt incOut count' (some (buildToken x.1 x.2.2.2)) chunks ∧
        chunks.flatMap (·.links) = post.flatMap (fun y => srcLinks s weid incInt incOut (y.2.1, y.2.2.1))) := by
  obtain ⟨t, h, hi, _⟩ := reachable_invariants hs
  exact C10_of_inv h hi hall count hc

/-- **C13, every reachable state**: the pruning-mark invariant, and the answer of
    `get_webentity_child_webentities` is exactly the set of ids (other than the queried one) attached to a stored
    path extending one of the given prefixes (each of at least one stem) -/
theorem C13_all {s : State} (hs : Reachable s) :
    ∃ t, Shape s t ∧ MarkOk s t ∧
      (∀ a ∈ t.addrs, ∀ (lru : Bytes) (w : Nat),
        ∃ l c r, Rep s (.node a l c r) ∧ (∀ x ∈ c.addrs, x ∈ t.addrs) ∧
          ∀ x, (x ≠ 0 ∧ x ≠ w ∧ ∃ b ∈ a :: c.addrs, (s.cell b).we = x) ↔
               (x ≠ 0 ∧ x ≠ w ∧ ∃ bl ∈ s.dfsIter (some (a, lru)) true, (s.cell bl.1).we = x)) ∧
      (∀ (w : Nat) (ps : List Bytes), (∀ p ∈ ps, lruIter p ≠ []) → ∀ l : List Nat,
        s.childWebentities w ps = .ok l →
        ∀ x, x ∈ l ↔ x ≠ 0 ∧ x ≠ w ∧ ∃ p ∈ ps, ∃ q b, (q, b) ∈ t.entries s [] ∧
          lruIter p <+: q ∧ (s.cell b).we = x) := by
  obtain ⟨t, h, _, _, _, hm, _⟩ := reachable_invariants hs
  exact ⟨t, h, hm, fun a ha lru w => C13_children_exact_of_shape h hm ha lru w,
    fun w ps hps l hl x => C13_childWebentities_exact h hm w ps hps l hl x⟩

/-- **C20, every reachable state** (`C20_all` is taken by Proofs/MostLinked.lean) -/
theorem C20_all_reachable {s : State} (hs : Reachable s) :
    ∃ t, Shape s t ∧ Traph.Inv s t ∧
      (∀ w ps k depth, FullPrefixList s w ps →
        ∃ pages l, s.mostLinked ps k depth = .ok l ∧ l = rank k pages ∧
          (∀ lru m, (lru, m) ∈ pages ↔ IsCandidate s t w depth lru m) ∧
          ((ps.map lruIter).Nodup → (pages.map (·.1)).Nodup) ∧
          l.length = min k pages.length ∧
          (∃ dropped, (l ++ dropped).Perm pages ∧ ∀ x ∈ l, ∀ d ∈ dropped, d.2 ≤ x.2) ∧
          (∀ lru m, (lru, m) ∈ l → IsCandidate s t w depth lru m) ∧
          (l.map (·.2)).Pairwise (· ≥ ·) ∧
          (∀ lru m, IsCandidate s t w depth lru m → (lru, m) ∉ l → ∀ x ∈ l, m ≤ x.2) ∧
          ((ps.map lruIter).Nodup → (l.map (·.1)).Nodup)) ∧
      (∀ head, head ≠ 0 → s.indegreeEntries head = (s.walk head).eraseDups.length) ∧
      (s.cfg.lonelyIndegreeOne = true → s.indegreeEntries 0 = 1 ∧
        ∀ head, s.indegreeEntries head = (s.walk head).eraseDups.length) ∧
      (s.cfg.lonelyIndegreeOne = false → s.indegreeEntries 0 = 0) ∧
      (∀ w, w ≠ 0 → FullPrefixList s w (prefixesOf s w) ∧ ((prefixesOf s w).map lruIter).Nodup) := by
  obtain ⟨t, h, hi, _, _, _, _, _, _, _, hh, _⟩ := reachable_invariants hs
  exact ⟨t, h, hi, C20_of_inv h hi hh⟩

/-- **C18 (request boundaries), every reachable state**: every stored pointer is inside the two files, so the
    walks of the queries never read outside them -/
theorem C18_walks_all {s : State} (hs : Reachable s) : Whole s ∧ WalksSafe s s.trie.size := by
  obtain ⟨t, _, _, _, _, _, _, _, _, hw, _⟩ := reachable_invariants hs
  exact ⟨hw, PtrOkAt.walksSafe hw⟩

/-- `step_noKeyErr` in every `Reachable` state: one atomic request meeting the discipline is never aborted by
    `KeyError` (C16's own clause, about schedules of generators: `C16_no_writer_fails`, Proofs/CoSchedules) -/
theorem C16_noKeyErr_all {s : State} (hs : Reachable s) (op : Op) (hd : StepOk s op) :
    (s.step op).2 ≠ .err (.other "KeyError") := by
  obtain ⟨t, h, _, _, _, _, _, _, ok, _⟩ := reachable_invariants hs
  exact step_noKeyErr h ok op hd

/-- `linkView_all` under `Disciplined0` (`removeRule` may name rules that are not in RAM) and `OpWf` of every
    request: its `LinkView` and its page clause (not the crawled clause), about the same history -/
theorem linkView_all0 (cfg : Config) (dflt : Rule) (rules : List (Bytes × Rule)) (ops : List Op)
    (hr : rulesCanonical rules) (hwf : ∀ op ∈ ops, OpWf op)
    (hd : Disciplined0 (State.fresh cfg dflt rules []).1 ops) :
    ∃ t, LinkView ((State.fresh cfg dflt rules []).1.run ops) t ((sinceClear ops).flatMap Op.links) ∧
      (∀ p, IsPage ((State.fresh cfg dflt rules []).1.run ops) t p ↔ Submitted (sinceClear ops) p) := by
  have hwf' : ∀ op ∈ sinceClear ((State.fresh cfg dflt rules []).1.prune ops), OpWf op :=
    fun op ho => hwf op (prune_sub ops _ op (sinceClear_sub _ op ho))
  obtain ⟨t, v, hp, _⟩ := linkView_all cfg dflt rules _ hr hwf' (disciplined_prune ops _ hd)
  rw [run_prune] at v hp
  rw [prune_sinceClear_flatMap Op.links (fun _ => rfl)] at v
  refine ⟨t, v, fun p => ?_⟩
  rw [hp]
  have e := prune_sinceClear_flatMap Op.pages (fun _ => rfl) (State.fresh cfg dflt rules []).1 ops
  unfold Submitted
  constructor
  · rintro ⟨op, ho, x, hx, rfl⟩
    have : x ∈ (sinceClear ops).flatMap Op.pages := by
      rw [← e]; exact List.mem_flatMap.mpr ⟨op, ho, hx⟩
    obtain ⟨op', ho', hx'⟩ := List.mem_flatMap.mp this
    exact ⟨op', ho', x, hx', rfl⟩
  · rintro ⟨op, ho, x, hx, rfl⟩
    have : x ∈ (sinceClear ((State.fresh cfg dflt rules []).1.prune ops)).flatMap Op.pages := by
      rw [e]; exact List.mem_flatMap.mpr ⟨op, ho, hx⟩
    obtain ⟨op', ho', hx'⟩ := List.mem_flatMap.mp this
    exact ⟨op', ho', x, hx', rfl⟩

theorem C01_pages_all0 (cfg : Config) (dflt : Rule) (rules : List (Bytes × Rule)) (ops : List Op)
    (hr : rulesCanonical rules) (hwf : ∀ op ∈ ops, OpWf op)
    (hd : Disciplined0 (State.fresh cfg dflt rules []).1 ops) :
    ∃ t, Shape ((State.fresh cfg dflt rules []).1.run ops) t ∧
      ∀ p, IsPage ((State.fresh cfg dflt rules []).1.run ops) t p ↔
        ∃ op ∈ sinceClear ops, ∃ x ∈ op.pages, x.1 = p := by
  obtain ⟨t, v, hp⟩ := linkView_all0 cfg dflt rules ops hr hwf hd
  exact ⟨t, v.shape, hp⟩

section Examples

local instance : DecidablePred OpWf := fun op => by cases op <;> unfold OpWf <;> infer_instance

/-- the state the example history of Proofs/Discipline.lean reaches is `Reachable`: every theorem above applies -/
theorem uaEx_reachable : Reachable (uaS0.run uaExOps) :=
  reachable_fresh {} .never [(uaA, .domain)] uaExOps uaEx_disciplined.1 (by decide) uaEx_disciplined.2.1

/-- what counts is what came after the last `clear` -/
example : sinceClear uaExOps = [.batch [(uaAC, [uaAB, uaA])], .removeRule uaAC] ∧
    lastClearArgs uaExOps = some (some .domain, some [(uaAC, .path 1)]) := by decide +kernel

/-- …so the pages are those of the crawl batch, read back by the model -/
example : (uaS0.run uaExOps).pagesIter = [(uaA, false), (uaAC, true), (uaAB, false)] := by decide +kernel

end Examples

#print axioms linkView_all
#print axioms linkView_all0
#print axioms C01_pages_all
#print axioms C01_enumeration_all
#print axioms C03_history_all
#print axioms C03_totals_all
#print axioms C04_history_all
#print axioms C02_known_all
#print axioms C19_all
#print axioms C05_all
#print axioms C07_all
#print axioms C08_all
#print axioms C09_all
#print axioms C10_all
#print axioms C13_all
#print axioms C20_all_reachable
#print axioms C18_walks_all

end Traph
