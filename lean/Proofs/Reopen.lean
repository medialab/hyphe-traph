import Proofs.Dict
/-! C11 at the level of requests: re-supplying the current rules (distinct keys) on reopen gives back the very same state. -/
namespace Traph
open State

theorem foldl_dictSet_self {β : Type} (d : List (Bytes × β)) (h : (d.map (·.1)).Nodup) :
    ∀ acc : List (Bytes × β), (∀ k ∈ acc.map (·.1), k ∉ d.map (·.1)) → (acc.map (·.1)).Nodup →
      d.foldl (fun dd ar => dictSet dd ar.1 ar.2) acc = acc ++ d := by
  induction d with
  | nil => intro acc _ _; simp
  | cons a as ih =>
    intro acc hdis hacc
    obtain ⟨k, v⟩ := a
    simp only [List.map_cons, List.nodup_cons] at h
    have hk : k ∉ acc.map (·.1) := fun hm => hdis k hm (by simp)
    simp only [List.foldl_cons]
    rw [dictSet_append_of_fresh acc k v (fun e he e1 => hk (List.mem_map.mpr ⟨e, he, e1⟩))]
    rw [ih h.2 (acc ++ [(k, v)])]
    · simp
    · intro x hx
      simp only [List.map_append, List.map_cons, List.map_nil, List.mem_append, List.mem_singleton] at hx
      rcases hx with hx | rfl
      · intro hm; exact hdis x hx (by simp [hm])
      · exact h.1
    · simp only [List.map_append, List.map_cons, List.map_nil]
      rw [List.nodup_append]
      refine ⟨hacc, by simp, ?_⟩
      intro x hx y hy
      simp only [List.mem_singleton] at hy
      subst hy
      intro e; subst e; exact hk hx

theorem reopen_same (s : State) (h : (s.rules.map (·.1)).Nodup) : s.reopen s.dflt s.rules = s := by
  unfold reopen
  rw [foldl_dictSet_self s.rules h [] (by simp) (by simp)]
  simp

theorem addRule_rules_nodup (s : State) (a : Bytes) (r : Rule) (h : (s.rules.map (·.1)).Nodup) :
    (({ s with rules := dictSet s.rules a r } : State).rules.map (·.1)).Nodup := dictSet_keys_nodup s.rules a r h

end Traph
