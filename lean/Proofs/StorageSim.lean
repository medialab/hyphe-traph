import Traph.Storage
/-! `FileSt` and `MemSt` (Traph/Storage.lean) each hold the concatenation of one list of whole blocks (`Blocks`) and
    answer as it does, and so does `mmapRead` on those bytes, as long as reads are block-aligned and writes
    `Blocks.Disciplined`: block-sized data at an aligned offset inside or exactly at the end of the store (elsewhere
    the back-ends differ: a file write past the end zero-fills, a bytearray slice assignment clamps).
    `back_ends_agree` says so for a list of calls; that the calls of the index are disciplined is
    Proofs/StorageBridge. -/
namespace Traph

theorem flatten_length_of_uniform (n : Nat) (l : List Bytes) (h : ∀ x ∈ l, x.length = n) :
    l.flatten.length = l.length * n := by
  induction l with
  | nil => simp
  | cons x xs ih =>
    have hx : x.length = n := h x (by simp)
    have := ih (fun y hy => h y (by simp [hy]))
    simp only [List.flatten_cons, List.length_append, List.length_cons, hx, this, Nat.add_mul]
    omega

theorem flatten_take_mul (n : Nat) (l : List Bytes) (h : ∀ x ∈ l, x.length = n) (i : Nat) :
    l.flatten.take (i * n) = (l.take i).flatten := by
  induction l generalizing i with
  | nil => simp
  | cons x xs ih =>
    cases i with
    | zero => simp
    | succ k =>
      have hx : x.length = n := h x (by simp)
      have := ih (fun y hy => h y (by simp [hy])) k
      simp only [List.flatten_cons, List.take_succ_cons]
      rw [List.take_append, ← this, hx, Nat.succ_mul, Nat.add_sub_cancel,
        List.take_of_length_le (by rw [hx]; exact Nat.le_add_left _ _)]

theorem flatten_drop_mul (n : Nat) (l : List Bytes) (h : ∀ x ∈ l, x.length = n) (i : Nat) :
    l.flatten.drop (i * n) = (l.drop i).flatten := by
  induction l generalizing i with
  | nil => simp
  | cons x xs ih =>
    cases i with
    | zero => simp
    | succ k =>
      have hx : x.length = n := h x (by simp)
      have := ih (fun y hy => h y (by simp [hy])) k
      simp only [List.flatten_cons, List.drop_succ_cons]
      rw [List.drop_append, ← this, hx, Nat.succ_mul, Nat.add_sub_cancel,
        List.drop_of_length_le (by rw [hx]; exact Nat.le_add_left _ _), List.nil_append]

theorem flatten_take_drop (n : Nat) (l : List Bytes) (h : ∀ x ∈ l, x.length = n) (i : Nat) :
    (l.flatten.drop (i * n)).take n = l[i]?.getD [] := by
  rw [flatten_drop_mul n l h i]
  by_cases hi : i < l.length
  · rw [List.drop_eq_getElem_cons hi, List.flatten_cons]
    have hx : l[i].length = n := h _ (List.getElem_mem hi)
    rw [List.take_append, hx, Nat.sub_self, List.take_zero, List.append_nil,
      List.take_of_length_le (by omega)]
    simp [hi]
  · have : l.length ≤ i := Nat.le_of_not_lt hi
    rw [List.drop_of_length_le this]
    simp [List.getElem?_eq_none this]

/-- the file holds exactly the blocks of `b` end to end, wherever its cursor stands: what `back_ends_agree` maintains -/
def FileSt.Abs (f : FileSt) (b : Blocks) : Prop := f.data = b.bytes
/-- the same of the bytearray of a `MemoryStorage` -/
def MemSt.Abs (m : MemSt) (b : Blocks) : Prop := m.data = b.bytes

theorem Blocks.bytes_length (b : Blocks) (h : b.Wf) : b.bytes.length = b.blocks.length * b.bs :=
  flatten_length_of_uniform b.bs b.blocks h.2

/-- the common read: `bs` bytes at an aligned offset are exactly the block there -/
theorem Blocks.slice_eq (b : Blocks) (hw : b.Wf) (off : Nat) (ha : off % b.bs = 0) :
    (let d := (b.bytes.drop off).take b.bs; if d.isEmpty then none else some d) = b.read off := by
  have e : off = off / b.bs * b.bs := (Nat.div_mul_cancel (Nat.dvd_of_mod_eq_zero ha)).symm
  have key := flatten_take_drop b.bs b.blocks hw.2 (off / b.bs)
  rw [← e] at key
  simp only [Blocks.bytes, Blocks.read, key]
  by_cases hi : off / b.bs < b.blocks.length
  · have hx : (b.blocks[off / b.bs]).length = b.bs := hw.2 _ (List.getElem_mem hi)
    have hne : b.blocks[off / b.bs] ≠ [] := by
      intro h0; rw [h0] at hx; have := hw.1; simp at hx; omega
    simp [List.getElem?_eq_getElem hi, hne]
  · have : b.blocks.length ≤ off / b.bs := Nat.le_of_not_lt hi
    simp [List.getElem?_eq_none this]

theorem mmapRead_sim (b : Blocks) (hw : b.Wf) (off : Nat) (ha : off % b.bs = 0) :
    mmapRead b.bytes b.bs off = b.read off := b.slice_eq hw off ha

theorem MemSt.read_sim (m : MemSt) (b : Blocks) (h : m.Abs b) (hw : b.Wf) (off : Nat)
    (ha : off % b.bs = 0) : m.read b.bs off = b.read off := by
  unfold MemSt.read; rw [h]; exact b.slice_eq hw off ha

theorem FileSt.read_sim (f : FileSt) (b : Blocks) (h : f.Abs b) (hw : b.Wf) (off : Nat)
    (ha : off % b.bs = 0) :
    (f.read b.bs (some off)).2 = b.read off ∧ (f.read b.bs (some off)).1.Abs b := by
  refine ⟨?_, h⟩
  have := b.slice_eq hw off ha
  unfold FileSt.Abs at h
  simpa [FileSt.read, h] using this

/-- the splice at an aligned offset is the block update (past the end both append) -/
theorem Blocks.splice_eq (b : Blocks) (hw : b.Wf) (data : Bytes) (off : Nat) (ha : off % b.bs = 0) :
    b.bytes.take off ++ data ++ b.bytes.drop (off + b.bs) = (b.write data (some off)).1.bytes := by
  have e : off = off / b.bs * b.bs := (Nat.div_mul_cancel (Nat.dvd_of_mod_eq_zero ha)).symm
  have e' : off + b.bs = (off / b.bs + 1) * b.bs := by rw [Nat.add_mul, ← e]; omega
  generalize off / b.bs = i at *
  have ht := flatten_take_mul b.bs b.blocks hw.2 i
  have hd := flatten_drop_mul b.bs b.blocks hw.2 (i + 1)
  simp only [Blocks.bytes, Blocks.write]
  rw [e', hd, e, ht, Nat.mul_div_cancel i hw.1]
  by_cases hi : i < b.blocks.length
  · rw [if_pos hi]
    simp only [List.set_eq_take_append_cons_drop, hi, if_true, List.flatten_append,
      List.flatten_cons, List.append_assoc]
  · rw [if_neg hi]
    have : b.blocks.length ≤ i := Nat.le_of_not_lt hi
    simp [List.take_of_length_le this, List.drop_of_length_le (Nat.le_succ_of_le this)]

theorem Blocks.append_eq (b : Blocks) (data : Bytes) :
    b.bytes ++ data = (b.write data none).1.bytes := by
  simp [Blocks.bytes, Blocks.write]

theorem Blocks.write_bs (b : Blocks) (data : Bytes) (block : Option Nat) :
    (b.write data block).1.bs = b.bs := by
  unfold Blocks.write; split
  · rfl
  · split <;> rfl

theorem Blocks.write_wf (b : Blocks) (hw : b.Wf) (data : Bytes) (block : Option Nat)
    (hd : b.Disciplined data block) : (b.write data block).1.Wf := by
  obtain ⟨h0, hall⟩ := hw
  have happ : ∀ x ∈ b.blocks ++ [data], x.length = b.bs := by
    intro x hx
    rcases List.mem_append.1 hx with hx | hx
    · exact hall x hx
    · simp at hx; rw [hx]; exact hd.1
  unfold Blocks.write; split
  · exact ⟨h0, happ⟩
  · split
    · refine ⟨h0, fun x hx => ?_⟩
      rcases List.mem_or_eq_of_mem_set hx with hx | hx
      · exact hall x hx
      · rw [hx]; exact hd.1
    · exact ⟨h0, happ⟩

theorem overwriteAt_le (d : Bytes) (off : Nat) (new : Bytes) (h : off ≤ d.length) :
    overwriteAt d off new = d.take off ++ new ++ d.drop (off + new.length) := by
  simp [overwriteAt, Nat.sub_eq_zero_of_le h]

theorem FileSt.write_sim (f : FileSt) (b : Blocks) (h : f.Abs b) (hw : b.Wf) (data : Bytes)
    (block : Option Nat) (hd : b.Disciplined data block) :
    (f.write b.bs data block).1.Abs (b.write data block).1 ∧
    (f.write b.bs data block).2 = (b.write data block).2 := by
  unfold FileSt.Abs at h
  have hlen := b.bytes_length hw
  cases block with
  | none =>
    constructor
    · show overwriteAt f.data f.data.length data = _
      rw [overwriteAt_le _ _ _ (Nat.le_refl _), ← Blocks.append_eq, h]
      simp
    · show f.data.length + data.length - b.bs = b.blocks.length * b.bs
      rw [h, hlen, hd.1, Nat.add_sub_cancel]
  | some off =>
    obtain ⟨ha, hle⟩ := hd.2 off rfl
    have hoff : off ≤ f.data.length := by
      rw [h, hlen]
      calc off = off / b.bs * b.bs := (Nat.div_mul_cancel (Nat.dvd_of_mod_eq_zero ha)).symm
        _ ≤ _ := Nat.mul_le_mul_right _ hle
    constructor
    · show overwriteAt f.data off data = _
      rw [overwriteAt_le _ _ _ hoff, hd.1, h]
      exact b.splice_eq hw data off ha
    · show off + data.length - b.bs = (b.write data (some off)).2
      have : (b.write data (some off)).2 = off := by
        unfold Blocks.write; simp only; split <;> rfl
      rw [this, hd.1, Nat.add_sub_cancel]

theorem MemSt.write_sim (m : MemSt) (b : Blocks) (h : m.Abs b) (hw : b.Wf) (data : Bytes)
    (block : Option Nat) (hd : b.Disciplined data block) :
    (m.write b.bs data block).1.Abs (b.write data block).1 ∧
    (m.write b.bs data block).2 = (b.write data block).2 := by
  unfold MemSt.Abs at h
  have hlen := b.bytes_length hw
  cases block with
  | none =>
    constructor
    · show m.data ++ data = _
      rw [h]; exact b.append_eq data
    · show (m.data ++ data).length - b.bs = b.blocks.length * b.bs
      rw [List.length_append, h, hlen, hd.1, Nat.add_sub_cancel]
  | some off =>
    obtain ⟨ha, _⟩ := hd.2 off rfl
    constructor
    · show m.data.take off ++ data ++ m.data.drop (off + b.bs) = _
      rw [h]; exact b.splice_eq hw data off ha
    · show off = (b.write data (some off)).2
      unfold Blocks.write; simp only; split <;> rfl

theorem mmapRead_file_sim (f : FileSt) (b : Blocks) (h : f.Abs b) (hw : b.Wf) (off : Nat)
    (ha : off % b.bs = 0) : mmapRead f.data b.bs off = (f.read b.bs (some off)).2 := by
  rw [(f.read_sim b h hw off ha).1, ← mmapRead_sim b hw off ha, h]

/-- a call made to a storage object: `read(block)` at a byte offset, or `write(data, block)` (`none` = append) -/
inductive SOp
  | read (off : Nat)
  | write (data : Bytes) (block : Option Nat)
deriving Repr, DecidableEq

inductive SRes
  | bytes (r : Option Bytes)
  | off (n : Nat)
deriving Repr, DecidableEq

/-- the answers of a `FileStorage` to a sequence of calls, and the storage after them; `MemSt.runOps` and
    `Blocks.runOps` are the same for the bytearray and for the list of blocks -/
def FileSt.runOps (f : FileSt) (bs : Nat) : List SOp → FileSt × List SRes
  | [] => (f, [])
  | .read off :: ops =>
    let r := f.read bs (some off)
    let rest := r.1.runOps bs ops
    (rest.1, .bytes r.2 :: rest.2)
  | .write data block :: ops =>
    let r := f.write bs data block
    let rest := r.1.runOps bs ops
    (rest.1, .off r.2 :: rest.2)

def MemSt.runOps (m : MemSt) (bs : Nat) : List SOp → MemSt × List SRes
  | [] => (m, [])
  | .read off :: ops =>
    let rest := m.runOps bs ops
    (rest.1, .bytes (m.read bs off) :: rest.2)
  | .write data block :: ops =>
    let r := m.write bs data block
    let rest := r.1.runOps bs ops
    (rest.1, .off r.2 :: rest.2)

def Blocks.runOps (b : Blocks) : List SOp → Blocks × List SRes
  | [] => (b, [])
  | .read off :: ops =>
    let rest := b.runOps ops
    (rest.1, .bytes (b.read off) :: rest.2)
  | .write data block :: ops =>
    let r := b.write data block
    let rest := r.1.runOps ops
    (rest.1, .off r.2 :: rest.2)

/-- every call of the sequence is within the discipline (aligned read, `Blocks.Disciplined` write) in the store as
    the calls before it left it -/
def Blocks.AllDisciplined (b : Blocks) : List SOp → Prop
  | [] => True
  | .read off :: ops => off % b.bs = 0 ∧ b.AllDisciplined ops
  | .write data block :: ops =>
    b.Disciplined data block ∧ (b.write data block).1.AllDisciplined ops

theorem back_ends_agree (ops : List SOp) (f : FileSt) (m : MemSt) (b : Blocks)
    (hf : f.Abs b) (hm : m.Abs b) (hw : b.Wf) (hd : b.AllDisciplined ops) :
    (f.runOps b.bs ops).2 = (b.runOps ops).2 ∧
    (m.runOps b.bs ops).2 = (b.runOps ops).2 ∧
    (f.runOps b.bs ops).1.Abs (b.runOps ops).1 ∧
    (m.runOps b.bs ops).1.Abs (b.runOps ops).1 ∧
    (b.runOps ops).1.Wf := by
  induction ops generalizing f m b with
  | nil => exact ⟨rfl, rfl, hf, hm, hw⟩
  | cons op ops ih =>
    cases op with
    | read off =>
      obtain ⟨ha, hrest⟩ := hd
      obtain ⟨hfr, hfa⟩ := f.read_sim b hf hw off ha
      have hmr := m.read_sim b hm hw off ha
      obtain ⟨h1, h2, h3, h4, h5⟩ := ih _ m b hfa hm hw hrest
      simp only [FileSt.runOps, MemSt.runOps, Blocks.runOps]
      exact ⟨by rw [hfr, h1], by rw [hmr, h2], h3, h4, h5⟩
    | write data block =>
      obtain ⟨hdisc, hrest⟩ := hd
      obtain ⟨hfa, hfr⟩ := f.write_sim b hf hw data block hdisc
      obtain ⟨hma, hmr⟩ := m.write_sim b hm hw data block hdisc
      have hw' := b.write_wf hw data block hdisc
      obtain ⟨h1, h2, h3, h4, h5⟩ := ih _ _ _ hfa hma hw' hrest
      rw [b.write_bs data block] at h1 h2 h3 h4
      simp only [FileSt.runOps, MemSt.runOps, Blocks.runOps]
      exact ⟨by rw [hfr, h1], by rw [hmr, h2], h3, h4, h5⟩

#print axioms FileSt.write_sim
#print axioms MemSt.write_sim
#print axioms mmapRead_sim
#print axioms back_ends_agree

end Traph
