import Proofs.ObsEquivOps
import Proofs.ObsEquivCfg
import Proofs.Reopen
import Proofs.Codec
import Proofs.ReachableAll
/-! C11 — close/reopen and clear, inserted anywhere in a history, any number of times. Reopening with the same default
    rule and a rule collection of the same CONTENT (any order, repeated anchors allowed — the last one wins, as in
    the dict the caller's items build) gives an observationally equivalent index (`≃ₒ`, Proofs/ObsEquiv): not the
    same model state in general (the RAM association list may be permuted), but no request can tell. Main:
    `C11_reopen_everywhere`, `C11_reopen_continues` (over `Reopened`: a history with reopens inserted), `C11_clear_everywhere`. -/
namespace Traph
open State

/-- `rs` (the items of the caller's dict, or any list of `(anchor, rule)` pairs — later pairs win) re-supplies the
    rules the index holds in RAM: the dict it builds has the same content -/
def Resupplies (s : State) (rs : List (Bytes × Rule)) : Prop :=
  RulesEq s.rules (rs.foldl (fun d ar => dictSet d ar.1 ar.2) [])

theorem resupplies_iff (s : State) (rs : List (Bytes × Rule)) : Resupplies s rs ↔ RulesEq s.rules rs.reverse := by
  unfold Resupplies RulesEq
  simp only [oe_dictGet_built]

theorem reopen_equiv (s : State) (rs : List (Bytes × Rule)) (h : Resupplies s rs) : s ≃ₒ s.reopen s.dflt rs :=
  ⟨rfl, rfl, rfl, rfl, rfl, h⟩

theorem reopen_equiv_iff (s : State) (d : Rule) (rs : List (Bytes × Rule)) :
    s ≃ₒ s.reopen d rs ↔ d = s.dflt ∧ Resupplies s rs :=
  ⟨fun h => ⟨h.dflt, h.rules⟩, fun ⟨hd, hr⟩ => hd ▸ reopen_equiv s rs hr⟩

theorem resupplies_self (s : State) (hn : (s.rules.map (·.1)).Nodup) : Resupplies s s.rules :=
  (resupplies_iff s s.rules).mpr (RulesEq.of_perm hn (List.reverse_perm _).symm)

theorem resupplies_perm (s : State) (rs : List (Bytes × Rule)) (hn : (s.rules.map (·.1)).Nodup)
    (hp : rs.Perm s.rules) : Resupplies s rs := by
  rw [resupplies_iff]
  exact RulesEq.of_perm hn (hp.symm.trans (List.reverse_perm rs).symm)

theorem resupplies_shadowed (s : State) (junk rs : List (Bytes × Rule)) (h : Resupplies s rs)
    (hj : ∀ k ∈ junk.map (·.1), k ∈ rs.map (·.1)) : Resupplies s (junk ++ rs) := by
  rw [resupplies_iff] at h ⊢
  intro k
  rw [h k, List.reverse_append, dictGet?_append]
  cases hg : dictGet? rs.reverse k with
  | some v => rfl
  | none =>
    rw [oe_dictGet_none_iff] at hg
    have hk : k ∉ junk.reverse.map (·.1) := by
      intro hm
      apply hg
      rw [List.map_reverse, List.mem_reverse] at hm ⊢
      exact hj k hm
    rw [Option.none_or, oe_dictGet_none_iff.mpr hk]

def OeRulesNodup (s : State) : Prop := (s.rules.map (·.1)).Nodup

theorem oe_nodup_built {β} (rs acc : List (Bytes × β)) (h : (acc.map (·.1)).Nodup) :
    ((rs.foldl (fun d ar => dictSet d ar.1 ar.2) acc).map (·.1)).Nodup := by
  induction rs generalizing acc with
  | nil => exact h
  | cons x rs ih => exact ih _ (dictSet_keys_nodup acc x.1 x.2 h)

theorem oe_nodup_installRules (l : List (Bytes × Rule)) (w : Bool) (s : State) (h : OeRulesNodup s) :
    OeRulesNodup (installRules s l w).1 :=
  installRules_ind w l s (fun s ar _ h => by
    unfold OeRulesNodup
    rw [(addRule_ghost s s.rules [] (RulesEq.refl _) ar.1 ar.2 w).2]
    exact dictSet_keys_nodup _ _ _ h) h

theorem oe_nodup_step (s : State) (op : Op) (h : OeRulesNodup s) : OeRulesNodup (s.step op).1 := by
  unfold OeRulesNodup at h ⊢
  cases op with
  | addRule a r =>
    simp only [step_addRule]
    rw [(addRule_ghost s s.rules [] (RulesEq.refl _) a r true).2]
    exact dictSet_keys_nodup _ _ _ h
  | removeRule a =>
    simp only [step_removeRule]
    rw [(removeRule_ghost s s.rules [] (RulesEq.refl _) a).2]
    exact h.sublist (List.filter_sublist.map _)
  | reopen d l => exact oe_nodup_built l [] (by simp)
  | clear d l =>
    rw [step_clear, clear_eq_installRules]
    exact oe_nodup_installRules _ true _ (by cases l <;> first | exact h | exact List.nodup_nil)
  | _ =>
    rw [step_rules s _ rfl (by intro _ _ e; cases e)]
    exact h

theorem oe_nodup_run (s : State) (ops : List Op) (h : OeRulesNodup s) : OeRulesNodup (s.run ops) := by
  induction ops generalizing s with
  | nil => exact h
  | cons op ops ih => exact ih _ (oe_nodup_step s op h)

theorem oe_nodup_fresh (cfg : Config) (dflt : Rule) (rules : List (Bytes × Rule)) (log : List Write) :
    OeRulesNodup (State.fresh cfg dflt rules log).1 :=
  oe_nodup_installRules rules true _ (by simp [OeRulesNodup])

theorem oe_reachable_rulesNodup {s : State} (h : Reachable s) : OeRulesNodup s := by
  obtain ⟨cfg, dflt, rules, ops, _, _, _, rfl⟩ := h
  exact oe_nodup_run _ ops (oe_nodup_fresh cfg dflt rules [])

theorem oe_reachable_resupplies {s : State} (h : Reachable s) (rs : List (Bytes × Rule)) (hp : rs.Perm s.rules) :
    Resupplies s rs := resupplies_perm s rs (oe_reachable_rulesNodup h) hp

/-- started in `s`, the marked history `ops'` is `ops` with close/reopen requests (mark `true`) inserted at any
    positions, any number of times; each re-supplies the default rule and (the content of) the rules of the index
    as it is AT THAT POSITION of the run -/
inductive Reopened : State → List Op → List (Bool × Op) → Prop
  | done (s : State) : Reopened s [] []
  | keep (s : State) (op : Op) (ops : List Op) (ops' : List (Bool × Op)) :
      Reopened (s.step op).1 ops ops' → Reopened s (op :: ops) ((false, op) :: ops')
  | reopen (s : State) (rs : List (Bytes × Rule)) (ops : List Op) (ops' : List (Bool × Op)) :
      Resupplies s rs → Reopened (s.reopen s.dflt rs) ops ops' → Reopened s ops ((true, .reopen s.dflt rs) :: ops')

def oe_unmark (ops' : List (Bool × Op)) : List Op := ops'.map (·.2)

def State.oe_origAnswers : State → List (Bool × Op) → List (Op × Ans)
  | _, [] => []
  | s, (true, op) :: l => State.oe_origAnswers (s.step op).1 l
  | s, (false, op) :: l => (op, (s.step op).2) :: State.oe_origAnswers (s.step op).1 l

theorem oe_origAnswers_eq (s : State) (l : List (Bool × Op)) :
    s.oe_origAnswers l
      = (((l.map (·.1)).zip (s.transcript (oe_unmark l))).filter (fun x => !x.1)).map (·.2) := by
  induction l generalizing s with
  | nil => rfl
  | cons x l ih =>
    obtain ⟨m, op⟩ := x
    cases m with
    | true =>
      simp only [State.oe_origAnswers, oe_unmark, List.map_cons, State.transcript, List.zip_cons_cons]
      rw [List.filter_cons_of_neg (by simp)]
      exact ih _
    | false =>
      simp only [State.oe_origAnswers, oe_unmark, List.map_cons, State.transcript, List.zip_cons_cons]
      rw [List.filter_cons_of_pos (by simp), List.map_cons]
      exact congrArg _ (ih _)

theorem oe_reopen_silent (s : State) (d : Rule) (rs : List (Bytes × Rule)) :
    (s.step (.reopen d rs)).2 = .unit ∧ s.oe_writes (.reopen d rs) = [] ∧
    (s.step (.reopen d rs)).1.trie = s.trie ∧ (s.step (.reopen d rs)).1.links = s.links ∧
    (s.step (.reopen d rs)).1.hdrId = s.hdrId ∧ (s.step (.reopen d rs)).1.log = s.log := ⟨rfl, rfl, rfl, rfl, rfl, rfl⟩

/-- **C11, general form**: from equivalent states, a history and the same history with close/reopen
    requests inserted anywhere, any number of times, end in equivalent states; the original requests get the same
    answers; the same storage writes are issued -/
theorem oe_reopened {s' : State} {ops : List Op} {ops' : List (Bool × Op)} (hi : Reopened s' ops ops') :
    ∀ {s : State}, s ≃ₒ s' →
      s.run ops ≃ₒ s'.run (oe_unmark ops') ∧
      s'.oe_origAnswers ops' = s.transcript ops ∧
      s'.oe_runWrites (oe_unmark ops') = s.oe_runWrites ops := by
  induction hi with
  | done s' => intro s h; exact ⟨h, rfl, rfl⟩
  | keep s' op ops ops' _ ih =>
    intro s h
    obtain ⟨ha, hs, hw⟩ := oe_step h op
    obtain ⟨i1, i2, i3⟩ := ih hs
    refine ⟨i1, ?_, ?_⟩
    · simp only [State.oe_origAnswers, State.transcript]
      rw [ha, i2]
    · simp only [oe_unmark, List.map_cons, State.oe_runWrites] at i3 ⊢
      rw [hw, i3]
  | reopen s' rs ops ops' hr _ ih =>
    intro s h
    obtain ⟨i1, i2, i3⟩ := ih (h.trans (reopen_equiv s' rs hr))
    refine ⟨i1, i2, ?_⟩
    simp only [oe_unmark, List.map_cons, State.oe_runWrites] at i3 ⊢
    rw [← i3]
    exact List.append_nil _

/-- **C11 `reopen_everywhere`**: a history with close/reopen (same default rule, rules of the same content
    re-supplied) inserted at every position of it, any number of times, from ANY state `s`: the final states are
    observationally equivalent, every original request gets the same answer, the sequence of storage writes is the
    same, both files are the same byte for byte, and every read-only request answers the same afterwards -/
theorem C11_reopen_everywhere (s : State) (ops : List Op) (ops' : List (Bool × Op)) (hi : Reopened s ops ops') :
    s.run ops ≃ₒ s.run (oe_unmark ops') ∧
    s.oe_origAnswers ops' = s.transcript ops ∧
    s.oe_runWrites (oe_unmark ops') = s.oe_runWrites ops ∧
    (s.run (oe_unmark ops')).log = (s.run ops).log ∧
    encodeTrie (s.run (oe_unmark ops')) = encodeTrie (s.run ops) ∧
    encodeLinks (s.run (oe_unmark ops')) = encodeLinks (s.run ops) ∧
    ∀ q, (s.run (oe_unmark ops')).ask q = (s.run ops).ask q := by
  obtain ⟨h1, h2, h3⟩ := oe_reopened hi (ObsEq.refl s)
  refine ⟨h1, h2, h3, ?_, (oe_files h1).1, (oe_files h1).2, fun q => oe_ask h1 q⟩
  rw [oe_log_run, oe_log_run, h3]

/-- **… and continues to evolve exactly as an index that was never closed**: any further history (itself with
    close/reopen inserted or not) gets the same answers, issues the same writes, ends in equivalent states -/
theorem C11_reopen_continues (s : State) (ops : List Op) (ops' : List (Bool × Op)) (hi : Reopened s ops ops')
    (more : List Op) :
    (s.run (oe_unmark ops')).transcript more = (s.run ops).transcript more ∧
    (s.run (oe_unmark ops')).oe_runWrites more = (s.run ops).oe_runWrites more ∧
    (s.run ops).run more ≃ₒ (s.run (oe_unmark ops')).run more :=
  have h := (oe_reopened hi (ObsEq.refl s)).1
  ⟨oe_transcript h more, oe_runWrites h more, oe_run h more⟩

theorem reopened_refl (s : State) (ops : List Op) : Reopened s ops (ops.map (fun op => (false, op))) := by
  induction ops generalizing s with
  | nil => exact .done s
  | cons op ops ih => exact .keep s op ops _ (ih _)

theorem reopened_append {s : State} {a : List Op} {a' : List (Bool × Op)} (h : Reopened s a a')
    {b : List Op} {b' : List (Bool × Op)} (hb : Reopened (s.run (oe_unmark a')) b b') :
    Reopened s (a ++ b) (a' ++ b') := by
  induction h with
  | done s => exact hb
  | keep s op ops ops' _ ih => exact .keep s op _ _ (ih hb)
  | reopen s rs ops ops' hr _ ih => exact .reopen s rs _ _ hr (ih hb)

theorem oe_unmark_map_false (ops : List Op) : oe_unmark (ops.map (fun op => (false, op))) = ops := by
  induction ops with
  | nil => rfl
  | cons op ops ih => simp only [oe_unmark, List.map_cons] at ih ⊢; rw [ih]

/-- `Reopened` is inhabited at every position: one close/reopen, re-supplying the RAM rules in any order, between
    any two requests -/
theorem reopened_at (s : State) (hn : OeRulesNodup s) (pre post : List Op) (rs : List (Bytes × Rule))
    (hp : rs.Perm (s.run pre).rules) :
    Reopened s (pre ++ post)
      (pre.map (fun op => (false, op)) ++ (true, .reopen (s.run pre).dflt rs) :: post.map (fun op => (false, op))) := by
  refine reopened_append (reopened_refl s pre) ?_
  rw [oe_unmark_map_false]
  exact .reopen _ rs _ _ (resupplies_perm _ rs (oe_nodup_run s pre hn) hp) (reopened_refl _ post)

/-- **files are whole numbers of blocks, in every state** (reachable or not, whatever the sizes of ids and offsets) -/
theorem C11_whole_blocks_always (s : State) :
    (encodeTrie s).length = s.trie.size * Layout.trieBlock ∧ (encodeLinks s).length = s.links.size * Layout.linkBlock ∧
    (encodeTrie s).length % Layout.trieBlock = 0 ∧ (encodeLinks s).length % Layout.linkBlock = 0 := by
  refine ⟨encodeTrie_length' s, encodeLinks_length' s, ?_, ?_⟩
  · rw [encodeTrie_length']; exact Nat.mul_mod_left _ _
  · rw [encodeLinks_length']; exact Nat.mul_mod_left _ _

/-- `clear` with rules given builds, up to the ghost log, the constructor's fresh index, whatever the state it is
    issued in -/
theorem clear_equiv_fresh (s : State) (d : Option Rule) (rs : List (Bytes × Rule)) :
    (State.fresh s.cfg (d.getD s.dflt) rs []).1 ≃ₒ (s.clear d (some rs)).1 ∧
    (s.clear d (some rs)).2 = (State.fresh s.cfg (d.getD s.dflt) rs []).2 := by
  have e : s.clear d (some rs) = (((State.fresh s.cfg (d.getD s.dflt) rs []).1).addLog s.log,
      (State.fresh s.cfg (d.getD s.dflt) rs []).2) := by
    rw [clear_some_eq_fresh]; exact fresh_addLog _ _ _ _
  rw [e]
  exact ⟨obsEq_addLog _ _, rfl⟩

/-- `clear` WITHOUT rules keeps the RAM dict although no rule is flagged in the (empty) trie any more -/
theorem clear_none_eq (s : State) (d : Option Rule) :
    (s.clear d none).1 = ((State.fresh s.cfg (d.getD s.dflt) [] s.log).1).oe_setRules s.rules := rfl

theorem clear_none_equiv_iff (s : State) (d : Option Rule) :
    (State.fresh s.cfg (d.getD s.dflt) [] []).1 ≃ₒ (s.clear d none).1 ↔ ∀ k, dictGet? s.rules k = none := by
  constructor
  · intro h k
    exact (h.rules k).symm
  · intro h
    exact ⟨rfl, rfl, rfl, rfl, rfl, fun k => (h k).symm⟩

/-- **C11 `clear_everywhere`**: `clear d rs` inserted at any position of a history (`pre` before, `post` after),
    from any state: the part of the history after the clear behaves exactly as on a freshly created index holding
    the rules given to the clear request (with the configuration the index has, and its default rule if the request
    gives none) — same answers to every request, same storage writes, equivalent states all along, the same two
    files and the same answer to every read-only request at the end -/
theorem C11_clear_everywhere (s : State) (pre post : List Op) (d : Option Rule) (rs : List (Bytes × Rule)) :
    let c := s.run pre
    let f := (State.fresh s.cfg (d.getD c.dflt) rs []).1
    (c.step (.clear d (some rs))).2 = Ans.ofExcept (fun _ => .unit) (State.fresh s.cfg (d.getD c.dflt) rs []).2 ∧
    f.run post ≃ₒ s.run (pre ++ .clear d (some rs) :: post) ∧
    (c.step (.clear d (some rs))).1.transcript post = f.transcript post ∧
    (c.step (.clear d (some rs))).1.oe_runWrites post = f.oe_runWrites post ∧
    encodeTrie (s.run (pre ++ .clear d (some rs) :: post)) = encodeTrie (f.run post) ∧
    encodeLinks (s.run (pre ++ .clear d (some rs) :: post)) = encodeLinks (f.run post) ∧
    ∀ q, (s.run (pre ++ .clear d (some rs) :: post)).ask q = (f.run post).ask q := by
  intro c f
  have hc : c.cfg = s.cfg := oe_cfg_run s pre
  obtain ⟨h, ha⟩ := clear_equiv_fresh c d rs
  rw [hc] at h ha
  have e : s.run (pre ++ .clear d (some rs) :: post) = (c.clear d (some rs)).1.run post := by
    rw [run_append]; rfl
  have hr : f.run post ≃ₒ (c.clear d (some rs)).1.run post := oe_run h post
  refine ⟨?_, e ▸ hr, oe_transcript h post, oe_runWrites h post, ?_, ?_, fun q => ?_⟩
  · show Ans.ofExcept _ (c.clear d (some rs)).2 = _
    rw [ha]
  · rw [e]; exact (oe_files hr).1
  · rw [e]; exact (oe_files hr).2
  · rw [e]; exact oe_ask hr q

theorem C11_clear_blank (s : State) (d : Option Rule) :
    (s.clear d (some [])).1.trie = #[{}] ∧ (s.clear d (some [])).1.links = #[{}] ∧ (s.clear d (some [])).1.hdrId = 0 ∧
    (s.clear d (some [])).1.rules = [] := ⟨rfl, rfl, rfl, rfl⟩

/-- `s:http|h:com|h:a|` -/
def oe_exA : Bytes := [115, 58, 104, 116, 116, 112, 124, 104, 58, 99, 111, 109, 124, 104, 58, 97, 124]
/-- `s:http|h:com|h:b|` -/
def oe_exB : Bytes := [115, 58, 104, 116, 116, 112, 124, 104, 58, 99, 111, 109, 124, 104, 58, 98, 124]
def oe_exS : State := (State.fresh {} .domain [(oe_exA, .path 1), (oe_exB, .subdomain)] []).1

/-- the same rules in another order do NOT give back the same model state (`reopen_same` does not apply), only an
    equivalent one (`reopen_equiv`) -/
example : (oe_exS.reopen oe_exS.dflt [(oe_exB, .subdomain), (oe_exA, .path 1)]).rules ≠ oe_exS.rules := by decide

example : Resupplies oe_exS [(oe_exB, .subdomain), (oe_exA, .path 1)] :=
  resupplies_perm _ _ (oe_nodup_fresh _ _ _ _) (List.Perm.swap _ _ _)

/-- `clear()` without rules is distinguishable from every fresh index: its trie is blank, so only a fresh index
    without rules could match, but the stale RAM entry answers `remove_webentity_creation_rule` differently
    (`TraphException` "cannot be found" instead of `KeyError`) -/
example : ((oe_exS.clear none none).1.step (.removeRule oe_exA)).2 = .err .traph ∧
    ((State.fresh {} .domain [] []).1.step (.removeRule oe_exA)).2 = .err (.other "KeyError") := by decide

theorem resupplies_keys {s : State} {rs : List (Bytes × Rule)} (h : Resupplies s rs) :
    ∀ k ∈ s.rules.map (·.1), k ∈ rs.map (·.1) := by
  intro k hk
  have h1 : dictGet? s.rules k ≠ none := fun e => (oe_dictGet_none_iff.mp e) hk
  rw [h k, oe_dictGet_built] at h1
  have h2 : k ∈ rs.reverse.map (·.1) := by
    by_cases hm : k ∈ rs.reverse.map (·.1)
    · exact hm
    · exact absurd (oe_dictGet_none_iff.mpr hm) h1
  rw [List.map_reverse, List.mem_reverse] at h2
  exact h2

theorem oe_stepOk {s s' : State} (h : s ≃ₒ s') (op : Op) : StepOk s' op ↔ StepOk s op := by
  cases op with
  | removeRule a => simp only [StepOk]; rw [h.rules a]
  | reopen d rs =>
    simp only [StepOk, Covers]
    rw [h.eq_ram]
    simp only [State.oe_lruNode, State.oe_ram_cell]
  | clear d l => cases l <;> exact Iff.rfl
  | _ => exact Iff.rfl

theorem oe_reachable_reopen {s : State} (h : Reachable s) (rs : List (Bytes × Rule)) (hr : Resupplies s rs) :
    StepOk s (.reopen s.dflt rs) ∧ Reachable (s.reopen s.dflt rs) := by
  obtain ⟨t, _, _, _, _, _, _, _, ok, _⟩ := reachable_invariants h
  have hc : Covers s rs := covers_of_keys ok rs (resupplies_keys hr)
  exact ⟨hc, reachable_step h (.reopen s.dflt rs) trivial hc⟩

/-- **the hypotheses of every other theorem survive the insertions**: from a reachable state, if the original history
    is well-formed and disciplined, so is the history with close/reopen inserted, and the state it reaches is
    reachable -/
theorem oe_reachable_reopened {s' : State} {ops : List Op} {ops' : List (Bool × Op)} (hi : Reopened s' ops ops') :
    ∀ {s : State}, s ≃ₒ s' → Reachable s' → (∀ op ∈ ops, OpWf op) → Disciplined s ops →
      Disciplined s' (oe_unmark ops') ∧ Reachable (s'.run (oe_unmark ops')) := by
  induction hi with
  | done s' => intro s _ hr _ _; exact ⟨trivial, hr⟩
  | keep s' op ops ops' _ ih =>
    intro s h hr hwf hd
    have hs : StepOk s' op := (oe_stepOk h op).mpr hd.1
    obtain ⟨i1, i2⟩ := ih (oe_step h op).2.1 (reachable_step hr op (hwf op (by simp)) hs)
      (fun o ho => hwf o (by simp [ho])) hd.2
    exact ⟨⟨hs, i1⟩, i2⟩
  | reopen s' rs ops ops' hrs _ ih =>
    intro s h hr hwf hd
    obtain ⟨hs, hr'⟩ := oe_reachable_reopen hr rs hrs
    obtain ⟨i1, i2⟩ := ih (h.trans (reopen_equiv s' rs hrs)) hr' hwf hd
    exact ⟨⟨hs, i1⟩, i2⟩

/-- in a reachable state, reopening with literally the RAM rules gives back the very same model state, and with any
    permutation of them an equivalent one -/
theorem C11_reopen_reachable {s : State} (h : Reachable s) :
    s.reopen s.dflt s.rules = s ∧ ∀ rs, rs.Perm s.rules → s ≃ₒ s.reopen s.dflt rs :=
  ⟨reopen_same s (oe_reachable_rulesNodup h), fun rs hp => reopen_equiv s rs (oe_reachable_resupplies h rs hp)⟩

theorem oe_reachable_cfg (cfg : Config) (dflt : Rule) (rules : List (Bytes × Rule)) (ops : List Op) :
    ((State.fresh cfg dflt rules []).1.run ops).cfg = cfg := by
  rw [oe_cfg_run, oe_cfg_fresh]

/-- **round-trip of the CONTENTS needs capacity**: in a reachable state all pointers are inside the files
    (`Whole`), so the offset fields fit as soon as the two FILES are at most 2^64 bytes; what remains is that ids are
    below 2^32 and that every block's chunk is at most `stemCap` bytes (< 256 each) — capacity of the id fields and
    "bytes are bytes", which the unbounded `Nat` model cannot provide by itself -/
theorem oe_reachable_wfImage {s : State} (h : Reachable s)
    (capT : s.trie.size * Layout.trieBlock ≤ 2 ^ 64) (capL : s.links.size * Layout.linkBlock ≤ 2 ^ 64)
    (hid : s.hdrId < 2 ^ 32)
    (hcells : ∀ c ∈ s.trie.toList.drop 1,
      c.chunk.length ≤ Layout.stemCap ∧ (∀ b ∈ c.chunk, b < 256) ∧ c.we < 2 ^ 32) :
    s.WfImage := by
  obtain ⟨t, _, _, _, _, _, _, _, _, hw, _⟩ := reachable_invariants h
  have hw : PtrOkAt s s.trie.size := hw
  have hT : 0 < Layout.trieBlock := by decide
  have hL : 0 < Layout.linkBlock := by decide
  refine ⟨hw.dpos, hw.lpos, hid, fun c hc => ?_, fun b hb => ?_⟩
  · obtain ⟨i, hi⟩ := List.getElem?_of_mem (List.mem_of_mem_drop hc)
    rw [Array.getElem?_toList] at hi
    have ok := hw.cells i c hi
    obtain ⟨h1, h2, h3⟩ := hcells c hc
    exact ⟨h1, h2, h3,
      Nat.lt_of_lt_of_le (Nat.mul_lt_mul_of_pos_right ok.left hT) capT,
      Nat.lt_of_lt_of_le (Nat.mul_lt_mul_of_pos_right ok.right hT) capT,
      Nat.lt_of_lt_of_le (Nat.mul_lt_mul_of_pos_right ok.child hT) capT,
      Nat.lt_of_lt_of_le (Nat.mul_lt_mul_of_pos_right ok.parent hT) capT,
      Nat.lt_of_lt_of_le (Nat.mul_lt_mul_of_pos_right ok.out hL) capL,
      Nat.lt_of_lt_of_le (Nat.mul_lt_mul_of_pos_right ok.inn hL) capL⟩
  · obtain ⟨i, hi⟩ := List.getElem?_of_mem (List.mem_of_mem_drop hb)
    rw [Array.getElem?_toList] at hi
    obtain ⟨hp, ht⟩ := hw.stubs i b hi
    exact ⟨Nat.lt_of_lt_of_le (Nat.mul_lt_mul_of_pos_right ht hT) capT,
      Nat.lt_of_lt_of_le (Nat.mul_lt_mul_of_pos_right hp hL) capL⟩

/-- … under which decoding the two images gives back the two block arrays -/
theorem C11_roundtrip_reachable {s : State} (h : Reachable s)
    (capT : s.trie.size * Layout.trieBlock ≤ 2 ^ 64) (capL : s.links.size * Layout.linkBlock ≤ 2 ^ 64)
    (hid : s.hdrId < 2 ^ 32)
    (hcells : ∀ c ∈ s.trie.toList.drop 1,
      c.chunk.length ≤ Layout.stemCap ∧ (∀ b ∈ c.chunk, b < 256) ∧ c.we < 2 ^ 32) :
    decodeTrieImage (encodeTrie s) = (s.hdrId, (({} : Cell) :: s.trie.toList.drop 1).toArray) ∧
    decodeLinksImage (encodeLinks s) = (({} : Stub) :: s.links.toList.drop 1).toArray :=
  have w := oe_reachable_wfImage h capT capL hid hcells
  ⟨decodeTrieImage_encodeTrie s w, decodeLinksImage_encodeLinks s w⟩

#print axioms C11_reopen_everywhere
#print axioms oe_reachable_reopened
#print axioms oe_reachable_wfImage
#print axioms C11_reopen_continues
#print axioms C11_whole_blocks_always
#print axioms C11_clear_everywhere
#print axioms oe_reachable_rulesNodup

end Traph
