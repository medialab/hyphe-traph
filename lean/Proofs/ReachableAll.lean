import Proofs.SinceClear
import Proofs.WeMapRun
import Proofs.LinkBagC03
import Proofs.MarksOps
import Proofs.LinkInv
import Proofs.PtrOkTrace
import Proofs.SizesRun
/-! The invariants of EVERY reachable state — histories with `clear` and `reopen` included, no hypothesis on the
    answers: the only hypotheses are that submitted LRUs have at least one stem (`OpWf`), that the constructor's
    rule anchors are complete LRUs (`rulesCanonical`) and the API's discipline (`Disciplined`).

    The constructor and `clear` both build `installRules b rs true` on a blank index `b` (`Blank`: both files hold
    their header block only). `based_run` collects the invariants for a clear-free history from such a state none
    of whose requests answers `KeyError`; under the discipline no request does, and `RulesOk` holds as well
    (`based_disciplined`); `history_based` puts every history in that form by cutting it at its last `clear`
    (`run_sinceClear`). `Reachable`, `reachable_invariants` are the per-state form. -/
namespace Traph
open State

theorem based_init {b : State} (hb : Blank b) (rs : List (Bytes × Rule)) :
    ∃ t, Good (installRules b rs true).1 t ∧ Live (installRules b rs true).1 ∧
      (installRules b rs true).1.weMap = (fun _ => 0) := by
  obtain ⟨t, k, _⟩ := installRules_noPages rs b .nil (good_of_trie_init b hb.trie)
    (noPages_of_trie_init b hb.trie)
  have hlive : Live b := ⟨by rw [hb.trie]; exact Nat.zero_lt_one, by rw [hb.links]; exact Nat.zero_lt_one⟩
  refine ⟨t, k.good, hlive.mono (le_installRules rs b true hlive.1), ?_⟩
  rw [installRules_nopage rs b .nil true (shape_of_trie_init b hb.trie) (noPages_of_trie_init b hb.trie)]
  exact weMap_of_trie_init b hb.trie

/-- the invariants and the history-level facts, all at once, for a history none of whose requests answers
    `KeyError`: `view_run`, and on the same tree the block accounting, the pruning marks, stubs targeting pages,
    all pointers inside the files, the link header never rewritten -/
theorem based_run {b : State} (hb : Blank b) (rs : List (Bytes × Rule)) (hrs : ∀ ar ∈ rs, lruIter ar.1 ≠ [])
    (seg : List Op) (hfree : ∀ op ∈ seg, ∀ d rs, op ≠ .clear d rs) (hwf : ∀ op ∈ seg, OpWf op)
    (hok : NoKeyErr (installRules b rs true).1 seg) :
    ∃ t, LinkView ((installRules b rs true).1.run seg) t (seg.flatMap Op.links) ∧
      (∀ p, IsPage ((installRules b rs true).1.run seg) t p ↔ Submitted seg p) ∧
      (∀ p, (IsCrawled ((installRules b rs true).1.run seg) t p →
                ∃ op ∈ seg, ∃ x ∈ op.pages, x.1 = p ∧ x.2.2 = true) ∧
            ((∃ op ∈ seg, ∃ x ∈ op.pages, x.1 = p ∧ x.2.1 = true) →
                IsCrawled ((installRules b rs true).1.run seg) t p)) ∧
      SizeOk ((installRules b rs true).1.run seg) t ∧ MarkOk ((installRules b rs true).1.run seg) t ∧
      LkOk ((installRules b rs true).1.run seg) t [] ∧
      Whole ((installRules b rs true).1.run seg) ∧ HeaderStub ((installRules b rs true).1.run seg) := by
  obtain ⟨t, v, hp, hcr⟩ := view_run hb rs hrs seg hfree hwf hok
  obtain ⟨t0, g0, hlive, _⟩ := based_init hb rs
  refine ⟨t, v, hp, hcr, ?_, ?_, ?_, ?_, ?_⟩
  · -- sizes
    obtain ⟨t', g⟩ := good_run_from seg g0
    rw [Shape.unique v.shape g.shape]
    exact g.sizeOk
  · -- marks
    obtain ⟨t', h', hm'⟩ := run_minv seg _ (minv_hist.installRules rs b true (minv_of_trie_init b hb.trie))
    rw [Shape.unique v.shape h']
    exact hm'
  · -- stubs target pages
    obtain ⟨t', h', hk'⟩ := li_run seg _ hwf (li_installRules rs b true (li_init b hb.trie hb.links))
    rw [Shape.unique v.shape h']
    exact hk'
  · -- pointers
    have hw0 : Whole b := Whole.of_eq (whole_base {} .never []) hb.trie hb.links
    exact (((wt_installRules rs b true).trans
      (run_wt seg _ hfree (fun op ho => (hwf op ho).wf))) hw0).2
  · -- header stub
    have hbl : Live b := ⟨by rw [hb.trie]; exact Nat.zero_lt_one, by rw [hb.links]; exact Nat.zero_lt_one⟩
    have hle1 := le_installRules rs b true hbl.1
    have hle2 := (run_le (installRules b rs true).1 seg hlive hfree).1
    have hs : b.links[0]? = some ({} : Stub) := by rw [hb.links]; rfl
    exact ⟨({} : Stub), hle2.stubs 0 _ (hle1.stubs 0 _ hs), rfl⟩

theorem based_disciplined {b : State} (hb : Blank b) (rs : List (Bytes × Rule)) (hc : rulesCanonical rs)
    {seg : List Op} (hd : Disciplined (installRules b rs true).1 seg) :
    NoKeyErr (installRules b rs true).1 seg ∧ RulesOk ((installRules b rs true).1.run seg) := by
  obtain ⟨t0, g0, _⟩ := based_init hb rs
  have ok0 := rulesOk_installRules rs b .nil (shape_of_trie_init b hb.trie) hc (rulesOk_of_trie_init b hb.trie)
  obtain ⟨hok, ok, _⟩ := disciplined_run seg _ t0 g0 ok0 hd
  exact ⟨hok, ok⟩

/-- **NORMAL FORM of a history**: the state reached by any disciplined history on a fresh index is reached by the
    requests since the last `clear`, from rules installed on a blank index (those of the constructor, or of that
    `clear`), and the history since is disciplined from there; the transcript since the last `clear` is the
    transcript of that run -/
theorem history_based (cfg : Config) (dflt : Rule) (rules : List (Bytes × Rule)) (ops : List Op)
    (hr : rulesCanonical rules) (hd : Disciplined (State.fresh cfg dflt rules []).1 ops) :
    ∃ b rs, Blank b ∧ rulesCanonical rs ∧
      (State.fresh cfg dflt rules []).1.run ops = (installRules b rs true).1.run (sinceClear ops) ∧
      Disciplined (installRules b rs true).1 (sinceClear ops) ∧
      sinceClearT ((State.fresh cfg dflt rules []).1.transcript ops) =
        (installRules b rs true).1.transcript (sinceClear ops) ∧
      (lastClearArgs ops = none → b = { cfg := cfg, dflt := dflt, log := [.linkHdr, .hdr 0] } ∧ rs = rules) ∧
      (∀ d l, lastClearArgs ops = some (d, l) →
        b = ((State.fresh cfg dflt rules []).1.run (beforeClear ops)).clearBase d l ∧ rs = l.getD []) := by
  obtain ⟨hd1, hd2⟩ := disciplined_sinceClear _ ops hd
  obtain ⟨ht1, ht2⟩ := sinceClearT_transcript (State.fresh cfg dflt rules []).1 ops
  rcases run_sinceClear (State.fresh cfg dflt rules []).1 ops with ⟨hf, hs⟩ | ⟨d, l, ha, _, hrun, _⟩
  · have hn := lastClearArgs_of_free ops hf
    refine ⟨{ cfg := cfg, dflt := dflt, log := [.linkHdr, .hdr 0] }, rules, ⟨rfl, rfl⟩, hr, ?_, hd1 hn, ht1 hn,
      fun _ => ⟨rfl, rfl⟩, fun d l h => (by rw [hn] at h; cases h)⟩
    rw [hs]; rfl
  · obtain ⟨hcan, hdis⟩ := hd2 d l ha
    have hcl : ∀ s : State, (s.clear d l).1 = (installRules (s.clearBase d l) (l.getD []) true).1 := fun s => by
      rw [clear_eq_installRules]
    refine ⟨((State.fresh cfg dflt rules []).1.run (beforeClear ops)).clearBase d l, l.getD [],
      ⟨rfl, rfl⟩, ?_, ?_, ?_, ?_, fun h => (by rw [ha] at h; cases h), fun d' l' h => ?_⟩
    · cases l with
      | none => intro ar har; simp at har
      | some r => exact hcan r rfl
    · rw [hrun, hcl]
    · rw [← hcl]; exact hdis
    · rw [ht2 d l ha, hcl]
    · rw [ha] at h; cases h; exact ⟨rfl, rfl⟩

/-- the states reached from a fresh index (constructor anchors complete LRUs) by any history of well-formed
    requests — `clear` and `reopen` included — that follows the API's discipline -/
def Reachable (s : State) : Prop :=
  ∃ cfg dflt rules ops, rulesCanonical rules ∧ (∀ op ∈ ops, OpWf op) ∧
    Disciplined (State.fresh cfg dflt rules []).1 ops ∧ s = (State.fresh cfg dflt rules []).1.run ops

theorem reachable_fresh (cfg : Config) (dflt : Rule) (rules : List (Bytes × Rule)) (ops : List Op)
    (hr : rulesCanonical rules) (hwf : ∀ op ∈ ops, OpWf op)
    (hd : Disciplined (State.fresh cfg dflt rules []).1 ops) :
    Reachable ((State.fresh cfg dflt rules []).1.run ops) := ⟨cfg, dflt, rules, ops, hr, hwf, hd, rfl⟩

/-- **EVERY REACHABLE STATE satisfies every invariant of the library**: the ghost tree with its shape, the page-set
    invariants, the block accounting, the parent pointers, the pruning marks, stubs targeting pages, well-formed
    link lists that are the bags of some list of submitted links, rule flags backed by RAM rules, all pointers
    inside the files, the link header never rewritten -/
theorem reachable_invariants {s : State} (h : Reachable s) :
    ∃ t, Shape s t ∧ Inv s t ∧ SizeOk s t ∧ ParOk s t 0 ∧ MarkOk s t ∧ LkOk s t [] ∧ LinksOk s ∧ RulesOk s ∧
      Whole s ∧ HeaderStub s ∧ ∃ L, Graph s t L := by
  obtain ⟨cfg, dflt, rules, ops, hr, hwf, hd, rfl⟩ := h
  obtain ⟨b, rs, hb, hc, hrun, hdis, _⟩ := history_based cfg dflt rules ops hr hd
  rw [hrun]
  obtain ⟨hok, ok⟩ := based_disciplined hb rs hc hdis
  obtain ⟨t, v, _, _, hsz, hm, hk, hw, hh⟩ := based_run hb rs (fun ar har => (hc ar har).1) (sinceClear ops)
    (sinceClear_free ops) (fun op ho => hwf op (sinceClear_sub ops op ho)) hok
  exact ⟨t, v.shape, v.inv, hsz, v.par, hm, hk, v.graph.ok, ok, hw, hh, _, v.graph⟩

/-- `Shape.unique`: the invariants may be used one by one -/
theorem reachable_tree_unique {s : State} {t t' : T} (h : Shape s t) (h' : Shape s t') : t = t' :=
  Shape.unique h h'

theorem reachable_noKeyErr (cfg : Config) (dflt : Rule) (rules : List (Bytes × Rule)) (ops : List Op)
    (hr : rulesCanonical rules) (hd : Disciplined (State.fresh cfg dflt rules []).1 ops) :
    NoKeyErr (State.fresh cfg dflt rules []).1 ops := (disciplined_fresh cfg dflt rules [] ops hr hd).1

theorem reachable_step {s : State} (h : Reachable s) (op : Op) (hwf : OpWf op) (hd : StepOk s op) :
    Reachable (s.step op).1 := by
  obtain ⟨cfg, dflt, rules, ops, hr, hwfs, hds, rfl⟩ := h
  refine ⟨cfg, dflt, rules, ops ++ [op], hr, fun o ho => ?_, ?_, ?_⟩
  · rcases List.mem_append.mp ho with ho | ho
    · exact hwfs o ho
    · rw [List.mem_singleton.mp ho]; exact hwf
  · rw [disciplined_append]; exact ⟨hds, hd, trivial⟩
  · rw [run_append]; rfl

#print axioms based_run
#print axioms history_based
#print axioms reachable_invariants

end Traph
