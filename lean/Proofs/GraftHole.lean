import Proofs.Descend
/-! The empty slot at which a graft happens, as an inductive "hole" relation on the ghost tree, and the
    three effects of `T.graft` at a hole: the order invariant survives, exactly one address is added,
    exactly one entry is added to the finite map. `Proofs/GraftSpec.lean` derives the hole from
    `T.find` (one level), from `T.descend` (multi-level) and from an entry with nil child tree. -/
namespace Traph
open State

/-- `Hole s q sl u pre lo hi pre' lo' hi'`: inside the sibling tree `u` (which sits below the stem path
    `pre`, with open bounds `lo`, `hi`) there is a node labelled `q` whose subtree at slot `sl` is `nil`;
    a node put there sits below the stem path `pre'` and must lie strictly between `lo'` and `hi'`. -/
inductive Hole (s : State) (q : Nat) : Slot → T → LRU → Option Stem → Option Stem →
    LRU → Option Stem → Option Stem → Prop where
  | hereL (c r pre lo hi) : Hole s q .L (.node q .nil c r) pre lo hi pre lo (some (s.stemAt q))
  | hereR (l c pre lo hi) : Hole s q .R (.node q l c .nil) pre lo hi pre (some (s.stemAt q)) hi
  | hereC (l r pre lo hi) : Hole s q .C (.node q l .nil r) pre lo hi (pre ++ [s.stemAt q]) none none
  | inL {sl a l pre lo pre' lo' hi'} (c r hi) :
      Hole s q sl l pre lo (some (s.stemAt a)) pre' lo' hi' →
      Hole s q sl (.node a l c r) pre lo hi pre' lo' hi'
  | inR {sl a r pre hi pre' lo' hi'} (l c lo) :
      Hole s q sl r pre (some (s.stemAt a)) hi pre' lo' hi' →
      Hole s q sl (.node a l c r) pre lo hi pre' lo' hi'
  | inC {sl a c pre pre' lo' hi'} (l r lo hi) :
      Hole s q sl c (pre ++ [s.stemAt a]) none none pre' lo' hi' →
      Hole s q sl (.node a l c r) pre lo hi pre' lo' hi'

theorem Hole.mem {s : State} {q sl u pre lo hi pre' lo' hi'}
    (h : Hole s q sl u pre lo hi pre' lo' hi') : q ∈ u.addrs := by
  induction h with
  | hereL | hereR | hereC => exact T.mem_addrs_self
  | inL _ _ _ _ ih => exact T.mem_addrs_left ih
  | inR _ _ _ _ ih => exact T.mem_addrs_right ih
  | inC _ _ _ _ _ ih => exact T.mem_addrs_child ih

/-- the outer bounds of a hole do not matter for its existence (only for the inner bounds) -/
theorem Hole.open_bounds {s : State} {q sl u pre lo hi pre' lo' hi'}
    (h : Hole s q sl u pre lo hi pre' lo' hi') :
    ∀ lo2 hi2, ∃ lo2' hi2', Hole s q sl u pre lo2 hi2 pre' lo2' hi2' := by
  induction h with
  | hereL c r pre lo hi => intro lo2 hi2; exact ⟨_, _, .hereL c r pre lo2 hi2⟩
  | hereR l c pre lo hi => intro lo2 hi2; exact ⟨_, _, .hereR l c pre lo2 hi2⟩
  | hereC l r pre lo hi => intro lo2 hi2; exact ⟨_, _, .hereC l r pre lo2 hi2⟩
  | inL c r hi _ ih => intro lo2 hi2; obtain ⟨_, _, h⟩ := ih lo2 _; exact ⟨_, _, .inL c r hi2 h⟩
  | inR l c lo _ ih => intro lo2 hi2; obtain ⟨_, _, h⟩ := ih _ hi2; exact ⟨_, _, .inR l c lo2 h⟩
  | inC l r lo hi _ ih => intro lo2 hi2; obtain ⟨_, _, h⟩ := ih none none; exact ⟨_, _, .inC l r lo2 hi2 h⟩

/-! In a duplicate-free tree a graft changes one subtree only: the label `q` occurs once. -/

section
variable {q b : Nat}

theorem T.graft_hereL (c r : T) (hnd : (T.node q .nil c r).addrs.Nodup) :
    (T.node q .nil c r).graft q .L b = .node q (.node b .nil .nil .nil) c r := by
  obtain ⟨_, hc, hr, _⟩ := T.nodup_node hnd
  simp [T.graft, T.graft_of_not_mem _ _ _ c hc, T.graft_of_not_mem _ _ _ r hr]

theorem T.graft_hereR (l c : T) (hnd : (T.node q l c .nil).addrs.Nodup) :
    (T.node q l c .nil).graft q .R b = .node q l c (.node b .nil .nil .nil) := by
  obtain ⟨hl, hc, _, _⟩ := T.nodup_node hnd
  simp [T.graft, T.graft_of_not_mem _ _ _ c hc, T.graft_of_not_mem _ _ _ l hl]

theorem T.graft_hereC (l r : T) (hnd : (T.node q l .nil r).addrs.Nodup) :
    (T.node q l .nil r).graft q .C b = .node q l (.node b .nil .nil .nil) r := by
  obtain ⟨hl, _, hr, _⟩ := T.nodup_node hnd
  simp [T.graft, T.graft_of_not_mem _ _ _ l hl, T.graft_of_not_mem _ _ _ r hr]

theorem T.graft_inL {a : Nat} (sl : Slot) {l : T} (c r : T) (hq : q ∈ l.addrs)
    (hnd : (T.node a l c r).addrs.Nodup) : (T.node a l c r).graft q sl b = .node a (l.graft q sl b) c r := by
  obtain ⟨hal, _, _, _, _, _, dlc, dlr, _⟩ := T.nodup_node hnd
  have ha : a ≠ q := by rintro rfl; exact hal hq
  simp [T.graft, ha, T.graft_of_not_mem _ _ _ c (dlc q hq), T.graft_of_not_mem _ _ _ r (dlr q hq)]

theorem T.graft_inR {a : Nat} (sl : Slot) (l c : T) {r : T} (hq : q ∈ r.addrs)
    (hnd : (T.node a l c r).addrs.Nodup) : (T.node a l c r).graft q sl b = .node a l c (r.graft q sl b) := by
  obtain ⟨_, _, har, _, _, _, _, dlr, dcr⟩ := T.nodup_node hnd
  have ha : a ≠ q := by rintro rfl; exact har hq
  simp [T.graft, ha, T.graft_of_not_mem _ _ _ c (fun hx => dcr q hx hq),
    T.graft_of_not_mem _ _ _ l (fun hx => dlr q hx hq)]

theorem T.graft_inC {a : Nat} (sl : Slot) (l : T) {c : T} (r : T) (hq : q ∈ c.addrs)
    (hnd : (T.node a l c r).addrs.Nodup) : (T.node a l c r).graft q sl b = .node a l (c.graft q sl b) r := by
  obtain ⟨_, hac, _, _, _, _, dlc, _, dcr⟩ := T.nodup_node hnd
  have ha : a ≠ q := by rintro rfl; exact hac hq
  simp [T.graft, ha, T.graft_of_not_mem _ _ _ l (fun hx => dlc q hx hq), T.graft_of_not_mem _ _ _ r (dcr q hq)]
end

theorem T.entries_frame {s s' : State} : ∀ (t : T) (pre : LRU),
    (∀ a ∈ t.addrs, s'.stemAt a = s.stemAt a) → t.entries s' pre = t.entries s pre := by
  intro t
  induction t with
  | nil => intro _ _; rfl
  | node a l c r ihl ihc ihr =>
    intro pre hag
    obtain ⟨ha, hl, hc, hr⟩ := T.forall_mem_node hag
    rw [T.entries_node, T.entries_node, ha, ihl pre hl, ihc _ hc, ihr pre hr]

theorem Hole.frame {s s' : State} {q : Nat} {sl u pre lo hi pre' lo' hi'}
    (h : Hole s q sl u pre lo hi pre' lo' hi') :
    (∀ a ∈ u.addrs, s'.stemAt a = s.stemAt a) → Hole s' q sl u pre lo hi pre' lo' hi' := by
  induction h with
  | hereL c r pre lo hi => intro hst; exact (T.forall_mem_node hst).1 ▸ .hereL c r pre lo hi
  | hereR l c pre lo hi => intro hst; exact (T.forall_mem_node hst).1 ▸ .hereR l c pre lo hi
  | hereC l r pre lo hi => intro hst; exact (T.forall_mem_node hst).1 ▸ .hereC l r pre lo hi
  | inL c r hi _ ih =>
    intro hst; obtain ⟨ha, hl, _, _⟩ := T.forall_mem_node hst
    exact .inL c r hi (ha ▸ ih hl)
  | inR l c lo _ ih =>
    intro hst; obtain ⟨ha, _, _, hr⟩ := T.forall_mem_node hst
    exact .inR l c lo (ha ▸ ih hr)
  | inC l r lo hi _ ih =>
    intro hst; obtain ⟨ha, _, hc, _⟩ := T.forall_mem_node hst
    exact .inC l r lo hi (ha ▸ ih hc)

theorem Hole.graft_ord_same {s : State} {q b : Nat} {sl u pre lo hi pre' lo' hi'}
    (h : Hole s q sl u pre lo hi pre' lo' hi') :
    u.addrs.Nodup → OrdT s u lo hi →
    (∀ y, lo' = some y → lexLt y (s.stemAt b) = true) → (∀ y, hi' = some y → lexLt (s.stemAt b) y = true) →
    OrdT s (u.graft q sl b) lo hi := by
  induction h with
  | hereL c r pre lo hi =>
    intro hnd ⟨h1, h2, _, or_, oc⟩ hlo hhi
    rw [T.graft_hereL c r hnd]
    exact ⟨h1, h2, ⟨hlo, hhi, trivial, trivial, trivial⟩, or_, oc⟩
  | hereR l c pre lo hi =>
    intro hnd ⟨h1, h2, ol, _, oc⟩ hlo hhi
    rw [T.graft_hereR l c hnd]
    exact ⟨h1, h2, ol, ⟨hlo, hhi, trivial, trivial, trivial⟩, oc⟩
  | hereC l r pre lo hi =>
    intro hnd ⟨h1, h2, ol, or_, _⟩ hlo hhi
    rw [T.graft_hereC l r hnd]
    exact ⟨h1, h2, ol, or_, ⟨hlo, hhi, trivial, trivial, trivial⟩⟩
  | inL c r hi hl ih =>
    intro hnd ⟨h1, h2, ol, or_, oc⟩ hlo hhi
    rw [T.graft_inL _ c r hl.mem hnd]
    exact ⟨h1, h2, ih (T.nodup_node hnd).2.2.2.1 ol hlo hhi, or_, oc⟩
  | inR l c lo hr ih =>
    intro hnd ⟨h1, h2, ol, or_, oc⟩ hlo hhi
    rw [T.graft_inR _ l c hr.mem hnd]
    exact ⟨h1, h2, ol, ih (T.nodup_node hnd).2.2.2.2.2.1 or_ hlo hhi, oc⟩
  | inC l r lo hi hc ih =>
    intro hnd ⟨h1, h2, ol, or_, oc⟩ hlo hhi
    rw [T.graft_inC _ l r hc.mem hnd]
    exact ⟨h1, h2, ol, or_, ih (T.nodup_node hnd).2.2.2.2.1 oc hlo hhi⟩

theorem Hole.graft_ord {s s' : State} {q b : Nat} {x : Stem} {sl u pre lo hi pre' lo' hi'}
    (h : Hole s q sl u pre lo hi pre' lo' hi') :
    u.addrs.Nodup → (∀ a ∈ u.addrs, s'.stemAt a = s.stemAt a) → s'.stemAt b = x →
    OrdT s u lo hi →
    (∀ y, lo' = some y → lexLt y x = true) → (∀ y, hi' = some y → lexLt x y = true) →
    OrdT s' (u.graft q sl b) lo hi := by
  intro hnd hst hsb ho hlo hhi
  subst hsb
  exact (h.frame hst).graft_ord_same hnd (OrdT.frame _ _ _ ho hst) hlo hhi

theorem Hole.graft_entries_same {s : State} {q b : Nat} {sl u pre lo hi pre' lo' hi'}
    (h : Hole s q sl u pre lo hi pre' lo' hi') :
    u.addrs.Nodup → ((u.graft q sl b).entries s pre).Perm ((pre' ++ [s.stemAt b], b) :: u.entries s pre) := by
  induction h with
  | hereL c r pre lo hi =>
    intro hnd
    rw [T.graft_hereL c r hnd]
    simp only [T.entries, List.nil_append, List.append_nil, List.cons_append]
    exact .refl _
  | hereR l c pre lo hi =>
    intro hnd
    rw [T.graft_hereR l c hnd]
    simp only [T.entries, List.nil_append, List.append_nil]
    refine List.Perm.trans (List.Perm.append_left _ ?_) List.perm_middle
    exact (List.Perm.cons _ (List.perm_append_singleton _ _)).trans (List.Perm.swap _ _ _)
  | hereC l r pre lo hi =>
    intro hnd
    rw [T.graft_hereC l r hnd]
    simp only [T.entries, List.nil_append, List.append_nil, List.cons_append]
    exact List.Perm.trans (List.Perm.append_left _ (List.Perm.swap _ _ _)) List.perm_middle
  | inL c r hi hl ih =>
    intro hnd
    rw [T.graft_inL _ c r hl.mem hnd]
    exact (ih (T.nodup_node hnd).2.2.2.1).append_right _
  | inR l c lo hr ih =>
    intro hnd
    rw [T.graft_inR _ l c hr.mem hnd]
    simp only [T.entries]
    refine List.Perm.trans (List.Perm.append_left _ ?_) List.perm_middle
    refine (List.Perm.cons _ ?_).trans (List.Perm.swap _ _ _)
    exact ((ih (T.nodup_node hnd).2.2.2.2.2.1).append_left _).trans List.perm_middle
  | inC l r lo hi hc ih =>
    intro hnd
    rw [T.graft_inC _ l r hc.mem hnd]
    simp only [T.entries]
    refine List.Perm.trans (List.Perm.append_left _ ?_) List.perm_middle
    exact (List.Perm.cons _ ((ih (T.nodup_node hnd).2.2.2.2.1).append_right _)).trans (List.Perm.swap _ _ _)

/-- hence exactly one address is added: the addresses are the second components of the entries -/
theorem Hole.graft_addrs {s : State} {q b : Nat} {sl u pre lo hi pre' lo' hi'}
    (h : Hole s q sl u pre lo hi pre' lo' hi') :
    u.addrs.Nodup → (u.graft q sl b).addrs.Perm (b :: u.addrs) := fun hnd =>
  have hp : (((u.graft q sl b).entries s pre).map (·.2)).Perm (b :: (u.entries s pre).map (·.2)) :=
    (h.graft_entries_same hnd).map _
  (entries_addrs_perm (s := s) _ pre).symm.trans (hp.trans ((entries_addrs_perm (s := s) u pre).cons b))

theorem Hole.graft_entries {s s' : State} {q b : Nat} {x : Stem} {sl u pre lo hi pre' lo' hi'}
    (h : Hole s q sl u pre lo hi pre' lo' hi') :
    u.addrs.Nodup → (∀ a ∈ u.addrs, s'.stemAt a = s.stemAt a) → s'.stemAt b = x →
    ((u.graft q sl b).entries s' pre).Perm ((pre' ++ [x], b) :: u.entries s pre) := by
  intro hnd hst hsb
  subst hsb
  rw [← T.entries_frame u pre hst]
  exact (h.frame hst).graft_entries_same hnd

end Traph
