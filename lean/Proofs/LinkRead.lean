import Proofs.LinkBag
import Proofs.LinkInv
/-! Reading the link store. Every request that looks at links does the same three things:
    1. it runs over the distinct members of one stub list with their multiplicities (`readList`: the
       `Counter` of `weighted_link_nodes_iter`, a test, an answer item per member kept);
    2. it turns a member (a trie block) into a byte string and a webentity by walking up (`windup`, `windupWe`);
       in a state whose lists only hold page nodes (`LinkEnds`) that is the stored path of the block and its
       longest-prefix resolution (`LinkEnds.resolve`);
    3. it does this for some set of pages.
    `mem_pageSide`: 1 and 2 together, for any test and any answer item. `Inv` is from ShapeOps, `ParOk` from
    ParentInv, `LkOk` and `PageEntry` from LinkInv. -/
namespace Traph
open State

/-- over the distinct members of the list at `head` (first-seen order) with their multiplicities: an answer item
    for each member that passes `test`; nothing when the list is empty or the side is not asked for -/
def readList {β : Type} (s : State) (head : Nat) (on : Bool) (test : Nat → Prop) [DecidablePred test]
    (mk : Nat → Nat → β) : List β :=
  if head ≠ 0 && on then
    (s.weighted head).filterMap (fun tw => if test tw.1 then some (mk tw.1 tw.2) else none)
  else []

section ReadList
variable {β : Type} (s : State) (head : Nat) (on : Bool) (test : Nat → Prop) [DecidablePred test]
  (mk : Nat → Nat → β)

theorem readList_on (h0 : head ≠ 0) :
    readList s head true test mk =
      (s.weighted head).filterMap (fun tw => if test tw.1 then some (mk tw.1 tw.2) else none) := by
  unfold readList
  rw [if_pos (by simpa using h0)]

theorem readList_nil (h : head = 0 ∨ on = false) : readList s head on test mk = [] := by
  unfold readList
  rw [if_neg (by rcases h with h | h <;> simp [h])]

theorem walk0_of_ne {s : State} {head : Nat} (h0 : head ≠ 0) : s.walk0 head = s.walk head := if_pos h0

theorem mem_readList (x : β) :
    x ∈ readList s head on test mk ↔
      on = true ∧ ∃ c ∈ s.walk0 head, test c ∧ x = mk c (count c (s.walk0 head)) := by
  by_cases h0 : head = 0
  · rw [readList_nil s head on test mk (Or.inl h0), h0, lbWalk0_zero]
    exact ⟨nofun, fun ⟨_, _, h, _⟩ => nomatch h⟩
  cases on
  · rw [readList_nil s head false test mk (Or.inr rfl)]
    exact ⟨nofun, fun ⟨h, _⟩ => nomatch h⟩
  rw [readList_on s head test mk h0, walk0_of_ne h0, List.mem_filterMap]
  constructor
  · rintro ⟨⟨c, n⟩, hm, hx⟩
    obtain ⟨hcw, rfl⟩ := (weighted_spec s _ c n).mp hm
    by_cases hk : test c
    · rw [if_pos hk] at hx
      exact ⟨rfl, c, hcw, hk, (Option.some.inj hx).symm⟩
    · rw [if_neg hk] at hx; cases hx
  · rintro ⟨_, c, hcw, hk, rfl⟩
    exact ⟨(c, _), (weighted_spec s _ c _).mpr ⟨hcw, rfl⟩, if_pos hk⟩

/-- the weights of the items add up to the number of list members that pass the test: nothing is lost by the
    aggregation -/
theorem readList_sum (wgt : β → Nat) (hw : ∀ c k, wgt (mk c k) = k) :
    ((readList s head on test mk).map wgt).sum =
      if on then ((s.walk0 head).filter (fun c => decide (test c))).length else 0 := by
  by_cases h0 : head = 0
  · rw [readList_nil s head on test mk (Or.inl h0), h0, lbWalk0_zero]; exact (ite_self 0).symm
  cases on
  · rw [readList_nil s head false test mk (Or.inr rfl)]; rfl
  rw [readList_on s head test mk h0, walk0_of_ne h0, if_pos rfl,
    ← (fold_sumP (fun c => decide (test c)) (s.walk head) []).trans (Nat.zero_add _)]
  show _ = (((s.weighted head).filter _).map _).sum
  induction s.weighted head with
  | nil => rfl
  | cons tw W ih =>
    rw [List.filterMap_cons, List.filter_cons]
    by_cases hk : test tw.1
    · rw [if_pos hk, if_pos (decide_eq_true hk), List.map_cons, List.map_cons, List.sum_cons, List.sum_cons, hw, ih]
    · rw [if_neg hk, if_neg (by simpa using hk), ih]

theorem readList_filter (q : β → Bool) (Q : Nat → Prop) [DecidablePred Q] (hq : ∀ c k, q (mk c k) = decide (Q c)) :
    (readList s head on test mk).filter q = readList s head on (fun c => test c ∧ Q c) mk := by
  unfold readList
  split
  · rw [List.filter_filterMap]
    refine congrArg (List.filterMap · _) (funext fun tw => ?_)
    by_cases h1 : test tw.1
    · by_cases h2 : Q tw.1
      · rw [if_pos h1, if_pos ⟨h1, h2⟩, Option.filter_some, hq, decide_eq_true h2, if_pos rfl]
      · rw [if_pos h1, if_neg fun h => h2 h.2, Option.filter_some, hq, decide_eq_false h2, if_neg Bool.false_ne_true]
    · rw [if_neg h1, if_neg fun h => h1 h.1]; rfl
  · rfl

theorem readList_nodup {γ : Type} (key : β → γ)
    (hinj : ∀ c ∈ s.walk0 head, ∀ c' ∈ s.walk0 head, ∀ k k', test c → test c' →
      key (mk c k) = key (mk c' k') → c = c') :
    ((readList s head on test mk).map key).Nodup := by
  by_cases h0 : head = 0
  · rw [readList_nil s head on test mk (Or.inl h0)]; exact List.nodup_nil
  cases on
  · rw [readList_nil s head false test mk (Or.inr rfl)]; exact List.nodup_nil
  rw [readList_on s head test mk h0]
  rw [walk0_of_ne h0] at hinj
  unfold List.Nodup
  rw [List.pairwise_map, List.pairwise_filterMap]
  refine List.Pairwise.imp_of_mem ?_ (List.pairwise_map.mp (countInto_fold_keys_nodup (s.walk head)))
  intro x y hx hy hxy r hr r' hr' e
  have hx' := ((weighted_spec s _ x.1 x.2).mp hx).1
  have hy' := ((weighted_spec s _ y.1 y.2).mp hy).1
  by_cases h1 : test x.1
  · by_cases h2 : test y.1
    · rw [if_pos h1] at hr
      rw [if_pos h2] at hr'
      cases hr; cases hr'
      exact hxy (hinj _ hx' _ hy' _ _ h1 h2 e)
    · rw [if_neg h2] at hr'; cases hr'
  · rw [if_neg h1] at hr; cases hr

end ReadList

/-- `deduped_link_nodes_iter`, as the requests use it: every distinct member once -/
theorem deduped_map_eq {β : Type} (s : State) (head : Nat) (f : Nat → β) :
    (if head ≠ 0 then (s.deduped head).map f else []) = readList s head true (fun _ => True) (fun c _ => f c) := by
  by_cases h0 : head ≠ 0
  · rw [if_pos h0, readList_on s head _ _ h0, deduped, List.map_map]
    simp only [if_true]
    exact (congrFun List.filterMap_eq_map _).symm
  · rw [if_neg h0, readList_nil s head true _ _ (Or.inl (Classical.not_not.mp h0))]

theorem deduped_map_eq' {β : Type} (s : State) (head : Nat) (f : Nat → β) :
    (if head = 0 then [] else (s.deduped head).map f) = readList s head true (fun _ => True) (fun c _ => f c) := by
  rw [← deduped_map_eq]; exact (ite_not ..).symm

/-- the webentity an LRU resolves to by longest stored prefix (`retrieve_webentity`), 0 = none -/
def weOf (s : State) (lru : Bytes) : Nat := (s.followLru (lruIter lru)).2.we

theorem retrieveWebentity_weOf (s : State) (lru : Bytes) :
    s.retrieveWebentity lru = if weOf s lru = 0 then .error .traph else .ok (weOf s lru) := rfl

theorem retrieveWebentity_ok_iff_weOf (s : State) (lru : Bytes) (w : Nat) :
    s.retrieveWebentity lru = .ok w ↔ w ≠ 0 ∧ weOf s lru = w := by
  rw [retrieveWebentity_weOf]
  by_cases h0 : weOf s lru = 0
  · rw [if_pos h0]
    exact ⟨nofun, fun ⟨hw, e⟩ => absurd (e ▸ h0) hw⟩
  · rw [if_neg h0]
    exact ⟨fun h => Except.ok.inj h ▸ ⟨h0, rfl⟩, fun ⟨_, e⟩ => e ▸ rfl⟩

/-- `lru` is, byte for byte, the LRU of the stored node `b` (found by `lru_node`) -/
def NodeOf (s : State) (lru : Bytes) (b : Nat) : Prop :=
  lruIter lru ≠ [] ∧ lru = (lruIter lru).flatten ∧ s.lruNode (lruIter lru) = some b

theorem nodeOf_iff {s : State} {t : T} (h : Shape s t) (hi : Inv s t) (lru : Bytes) (b : Nat) :
    NodeOf s lru b ↔ ∃ p, (p, b) ∈ t.entries s [] ∧ lru = p.flatten := by
  constructor
  · rintro ⟨hne, hfl, hn⟩
    exact ⟨lruIter lru, (lruNode_iff_entries h _ hne b).mp hn, hfl⟩
  · rintro ⟨p, hp, rfl⟩
    have hne : p ≠ [] := entry_ne_nil hp
    rw [NodeOf, hi.wf.iter_flatten hp]
    exact ⟨hne, rfl, (lruNode_iff_entries h _ hne b).mpr hp⟩

theorem nodeOf_unique {s : State} {lru : Bytes} {b b' : Nat} (h : NodeOf s lru b) (h' : NodeOf s lru b') : b = b' :=
  Option.some.inj (h.2.2.symm.trans h'.2.2)

/-- a stored path read back from its node, bottom up: its bytes and its top-down resolution -/
theorem entry_reads {s : State} {t : T} (h : Shape s t) (hi : Inv s t) (hp : ParOk s t 0) {q : LRU} {c : Nat}
    (hq : (q, c) ∈ t.entries s []) :
    s.windup c = q.flatten ∧ s.windupWe c = weOf s q.flatten ∧ NodeOf s q.flatten c :=
  ⟨windup_eq h hp hq, by rw [windupWe_eq_followLru h hp hq, weOf, hi.wf.iter_flatten hq],
    (nodeOf_iff h hi _ c).mpr ⟨q, hq, rfl⟩⟩

theorem mem_walk0 {s : State} {head c : Nat} : c ∈ s.walk0 head ↔ head ≠ 0 ∧ c ∈ s.walk head := by
  unfold walk0
  by_cases h0 : head ≠ 0
  · rw [if_pos h0]; exact (and_iff_right h0).symm
  · rw [if_neg h0]; exact ⟨nofun, fun h => absurd h.1 h0⟩

/-- a state whose link lists can be read back: they hold only nodes of stored paths flagged as pages, and the
    parent pointers are right, so that winding up from a member gives that path -/
structure LinkEnds (s : State) (t : T) : Prop where
  shape : Shape s t
  inv : Inv s t
  par : ParOk s t 0
  ends : ∀ o a c, c ∈ s.bag o a → PageEntry s t c

theorem walkGo_stub (s : State) : ∀ (fuel i c : Nat), i ≠ 0 → c ∈ s.walkGo fuel i →
    ∃ j st, 0 < j ∧ s.links[j]? = some st ∧ st.target = c
  | 0, _, _, _, hc => nomatch hc
  | fuel + 1, i, c, hi, hc => by
    rw [walkGo] at hc
    cases hl : s.links[i]? with
    | none => rw [hl] at hc; cases hc
    | some st =>
      rw [hl] at hc
      rcases List.mem_cons.mp hc with rfl | hc
      · exact ⟨i, st, Nat.pos_of_ne_zero hi, hl, rfl⟩
      · by_cases hprev : st.prev ≠ 0
        · rw [if_pos hprev] at hc; exact walkGo_stub s fuel st.prev c hprev hc
        · rw [if_neg hprev] at hc; cases hc

theorem LkOk.linkEnds {s : State} {t : T} {B : List Nat} (h : Shape s t) (hi : Inv s t) (hk : LkOk s t B) :
    LinkEnds s t := by
  refine ⟨h, hi, hk.par, fun _ _ c hc => ?_⟩
  obtain ⟨hh, hc⟩ := mem_walk0.mp hc
  obtain ⟨j, st, hj, hst, rfl⟩ := walkGo_stub s _ _ c hh hc
  exact hk.tgt j st hj hst

/-- the list of the indexed page `own` on side `o` (`true`: its out-list) holds `k ≥ 1` stubs whose target is the
    node of `other` -/
def Linked (s : State) (o : Bool) (own other : Bytes) (k : Nat) : Prop :=
  ∃ b c, NodeOf s own b ∧ (s.cell b).flags.page = true ∧ NodeOf s other c ∧ c ∈ s.bag o b ∧ k = count c (s.bag o b)

namespace LinkEnds
variable {s : State} {t : T} (e : LinkEnds s t)
include e

theorem resolve {o : Bool} {a c : Nat} (hc : c ∈ s.bag o a) :
    ∃ q, (q, c) ∈ t.entries s [] ∧ (s.cell c).flags.page = true ∧
      s.windup c = q.flatten ∧ s.windupWe c = weOf s q.flatten ∧ NodeOf s q.flatten c := by
  obtain ⟨q, hq, hpg⟩ := e.ends o a c hc
  exact ⟨q, hq, hpg, entry_reads e.shape e.inv e.par hq⟩

theorem of_nodeOf {o : Bool} {a c : Nat} (hc : c ∈ s.bag o a) {other : Bytes} (hn : NodeOf s other c) :
    s.windup c = other ∧ s.windupWe c = weOf s other := by
  obtain ⟨q, hq, _, h1, h2, hn'⟩ := e.resolve hc
  obtain ⟨q', hq', rfl⟩ := (nodeOf_iff e.shape e.inv _ c).mp hn
  cases entries_addr_injective e.shape.nodup hq hq'
  exact ⟨h1, h2⟩

theorem windup_inj {o o' : Bool} {a a' c c' : Nat} (hc : c ∈ s.bag o a) (hc' : c' ∈ s.bag o' a')
    (h : s.windup c = s.windup c') : c = c' := by
  obtain ⟨q, hq, _, h1, _⟩ := e.resolve hc
  obtain ⟨q', hq', _, h1', _⟩ := e.resolve hc'
  cases e.inv.wf.flatten_inj hq hq' (by rw [← h1, ← h1', h])
  exact entries_path_injective e.shape.ord e.shape.nodup hq hq'

/-- steps 1 and 2 together. What a request reports from the list on side `o` of the page stored under `X`, when
    it keeps a member by a test on the bytes and the webentity it winds up to and makes its item from these and
    the multiplicity: an item for every link of the page whose other end passes the test -/
theorem mem_pageSide {β : Type} {X : LRU} {a : Nat} (hX : (X, a) ∈ t.entries s [])
    (hpg : (s.cell a).flags.page = true) (o on : Bool) (test : Bytes → Nat → Prop)
    [∀ l w, Decidable (test l w)] (mk : Bytes → Nat → Nat → β) (x : β) :
    x ∈ readList s (headOf s o a) on (fun c => test (s.windup c) (s.windupWe c))
        (fun c k => mk (s.windup c) (s.windupWe c) k) ↔
      on = true ∧ ∃ other k, Linked s o X.flatten other k ∧ test other (weOf s other) ∧
        x = mk other (weOf s other) k := by
  have hXn := (entry_reads e.shape e.inv e.par hX).2.2
  rw [mem_readList]
  refine and_congr_right fun _ => ⟨?_, ?_⟩
  · rintro ⟨c, hc, htest, rfl⟩
    obtain ⟨q, _, _, h1, h2, hn⟩ := e.resolve (o := o) (a := a) hc
    rw [h1, h2] at htest ⊢
    exact ⟨_, _, ⟨a, c, hXn, hpg, hn, hc, rfl⟩, htest, rfl⟩
  · rintro ⟨other, k, ⟨b, c, hb, _, hn, hc, rfl⟩, htest, rfl⟩
    cases nodeOf_unique hb hXn
    obtain ⟨h1, h2⟩ := e.of_nodeOf hc hn
    exact ⟨c, hc, by rw [h1, h2]; exact htest, by rw [h1, h2]; rfl⟩

/-- `links_iter(out)`: (page, other end) for every link on that side of every indexed page -/
theorem mem_linksIter (o : Bool) (x y : Bytes) : (x, y) ∈ s.linksIter o ↔ ∃ k, Linked s o x y k := by
  unfold State.linksIter
  simp only [deduped_map_eq']
  rw [List.mem_flatMap]
  constructor
  · rintro ⟨⟨a, l⟩, hm, hxy⟩
    obtain ⟨hm, hpg⟩ := List.mem_filter.mp hm
    obtain ⟨p, hp, rfl⟩ := (dfsIter_mem_iff e.shape a l).mp hm
    obtain ⟨_, other, k, hl, _, e'⟩ :=
      (e.mem_pageSide hp hpg o true (fun _ _ => True) (fun l _ _ => (p.flatten, l)) (x, y)).mp hxy
    cases e'; exact ⟨k, hl⟩
  · rintro ⟨k, hl⟩
    obtain ⟨a, _, ha, hpg, _⟩ := id hl
    obtain ⟨p, hp, rfl⟩ := (nodeOf_iff e.shape e.inv _ a).mp ha
    exact ⟨(a, p.flatten), List.mem_filter.mpr ⟨(dfsIter_mem_iff e.shape a _).mpr ⟨p, hp, rfl⟩, hpg⟩,
      (e.mem_pageSide hp hpg o true (fun _ _ => True) (fun l _ _ => (p.flatten, l)) _).mpr
        ⟨rfl, y, k, hl, trivial, rfl⟩⟩

end LinkEnds

end Traph
