import Proofs.Insert
/-! Attribute frame of `add_lru` (heap level, no hypothesis on the state needed): an old block keeps
    everything except its three pointers and the `noChild` flag; every fresh block (node head or tail
    chunk) carries no webentity, no page / crawled / rule flag and no link-list heads. That relation is `AttrStep`,
    the result `attrStep_addLru`. -/
namespace Traph
open State

structure AttrEq (c c' : Cell) : Prop where
  we      : c'.we = c.we
  page    : c'.flags.page = c.flags.page
  crawled : c'.flags.crawled = c.flags.crawled
  rule    : c'.flags.rule = c.flags.rule
  isTail  : c'.flags.isTail = c.flags.isTail
  hasTail : c'.flags.hasTail = c.flags.hasTail
  linked  : c'.flags.linked = c.flags.linked
  deleted : c'.flags.deleted = c.flags.deleted
  out     : c'.out = c.out
  inn     : c'.inn = c.inn
  chunk   : c'.chunk = c.chunk
  parent  : c'.parent = c.parent

theorem AttrEq.refl (c : Cell) : AttrEq c c := ⟨rfl, rfl, rfl, rfl, rfl, rfl, rfl, rfl, rfl, rfl, rfl, rfl⟩

theorem AttrEq.trans {a b c : Cell} (h1 : AttrEq a b) (h2 : AttrEq b c) : AttrEq a c :=
  ⟨h2.we.trans h1.we, h2.page.trans h1.page, h2.crawled.trans h1.crawled, h2.rule.trans h1.rule,
   h2.isTail.trans h1.isTail, h2.hasTail.trans h1.hasTail, h2.linked.trans h1.linked,
   h2.deleted.trans h1.deleted, h2.out.trans h1.out, h2.inn.trans h1.inn, h2.chunk.trans h1.chunk,
   h2.parent.trans h1.parent⟩

structure Clean (c : Cell) : Prop where
  we      : c.we = 0
  page    : c.flags.page = false
  crawled : c.flags.crawled = false
  rule    : c.flags.rule = false
  out     : c.out = 0
  inn     : c.inn = 0

theorem Clean.of_attrEq {c c' : Cell} (h : Clean c) (e : AttrEq c c') : Clean c' :=
  ⟨e.we.trans h.we, e.page.trans h.page, e.crawled.trans h.crawled, e.rule.trans h.rule,
   e.out.trans h.out, e.inn.trans h.inn⟩

theorem Clean.default : Clean ({} : Cell) := ⟨rfl, rfl, rfl, rfl, rfl, rfl⟩

structure AttrStep (s s' : State) : Prop where
  size : s.trie.size ≤ s'.trie.size
  old  : ∀ a, a < s.trie.size → AttrEq (s.cell a) (s'.cell a)
  new  : ∀ b, s.trie.size ≤ b → Clean (s'.cell b)

theorem AttrStep.refl (s : State) : AttrStep s s :=
  ⟨Nat.le_refl _, fun a _ => AttrEq.refl _, fun b hb => by rw [cell_of_size_le s b hb]; exact Clean.default⟩

theorem AttrStep.trans {a b c : State} (h1 : AttrStep a b) (h2 : AttrStep b c) : AttrStep a c where
  size := Nat.le_trans h1.size h2.size
  old := fun i hi => (h1.old i hi).trans (h2.old i (Nat.lt_of_lt_of_le hi h1.size))
  new := fun i hi => by
    by_cases hlt : i < b.trie.size
    · exact (h1.new i hi).of_attrEq (h2.old i hlt)
    · exact h2.new i (Nat.le_of_not_lt hlt)

theorem attrStep_modCell (s : State) (i : Nat) (f : Cell → Cell) (hf : ∀ c, AttrEq c (f c)) :
    AttrStep s (s.modCell i f) where
  size := by rw [trie_modCell_size]; exact Nat.le_refl _
  old := fun a _ => by
    rw [cell_modCell]; split
    · exact hf _
    · exact AttrEq.refl _
  new := fun b hb => by
    rw [cell_modCell, if_neg (by omega), cell_of_size_le s b hb]; exact Clean.default

theorem clean_tailsOf (stem : Bytes) (c : Cell) (h : c ∈ tailsOf stem) : Clean c := by
  unfold tailsOf at h
  split at h
  · obtain ⟨_, _, rfl⟩ := mem_tailCells _ c h
    exact ⟨rfl, rfl, rfl, rfl, rfl, rfl⟩
  · simp at h

theorem attrStep_writeNew (s : State) (stem : Bytes) (p : Nat) (ch : Bool) :
    AttrStep s (s.writeNew stem p ch).1 where
  size := Nat.le_of_lt (size_lt_writeNew s stem p ch)
  old := fun a ha => by
    rw [cell_writeNew_old s stem p ch a ha]; exact AttrEq.refl _
  new := fun b hb => by
    rcases Nat.eq_or_lt_of_le hb with rfl | hlt
    · rw [cell_writeNew_head]; exact ⟨rfl, rfl, rfl, rfl, rfl, rfl⟩
    · obtain ⟨k, rfl⟩ : ∃ k, b = s.trie.size + 1 + k := ⟨b - (s.trie.size + 1), (Nat.add_sub_cancel' hlt).symm⟩
      rw [State.cell, getElem?_writeNew_tail]
      cases hk : (tailsOf stem)[k]? with
      | none => exact Clean.default
      | some c => exact clean_tailsOf stem c (List.mem_of_getElem? hk)

theorem attrEq_setSlot (c : Cell) (sl : Slot) (v : Nat) : AttrEq c (c.setSlot sl v) := by
  cases sl <;> exact ⟨rfl, rfl, rfl, rfl, rfl, rfl, rfl, rfl, rfl, rfl, rfl, rfl⟩

theorem attrStep_markCanHave (s : State) (n : Nat) (b : Bool) : AttrStep s (s.markCanHave n b) := by
  unfold markCanHave; split
  · exact attrStep_modCell s n _ (fun c => ⟨rfl, rfl, rfl, rfl, rfl, rfl, rfl, rfl, rfl, rfl, rfl, rfl⟩)
  · exact AttrStep.refl s

theorem attrStep_trieAcross : TrieAcross AttrStep where
  refl := AttrStep.refl
  trans := AttrStep.trans
  writeNew s stem p c _ := attrStep_writeNew s stem p c
  link s q sl v _ _ := attrStep_modCell s q _ fun c => attrEq_setSlot c sl v
  mark := attrStep_markCanHave

theorem attrStep_addLru (s : State) (stems : LRU) (flag : Bool) : AttrStep s (s.addLru stems flag).1 :=
  attrStep_trieAcross.addLru s stems flag

theorem addLru_attrs_old (s : State) (stems : LRU) (flag : Bool) (a : Nat) (ha : a < s.trie.size) :
    let c' := (s.addLru stems flag).1.cell a
    let c  := s.cell a
    c'.we = c.we ∧ c'.flags.page = c.flags.page ∧ c'.flags.crawled = c.flags.crawled ∧
    c'.flags.rule = c.flags.rule ∧ c'.flags.isTail = c.flags.isTail ∧ c'.out = c.out ∧ c'.inn = c.inn ∧
    c'.chunk = c.chunk ∧ c'.parent = c.parent ∧
    c'.flags.hasTail = c.flags.hasTail ∧ c'.flags.linked = c.flags.linked ∧
    c'.flags.deleted = c.flags.deleted := by
  have e := (attrStep_addLru s stems flag).old a ha
  dsimp only
  exact ⟨e.we, e.page, e.crawled, e.rule, e.isTail, e.out, e.inn, e.chunk, e.parent, e.hasTail,
    e.linked, e.deleted⟩

theorem addLru_attrs_new (s : State) (stems : LRU) (flag : Bool) (b : Nat) (hb : s.trie.size ≤ b) :
    let c' := (s.addLru stems flag).1.cell b
    c'.we = 0 ∧ c'.flags.page = false ∧ c'.flags.crawled = false ∧ c'.flags.rule = false ∧
    c'.out = 0 ∧ c'.inn = 0 := by
  have e := (attrStep_addLru s stems flag).new b hb
  dsimp only
  exact ⟨e.we, e.page, e.crawled, e.rule, e.out, e.inn⟩

theorem addLru_shape_attrs {s : State} {t : T} (h : Shape s t) (stems : LRU) (flag : Bool)
    (hne : stems ≠ []) :
    ∃ t', Shape (s.addLru stems flag).1 t' ∧
      (stems, (s.addLru stems flag).2.1) ∈ t'.entries (s.addLru stems flag).1 [] ∧
      (∀ b ∈ t'.addrs, b ∈ t.addrs ∨ (s.trie.size ≤ b ∧ Clean ((s.addLru stems flag).1.cell b))) ∧
      (∀ a, a < s.trie.size → AttrEq (s.cell a) ((s.addLru stems flag).1.cell a)) := by
  obtain ⟨t', gr, hent⟩ := addLru_grow h stems flag hne
  refine ⟨t', gr.shape, hent, ?_, (attrStep_addLru s stems flag).old⟩
  intro b hb
  by_cases hlt : b < s.trie.size
  · left
    obtain ⟨p, hp⟩ := T.addrs_mem_entries (s := (s.addLru stems flag).1) t' [] hb
    rcases gr.new p b hp with hm | ⟨hge, _⟩
    · exact entries_addr_mem t [] _ _ hm
    · omega
  · exact Or.inr ⟨Nat.le_of_not_lt hlt, (attrStep_addLru s stems flag).new b (Nat.le_of_not_lt hlt)⟩

#print axioms addLru_attrs_old
#print axioms addLru_attrs_new
#print axioms addLru_shape_attrs

end Traph
