import Proofs.Trace
/-! C18, pointer safety ("can be traversed and queried without failure").

    In the model a read of a block index ≥ size is totalised (`State.cell` returns the default cell,
    `findSib` answers `.corrupt`, `walkGo` stops, `readTail` stops); the Python code would read garbage
    defaults or raise. So "no read follows a pointer outside the files" is an explicit invariant here.

    `PtrOkAt s d` — `d` is the length of the *complete prefix* of the trie file:
    * every pointer stored anywhere (left / right / child / parent of every block, target of every
      stub) is `< d`; every list head and every `prev` is `< links.size`;
    * the tail chain of every block below `d` ends below `d`;
    * the blocks from `d` to the end of file all announce a further tail block (`run`): they are the
      head (and first tails) of the one node whose tail blocks are not all there yet.
    `Whole s` is `PtrOkAt s s.trie.size`: no dangling tail announcement; true at every request
    boundary. `PtrOk s` is `PtrOkAt s d` for some `d`: the invariant of EVERY cut (both for `clear`-free
    histories of `Op.WF` requests, Proofs/PtrOkTrace.lean). Between the head block
    of a long-stem node and its last tail block the state is
    `PtrOkAt s d` with `d` = index of that head: nothing points to it yet (the pointer is stored
    only after the last tail block), EXCEPT that block 1 is the root by convention: a cut inside the
    very first node of the trie (stem longer than one block) leaves `d = 1 < size`.

    `PTrace`: a run of writes (`Writes`) with the invariant after every single one. The file ends with
    `PTrace.cut_state`: every cut of the log of a `PTrace` is the files of a `PtrOk` state below (`⊑`) its end. -/
namespace Traph
open State

structure CellOk (c : Cell) (d nl : Nat) : Prop where
  left   : c.left < d
  right  : c.right < d
  child  : c.child < d
  parent : c.parent < d
  out    : c.out < nl
  inn    : c.inn < nl

theorem CellOk.mono {c : Cell} {d nl d' nl' : Nat} (h : CellOk c d nl) (hd : d ≤ d') (hn : nl ≤ nl') :
    CellOk c d' nl' :=
  ⟨Nat.lt_of_lt_of_le h.left hd, Nat.lt_of_lt_of_le h.right hd, Nat.lt_of_lt_of_le h.child hd,
   Nat.lt_of_lt_of_le h.parent hd, Nat.lt_of_lt_of_le h.out hn, Nat.lt_of_lt_of_le h.inn hn⟩

theorem cellOk_default {d nl : Nat} (hd : 0 < d) (hn : 0 < nl) : CellOk {} d nl :=
  ⟨hd, hd, hd, hd, hn, hn⟩

structure PtrOkAt (s : State) (d : Nat) : Prop where
  dpos  : 0 < d
  dle   : d ≤ s.trie.size
  lpos  : 0 < s.links.size
  cells : ∀ (b : Nat) (c : Cell), s.trie[b]? = some c → CellOk c d s.links.size
  stubs : ∀ (j : Nat) (st : Stub), s.links[j]? = some st → st.prev < s.links.size ∧ st.target < d
  tails : ∀ (b : Nat) (c : Cell), s.trie[b]? = some c → b < d → c.flags.hasTail = true → b + 1 < d
  run   : ∀ (b : Nat) (c : Cell), s.trie[b]? = some c → d ≤ b → c.flags.hasTail = true

def Whole (s : State) : Prop := PtrOkAt s s.trie.size

def PtrOk (s : State) : Prop := ∃ d, PtrOkAt s d

theorem Whole.ptrOk {s : State} (h : Whole s) : PtrOk s := ⟨_, h⟩

theorem PtrOkAt.live {s : State} {d : Nat} (h : PtrOkAt s d) : Live s :=
  ⟨Nat.lt_of_lt_of_le h.dpos h.dle, h.lpos⟩

theorem PtrOkAt.unique {s : State} {d d' : Nat} (h : PtrOkAt s d) (h' : PtrOkAt s d') : d = d' := by
  have key : ∀ {a b : Nat}, PtrOkAt s a → PtrOkAt s b → ¬ a < b := by
    intro a b ha hb hlt
    have hb1 : b - 1 < s.trie.size := by have := hb.dle; omega
    have hget : s.trie[b - 1]? = some s.trie[b - 1] := by simp [hb1]
    have hrun := ha.run (b - 1) _ hget (by omega)
    have := hb.tails (b - 1) _ hget (by omega) hrun
    omega
  have h1 := key h h'
  have h2 := key h' h
  omega

theorem PtrOkAt.of_eq {s s' : State} {d : Nat} (h : PtrOkAt s d) (ht : s'.trie = s.trie)
    (hl : s'.links = s.links) : PtrOkAt s' d :=
  ⟨h.dpos, by rw [ht]; exact h.dle, by rw [hl]; exact h.lpos,
   fun b c hc => by rw [hl]; exact h.cells b c (by rw [← ht]; exact hc),
   fun j st hst => by rw [hl]; exact h.stubs j st (by rw [← hl]; exact hst),
   fun b c hc => h.tails b c (by rw [← ht]; exact hc),
   fun b c hc => h.run b c (by rw [← ht]; exact hc)⟩

theorem PtrOk.of_eq {s s' : State} (h : PtrOk s) (ht : s'.trie = s.trie) (hl : s'.links = s.links) :
    PtrOk s' := by
  obtain ⟨d, hd⟩ := h
  exact ⟨d, hd.of_eq ht hl⟩

theorem Whole.of_eq {s s' : State} (h : Whole s) (ht : s'.trie = s.trie) (hl : s'.links = s.links) :
    Whole s' := by
  have := PtrOkAt.of_eq h ht hl
  unfold Whole; rw [ht]; exact this

theorem PtrOkAt.cellOk {s : State} {d : Nat} (h : PtrOkAt s d) (b : Nat) :
    CellOk (s.cell b) d s.links.size := by
  unfold State.cell
  cases hb : s.trie[b]? with
  | none => exact cellOk_default h.dpos h.lpos
  | some c => exact h.cells b c hb

theorem getElem?_push_some_ptr {α : Type} {a : Array α} {x c : α} {b : Nat} (h : (a.push x)[b]? = some c) :
    (b < a.size ∧ a[b]? = some c) ∨ (b = a.size ∧ c = x) := by
  rw [Array.getElem?_push] at h
  by_cases hb : b = a.size
  · rw [if_pos hb] at h; cases h; exact Or.inr ⟨hb, rfl⟩
  · rw [if_neg hb] at h
    exact Or.inl ⟨(Array.getElem?_eq_some_iff.mp h).1, h⟩

theorem PtrOkAt.appendCell_closed {s : State} {d : Nat} (h : PtrOkAt s d) (c : Cell)
    (hc : CellOk c d s.links.size) (ht : c.flags.hasTail = false) :
    Whole (s.appendCell c).1 := by
  have hsz : (s.appendCell c).1.trie.size = s.trie.size + 1 := by simp
  have hd := h.dle
  unfold Whole
  rw [hsz]
  refine ⟨by omega, by omega, h.lpos, ?_, ?_, ?_, ?_⟩
  · intro b x hx
    rcases getElem?_push_some_ptr hx with ⟨_, hx'⟩ | ⟨_, rfl⟩
    · exact (h.cells b x hx').mono (by omega) (Nat.le_refl _)
    · exact hc.mono (by omega) (Nat.le_refl _)
  · intro j st hst
    have := h.stubs j st hst
    exact ⟨this.1, by omega⟩
  · intro b x hx _ hh
    rcases getElem?_push_some_ptr hx with ⟨hb, hx'⟩ | ⟨_, rfl⟩
    · by_cases hbd : b < d
      · have := h.tails b x hx' hbd hh; omega
      · omega
    · rw [ht] at hh; cases hh
  · intro b x hx hb
    have := (Array.getElem?_eq_some_iff.mp hx).1
    simp only [trie_appendCell, Array.size_push] at this
    omega

theorem PtrOkAt.appendCell_open {s : State} {d : Nat} (h : PtrOkAt s d) (c : Cell)
    (hc : CellOk c d s.links.size) (ht : c.flags.hasTail = true) :
    PtrOkAt (s.appendCell c).1 d := by
  have hd := h.dle
  refine ⟨h.dpos, by simp; omega, h.lpos, ?_, h.stubs, ?_, ?_⟩
  · intro b x hx
    rcases getElem?_push_some_ptr hx with ⟨_, hx'⟩ | ⟨_, rfl⟩
    · exact h.cells b x hx'
    · exact hc
  · intro b x hx hbd hh
    rcases getElem?_push_some_ptr hx with ⟨_, hx'⟩ | ⟨hb, _⟩
    · exact h.tails b x hx' hbd hh
    · omega
  · intro b x hx hb
    rcases getElem?_push_some_ptr hx with ⟨_, hx'⟩ | ⟨_, rfl⟩
    · exact h.run b x hx' hb
    · exact ht

theorem PtrOkAt.appendCell {s : State} {d : Nat} (h : PtrOkAt s d) (c : Cell)
    (hc : CellOk c d s.links.size) : PtrOk (s.appendCell c).1 := by
  cases ht : c.flags.hasTail with
  | false => exact (h.appendCell_closed c hc ht).ptrOk
  | true => exact ⟨d, h.appendCell_open c hc ht⟩

theorem PtrOkAt.modCell {s : State} {d : Nat} (h : PtrOkAt s d) (i : Nat) (f : Cell → Cell)
    (hf : ∀ c, s.trie[i]? = some c → CellOk (f c) d s.links.size ∧ (f c).flags.hasTail = c.flags.hasTail) :
    PtrOkAt (s.modCell i f) d := by
  have hget : ∀ (b : Nat) (x : Cell), (s.modCell i f).trie[b]? = some x →
      ∃ y : Cell, s.trie[b]? = some y ∧ CellOk x d s.links.size ∧ x.flags.hasTail = y.flags.hasTail := by
    intro b x hx
    rw [getElem?_modCell] at hx
    by_cases hib : i = b
    · subst hib
      rw [if_pos rfl] at hx
      cases hy : s.trie[i]? with
      | none => rw [hy] at hx; cases hx
      | some y =>
        rw [hy] at hx; simp only [Option.map_some] at hx; cases hx
        exact ⟨y, rfl, (hf y hy).1, (hf y hy).2⟩
    · rw [if_neg hib] at hx
      exact ⟨x, hx, h.cells b x hx, rfl⟩
  refine ⟨h.dpos, by simp; exact h.dle, by simp; exact h.lpos, ?_, ?_, ?_, ?_⟩
  · intro b x hx
    obtain ⟨y, _, hok, _⟩ := hget b x hx
    simp only [links_modCell]; exact hok
  · intro j st hst
    simp only [links_modCell] at hst ⊢
    exact h.stubs j st hst
  · intro b x hx hbd hh
    obtain ⟨y, hy, _, he⟩ := hget b x hx
    exact h.tails b y hy hbd (by rw [← he]; exact hh)
  · intro b x hx hb
    obtain ⟨y, hy, _, he⟩ := hget b x hx
    rw [he]; exact h.run b y hy hb

theorem Whole.modCell {s : State} (h : Whole s) (i : Nat) (f : Cell → Cell)
    (hf : ∀ c, s.trie[i]? = some c → CellOk (f c) s.trie.size s.links.size ∧ (f c).flags.hasTail = c.flags.hasTail) :
    Whole (s.modCell i f) := by
  have := PtrOkAt.modCell h i f hf
  unfold Whole; rw [trie_modCell_size]; exact this

theorem PtrOkAt.appendStub {s : State} {d : Nat} (h : PtrOkAt s d) (b : Stub)
    (hp : b.prev < s.links.size) (ht : b.target < d) : PtrOkAt (s.appendStub b).1 d := by
  have hls : (s.appendStub b).1.links.size = s.links.size + 1 := by simp [State.appendStub]
  refine ⟨h.dpos, h.dle, by omega, ?_, ?_, h.tails, h.run⟩
  · intro x c hc
    rw [hls]
    exact (h.cells x c hc).mono (Nat.le_refl _) (by omega)
  · intro j st hst
    rw [hls]
    have hst' : (s.links.push b)[j]? = some st := hst
    rcases getElem?_push_some_ptr hst' with ⟨_, hx'⟩ | ⟨_, rfl⟩
    · have := h.stubs j st hx'; exact ⟨by omega, this.2⟩
    · exact ⟨by omega, ht⟩

theorem Whole.appendStub {s : State} (h : Whole s) (b : Stub)
    (hp : b.prev < s.links.size) (ht : b.target < s.trie.size) : Whole (s.appendStub b).1 :=
  PtrOkAt.appendStub h b hp ht

theorem PtrOkAt.setHdr {s : State} {d : Nat} (h : PtrOkAt s d) (id : Nat) : PtrOkAt (s.setHdr id) d :=
  h.of_eq rfl rfl

theorem Whole.setHdr {s : State} (h : Whole s) (id : Nat) : Whole (s.setHdr id) :=
  PtrOkAt.setHdr h id

def Write.Safe (f : Files) (w : Write) : Prop := w.Inc f ∧ PtrOk (f.apply w).toState

def PTrace (s s' : State) : Prop := ∃ ws, Writes Write.Safe s ws s'

theorem PTrace.refl (s : State) : PTrace s s := ⟨[], .refl _ s⟩

theorem PTrace.trans {a b c : State} (h1 : PTrace a b) (h2 : PTrace b c) : PTrace a c := by
  obtain ⟨_, h1⟩ := h1
  obtain ⟨_, h2⟩ := h2
  exact ⟨_, h1.trans h2⟩

theorem PTrace.le {s s' : State} (h : PTrace s s') : s ⊑ s' := by
  obtain ⟨_, h⟩ := h
  exact (h.imp fun _ _ hq => hq.1).le

theorem PTrace.of_eq {s s' : State} (ht : s'.trie = s.trie) (hl : s'.links = s.links)
    (hh : s'.hdrId = s.hdrId) (hlog : s'.log = s.log) : PTrace s s' :=
  ⟨[], (Writes.refl _ s).ram (by simp only [State.files, ht, hl, hh]) hlog⟩

theorem PTrace.one {s s' : State} {w : Write} (hlog : s'.log = w :: s.log) (hf : s'.files = s.files.apply w)
    (hi : w.Inc s.files) (hp : PtrOk s') : PTrace s s' :=
  ⟨[w], .one hlog hf ⟨hi, hp.of_eq (by rw [← hf]; rfl) (by rw [← hf]; rfl)⟩⟩

theorem ptrace_appendCell (s : State) (c : Cell) (h0 : 0 < s.trie.size) (hp : PtrOk (s.appendCell c).1) :
    PTrace s (s.appendCell c).1 := .one rfl rfl h0 hp

theorem ptrace_appendStub (s : State) (b : Stub) (h0 : 0 < s.links.size) (hp : PtrOk (s.appendStub b).1) :
    PTrace s (s.appendStub b).1 := .one rfl rfl h0 hp

theorem ptrace_modCell (s : State) (i : Nat) (f : Cell → Cell) (hle : ∀ c, s.trie[i]? = some c → CellLe c (f c))
    (hp : PtrOk (s.modCell i f)) : PTrace s (s.modCell i f) := by
  cases hi : s.trie[i]? with
  | none => rw [log_modCell_none f hi]; exact .refl s
  | some c => exact .one (log_modCell_some f hi) (files_modCell_some f hi) ⟨c, hi, hle c hi⟩ hp

theorem ptrace_setHdr (s : State) (id : Nat) (hp : PtrOk s) : PTrace s (s.setHdr id) := by
  obtain ⟨d, hd⟩ := hp
  have hne : ¬ s.files.trie.size = 0 := Nat.ne_of_gt hd.live.1
  exact .one rfl (by simp only [Files.apply, if_neg hne]; rfl) trivial ⟨d, hd.setHdr id⟩

theorem PTrace.cut_state {s0 sf : State} (hg : GoodLog s0) (hp : PtrOk s0) (ht : PTrace s0 sf) :
    ∀ k, k ≤ sf.log.length - s0.log.length →
      ∃ m : State, PtrOk m ∧ m ⊑ sf ∧
        replay ((sf.log.reverse).take (s0.log.length + k)) = m.files := by
  intro k hk
  obtain ⟨ws, hw⟩ := ht
  have hlen : sf.log.length - s0.log.length = ws.length := by
    rw [hw.log, List.length_append, List.length_reverse]; omega
  refine ⟨(replay ((sf.log.reverse).take (s0.log.length + k))).toState, ?_,
    Files.Le.of_files ((hw.imp fun _ _ hq => hq.1).cut_le hg k).2, rfl⟩
  rw [hw.cut hg k]
  cases k with
  | zero => exact hp.of_eq rfl rfl
  | succ k =>
    exact WsAll.cut (P := fun f => PtrOk f.toState) _ _ (hw.all.imp fun _ _ hq => hq.2) _ (Nat.succ_pos k)
      (hlen ▸ hk)

end Traph
