import Proofs.Descend
/-! Heap-side frame facts for insertion: which writes leave stems and the "tail closed"
    condition alone. -/
namespace Traph
open State

theorem stemAt_modCell (s : State) (i : Nat) (f : Cell → Cell)
    (hf : ∀ c, (f c).chunk = c.chunk ∧ (f c).flags.hasTail = c.flags.hasTail) (j : Nat) :
    (s.modCell i f).stemAt j = s.stemAt j := by
  refine stemAt_congr s _ (trie_modCell_size s i f) (fun k => ?_) j
  rw [getElem?_modCell]
  by_cases hik : i = k
  · rw [if_pos hik]
    cases s.trie[k]? with
    | none => rfl
    | some c => exact congrArg some (Prod.ext (hf c).1.symm (hf c).2.symm)
  · rw [if_neg hik]

theorem stemAt_markCanHave (s : State) (n : Nat) (b : Bool) (j : Nat) : (s.markCanHave n b).stemAt j = s.stemAt j := by
  unfold markCanHave; split
  · exact stemAt_modCell s n (fun c => { c with flags := { c.flags with noChild := false } }) (fun c => ⟨rfl, rfl⟩) j
  · rfl

theorem stemAt_setSlot (s : State) (i : Nat) (sl : Slot) (v : Nat) (j : Nat) :
    (s.modCell i (fun c => c.setSlot sl v)).stemAt j = s.stemAt j :=
  stemAt_modCell s i (fun c => c.setSlot sl v) (fun c => by cases sl <;> exact ⟨rfl, rfl⟩) j

theorem stemAt_setChild (s : State) (i v j : Nat) :
    (s.modCell i (fun c => { c with child := v })).stemAt j = s.stemAt j :=
  stemAt_modCell s i (fun c => { c with child := v }) (fun c => ⟨rfl, rfl⟩) j

theorem TailClosed.modCell {s : State} (h : TailClosed s) (i : Nat) (f : Cell → Cell)
    (hf : ∀ c, (f c).flags.hasTail = c.flags.hasTail) : TailClosed (s.modCell i f) := by
  unfold TailClosed at *
  rw [trie_modCell_size, cell_modCell]
  split
  · rw [hf]; exact h
  · exact h

theorem TailClosed.markCanHave {s : State} (h : TailClosed s) (n : Nat) (b : Bool) : TailClosed (s.markCanHave n b) := by
  unfold State.markCanHave; split
  · exact h.modCell n (fun c => { c with flags := { c.flags with noChild := false } }) (fun c => rfl)
  · exact h

theorem TailClosed.writeNew (s : State) (stem : Bytes) (p : Nat) (c : Bool) : TailClosed (s.writeNew stem p c).1 := by
  unfold TailClosed State.cell
  rw [← Array.back?_eq_getElem?, writeNew_trie, Array.back?_append, Array.back?_push, List.back?_toArray]
  by_cases hl : stem.length > Layout.stemCap
  · -- long stem: the last block is the last tail cell
    obtain ⟨hto, hne⟩ := tailsOf_long hl
    obtain ⟨ck, hck⟩ := tailCells_getLast _ (chunks_ne_nil _ _ hne)
    rw [hto, hck]; rfl
  · -- short stem: the last block is the head, without has-tail
    rw [tailsOf_short hl]
    exact decide_eq_false hl

end Traph
