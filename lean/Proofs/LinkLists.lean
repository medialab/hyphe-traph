import Proofs.Small
import Proofs.Frame
/-! The link store as lists: every stub points strictly backwards (`LinksWf`), so the list `walk` reads off a head
    pointer does not depend on the fuel and is untouched by later appends; `addStubsGo` prepends to it; `weighted` /
    `deduped` are Python's `Counter` over it. -/
namespace Traph.State

/-- every stub points strictly backwards, except the header slot which points at itself (0) -/
def LinksWf (s : State) : Prop :=
  0 < s.links.size ∧ ∀ i st, s.links[i]? = some st → st.prev < i ∨ (i = 0 ∧ st.prev = 0)

theorem linksWf_init : LinksWf ({} : State) := by
  refine ⟨by decide, ?_⟩
  intro i st h
  have hl : ({} : State).links = #[{}] := rfl
  rw [hl] at h
  rcases Array.getElem?_eq_some_iff.mp h with ⟨hi, hst⟩
  have hi0 : i = 0 := by simpa using hi
  subst hi0
  right
  refine ⟨rfl, ?_⟩
  rw [← hst]; rfl

@[simp] theorem links_appendStub (s : State) (b : Stub) : (s.appendStub b).1.links = s.links.push b := rfl
@[simp] theorem snd_appendStub (s : State) (b : Stub) : (s.appendStub b).2 = s.links.size := rfl
@[simp] theorem trie_appendStub (s : State) (b : Stub) : (s.appendStub b).1.trie = s.trie := rfl
@[simp] theorem links_setCell (s : State) (i : Nat) (c : Cell) : (s.setCell i c).links = s.links := rfl

theorem linksWf_appendStub (s : State) (hwf : LinksWf s) (t p : Nat) (hp : p < s.links.size) :
    LinksWf (s.appendStub { target := t, prev := p }).1 := by
  refine ⟨by simp, ?_⟩
  intro i st h
  rw [links_appendStub, Array.getElem?_push] at h
  split at h
  · next hi =>
    left
    have : st = { target := t, prev := p } := by simpa using h.symm
    subst this; subst hi; exact hp
  · exact hwf.2 i st h

theorem linksWf_congr {s s' : State} (h : s'.links = s.links) (hwf : LinksWf s) : LinksWf s' := by
  unfold LinksWf; rw [h]; exact hwf

theorem walkGo_of_none {s : State} {i : Nat} (h : s.links[i]? = none) : ∀ fuel, s.walkGo fuel i = []
  | 0 => rfl
  | _ + 1 => by rw [walkGo, h]

theorem walkGo_of_some {s : State} {i : Nat} {st : Stub} (h : s.links[i]? = some st) (fuel : Nat) :
    s.walkGo (fuel + 1) i = st.target :: (if st.prev ≠ 0 then s.walkGo fuel st.prev else []) := by
  rw [walkGo, h]

theorem LinksWf.prev_lt {s : State} (hwf : LinksWf s) {h : Nat} {st : Stub} (hs : s.links[h]? = some st)
    (hp : st.prev ≠ 0) : st.prev < h :=
  (hwf.2 h st hs).resolve_right fun e => hp e.2

/-- the walk from `h` reads only stubs up to `h` (they point backwards), and needs no more fuel than `h + 1` -/
theorem walkGo_agree {s s' : State} (hwf : LinksWf s) {n : Nat} (hl : ∀ j, j < n → s'.links[j]? = s.links[j]?)
    (f1 : Nat) : ∀ f2 h, h < n → h < f1 → h < f2 → s'.walkGo f1 h = s.walkGo f2 h := by
  induction f1 with
  | zero => exact fun _ _ _ h1 _ => absurd h1 (Nat.not_lt_zero _)
  | succ f1 ih =>
    intro f2 h hn h1 h2
    cases f2 with
    | zero => exact absurd h2 (Nat.not_lt_zero _)
    | succ f2 =>
      cases hs : s.links[h]? with
      | none => rw [walkGo_of_none ((hl h hn).trans hs), walkGo_of_none hs]
      | some st =>
        rw [walkGo_of_some ((hl h hn).trans hs), walkGo_of_some hs]
        by_cases hp : st.prev ≠ 0
        · have hlt := hwf.prev_lt hs hp
          rw [if_pos hp, if_pos hp, ih f2 st.prev (Nat.lt_trans hlt hn) (Nat.lt_of_lt_of_le hlt (Nat.le_of_lt_succ h1))
            (Nat.lt_of_lt_of_le hlt (Nat.le_of_lt_succ h2))]
        · rw [if_neg hp, if_neg hp]

theorem walkGo_fuel_eq (s : State) (hwf : LinksWf s) (f1 f2 h : Nat) (h1 : h < f1) (h2 : h < f2) :
    s.walkGo f1 h = s.walkGo f2 h :=
  walkGo_agree hwf (n := h + 1) (fun _ _ => rfl) f1 f2 h (Nat.lt_succ_self h) h1 h2

/-- `walkGo` does not depend on the fuel once it exceeds the head index; in particular `walk` (fuel
    `links.size + 1`) is the true list for every in-range head -/
theorem walk_fuel (s : State) (hwf : LinksWf s) (h : Nat) (hh : h < s.links.size) (fuel : Nat)
    (hf : h < fuel) : s.walkGo fuel h = s.walk h :=
  walkGo_fuel_eq s hwf fuel (s.links.size + 1) h hf (Nat.lt_succ_of_lt hh)

theorem walk_none (s : State) (h : Nat) (hh : s.links[h]? = none) : s.walk h = [] :=
  walkGo_of_none hh _

/-- recursive characterisation, also valid for `h = 0` -/
theorem walk_unfold' (s : State) (hwf : LinksWf s) (h : Nat) (st : Stub) (hh : s.links[h]? = some st) :
    s.walk h = st.target :: (if st.prev ≠ 0 then s.walk st.prev else []) := by
  have hlt : h < s.links.size := (Array.getElem?_eq_some_iff.mp hh).1
  have hp : st.prev < s.links.size := (hwf.2 h st hh).elim (fun l => Nat.lt_trans l hlt) (fun e => e.2 ▸ hwf.1)
  unfold walk
  rw [walkGo_of_some hh, walkGo_fuel_eq s hwf s.links.size (s.links.size + 1) st.prev hp (Nat.lt_succ_of_lt hp)]

theorem walk_unfold (s : State) (hwf : LinksWf s) (h : Nat) (st : Stub) (hh : s.links[h]? = some st)
    (_h0 : 0 < h) : s.walk h = st.target :: (if st.prev ≠ 0 then s.walk st.prev else []) :=
  walk_unfold' s hwf h st hh

set_option smartUnfolding false in
/-- the walk reads the stub array only: on states with the same array it is the same function, by unfolding -/
theorem walkGo_congr {s s' : State} (h : s'.links = s.links) (fuel i : Nat) : s'.walkGo fuel i = s.walkGo fuel i := by
  cases s; cases s'; cases h; rfl

theorem walk_congr {s s' : State} (h : s'.links = s.links) (i : Nat) : s'.walk i = s.walk i := by
  unfold walk; rw [walkGo_congr h, h]

theorem walk_setCell (s : State) (i : Nat) (c : Cell) (h : Nat) : (s.setCell i c).walk h = s.walk h :=
  walk_congr (links_setCell s i c) h
theorem walk_modCell (s : State) (i : Nat) (f : Cell → Cell) (h : Nat) : (s.modCell i f).walk h = s.walk h :=
  walk_congr (links_modCell s i f) h
theorem walk_appendCell (s : State) (c : Cell) (h : Nat) : (s.appendCell c).1.walk h = s.walk h :=
  walk_congr (links_appendCell' s c) h

theorem walk_appendStub (s : State) (hwf : LinksWf s) (b : Stub) (h : Nat) (hh : h < s.links.size) :
    (s.appendStub b).1.walk h = s.walk h := by
  unfold walk
  refine walkGo_agree hwf (n := s.links.size) (fun j hj => ?_) _ _ h hh ?_ (Nat.lt_succ_of_lt hh)
  · rw [links_appendStub, Array.getElem?_push, if_neg (Nat.ne_of_lt hj)]
  · rw [links_appendStub, Array.size_push]; exact Nat.lt_succ_of_lt (Nat.lt_succ_of_lt hh)

/-- the list hanging off a head pointer stored in a cell: `0` means "no list" -/
def walk0 (s : State) (h : Nat) : List Nat := if h ≠ 0 then s.walk h else []

theorem addStubsGo_nil (s : State) (tail : Nat) : s.addStubsGo tail [] = (s, tail) := rfl

theorem addStubsGo_aux (targets : List Nat) :
    ∀ (s : State) (_hwf : LinksWf s) (tail : Nat) (_ht : tail < s.links.size),
      LinksWf (s.addStubsGo tail targets).1 ∧
      (s.addStubsGo tail targets).1.links.size = s.links.size + targets.length ∧
      (s.addStubsGo tail targets).1.trie = s.trie ∧
      (∀ h, h < s.links.size → (s.addStubsGo tail targets).1.walk h = s.walk h) ∧
      (s.addStubsGo tail targets).1.walk0 (s.addStubsGo tail targets).2 = targets.reverse ++ s.walk0 tail ∧
      (targets ≠ [] → (s.addStubsGo tail targets).2 = (s.addStubsGo tail targets).1.links.size - 1 ∧
        0 < (s.addStubsGo tail targets).2) := by
  induction targets with
  | nil => exact fun s hwf tail _ => ⟨hwf, rfl, rfl, fun _ _ => rfl, rfl, fun h => absurd rfl h⟩
  | cons t ts ih =>
    intro s hwf tail ht
    have hwf1 := linksWf_appendStub s hwf t tail ht
    have hsz1 : (s.appendStub { target := t, prev := tail }).1.links.size = s.links.size + 1 := by
      rw [links_appendStub, Array.size_push]
    have hstep : s.addStubsGo tail (t :: ts) =
        (s.appendStub { target := t, prev := tail }).1.addStubsGo s.links.size ts := rfl
    obtain ⟨i1, i2, i3, i4, i5, i6⟩ :=
      ih (s.appendStub { target := t, prev := tail }).1 hwf1 s.links.size (hsz1 ▸ Nat.lt_succ_self _)
    rw [hstep]
    refine ⟨i1, ?_, i3, fun h hh => ?_, ?_, fun _ => ?_⟩
    · rw [i2, hsz1, List.length_cons, Nat.add_assoc, Nat.add_comm 1]
    · rw [i4 h (hsz1 ▸ Nat.lt_succ_of_lt hh), walk_appendStub s hwf _ h hh]
    · -- the stub just appended is the head of the list that `ts` is prepended to
      have hget : (s.appendStub { target := t, prev := tail }).1.links[s.links.size]? =
          some { target := t, prev := tail } := by
        rw [links_appendStub, Array.getElem?_push, if_pos rfl]
      have hw : (s.appendStub { target := t, prev := tail }).1.walk0 s.links.size = t :: s.walk0 tail := by
        unfold walk0
        rw [if_pos (Nat.ne_of_gt hwf.1), walk_unfold' _ hwf1 _ _ hget]
        show t :: (if tail ≠ 0 then _ else []) = _
        rw [walk_appendStub s hwf _ tail ht]
      rw [i5, hw, List.reverse_cons, List.append_assoc]
      rfl
    · cases ts with
      | nil => exact ⟨by rw [addStubsGo_nil, hsz1]; rfl, hwf.1⟩
      | cons u us => exact i6 (List.cons_ne_nil u us)

/-- `addStubsGo` prepends: the new head walks to the reversed targets followed by the old list; every old list is kept -/
theorem addStubsGo_spec (s : State) (hwf : LinksWf s) (tail : Nat) (ht : tail < s.links.size)
    (targets : List Nat) :
    LinksWf (s.addStubsGo tail targets).1 ∧
    (s.addStubsGo tail targets).1.links.size = s.links.size + targets.length ∧
    (s.addStubsGo tail targets).1.trie = s.trie ∧
    (∀ h, h < s.links.size → (s.addStubsGo tail targets).1.walk h = s.walk h) ∧
    (targets ≠ [] →
      (s.addStubsGo tail targets).1.walk (s.addStubsGo tail targets).2 =
        targets.reverse ++ (if tail ≠ 0 then s.walk tail else []) ∧
      (s.addStubsGo tail targets).2 = (s.addStubsGo tail targets).1.links.size - 1 ∧
      0 < (s.addStubsGo tail targets).2) := by
  obtain ⟨a1, a2, a3, a4, a5, a6⟩ := addStubsGo_aux targets s hwf tail ht
  refine ⟨a1, a2, a3, a4, fun hne => ⟨?_, a6 hne⟩⟩
  unfold walk0 at a5
  rwa [if_pos (Nat.ne_of_gt (a6 hne).2)] at a5

theorem addStubsGo_head (s : State) (hwf : LinksWf s) (tail : Nat) (ht : tail < s.links.size)
    (targets : List Nat) (hne : targets ≠ []) :
    (s.addStubsGo tail targets).2 = (s.addStubsGo tail targets).1.links.size - 1 ∧
      0 < (s.addStubsGo tail targets).2 :=
  ((addStubsGo_spec s hwf tail ht targets).2.2.2.2 hne).2

def count (t : Nat) (l : List Nat) : Nat := (l.filter (· = t)).length

theorem count_eq_count (t : Nat) (l : List Nat) : count t l = List.count t l :=
  (List.count_eq_length_filter (a := t) (l := l)).symm

@[simp] theorem count_nil (t : Nat) : count t [] = 0 := rfl
theorem count_cons (t a : Nat) (l : List Nat) : count t (a :: l) = (if a = t then 1 else 0) + count t l := by
  rw [count_eq_count, count_eq_count, List.count_cons, Nat.add_comm]
  simp only [beq_iff_eq]

theorem count_pos_iff (t : Nat) (l : List Nat) : 0 < count t l ↔ t ∈ l := by
  rw [count_eq_count]; exact List.count_pos_iff

theorem countInto_eq_upsert (acc : List (Nat × Nat)) (t : Nat) :
    countInto acc t = upsert (·.1) (fun p => (p.1, p.2 + 1)) (t, 0) t acc := by
  induction acc with
  | nil => rfl
  | cons a d ih => simp only [countInto, upsert, ih]

theorem keys_countInto (acc : List (Nat × Nat)) (t : Nat) :
    (countInto acc t).map (·.1) =
      if t ∈ acc.map (·.1) then acc.map (·.1) else acc.map (·.1) ++ [t] := by
  rw [countInto_eq_upsert]
  exact upsert_keys (·.1) (fun p => (p.1, p.2 + 1)) (t, 0) t (fun _ => rfl) rfl acc

/-- the weights recorded for the keys that pass a test add up to the number of members that pass it -/
theorem fold_psum (P : Nat → Prop) [DecidablePred P] (l : List Nat) : ∀ (acc : List (Nat × Nat)),
    psum (·.1) (·.2) P (l.foldl countInto acc) =
      psum (·.1) (·.2) P acc + (l.filter (fun x => decide (P x))).length := by
  induction l with
  | nil => exact fun _ => rfl
  | cons x l ih =>
    intro acc
    rw [List.foldl_cons, ih, countInto_eq_upsert,
      psum_upsert (·.1) (fun p => (p.1, p.2 + 1)) (x, 0) x (fun _ => rfl) rfl (·.2) 1 rfl (fun _ => rfl) P,
      List.filter_cons, Nat.add_assoc]
    by_cases hP : P x
    · rw [if_pos hP, if_pos (decide_eq_true hP), List.length_cons, Nat.add_comm 1]
    · rw [if_neg hP, if_neg (by simpa using hP), Nat.zero_add]

theorem fold_sumP (P : Nat → Bool) (l : List Nat) (acc : List (Nat × Nat)) :
    (((l.foldl countInto acc).filter (fun tw => P tw.1)).map (·.2)).sum =
      ((acc.filter (fun tw => P tw.1)).map (·.2)).sum + (l.filter P).length := by
  have := fold_psum (fun x => P x = true) l acc
  simpa only [psum, Bool.decide_eq_true] using this

theorem fold_keys_nodup (l : List Nat) : ∀ (acc : List (Nat × Nat)), (acc.map (·.1)).Nodup →
    ((l.foldl countInto acc).map (·.1)).Nodup := by
  induction l with
  | nil => intro acc h; exact h
  | cons a l ih =>
    intro acc h
    refine ih _ ?_
    rw [countInto_eq_upsert]
    exact upsert_keys_nodup (·.1) (fun p => (p.1, p.2 + 1)) (a, 0) a (fun _ => rfl) rfl acc h

theorem fold_keys_mem (l : List Nat) : ∀ (acc : List (Nat × Nat)) (t : Nat),
    t ∈ (l.foldl countInto acc).map (·.1) ↔ (t ∈ acc.map (·.1) ∨ t ∈ l) := by
  induction l with
  | nil => exact fun acc t => (or_iff_left List.not_mem_nil).symm
  | cons a l ih =>
    intro acc t
    rw [List.foldl_cons, ih, countInto_eq_upsert,
      mem_upsert_keys (·.1) (fun p => (p.1, p.2 + 1)) (a, 0) a (fun _ => rfl) rfl, List.mem_cons, or_assoc]

theorem fold_keys_eq (l : List Nat) : ∀ (acc : List (Nat × Nat)),
    (l.foldl countInto acc).map (·.1) =
      acc.map (·.1) ++ (l.filter (fun x => !(acc.map (·.1)).contains x)).eraseDups := by
  induction l with
  | nil => exact fun acc => (List.append_nil _).symm
  | cons a l ih =>
    intro acc
    rw [List.foldl_cons, ih, keys_countInto, List.filter_cons]
    by_cases h : a ∈ acc.map (·.1)
    · rw [if_pos h, List.contains_iff_mem.mpr h]; rfl
    · -- `a` is new: it is kept, and dropped from what follows
      have hf : l.filter (fun x => !(acc.map (·.1) ++ [a]).contains x) =
          (l.filter (fun x => !(acc.map (·.1)).contains x)).filter (fun x => !x == a) := by
        rw [List.filter_filter]
        refine List.filter_congr fun x _ => ?_
        rw [List.contains_append, Bool.not_or, Bool.and_comm, List.contains_cons, List.contains_nil, Bool.or_false]
      rw [if_neg h, Bool.eq_false_iff.mpr (mt List.contains_iff_mem.mp h), List.append_assoc, hf]
      exact congrArg _ List.eraseDups_cons.symm

theorem countInto_fold_keys_nodup (l : List Nat) : ((l.foldl countInto []).map (·.1)).Nodup :=
  fold_keys_nodup l [] List.nodup_nil

theorem countInto_fold_mem (l : List Nat) (t : Nat) : t ∈ (l.foldl countInto []).map (·.1) ↔ t ∈ l :=
  (fold_keys_mem l [] t).trans (or_iff_right List.not_mem_nil)

theorem countInto_fold_weight (l : List Nat) (t n : Nat) :
    (t, n) ∈ l.foldl countInto [] ↔ (t ∈ l ∧ n = count t l) := by
  have hw : ∀ {n}, (t, n) ∈ l.foldl countInto [] → n = count t l := fun hm =>
    (ksum_of_mem (fun kw : Nat × Nat => kw.1) (fun kw => kw.2) _ (t, _) (countInto_fold_keys_nodup l) hm).symm.trans
      ((fold_psum (· = t) l []).trans (Nat.zero_add _))
  constructor
  · exact fun hm => ⟨(countInto_fold_mem l t).mp (List.mem_map.mpr ⟨_, hm, rfl⟩), hw hm⟩
  · rintro ⟨ht, rfl⟩
    obtain ⟨⟨t', n'⟩, hm, rfl⟩ := List.mem_map.mp ((countInto_fold_mem l t).mpr ht)
    exact hw hm ▸ hm

theorem countInto_fold_total (l : List Nat) : ((l.foldl countInto []).map (·.2)).sum = l.length := by
  have := fold_psum (fun _ => True) l []
  have hT : ∀ {β : Type} (l : List β), l.filter (fun _ => decide True) = l := fun _ => List.filter_eq_self.mpr fun _ _ => rfl
  rwa [psum, psum, hT, hT, hT, List.map_nil, List.sum_nil, Nat.zero_add] at this

/-- first-seen order -/
theorem countInto_fold_keys (l : List Nat) : (l.foldl countInto []).map (·.1) = l.eraseDups := by
  rw [fold_keys_eq, List.filter_eq_self (p := fun x => !(([] : List (Nat × Nat)).map (·.1)).contains x) |>.mpr fun _ _ => rfl]
  rfl

theorem weighted_spec (s : State) (head t n : Nat) :
    (t, n) ∈ s.weighted head ↔ (t ∈ s.walk head ∧ n = count t (s.walk head)) :=
  countInto_fold_weight (s.walk head) t n

theorem deduped_nodup (s : State) (head : Nat) : (s.deduped head).Nodup :=
  countInto_fold_keys_nodup (s.walk head)

theorem deduped_mem (s : State) (head t : Nat) : t ∈ s.deduped head ↔ t ∈ s.walk head :=
  countInto_fold_mem (s.walk head) t

theorem deduped_eq (s : State) (head : Nat) : s.deduped head = (s.walk head).eraseDups :=
  countInto_fold_keys (s.walk head)

#print axioms addStubsGo_spec
#print axioms weighted_spec
#print axioms walk_appendStub

end Traph.State

namespace Traph

/-- block 0 of the link file, the header, read as a stub has no predecessor: the walk from the null head, made for a
    page without in-list, is that one stub (`walk_header`, MostLinked); reachable states have it (`reachable_invariants`) -/
def HeaderStub (s : State) : Prop := ∃ st, s.links[0]? = some st ∧ st.prev = 0

end Traph
