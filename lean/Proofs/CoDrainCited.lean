import Proofs.CoDrainLinks
import Proofs.LinkLists
import Proofs.Small
import Proofs.LinkBag
/-! C16 — `get_webentity_outlinks_iter` / `get_webentity_inlinks_iter` drained on a fixed index =
    `get_webentity_outlinks` / `get_webentity_inlinks` (as sorted sets). The generator consumes the LAZY
    `deduped_link_nodes_iter` (one stub read per step, `already_seen`), yields once per distinct target of every list,
    and skips targets it has resolved before (`done_blocks`). Needs the link array well-formed (`LinksWf`: every stub
    points strictly backwards — an invariant of every reachable index). -/
namespace Traph
open State

/-- first occurrences of the elements of `l` that are not in `seen` -/
def dedupL : List Nat → List Nat → List Nat
  | _, [] => []
  | seen, x :: xs => if seen.contains x then dedupL seen xs else x :: dedupL (seen ++ [x]) xs

theorem dedupNext_spec (s : State) (hwf : LinksWf s) : ∀ (fuel p : Nat) (seen : List Nat),
    (p < fuel ∨ s.links[p]? = none) → 1 ≤ fuel →
    (dedupL seen (s.walk0 p) = [] ∧ s.dedupNext fuel p seen = none) ∨
    (∃ t p', s.dedupNext fuel p seen = some (t, p', seen ++ [t]) ∧
      dedupL seen (s.walk0 p) = t :: dedupL (seen ++ [t]) (s.walk0 p')) := by
  intro fuel
  induction fuel with
  | zero => intro p seen _ h1; omega
  | succ f ih =>
    intro p seen hp _
    by_cases h0 : p = 0
    · left; subst h0; simp [lbWalk0_zero, dedupL, dedupNext]
    · cases hl : s.links[p]? with
      | none =>
        left
        simp [walk0, h0, walk_none s p hl, dedupL, dedupNext, hl]
      | some st =>
        have hlt : st.prev < p := by
          rcases hwf.2 p st hl with h | ⟨h, _⟩
          · exact h
          · exact absurd h h0
        have hpf : p < f + 1 := by
          rcases hp with h | h
          · exact h
          · rw [hl] at h; cases h
        rw [lbWalk0_unfold hwf h0 hl]
        by_cases hs : st.target ∈ seen
        · have := ih st.prev seen (Or.inl (by omega)) (by omega)
          simpa [dedupL, dedupNext, h0, hl, hs] using this
        · right
          exact ⟨st.target, st.prev, by simp [dedupNext, h0, hl, hs], by simp [dedupL, hs]⟩

theorem dedupL_eq_filter : ∀ (l seen : List Nat),
    dedupL seen l = (l.filter (fun x => !seen.contains x)).eraseDups := by
  intro l
  induction l with
  | nil => intro seen; simp [dedupL]
  | cons x xs ih =>
    intro seen
    by_cases hs : x ∈ seen
    · simp [dedupL, hs, ih]
    · simp only [dedupL, List.contains_eq_mem, hs, decide_false, Bool.false_eq_true, if_false, List.filter_cons,
        Bool.not_false, if_true, List.eraseDups_cons, ih, List.filter_filter]
      congr 2
      apply List.filter_congr
      intro y _
      by_cases hyx : y = x <;> by_cases hy : y ∈ seen <;> simp [hyx, hy, hs]

theorem dedupL_nil (l : List Nat) : dedupL [] l = l.eraseDups := by
  rw [dedupL_eq_filter]
  have : l.filter (fun x => !([] : List Nat).contains x) = l := by
    apply List.filter_eq_self.mpr
    intro a _
    simp
  rw [this]

section CI
variable (s : State) (out : Bool)

/-- one target of a list: resolved unless it was resolved before -/
def ciStep (acc : List Nat × List Nat) (t : Nat) : List Nat × List Nat :=
  if acc.1.contains t then acc else (acc.1 ++ [t], insertSorted (s.windupWe t) acc.2)

def ciHead (c : Cell) : Nat := if out then c.out else c.inn

def ciTargets (it : QItem) : List Nat :=
  if it.2.2.flags.page && ciHead out it.2.2 ≠ 0 then s.deduped (ciHead out it.2.2) else []

def ciYields (items : List QItem) : Nat := ((items.map (ciTargets s out)).map List.length).sum

def ciGen : Gen CitedSt Ans :=
  .reader (fun g q => citedResume g s q) (fun q => qFuel s q.cur.prefixes.length q.cur.stack.length)

/-- between two lists -/
abbrev ciPull (w : WeCur) (a : List Nat × List Nat) : CitedSt :=
  { cur := w, out := out, lnk := none, doneBlocks := a.1, weids := a.2 }

variable (hwf : LinksWf s)
include hwf

theorem ci_item (w w' : WeCur) (it : QItem) (F : List Nat × List Nat → Ans) (B Y : Nat)
    (hw : WeCur.nx s w = (w', .item it.1 it.2.1 it.2.2)) (hB : B ≤ 2 * (WeCur.bd s w' + 1))
    (hK : ∀ a, (ciGen s).Drains (ciPull out w' a) (F a) B Y) (a : List Nat × List Nat) :
    (ciGen s).Drains (ciPull out w a) (F ((ciTargets s out it).foldl (ciStep s) a)) (B + 2)
      (Y + (ciTargets s out it).length) := by
  obtain ⟨b, l, c⟩ := it
  replace hw : w.next (w.fuel s) s = (w', .item b l c) := hw
  have hq : B + 1 < qFuel s w'.prefixes.length w'.stack.length := by
    have := qFuel_ge2 s w'.prefixes.length w'.stack.length
    simp only [WeCur.bd] at hB
    omega
  generalize hhead : (if out then c.out else c.inn) = head
  have hnone : ciTargets s out (b, l, c) = [] →
      (∀ g, citedResume (g + 1) s (ciPull out w a) = citedResume g s (ciPull out w' a)) →
      (ciGen s).Drains (ciPull out w a) (F ((ciTargets s out (b, l, c)).foldl (ciStep s) a)) (B + 2)
        (Y + (ciTargets s out (b, l, c)).length) := fun hT e => by
    rw [hT]; exact ((hK a).cont e).mono (by omega) (Nat.le_refl _)
  by_cases hp : c.flags.page = true
  · by_cases hh : head = 0
    · refine hnone (by simp [ciTargets, ciHead, hhead, hh]) fun g => ?_
      simp [ciPull, citedResume, hw, hhead, hh]
    · have hT : ciTargets s out (b, l, c) = dedupL [] (s.walk0 head) := by
        simp only [ciTargets, ciHead, hhead, hp, Bool.true_and, ne_eq, hh, not_false_eq_true, decide_true, if_true]
        rw [dedupL_nil, deduped_eq, walk0, if_pos hh]
      -- the lazy iterator `(p, seen)` still delivers `dedupL seen (s.walk0 p)`
      have lst := Gen.Drains.each (G := ciGen s)
        (fun (c : Nat × List Nat) (a : List Nat × List Nat) => { ciPull out w' a with lnk := some c })
        (fun c => dedupL c.2 (s.walk0 c.1)) (ciStep s) F (B + 1) Y
        (fun ⟨p, seen⟩ t L a hv => by
          rcases dedupNext_spec s hwf (s.links.size + 1) p seen
              (by by_cases h : p < s.links.size + 1
                  · exact Or.inl h
                  · exact Or.inr (by rw [Array.getElem?_eq_none_iff]; omega)) (by omega) with ⟨hnil, _⟩ | ⟨t', p', hsome, hcons⟩
          · rw [hnil] at hv; cases hv
          · obtain ⟨rfl, rfl⟩ := List.cons.inj (hcons.symm.trans hv)
            refine ⟨(p', seen ++ [t']), rfl, fun g => ?_⟩
            by_cases hd : t' ∈ a.1 <;> simp [ciGen, Gen.reader, citedResume, hsome, ciStep, hd])
        (fun _ _ => hq)
        (fun ⟨p, seen⟩ a hv => by
          rcases dedupNext_spec s hwf (s.links.size + 1) p seen
              (by by_cases h : p < s.links.size + 1
                  · exact Or.inl h
                  · exact Or.inr (by rw [Array.getElem?_eq_none_iff]; omega)) (by omega) with ⟨_, hnone⟩ | ⟨t', p', _, hcons⟩
          · exact (hK a).cont fun g => by simp only [ciGen, Gen.reader, ciPull, citedResume, hnone]
          · rw [show dedupL seen (s.walk0 p) = [] from hv] at hcons; cases hcons)
        _ (head, []) a rfl
      rw [hT]
      refine (lst.cont fun g => ?_).mono (Nat.le_refl _) (Nat.le_refl _)
      simp [ciGen, Gen.reader, ciPull, citedResume, hw, hhead, hh, hp]
  · refine hnone (by simp [ciTargets, hp]) fun g => ?_
    simp [ciPull, citedResume, hw, hp]

theorem ci_drains {w : WeCur} {items : List QItem} {e : Option Err} (h : Runs (WeCur.nx s) (WeCur.bd s) w items e)
    (a : List Nat × List Nat) :
    (ciGen s).Drains (ciPull out w a)
      (drainAns e (.nats (items.foldl (fun a it => (ciTargets s out it).foldl (ciStep s) a) a).2)) (2 * (items.length + 1))
      (items.map fun it => (ciTargets s out it).length).sum :=
  Gen.Drains.fold_runs (G := ciGen s) (ciPull out) _ (fun a => .nats a.2) _ 2
    (fun w w' a hw => (Gen.Drains.done (G := ciGen s) (q' := ciPull out w' a) fun g => by
      simp only [ciGen, Gen.reader, ciPull, citedResume, hw]).mono (Nat.zero_le _) (Nat.le_refl _))
    (fun w w' e a hw => (Gen.Drains.failed (G := ciGen s) (q' := ciPull out w' a) fun g => by
      simp only [ciGen, Gen.reader, ciPull, citedResume, hw]).mono (Nat.zero_le _) (Nat.le_refl _))
    (ci_item s out hwf) h a

end CI

theorem cd_insertSorted_of_mem (x : Nat) : ∀ l : List Nat, StrictAsc l → x ∈ l → insertSorted x l = l
  | [], _, h => by cases h
  | y :: ys, hs, h => by
    have hy := List.pairwise_cons.mp hs
    simp only [insertSorted]
    rcases List.mem_cons.mp h with rfl | h
    · simp
    · have hlt : y < x := hy.1 x h
      have h1 : ¬x < y := by omega
      have h2 : ¬x = y := by omega
      simp only [h1, h2, if_false]
      rw [cd_insertSorted_of_mem x ys hy.2 h]

/-- skipping a target resolved before changes nothing: its webentity is in the set already -/
theorem ciStep_fold (s : State) : ∀ (L : List Nat) (db ws : List Nat), StrictAsc ws → (∀ t ∈ db, s.windupWe t ∈ ws) →
    (L.foldl (ciStep s) (db, ws)).2 = (L.map s.windupWe).foldl (fun acc x => insertSorted x acc) ws := by
  intro L
  induction L with
  | nil => intro db ws _ _; rfl
  | cons t L ih =>
    intro db ws hs hdb
    simp only [List.foldl_cons, List.map_cons]
    by_cases hd : t ∈ db
    · have : ciStep s (db, ws) t = (db, ws) := by simp [ciStep, hd]
      rw [this, cd_insertSorted_of_mem _ ws hs (hdb t hd)]
      exact ih db ws hs hdb
    · have : ciStep s (db, ws) t = (db ++ [t], insertSorted (s.windupWe t) ws) := by simp [ciStep, hd]
      rw [this]
      refine ih _ _ (insertSorted_sorted _ ws hs) (fun t' ht' => ?_)
      rw [mem_insertSorted]
      rcases List.mem_append.mp ht' with h | h
      · exact Or.inr (hdb t' h)
      · simp only [List.mem_singleton] at h
        exact Or.inl (by rw [h])

/-- **`get_webentity_outlinks_iter` / `get_webentity_inlinks_iter` drained = the atomic requests** (as sorted sets),
    for every `N` beyond the number of yield points of the request on this index -/
theorem cited_drain (s : State) (ps : List Bytes) (out : Bool) (hwf : LinksWf s) (hfin : WeFin s none ps) (N : Nat)
    (hN : ciYields s out (weItems s none ps).1 + 1 < N) :
    QSt.drain s N (.cited { cur := { prefixes := ps }, out := out }) = s.ask (.cited ps out) := by
  have hlen := weItems_length s none ps
  have hq := qFuel_ge2 s ps.length 0
  have hq2 : (s.trie.size + 2) * ps.length ≤ (s.trie.size + 2) * (ps.length + 1) := Nat.mul_le_mul_left _ (by omega)
  have := (ci_drains s out hwf (weRuns_init s none ps hfin) ([], [])).drain (N := N)
    (by show _ < qFuel s ps.length 0; omega) (by simp only [ciYields, List.map_map] at hN; exact Nat.lt_of_succ_lt hN)
  rw [show QSt.drain s N _ = (ciGen s).drain N _ from QSt.drain_eq s .cited _ _ (fun _ => rfl) N _]
  refine this.trans ?_
  rw [← List.foldl_flatMap, ciStep_fold s _ [] [] (by simp [StrictAsc]) (by simp)]
  have hT : ∀ it : QItem, (ciTargets s out it).map s.windupWe = if it.2.2.flags.page then
      (if ciHead out it.2.2 ≠ 0 then (s.deduped (ciHead out it.2.2)).map s.windupWe else []) else [] := fun it => by
    unfold ciTargets
    by_cases hp : it.2.2.flags.page = true <;> by_cases hh : ciHead out it.2.2 = 0 <;> simp [hp, hh]
  simp only [List.map_flatMap, hT]
  rw [← weItems_pages s none (fun it => if ciHead out it.2.2 ≠ 0 then (s.deduped (ciHead out it.2.2)).map s.windupWe else [])
    (fun l => .nats (l.foldl (fun acc x => insertSorted x acc) [])) ps]
  simp only [State.ask, citedWebentities, itemOf, ciHead]
  exact (fun r => by cases r <;> rfl : ∀ r : Except Err (List Nat),
    Ans.ofExcept (fun l => .nats (l.foldl (fun acc x => insertSorted x acc) [])) r = Ans.ofExcept .nats (r.map sortDedup)) _

/-- … on every index that represents a search tree and whose stubs point backwards -/
theorem cited_drain_shape {s : State} {t : T} (h : Shape s t) (hwf : LinksWf s) (ps : List Bytes) (out : Bool)
    (hps : ∀ pf ∈ ps, lruIter pf ≠ []) :
    ∃ N0, ∀ N, N0 ≤ N → QSt.drain s N (.cited { cur := { prefixes := ps }, out := out }) = s.ask (.cited ps out) :=
  ⟨ciYields s out (weItems s none ps).1 + 2, fun N hN =>
    cited_drain s ps out hwf (weFin_of_shape h none ps hps) N (by omega)⟩

#print axioms cited_drain_shape

end Traph
