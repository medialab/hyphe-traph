import Traph.Basic
/-! Counting the distinct new elements of a list (for the `pages` figure of write reports). -/
namespace Traph

theorem eraseDups_filter {α : Type} [BEq α] [LawfulBEq α] (f : α → Bool) (l : List α) :
    (l.filter f).eraseDups = l.eraseDups.filter f := by
  match l with
  | [] => simp
  | a :: l' =>
    rw [List.eraseDups_cons]
    by_cases hfa : f a = true
    · rw [List.filter_cons_of_pos hfa, List.eraseDups_cons, List.filter_cons_of_pos hfa,
        ← eraseDups_filter f (l'.filter _)]
      congr 2
      simp only [List.filter_filter]
      apply List.filter_congr
      intro x _
      exact Bool.and_comm _ _
    · rw [List.filter_cons_of_neg hfa, List.filter_cons_of_neg hfa, ← eraseDups_filter f (l'.filter _)]
      congr 1
      rw [List.filter_filter]
      apply List.filter_congr
      intro x _
      by_cases hx : (x == a) = true
      · have := eq_of_beq hx; subst this
        simp [hfa]
      · simp [hx]
termination_by l.length
decreasing_by all_goals exact Nat.lt_succ_of_le (List.length_filter_le _ _)

open Classical in
noncomputable def newCount (P : LRU → Prop) (l : List LRU) : Nat :=
  ((l.eraseDups).filter (fun p => decide (¬ P p))).length

theorem newCount_nil (P : LRU → Prop) : newCount P [] = 0 := by simp [newCount]

theorem newCount_congr {P Q : LRU → Prop} (h : ∀ q, P q ↔ Q q) (l : List LRU) : newCount P l = newCount Q l := by
  have : P = Q := funext (fun q => propext (h q))
  rw [this]

open Classical in
theorem newCount_cons (P : LRU → Prop) (p : LRU) (l : List LRU) :
    newCount P (p :: l) = (if P p then 0 else 1) + newCount (fun q => P q ∨ q = p) l := by
  unfold newCount
  rw [List.eraseDups_cons, eraseDups_filter, List.filter_cons, List.filter_filter]
  have e : (l.eraseDups.filter (fun a => decide (¬ P a) && !a == p)) =
      l.eraseDups.filter (fun q => decide (¬ (P q ∨ q = p))) := by
    apply List.filter_congr
    intro x _
    rw [Bool.eq_iff_iff]
    simp only [Bool.and_eq_true, decide_eq_true_eq, Bool.not_eq_true', beq_eq_false_iff_ne, ne_eq, not_or]
  rw [e]
  by_cases hp : P p
  · simp [hp]
  · simp [hp]; omega

theorem newCount_append (P : LRU → Prop) : ∀ (a b : List LRU),
    newCount P (a ++ b) = newCount P a + newCount (fun q => P q ∨ q ∈ a) b
  | [], b => by
    rw [List.nil_append, newCount_nil, Nat.zero_add]
    exact newCount_congr (fun q => by simp) b
  | x :: a, b => by
    rw [List.cons_append, newCount_cons, newCount_cons, newCount_append _ a b, Nat.add_assoc]
    congr 2
    apply newCount_congr
    intro q
    simp only [List.mem_cons]
    constructor
    · rintro ((h | h) | h)
      · exact Or.inl h
      · exact Or.inr (Or.inl h)
      · exact Or.inr (Or.inr h)
    · rintro (h | h | h)
      · exact Or.inl (Or.inl h)
      · exact Or.inl (Or.inr h)
      · exact Or.inr h

theorem newCount_single (P : LRU → Prop) (p : LRU) :
    (P p → newCount P [p] = 0) ∧ (¬ P p → newCount P [p] = 1) := by
  rw [newCount_cons, newCount_nil]
  constructor
  · intro h; rw [if_pos h]
  · intro h; rw [if_neg h]

end Traph
