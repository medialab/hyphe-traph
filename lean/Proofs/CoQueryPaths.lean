import Proofs.CoQuery
import Proofs.TraverseDepth
/-! C16 — the pointer paths `HPath` (CoQuery.lean) of the completeness theorem in terms of the finite map denoted by the
    tree: every entry stored strictly below the entry of a prefix node is reached from the prefix node by a
    pointer path whose ancestors are the prefix node itself and the nodes of the intermediate LRUs
    (`hpath_of_entries`, for `C16_pages_query_complete_entries` in CoSchedules). -/
namespace Traph
open State Layout

theorem hpath_sib {s : State} {start : Nat} : ∀ (u : T), Rep s u → (∀ x ∈ u.sibs, x ≠ start) →
    ∀ a ∈ u.sibs, ∀ {lru : Bytes} {b : Nat} {cur : Bytes} {anc : List Nat},
      HPath s start a lru b cur anc → HPath s start u.root lru b cur anc
  | .nil, _, _, a, ha => nomatch ha
  | .node a0 l c r, hr, hns, a, ha => by
    intro hp
    obtain ⟨e1, _, e3⟩ := Rep.cell_eq hr
    obtain ⟨_, _, rl, _, rr⟩ := hr
    have h0 : a0 ≠ start := hns a0 T.mem_sibs_self
    rw [T.root_node]
    rcases T.mem_sibs_node.mp ha with ha | rfl | ha
    · have hl : l ≠ .nil := by rintro rfl; exact nomatch ha
      have hroot := Rep.root_ne_zero rl hl
      have ih := hpath_sib l rl (fun x hx => hns x (T.mem_sibs_left hx)) a ha hp
      rw [← e1] at ih hroot
      exact HPath.left h0 hroot ih
    · exact hp
    · have hl : r ≠ .nil := by rintro rfl; exact nomatch ha
      have hroot := Rep.root_ne_zero rr hl
      have ih := hpath_sib r rr (fun x hx => hns x (T.mem_sibs_right hx)) a ha hp
      rw [← e3] at ih hroot
      exact HPath.right h0 hroot ih

theorem co_sib_entry {s : State} (u : T) (pre : LRU) (hnd : u.addrs.Nodup) {a : Nat} (ha : a ∈ u.sibs) :
    (pre ++ [s.stemAt a], a) ∈ u.entries s pre :=
  T.sib_entry u pre a ha

theorem co_entries_ne_nil {s : State} {u : T} {pre p : LRU} {b : Nat} (h : (p, b) ∈ u.entries s pre) : u ≠ .nil := by
  rintro rfl; exact nomatch h

/-- below a sibling tree that does not contain `start`: every entry is reached from the root of the tree;
    the ancestors are the nodes of the proper prefixes of the path, in order -/
theorem hpath_below {s : State} {start : Nat} : ∀ (p : LRU) (u : T) (pre : LRU) (b : Nat), Rep s u →
    u.addrs.Nodup → start ∉ u.addrs → (pre ++ p, b) ∈ u.entries s pre →
    ∃ anc, HPath s start u.root pre.flatten b (pre ++ p).flatten anc ∧ anc.length + 1 = p.length ∧
      ∀ k (hk : k < anc.length), (pre ++ p.take (k + 1), anc[k]) ∈ u.entries s pre := by
  intro p
  induction p with
  | nil => intro u pre b _ _ _ h; exact absurd rfl (entries_ne_nil h)
  | cons y p' ih =>
    intro u pre b hr hnd hns h
    obtain ⟨a, ha, hcase⟩ := entries_head_sib hnd h
    have hsibs : ∀ x ∈ u.sibs, x ≠ start := fun x hx e => hns (e ▸ T.sibs_subset_addrs u x hx)
    rcases hcase with ⟨e, rfl⟩ | ⟨x, rest, e, hch⟩
    · refine ⟨[], hpath_sib u hr hsibs b ha ?_, by rw [e]; rfl, fun k hk => by simp at hk⟩
      have : (pre ++ y :: p').flatten = pre.flatten ++ s.stemAt b := by rw [e]; simp
      rw [this]; exact HPath.here b _
    · obtain ⟨hrc, cell, hcell, hch'⟩ := Rep.childAt u a hr ha
      have hcellA : s.cell a = cell := cell_of_getElem? hcell
      simp only [List.cons.injEq] at e
      obtain ⟨rfl, rfl⟩ := e
      obtain ⟨anc, hp, hlen, hanc⟩ := ih (u.childAt a) (pre ++ [s.stemAt a]) b hrc
        (T.childAt_nodup u a hnd ha) (fun hx => hns (T.childAt_addrs u a _ hx)) hch
      have hne : (s.cell a).child ≠ 0 := by
        rw [hcellA, hch']; exact Rep.root_ne_zero hrc (co_entries_ne_nil hch)
      have hp' : HPath s start (s.cell a).child (pre.flatten ++ s.stemAt a) b
          (pre ++ s.stemAt a :: x :: rest).flatten anc := by
        rw [hcellA, hch']
        have e1 : (pre ++ [s.stemAt a]).flatten = pre.flatten ++ s.stemAt a := by simp
        have e2 : pre ++ [s.stemAt a] ++ x :: rest = pre ++ s.stemAt a :: x :: rest := by simp
        rw [e1, e2] at hp
        exact hp
      refine ⟨a :: anc, hpath_sib u hr hsibs a ha (HPath.child hne hp'), by simp at hlen ⊢; omega, ?_⟩
      intro k hk
      cases k with
      | zero => simpa using co_sib_entry u pre hnd ha
      | succ k =>
        have hk' : k < anc.length := by simp at hk; omega
        have := T.childAt_entries (s := s) u pre a ha (hanc k hk')
        simpa [List.take_succ_cons] using this

/-- **the bridge**: in an index with the shape invariant, an entry `(q ++ r, b)` stored strictly below the
    entry `(q, root)` of a prefix is reached from `root` by a pointer path; the ancestors on the path are
    `root` and the nodes of the intermediate LRUs `q ++ r.take k`, `0 < k < |r|` -/
theorem hpath_of_entries {s : State} {t : T} (h : Shape s t) {q r : LRU} {root b : Nat}
    (hq : (q, root) ∈ t.entries s []) (hb : (q ++ r, b) ∈ t.entries s []) (hr : r ≠ []) :
    ∃ anc, HPath s root root q.dropLast.flatten b (q ++ r).flatten anc ∧
      ∀ m ∈ anc, m = root ∨ ∃ k, 0 < k ∧ k < r.length ∧ (q ++ r.take k, m) ∈ t.entries s [] := by
  obtain ⟨l, c, r', _, _, hrep, _, hnd, _, hsub⟩ := h.subtree_at hq
  obtain ⟨x, rest, rfl⟩ : ∃ x rest, r = x :: rest := by
    cases r with
    | nil => exact absurd rfl hr
    | cons x rest => exact ⟨x, rest, rfl⟩
  have hbc : (q ++ x :: rest, b) ∈ c.entries s q := (hsub _ b).mpr ⟨hb, x, rest, rfl⟩
  obtain ⟨_, e2, _⟩ := Rep.cell_eq hrep
  obtain ⟨_, _, _, rc, _⟩ := hrep
  obtain ⟨_, hroot, _, _, hndc, _⟩ := T.nodup_node hnd
  obtain ⟨anc, hp, hlen, hanc⟩ := hpath_below (start := root) (x :: rest) c q b rc hndc hroot hbc
  obtain ⟨q0, eq, _⟩ := entries_last_and_ptrs t [] q root h.rep hq
  have hdir : q.dropLast.flatten ++ s.stemAt root = q.flatten := by rw [eq, List.dropLast_concat]; simp
  refine ⟨root :: anc, HPath.child (by rw [e2]; exact Rep.root_ne_zero rc (co_entries_ne_nil hbc))
    (by rw [e2, hdir]; exact hp), fun m hm => ?_⟩
  rcases List.mem_cons.mp hm with rfl | hm
  · exact .inl rfl
  · obtain ⟨k, hk, rfl⟩ := List.getElem_of_mem hm
    refine .inr ⟨k + 1, Nat.succ_pos _, by omega, ?_⟩
    have := ((hsub _ _).mp (by simpa using hanc k hk)).1
    simpa using this

#print axioms hpath_of_entries

end Traph
