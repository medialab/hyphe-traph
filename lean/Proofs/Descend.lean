import Proofs.Tst
/-! The level-by-level descent of `lru_node` / `follow_lru` / `add_lru` on the ghost tree: a BST search
    in the current sibling tree (`T.find`), then the child tree of the sibling found (`T.childAt`). `T.descend`
    recurses on the stem list exactly as the heap code does. Here: a sibling heads a subtree that inherits what the
    sibling tree passes down (`T.sib_node`), and what the descent finds is an entry of the finite map `T.entries`
    (`descend_found_mem`). That the heap walks equal it, and the converse (which needs the order invariant), are in
    DescendSpec. -/
namespace Traph
open State

def T.childAt : T → Nat → T
  | .nil, _ => .nil
  | .node b l c r, a => if b = a then c else if a ∈ l.sibs then l.childAt a else r.childAt a

def T.descend (s : State) : List Stem → T → LRU → Loc
  | [], _, _ => .corrupt
  | stem :: rest, u, pre =>
    match u.find s stem with
    | .found a =>
      (match rest with
       | [] => .found a
       | _ :: _ =>
         match u.childAt a with
         | .nil => .fell a .C (pre ++ [stem]) rest
         | .node a' l' c' r' => T.descend s rest (.node a' l' c' r') (pre ++ [stem]))
    | .missing q sl => .fell q sl pre (stem :: rest)
    | .corrupt => .corrupt

theorem T.descend_cases (s : State) (stem : Stem) (rest : List Stem) (u : T) (pre : LRU) :
    (u.find s stem = .corrupt ∧ u.descend s (stem :: rest) pre = .corrupt) ∨
    (∃ q sl, u.find s stem = .missing q sl ∧ u.descend s (stem :: rest) pre = .fell q sl pre (stem :: rest)) ∨
    ∃ a, u.find s stem = .found a ∧
      ((rest = [] ∧ u.descend s (stem :: rest) pre = .found a) ∨
       (rest ≠ [] ∧ u.childAt a = .nil ∧ u.descend s (stem :: rest) pre = .fell a .C (pre ++ [stem]) rest) ∨
       (rest ≠ [] ∧ u.childAt a ≠ .nil ∧
          u.descend s (stem :: rest) pre = (u.childAt a).descend s rest (pre ++ [stem]))) := by
  rw [T.descend]
  cases u.find s stem with
  | corrupt => exact .inl ⟨rfl, rfl⟩
  | missing q sl => exact .inr (.inl ⟨q, sl, rfl, rfl⟩)
  | found a =>
    refine .inr (.inr ⟨a, rfl, ?_⟩)
    cases rest with
    | nil => exact .inl ⟨rfl, rfl⟩
    | cons st2 rest2 =>
      dsimp only
      generalize u.childAt a = ch
      cases ch with
      | nil => exact .inr (.inl ⟨nofun, rfl, rfl⟩)
      | node a' l' c' r' => exact .inr (.inr ⟨nofun, nofun, rfl⟩)

theorem T.childAt_size : ∀ (u : T) (a : Nat), (u.childAt a).size ≤ u.size
  | .nil, _ => Nat.le_refl _
  | .node b l c r, a => by
    simp only [T.childAt]
    split
    · exact Nat.le_of_lt (T.size_child_lt b l c r)
    · split
      · exact Nat.le_trans (T.childAt_size l a) (Nat.le_of_lt (T.size_left_lt b l c r))
      · exact Nat.le_trans (T.childAt_size r a) (Nat.le_of_lt (T.size_right_lt b l c r))

theorem T.childAt_node_self (b : Nat) (l c r : T) : (T.node b l c r).childAt b = c := if_pos rfl

theorem T.childAt_node_go_left {b a : Nat} {l : T} (c r : T) (hne : b ≠ a) (ha : a ∈ l.sibs) :
    (T.node b l c r).childAt a = l.childAt a := by
  rw [T.childAt, if_neg hne, if_pos ha]

theorem T.childAt_node_go_right {b a : Nat} {l : T} (c r : T) (hne : b ≠ a) (ha : a ∉ l.sibs) :
    (T.node b l c r).childAt a = r.childAt a := by
  rw [T.childAt, if_neg hne, if_neg ha]

/-- the case split of `childAt` -/
theorem T.sibs_cases {a b : Nat} {l c r : T} (h : a ∈ (T.node b l c r).sibs) :
    b = a ∨ (b ≠ a ∧ a ∈ l.sibs) ∨ (b ≠ a ∧ a ∉ l.sibs ∧ a ∈ r.sibs) := by
  by_cases e : b = a
  · exact .inl e
  · by_cases hl : a ∈ l.sibs
    · exact .inr (.inl ⟨e, hl⟩)
    · rcases List.mem_append.mp h with h | h
      · exact absurd h hl
      · rcases List.mem_cons.mp h with h | h
        · exact absurd h.symm e
        · exact .inr (.inr ⟨e, hl, h⟩)

/-- the sibling labelled `a` heads a subtree of the sibling tree, with `u.childAt a` as its child tree: what a tree
    passes on to its left and right subtrees holds of it -/
theorem T.sib_node {Q : T → Prop} (hQ : ∀ a l c r, Q (.node a l c r) → Q l ∧ Q r) :
    ∀ (u : T) (a : Nat), Q u → a ∈ u.sibs → ∃ l r, Q (.node a l (u.childAt a) r)
  | .nil, _, _, h => nomatch h
  | .node b l c r, a, hq, h => by
    rcases T.sibs_cases h with rfl | ⟨e, hl⟩ | ⟨e, hl, h'⟩
    · rw [T.childAt_node_self]; exact ⟨l, r, hq⟩
    · rw [T.childAt_node_go_left c r e hl]; exact T.sib_node hQ l a (hQ _ _ _ _ hq).1 hl
    · rw [T.childAt_node_go_right c r e hl]; exact T.sib_node hQ r a (hQ _ _ _ _ hq).2 h'

theorem Rep.childAt {s : State} (u : T) (a : Nat) (hr : Rep s u) (h : a ∈ u.sibs) :
    Rep s (u.childAt a) ∧ ∃ cell, s.trie[a]? = some cell ∧ cell.child = (u.childAt a).root := by
  obtain ⟨_, _, _, ⟨cell, hc, _, h2, _⟩, _, rc, _⟩ :=
    T.sib_node (Q := Rep s) (fun _ _ _ _ h => ⟨h.2.2.1, h.2.2.2.2⟩) u a hr h
  exact ⟨rc, cell, hc, h2⟩

theorem T.childAt_addrs : ∀ (u : T) (a x : Nat), x ∈ (u.childAt a).addrs → x ∈ u.addrs
  | .nil, _, _, h => nomatch h
  | .node b l c r, a, x, h => by
    simp only [T.childAt] at h
    split at h
    · exact T.mem_addrs_child h
    · split at h
      · exact T.mem_addrs_left (T.childAt_addrs l a x h)
      · exact T.mem_addrs_right (T.childAt_addrs r a x h)

/-! What the descent finds is an entry: no order or nodup hypothesis is needed for this direction. -/

theorem T.sib_entries {s : State} (u : T) (pre : LRU) (a : Nat) (h : a ∈ u.sibs) :
    ∃ l r, ∀ x ∈ (T.node a l (u.childAt a) r).entries s pre, x ∈ u.entries s pre :=
  T.sib_node (Q := fun t => ∀ x ∈ t.entries s pre, x ∈ u.entries s pre)
    (fun _ _ _ _ h => ⟨fun x hx => h x (entry_left hx), fun x hx => h x (entry_right hx)⟩) u a (fun _ h => h) h

theorem T.sib_entry {s : State} (u : T) (pre : LRU) (a : Nat) (h : a ∈ u.sibs) :
    (pre ++ [s.stemAt a], a) ∈ u.entries s pre := by
  obtain ⟨_, _, hq⟩ := T.sib_entries (s := s) u pre a h
  exact hq _ entry_self

theorem T.childAt_entries {s : State} {x : LRU × Nat} (u : T) (pre : LRU) (a : Nat) (h : a ∈ u.sibs)
    (hx : x ∈ (u.childAt a).entries s (pre ++ [s.stemAt a])) : x ∈ u.entries s pre := by
  obtain ⟨_, _, hq⟩ := T.sib_entries (s := s) u pre a h
  exact hq x (entry_child hx)

theorem descend_found_mem {s : State} : ∀ (stems : List Stem) (u : T) (pre : LRU) (b : Nat),
    u.descend s stems pre = .found b → (pre ++ stems, b) ∈ u.entries s pre := by
  intro stems
  induction stems with
  | nil => intro u pre b h; exact nomatch h
  | cons stem rest ih =>
    intro u pre b hd
    rcases T.descend_cases s stem rest u pre
      with ⟨_, e⟩ | ⟨_, _, _, e⟩ | ⟨a, hf, ⟨rfl, e⟩ | ⟨_, _, e⟩ | ⟨_, _, e⟩⟩ <;> rw [e] at hd
    · exact nomatch hd
    · exact nomatch hd
    · obtain rfl : a = b := Loc.found.inj hd
      obtain ⟨hmem, hst⟩ := T.find_sound u a hf
      exact hst ▸ T.sib_entry (s := s) u pre a hmem
    · exact nomatch hd
    · obtain ⟨hmem, hst⟩ := T.find_sound u a hf
      have h2 := T.childAt_entries u pre a hmem (hst ▸ ih _ (pre ++ [stem]) b hd)
      rwa [hst, List.append_assoc] at h2

end Traph
