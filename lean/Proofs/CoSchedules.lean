import Proofs.CoReader
import Proofs.CoQueryPaths
import Proofs.CoRulesOps
/-! C16 — theorems that hold **for every schedule** (`Sched = List Nat`, every loop iteration a yield point).

    With no assumption at all on the private states of the generators (`sched_shape`, `C16_links_any_schedule`):
    the shape invariant, the tree's entries, the heap order (no block, pointer, page mark, crawled mark or link stub is
    lost or altered) and the link lists (`LinkGrow`: refresh-before-write, no head written by another generator is
    overwritten). For systems whose generators satisfy their local invariants (`SysOk`, `sched_spec`): the invariants
    are kept, the pages added are pages some generator had still to submit (`sched_adds`), a writer never fails except
    with the `KeyError` of `__add_page` (and `StopIteration` when resumed after its end), not at all on an index
    satisfying `RulesOk` (`SysRules`, `sched_no_failure`); what is said of a generator's trace is an instance of
    `SysInv.local`. Started from fresh generators (`CoReq`): once every writer has returned the pages
    are those of the atomic requests run one after another, in any order; and the two bounds on the answer of
    `get_webentity_pages_iter` (the third, "no item that qualified at no moment", is false: `Proofs/CoPhantom`). -/
namespace Traph
open State Layout

/-- **Shape for every schedule**, unconditionally: whatever the private states of the generators (even
    states no run of the generators can reach), every schedule keeps the shape invariant and the entries
    of the tree, moves the index up in the heap order, keeps the list heads inside the link store and
    every recorded out-list / in-list as a suffix of the list after -/
theorem sched_shape : ∀ (sched : Sched) (σ : Sys) (t : T), Shape σ.1 t →
    ∃ t', Ext σ.1 t (σ.run sched).1.1 t' ∧ σ.1 ⊑ (σ.run sched).1.1 ∧ CoLinkStep σ.1 (σ.run sched).1.1 :=
  fun sched σ t h =>
    have ⟨t', _, l⟩ := SysInv.shape_only.sched sched σ t ⟨h, trivial⟩
    ⟨t', l.ext, l.le, l.link⟩

theorem sched_pages_kept (sched : Sched) (σ : Sys) (t : T) (h : Shape σ.1 t) :
    ∃ t', Shape (σ.run sched).1.1 t' ∧ ∀ p, (IsPage σ.1 t p → IsPage (σ.run sched).1.1 t' p) ∧
      (IsCrawled σ.1 t p → IsCrawled (σ.run sched).1.1 t' p) := by
  obtain ⟨t', x, l, _⟩ := sched_shape sched σ t h
  refine ⟨t', x.shape, fun p => ⟨?_, ?_⟩⟩
  · rintro ⟨b, hm, hp⟩
    exact ⟨b, x.keep _ _ hm, (l.cell_le b (entry_lt h hm)).page hp⟩
  · rintro ⟨b, hm, hp, hc⟩
    exact ⟨b, x.keep _ _ hm, (l.cell_le b (entry_lt h hm)).page hp, (l.cell_le b (entry_lt h hm)).crawled hc⟩

structure SysOk (σ : Sys) (t : T) : Prop where
  shape : Shape σ.1 t
  inv   : Inv σ.1 t
  ok    : ∀ c ∈ σ.2, CoOk σ.1 t c

def CoSubmitted (s : State) (t : T) (x : LRU × Bool × Bool) : Prop :=
  IsPage s t x.1 ∧ (x.2.1 = true → IsCrawled s t x.1)

theorem CoSubmitted.mono {s s' : State} {t t' : T} {A : List (LRU × Bool × Bool)} {x : LRU × Bool × Bool}
    (a : Adds s t s' t' A) (h : CoSubmitted s t x) : CoSubmitted s' t' x :=
  ⟨(a.page _).mpr (Or.inl h.1), fun hx => a.must _ (Or.inl (h.2 hx))⟩

theorem CoSubmitted.later {s s' : State} {t t' : T} {x : LRU × Bool × Bool} (h : CoSubmitted s t x)
    (l : CoLater s t s' t') : CoSubmitted s' t' x :=
  ⟨h.1.co_mono l.shape l.ext l.le, fun hx => (h.2 hx).co_mono l.shape l.ext l.le⟩

theorem CoSubmitted.of_adds {s s' : State} {t t' : T} {A : List (LRU × Bool × Bool)} {x : LRU × Bool × Bool}
    (a : Adds s t s' t' A) (hx : x ∈ A) : CoSubmitted s' t' x :=
  ⟨(a.page _).mpr (Or.inr ⟨x, hx, rfl⟩), fun hm => a.must _ (Or.inr ⟨x, hx, rfl, hm⟩)⟩

/-- what a schedule does to a system satisfying the invariant (`res` is the result of `σ.run sched`:
    the system reached and the trace) -/
structure SchedSpec (σ : Sys) (t : T) (res : Sys × List (Nat × CoOut)) (t' : T)
    (A : List (LRU × Bool × Bool)) : Prop where
  ok       : SysOk res.1 t'
  ext      : Ext σ.1 t res.1.1 t'
  le       : σ.1 ⊑ res.1.1
  link     : CoLinkStep σ.1 res.1.1
  /-- the page set and the crawled set move by exactly the list `A` … -/
  adds     : Adds σ.1 t res.1.1 t' A
  /-- … every item of which some generator had still to submit -/
  sound    : ∀ x ∈ A, ∃ c ∈ σ.2, x ∈ c.todo
  /-- everything generator `i` had to submit has been submitted, unless it never returned -/
  complete : ∀ i c, σ.2[i]? = some c → ∀ x ∈ c.todo, CoSubmitted res.1.1 t' x ∨ ∀ a, (i, CoOut.done a) ∉ res.2
  /-- no failure of a writer other than the `KeyError` of `__add_page`, or `StopIteration` after its end -/
  fail     : ∀ i c e, σ.2[i]? = some c → c.isWriter → (i, CoOut.failed e) ∈ res.2 →
               e = .other "KeyError" ∨ e = .other "StopIteration"
  /-- the answer of a page query lists pages of the index only (with their crawled marks) -/
  answers  : ∀ i c a, σ.2[i]? = some c → c.isPagesQuery → (i, CoOut.done a) ∈ res.2 → AnswerOk res.1.1 t' a

theorem co_mem_of_getElem? {α : Type} {l : List α} {i : Nat} {a : α} (h : l[i]? = some a) : a ∈ l :=
  List.mem_of_getElem? h

theorem sysOk_step {σ : Sys} {t : T} (h : SysOk σ t) {j : Nat} {cj : CoSt} (hc : σ.2[j]? = some cj) :
    ∃ t1 A, SysOk ((cj.resume σ.1).1, σ.2.set j (cj.resume σ.1).2.1) t1 ∧ Ext σ.1 t (cj.resume σ.1).1 t1 ∧
      σ.1 ⊑ (cj.resume σ.1).1 ∧ Adds σ.1 t (cj.resume σ.1).1 t1 A ∧
      ∀ x, x ∈ A ∨ x ∈ (cj.resume σ.1).2.1.todo → x ∈ cj.todo := by
  obtain ⟨t1, sec⟩ := resume_sec h.shape cj
  obtain ⟨A1, rest1, a1, e1, ok1, hy1, _⟩ := sec.spec h.inv (h.ok cj (co_mem_of_getElem? hc))
  refine ⟨t1, A1, ⟨sec.ext.shape, a1.inv, fun c hm => ?_⟩, sec.ext, sec.le, a1, fun x hx => ?_⟩
  · rcases List.mem_or_eq_of_mem_set hm with hm | rfl
    · exact (h.ok c hm).mono h.shape sec.ext sec.le
    · exact ok1
  · rw [e1]
    refine hx.elim (List.mem_append_left _) fun hx => List.mem_append_right _ ?_
    by_cases ho : (cj.resume σ.1).2.2 = .yielded
    · rwa [hy1 ho] at hx
    · rw [resume_not_yielded _ _ ho] at hx; cases hx

theorem SysInv.sysOk : SysInv SysOk where
  shape h := h.shape
  step := fun {σ _ _ cj} h hc =>
    have ⟨t1, _, h1, x, le, _⟩ := sysOk_step h hc
    have ⟨_, sec⟩ := resume_sec h.shape cj
    ⟨t1, h1, h.shape, x, le, cnb_weMono_resume h.shape cj, sec.link⟩

theorem sched_adds : ∀ (sched : Sched) (σ : Sys) (t : T), SysOk σ t →
    ∃ t' A, SysOk (σ.run sched).1 t' ∧ Adds σ.1 t (σ.run sched).1.1 t' A ∧ ∀ x ∈ A, ∃ c ∈ σ.2, x ∈ c.todo
  | [], _, t, h => ⟨t, [], h, Adds.refl h.inv, fun _ hx => nomatch hx⟩
  | j :: rest, σ, t, h => by
    cases hc : σ.2[j]? with
    | none => rw [Sys.run_cons_none _ hc]; exact sched_adds rest σ t h
    | some cj =>
      rw [Sys.run_cons_some _ hc]
      obtain ⟨t1, A1, h1, _, _, a1, sub⟩ := sysOk_step h hc
      obtain ⟨t2, A2, h2, a2, snd⟩ := sched_adds rest _ t1 h1
      refine ⟨t2, A1 ++ A2, h2, a1.trans a2, fun x hx => ?_⟩
      have own := fun hx => (⟨cj, co_mem_of_getElem? hc, sub x hx⟩ : ∃ c ∈ σ.2, x ∈ c.todo)
      rcases List.mem_append.mp hx with hx | hx
      · exact own (.inl hx)
      · obtain ⟨c, hm, hxc⟩ := snd x hx
        rcases List.mem_or_eq_of_mem_set hm with hm | rfl
        · exact ⟨c, hm, hxc⟩
        · exact own (.inr hxc)

theorem sched_spec (sched : Sched) (σ : Sys) (t : T) (h : SysOk σ t) : ∃ t' A, SchedSpec σ t (σ.run sched) t' A := by
  obtain ⟨t', A, h', a, snd⟩ := sched_adds sched σ t h
  obtain ⟨t2, h2, l⟩ := SysInv.sysOk.sched sched σ t h
  cases Shape.unique h2.shape h'.shape
  -- the trace of the generator that starts as `c`: it keeps its kind, and an item it has to submit is still to
  -- submit or submitted; `SysOk` holds the local invariants
  have tr := fun i (c : CoSt) o (hi : σ.2[i]? = some c) (hm : (i, o) ∈ (σ.run sched).2) =>
    (SysInv.sysOk.local (fun _ => True)
      (fun s t c' => (c.isWriter → c'.isWriter) ∧ (c.isPagesQuery → c'.isPagesQuery) ∧
        ∀ x ∈ c.todo, x ∈ c'.todo ∨ CoSubmitted s t x)
      (fun s t o => (∀ e, o = .failed e → c.isWriter → e = .other "KeyError" ∨ e = .other "StopIteration") ∧
        (∀ a, o = .done a → c.isPagesQuery → AnswerOk s t a) ∧ ∀ a, o = .done a → ∀ x ∈ c.todo, CoSubmitted s t x)
      (fun _ _ l _ _ ⟨w, q, sub⟩ => ⟨w, q, fun x hx => (sub x hx).imp id (·.later l)⟩)
      (fun _ _ l ⟨f, an, sb⟩ => ⟨f, fun a e q => (an a e q).mono l.shape l.ext l.le, fun a e x hx => (sb a e x hx).later l⟩)
      (fun {σ t t1 _ c'} g hc _ ⟨w, q, sub⟩ g1 => by
        obtain ⟨t0, sec⟩ := resume_sec g.shape c'
        cases Shape.unique sec.ext.shape g1.shape
        obtain ⟨A1, _, a1, e1, _, hy1, hd1, hf1, hans1, _⟩ := sec.spec g.inv (g.ok c' (co_mem_of_getElem? hc))
        -- an item still to submit: submitted by this section, or among what is left
        have item : ∀ x ∈ c.todo, x ∈ A1 ∨ x ∈ _ ∨ CoSubmitted (c'.resume σ.1).1 t1 x := fun x hx =>
          (sub x hx).elim (fun hx' => (List.mem_append.mp (e1 ▸ hx')).imp_right .inl) fun hs => .inr (.inr (hs.mono a1))
        refine ⟨⟨fun e he hw => (hf1 e he (w hw)).imp id (·.2), fun a ha hq => hans1 a ha (q hq), fun a ha x hx => ?_⟩,
          fun ho => ⟨fun hw => (resume_yielded_kind _ _ ho).1 (w hw), fun hq => (resume_yielded_kind _ _ ho).2.1 (q hq),
            fun x hx => ?_⟩⟩
        · rcases item x hx with hx | hx | hs
          · exact .of_adds a1 hx
          · rw [hd1 a ha] at hx; cases hx
          · exact hs
        · rcases item x hx with hx | hx | hs
          · exact .inr (.of_adds a1 hx)
          · exact .inl (hy1 ho ▸ hx)
          · exact .inr hs)
      sched σ t h i c hi ⟨id, id, fun x hx => .inl hx⟩ (.trivial _ _) o hm).imp id (· t' h')
  refine ⟨t', A, h', l.ext, l.le, l.link, a, snd, fun i c hi x hx => ?_, fun i c e hi hw hm => ?_, fun i c a hi hq hm => ?_⟩
  · exact (Classical.em (∃ a, (i, CoOut.done a) ∈ (σ.run sched).2)).imp
      (fun ⟨a, hm⟩ => (tr i c _ hi hm).elim (fun e => nomatch e) fun r => r.2.2 a rfl x hx) fun hn a hm => hn ⟨a, hm⟩
  · exact (tr i c _ hi hm).elim (fun e' => .inr (CoOut.failed.inj e')) fun r => r.1 e rfl hw
  · exact (tr i c _ hi hm).elim (fun e => nomatch e) fun r => r.2.1 a rfl hq

inductive CoReq where
  | batch (data : List (Bytes × List Bytes))          -- `index_batch_crawl_iter(data)`
  | rule (anchor : Bytes) (r : Rule)                    -- `add_webentity_creation_rule_iter(prefix, pattern)`
  | queryPages (prefixes : List Bytes)                  -- `get_webentity_pages_iter(prefixes)`
  | queryNet (out auto : Bool)                          -- `get_webentities_links_iter(out, include_auto)`
  | queryOther (q : QSt)                                -- the seven other read-only generators (any state of `QSt`)
deriving Repr, DecidableEq, Inhabited

/-- the generator object before its first `next()` -/
def CoReq.init : CoReq → CoSt
  | .batch data => .batch (BatchSt.init data)
  | .rule a r => .rule (RuleSt.init a r)
  | .queryPages ps => .pages { prefixes := ps }
  | .queryNet o a => .net { out := o, auto := a }
  | .queryOther q => .query q

/-- the LRUs the request submits as pages, with their (mustCrawl, mayCrawl) marks: those of the atomic
    request (`Op.pages`) -/
def CoReq.pages : CoReq → List (LRU × Bool × Bool)
  | .batch data => batchPages data
  | _ => []

/-- the atomic write request a generator stands for (queries: none) -/
def CoReq.op : CoReq → Option Op
  | .batch data => some (.batch data)
  | .rule a r => some (.addRule a r)
  | _ => none

/-- well-formed requests: every submitted byte string cuts into at least one stem (`OpWf` of the atomic
    request), and a crawl batch is small enough for the iteration bound `CoSt.resume` grants a section -/
def CoReq.Wf : CoReq → Prop
  | .batch data => (∀ d ∈ data, lruIter d.1 ≠ [] ∧ ∀ x ∈ d.2, lruIter x ≠ []) ∧
      1 + (data.map (fun d => d.2.length + 2)).sum < 1000000
  | .rule a _ => lruIter a ≠ []
  | .queryPages ps => ∀ pf ∈ ps, lruIter pf ≠ []
  | .queryNet _ _ => True
  | .queryOther _ => True

theorem CoReq.todo_init (r : CoReq) : r.init.todo = r.pages := by
  cases r <;> rfl

theorem CoReq.init_get {reqs : List CoReq} {i : Nat} {r : CoReq} (h : reqs[i]? = some r) :
    (reqs.map CoReq.init)[i]? = some r.init := by
  rw [List.getElem?_map, h]; rfl

theorem CoReq.init_writer {r : CoReq} (h : r.op ≠ none) : r.init.isWriter := by
  cases r <;> first | trivial | exact absurd rfl h

theorem CoReq.init_ok (s : State) (t : T) (r : CoReq) (h : r.Wf) : CoOk s t r.init := by
  cases r with
  | batch data =>
    refine ⟨BatchOk.init s t data h.1, ?_⟩
    have : batchWork (BatchSt.init data) = 1 + 0 + (data.map (fun d => d.2.length + 2)).sum := rfl
    rw [this]
    have := h.2
    omega
  | rule a r => exact RuleOk.init s t a r h
  | queryPages ps => exact PagesOk.init s t ps h
  | queryNet o a => trivial
  | queryOther q => trivial

theorem CoReq.op_pages (r : CoReq) (o : Op) (h : r.op = some o) : o.pages = r.pages := by
  cases r <;> simp only [CoReq.op, Option.some.injEq] at h <;> first | (subst h; rfl) | cases h

theorem CoReq.op_wf (r : CoReq) (o : Op) (h : r.op = some o) (hw : r.Wf) : OpWf o := by
  cases r with
  | batch data => simp only [CoReq.op, Option.some.injEq] at h; subst h; exact hw.1
  | rule a r => simp only [CoReq.op, Option.some.injEq] at h; subst h; exact hw
  | queryPages ps => cases h
  | queryNet o a => cases h
  | queryOther q => cases h

theorem CoReq.pages_of_op_none (r : CoReq) (h : r.op = none) : r.pages = [] := by
  cases r <;> first | rfl | cases h

theorem co_batchPages_marks (data : List (Bytes × List Bytes)) : ∀ x ∈ batchPages data, x.2.1 = x.2.2 := by
  intro x hx
  simp only [batchPages, List.mem_flatMap, List.mem_cons, List.mem_map] at hx
  obtain ⟨d, _, rfl | ⟨y, _, rfl⟩⟩ := hx <;> rfl

theorem CoReq.pages_marks (r : CoReq) : ∀ x ∈ r.pages, x.2.1 = x.2.2 := by
  cases r with
  | batch data => exact co_batchPages_marks data
  | rule a r => intro x hx; simp [CoReq.pages] at hx
  | queryPages ps => intro x hx; simp [CoReq.pages] at hx
  | queryNet o a => intro x hx; simp [CoReq.pages] at hx
  | queryOther q => intro x hx; simp [CoReq.pages] at hx

theorem sysOk_init {s : State} {t : T} (hs : Shape s t) (hi : Inv s t) (reqs : List CoReq)
    (hwf : ∀ r ∈ reqs, r.Wf) : SysOk (s, reqs.map CoReq.init) t :=
  ⟨hs, hi, fun c hc => by
    obtain ⟨r, hr, rfl⟩ := List.mem_map.mp hc
    exact CoReq.init_ok s t r (hwf r hr)⟩

/-- the anchor of a rule installation is a complete LRU (it ends where a stem ends); as `Canon` of Proofs/Discipline without the non-emptiness, which `CoReq.Wf` gives -/
def CoReq.Canon : CoReq → Prop
  | .rule a _ => (lruIter a).flatten = a
  | _ => True

theorem CoReq.init_canon {reqs : List CoReq} (hwf : ∀ r ∈ reqs, r.Wf) (hcanon : ∀ r ∈ reqs, r.Canon) :
    ∀ c ∈ reqs.map CoReq.init, c.canon := fun c hc => by
  obtain ⟨r, hr, rfl⟩ := List.mem_map.mp hc
  cases r with
  | rule a r => exact fun _ => ⟨hwf _ hr, hcanon _ hr⟩
  | _ => trivial

/-- **C16, pages, any schedule (also partial ones)**: started from fresh generators on an index satisfying the
    invariants of reachable states, after *every* schedule: the invariants hold, nothing is lost, a page of
    the index was a page before or is submitted by one of the requests, and every page submitted by a
    request whose generator has returned is a page (crawled if the request says so) -/
theorem C16_pages_any_schedule {s : State} {t : T} (hs : Shape s t) (hi : Inv s t) (reqs : List CoReq)
    (hwf : ∀ r ∈ reqs, r.Wf) (sched : Sched) :
    ∃ t', Shape (Sys.run (s, reqs.map CoReq.init) sched).1.1 t' ∧
      Inv (Sys.run (s, reqs.map CoReq.init) sched).1.1 t' ∧
      s ⊑ (Sys.run (s, reqs.map CoReq.init) sched).1.1 ∧
      (∀ p b, (p, b) ∈ t.entries s [] → (p, b) ∈ t'.entries (Sys.run (s, reqs.map CoReq.init) sched).1.1 []) ∧
      (∀ p, IsPage (Sys.run (s, reqs.map CoReq.init) sched).1.1 t' p →
        IsPage s t p ∨ ∃ r ∈ reqs, ∃ x ∈ r.pages, x.1 = p) ∧
      (∀ p, IsCrawled (Sys.run (s, reqs.map CoReq.init) sched).1.1 t' p →
        IsCrawled s t p ∨ ∃ r ∈ reqs, ∃ x ∈ r.pages, x.1 = p ∧ x.2.1 = true) ∧
      (∀ p, (IsPage s t p → IsPage (Sys.run (s, reqs.map CoReq.init) sched).1.1 t' p) ∧
        (IsCrawled s t p → IsCrawled (Sys.run (s, reqs.map CoReq.init) sched).1.1 t' p)) ∧
      (∀ i r a, reqs[i]? = some r → (i, CoOut.done a) ∈ (Sys.run (s, reqs.map CoReq.init) sched).2 →
        ∀ x ∈ r.pages, IsPage (Sys.run (s, reqs.map CoReq.init) sched).1.1 t' x.1 ∧
          (x.2.1 = true → IsCrawled (Sys.run (s, reqs.map CoReq.init) sched).1.1 t' x.1)) ∧
      (∀ i r e, reqs[i]? = some r → (i, CoOut.failed e) ∈ (Sys.run (s, reqs.map CoReq.init) sched).2 →
        r.op ≠ none → e = .other "KeyError" ∨ e = .other "StopIteration") := by
  obtain ⟨t', A, sp⟩ := sched_spec sched (s, reqs.map CoReq.init) t (sysOk_init hs hi reqs hwf)
  have hsound : ∀ x ∈ A, ∃ r ∈ reqs, x ∈ r.pages := by
    intro x hx
    obtain ⟨c, hc, hxc⟩ := sp.sound x hx
    obtain ⟨r, hr, rfl⟩ := List.mem_map.mp hc
    exact ⟨r, hr, by rw [← CoReq.todo_init]; exact hxc⟩
  refine ⟨t', sp.ok.shape, sp.ok.inv, sp.le, sp.ext.keep, ?_, ?_, ?_, ?_, ?_⟩
  · intro p hp
    rcases (sp.adds.page p).mp hp with hp | ⟨x, hx, e⟩
    · exact Or.inl hp
    · obtain ⟨r, hr, hxr⟩ := hsound x hx
      exact Or.inr ⟨r, hr, x, hxr, e⟩
  · intro p hp
    rcases sp.adds.may p hp with hp | ⟨x, hx, e, hm⟩
    · exact Or.inl hp
    · obtain ⟨r, hr, hxr⟩ := hsound x hx
      exact Or.inr ⟨r, hr, x, hxr, e, by rw [CoReq.pages_marks r x hxr]; exact hm⟩
  · intro p
    exact ⟨fun hp => (sp.adds.page p).mpr (Or.inl hp), fun hp => sp.adds.must p (Or.inl hp)⟩
  · intro i r a hi' hd x hx
    exact (sp.complete i r.init (CoReq.init_get hi') x (by rw [CoReq.todo_init]; exact hx)).resolve_right fun hn => hn a hd
  · exact fun i r e hi' hm hop => sp.fail i r.init e (CoReq.init_get hi') (CoReq.init_writer hop) hm

theorem cfin_ops_ok (reqs : List CoReq) (hwf : ∀ r ∈ reqs, r.Wf) :
    (∀ op ∈ reqs.filterMap CoReq.op, ∀ d rs, op ≠ Op.clear d rs) ∧ (∀ op ∈ reqs.filterMap CoReq.op, OpWf op) := by
  constructor
  · intro op hop d rs e
    obtain ⟨r, _, hr⟩ := List.mem_filterMap.mp hop
    subst e
    cases r <;> simp [CoReq.op] at hr
  · intro op hop
    obtain ⟨r, hr, ho⟩ := List.mem_filterMap.mp hop
    exact CoReq.op_wf r op ho (hwf r hr)

/-- **C16, final pages, independent of the schedule**: once every writer generator has returned, the pages of the
    index are the pages it had before plus the pages submitted by the requests, and the crawled pages
    those crawled before plus the crawled sources — whatever the schedule was -/
theorem C16_final_pages {s : State} {t : T} (hs : Shape s t) (hi : Inv s t) (reqs : List CoReq)
    (hwf : ∀ r ∈ reqs, r.Wf) (sched : Sched)
    (hdone : ∀ i r, reqs[i]? = some r → r.op ≠ none →
      ∃ a, (i, CoOut.done a) ∈ (Sys.run (s, reqs.map CoReq.init) sched).2) :
    ∃ t', Shape (Sys.run (s, reqs.map CoReq.init) sched).1.1 t' ∧
      Inv (Sys.run (s, reqs.map CoReq.init) sched).1.1 t' ∧
      s ⊑ (Sys.run (s, reqs.map CoReq.init) sched).1.1 ∧
      (∀ p, IsPage (Sys.run (s, reqs.map CoReq.init) sched).1.1 t' p ↔
        IsPage s t p ∨ ∃ r ∈ reqs, ∃ x ∈ r.pages, x.1 = p) ∧
      (∀ p, IsCrawled (Sys.run (s, reqs.map CoReq.init) sched).1.1 t' p ↔
        IsCrawled s t p ∨ ∃ r ∈ reqs, ∃ x ∈ r.pages, x.1 = p ∧ x.2.1 = true) := by
  obtain ⟨t', h1, h2, h3, _, h5, h6, h7, h8, _⟩ := C16_pages_any_schedule hs hi reqs hwf sched
  refine ⟨t', h1, h2, h3, fun p => ⟨h5 p, ?_⟩, fun p => ⟨h6 p, ?_⟩⟩
  · rintro (hp | ⟨r, hr, x, hx, rfl⟩)
    · exact (h7 p).1 hp
    · obtain ⟨i, hlt, rfl⟩ := List.getElem_of_mem hr
      have hop : reqs[i].op ≠ none := fun e => by rw [CoReq.pages_of_op_none _ e] at hx; simp at hx
      obtain ⟨a, ha⟩ := hdone i _ (List.getElem?_eq_getElem hlt) hop
      exact (h8 i _ a (List.getElem?_eq_getElem hlt) ha x hx).1
  · rintro (hp | ⟨r, hr, x, hx, rfl, hm⟩)
    · exact (h7 p).2 hp
    · obtain ⟨i, hlt, rfl⟩ := List.getElem_of_mem hr
      have hop : reqs[i].op ≠ none := fun e => by rw [CoReq.pages_of_op_none _ e] at hx; simp at hx
      obtain ⟨a, ha⟩ := hdone i _ (List.getElem?_eq_getElem hlt) hop
      exact (h8 i _ a (List.getElem?_eq_getElem hlt) ha x hx).2 hm

/-- **… hence equal to the requests applied one after another, in any order**: the final page set and
    crawled set of any complete schedule are those of the atomic requests run sequentially in the order
    `reqs'`, for every permutation `reqs'` of the requests -/
theorem C16_final_pages_sequential {s : State} {t : T} (hs : Shape s t) (hi : Inv s t) (reqs : List CoReq)
    (hwf : ∀ r ∈ reqs, r.Wf) (sched : Sched)
    (hdone : ∀ i r, reqs[i]? = some r → r.op ≠ none →
      ∃ a, (i, CoOut.done a) ∈ (Sys.run (s, reqs.map CoReq.init) sched).2)
    (reqs' : List CoReq) (hperm : reqs'.Perm reqs) (hok : NoKeyErr s (reqs'.filterMap CoReq.op)) :
    ∃ t' t'', Shape (Sys.run (s, reqs.map CoReq.init) sched).1.1 t' ∧
      Shape (s.run (reqs'.filterMap CoReq.op)) t'' ∧
      (∀ p, IsPage (Sys.run (s, reqs.map CoReq.init) sched).1.1 t' p ↔
        IsPage (s.run (reqs'.filterMap CoReq.op)) t'' p) ∧
      (∀ p, IsCrawled (Sys.run (s, reqs.map CoReq.init) sched).1.1 t' p ↔
        IsCrawled (s.run (reqs'.filterMap CoReq.op)) t'' p) := by
  obtain ⟨t', h1, _, _, h4, h5⟩ := C16_final_pages hs hi reqs hwf sched hdone
  obtain ⟨hnc, hopwf⟩ := cfin_ops_ok reqs' fun r hr => hwf r (hperm.mem_iff.mp hr)
  obtain ⟨t'', x, f⟩ := run_spec (reqs'.filterMap CoReq.op) s t hs hnc
  have a := f hopwf hi hok
  have hmem : ∀ x, x ∈ (reqs'.filterMap CoReq.op).flatMap Op.pages ↔ ∃ r ∈ reqs, x ∈ r.pages := by
    intro x
    simp only [List.mem_flatMap, List.mem_filterMap]
    constructor
    · rintro ⟨op, ⟨r, hr, ho⟩, hx⟩
      exact ⟨r, (hperm.mem_iff).mp hr, by rw [← CoReq.op_pages r op ho]; exact hx⟩
    · rintro ⟨r, hr, hx⟩
      cases ho : r.op with
      | none => rw [CoReq.pages_of_op_none r ho] at hx; simp at hx
      | some op => exact ⟨op, ⟨r, (hperm.mem_iff).mpr hr, ho⟩, by rw [CoReq.op_pages r op ho]; exact hx⟩
  refine ⟨t', t'', h1, x.shape, fun p => ?_, fun p => ?_⟩
  · rw [h4, a.page]
    constructor
    · rintro (hp | ⟨r, hr, y, hy, e⟩)
      · exact Or.inl hp
      · exact Or.inr ⟨y, (hmem y).mpr ⟨r, hr, hy⟩, e⟩
    · rintro (hp | ⟨y, hy, e⟩)
      · exact Or.inl hp
      · obtain ⟨r, hr, hy⟩ := (hmem y).mp hy
        exact Or.inr ⟨r, hr, y, hy, e⟩
  · rw [h5]
    constructor
    · rintro (hp | ⟨r, hr, y, hy, e, hm⟩)
      · exact a.must p (Or.inl hp)
      · exact a.must p (Or.inr ⟨y, (hmem y).mpr ⟨r, hr, hy⟩, e, hm⟩)
    · intro hp
      rcases a.may p hp with hp | ⟨y, hy, e, hm⟩
      · exact Or.inl hp
      · obtain ⟨r, hr, hy⟩ := (hmem y).mp hy
        exact Or.inr ⟨r, hr, y, hy, e, by rw [CoReq.pages_marks r y hy]; exact hm⟩

/-- **C16, page query, soundness of what is true**: whatever the schedule, whatever the writers do around
    it, the answer of `get_webentity_pages_iter` lists only LRUs that are pages of the index (each was a page
    when it was visited and pages are never lost), and an item reported crawled is crawled. (The stronger
    clause "every item belonged to the webentity at some moment of the query" is false of the code:
    finding F16.) -/
theorem C16_pages_query_sound {s : State} {t : T} (hs : Shape s t) (hi : Inv s t) (reqs : List CoReq)
    (hwf : ∀ r ∈ reqs, r.Wf) (sched : Sched) (i : Nat) (ps : List Bytes) (a : Ans)
    (hreq : reqs[i]? = some (.queryPages ps))
    (hdone : (i, CoOut.done a) ∈ (Sys.run (s, reqs.map CoReq.init) sched).2) :
    ∃ t', Shape (Sys.run (s, reqs.map CoReq.init) sched).1.1 t' ∧
      ∃ l, a = .pages l ∧ ∀ x ∈ l,
        IsPage (Sys.run (s, reqs.map CoReq.init) sched).1.1 t' (lruIter x.1) ∧
        (x.2 = true → IsCrawled (Sys.run (s, reqs.map CoReq.init) sched).1.1 t' (lruIter x.1)) := by
  obtain ⟨t', A, sp⟩ := sched_spec sched (s, reqs.map CoReq.init) t (sysOk_init hs hi reqs hwf)
  obtain ⟨l, e, hl⟩ := sp.answers i _ a (CoReq.init_get hreq) trivial hdone
  exact ⟨t', sp.ok.shape, l, e, hl⟩

/-- **C16, links, any schedule**: whatever the states of the generators, after every schedule the list heads are
    inside the link store and every out-list and in-list of the index before is a suffix of the list after
    (a generator `refresh()`es a block before moving its head: a head moved by another in between is chained behind) -/
theorem C16_links_any_schedule {s : State} {t : T} (hs : Shape s t) (hk : HeadsOk s) (cos : List CoSt)
    (sched : Sched) :
    HeadsOk (Sys.run (s, cos) sched).1.1 ∧ LinkGrow s (Sys.run (s, cos) sched).1.1 := by
  obtain ⟨_, _, _, k⟩ := sched_shape sched (s, cos) t hs
  exact k hk

theorem sched_cover : ∀ (sched : Sched) (σ : Sys) (t : T), SysOk σ t → ∀ (i : Nat) (p : PagesSt) (g : QTarget),
    σ.2[i]? = some (.pages p) → QCovers σ.1 p g → Throughout (fun s => QClear s g) σ sched →
    ∀ l, (i, CoOut.done (.pages l)) ∈ (σ.run sched).2 → ∃ cr, (g.cur, cr) ∈ l :=
  fun sched σ t h i p g hi hc hthr l hm =>
  (Reader.pages.sched .sysOk _ (fun s t p => PagesOk s t p ∧ QCovers s p g)
    (fun _ _ o => ∀ l, o = .done (.pages l) → ∃ cr, (g.cur, cr) ∈ l)
    (fun _ _ l _ _ hj => ⟨hj.1.mono l.shape l.ext l.le, hj.2.mono l.shape hj.1 l.ext l.le⟩) (fun _ _ _ a => a)
    (fun {σ t p} h hq hj =>
      have c := pagesResume_cover ((σ.1.trie.size + 1) * (p.prefixes.length + 1)) σ.1 p g hq hj.2
      ⟨c.2, fun ho => ⟨(pagesResume_ok _ σ.1 t p h.shape h.inv hj.1).1 ho, c.1 ho⟩⟩)
    sched σ t h i p hi ⟨h.ok _ (co_mem_of_getElem? hi), hc⟩ hthr _ hm).elim
    (fun e => nomatch e) fun ⟨_, _, _, a⟩ => a l rfl

/-- **C16, page query, completeness**: a page that hangs below one of the query's prefixes by tree pointers
    present when the query is created, that is a page at every moment of the schedule, and that has no
    webentity on itself or on any of its ancestors below the prefix node at any moment of the schedule, is
    in the answer of the query — whatever the writers do in between -/
theorem C16_pages_query_complete {s : State} {t : T} (hs : Shape s t) (hi : Inv s t) (reqs : List CoReq)
    (hwf : ∀ r ∈ reqs, r.Wf) (sched : Sched) (i : Nat) (ps : List Bytes)
    (hreq : reqs[i]? = some (.queryPages ps)) (g : QTarget) (pf : Bytes) (hpf : pf ∈ ps)
    (hroot : s.lruNode (lruIter pf) = some g.root)
    (hpath : HPath s g.root g.root (lruDirname pf) g.b g.cur g.anc)
    (hclear : Throughout (fun s' => QClear s' g) (s, reqs.map CoReq.init) sched)
    (l : List (Bytes × Bool))
    (hdone : (i, CoOut.done (.pages l)) ∈ (Sys.run (s, reqs.map CoReq.init) sched).2) :
    ∃ cr, (g.cur, cr) ∈ l := by
  refine sched_cover sched (s, reqs.map CoReq.init) t (sysOk_init hs hi reqs hwf) i _ g (CoReq.init_get hreq) ?_ hclear l
    hdone
  exact Or.inr (Or.inr ⟨pf, hpf, hroot, g.anc, fun a ha => ha, hpath⟩)

/-- **C16, page query, completeness, in terms of the finite map**: let `pf` be one of the query's prefixes,
    stored at block `root` when the query is created, and let the LRU `pf ++ r` (`r ≠ []`) be stored at block
    `b` at that time. If at every moment of the schedule `b` is a page and neither `b` nor the block of any
    intermediate LRU `pf ++ r.take k` (`0 < k < |r|`) carries a webentity, then the answer of the query
    lists the page — whatever the writers do in between (they may add pages, siblings, children, webentities
    elsewhere, links …) -/
theorem C16_pages_query_complete_entries {s : State} {t : T} (hs : Shape s t) (hi : Inv s t) (reqs : List CoReq)
    (hwf : ∀ r ∈ reqs, r.Wf) (sched : Sched) (i : Nat) (ps : List Bytes)
    (hreq : reqs[i]? = some (.queryPages ps)) (pf : Bytes) (hpf : pf ∈ ps) (root b : Nat) (r : LRU) (hr : r ≠ [])
    (hq : (lruIter pf, root) ∈ t.entries s []) (hb : (lruIter pf ++ r, b) ∈ t.entries s [])
    (hclear : Throughout (fun s' => (s'.cell b).flags.page = true ∧ (s'.cell b).we = 0 ∧
        ∀ k m, 0 < k → k < r.length → (lruIter pf ++ r.take k, m) ∈ t.entries s [] → (s'.cell m).we = 0)
      (s, reqs.map CoReq.init) sched)
    (l : List (Bytes × Bool))
    (hdone : (i, CoOut.done (.pages l)) ∈ (Sys.run (s, reqs.map CoReq.init) sched).2) :
    ∃ cr, ((lruIter pf ++ r).flatten, cr) ∈ l := by
  obtain ⟨anc, hpath, hanc⟩ := hpath_of_entries hs hq hb hr
  have hne : lruIter pf ≠ [] := by
    have hw := hwf _ (List.mem_of_getElem? hreq)
    exact hw pf hpf
  have hroot : s.lruNode (lruIter pf) = some root := (lruNode_iff_entries hs _ hne root).mpr hq
  refine C16_pages_query_complete hs hi reqs hwf sched i ps hreq ⟨root, b, (lruIter pf ++ r).flatten, anc⟩ pf hpf
    hroot hpath (Throughout.imp ?_ sched _ hclear) l hdone
  intro s' ⟨h1, h2, h3⟩
  refine ⟨fun n hn => ?_, Or.inr h2, h1⟩
  rcases hanc n hn with e | ⟨k, hk0, hk1, hent⟩
  · exact Or.inl e
  · exact Or.inr (h3 k n hk0 hk1 hent)

/-- the invariant of a system whose writers cannot fail (`sched_no_failure`) -/
def SysRules (σ : Sys) (t : T) : Prop := SysOk σ t ∧ RulesOk σ.1 ∧ ∀ c ∈ σ.2, c.canon

theorem SysInv.sysRules : SysInv SysRules where
  shape h := h.1.shape
  step := fun {σ _ _ cj} ⟨h, ok, hcan⟩ hc =>
    have ⟨t1, h1, l1⟩ := SysInv.sysOk.step h hc
    have ⟨_, sec⟩ := resume_sec h.shape cj
    have ⟨ok1, hcan1, _⟩ := sec.rules ok (hcan cj (co_mem_of_getElem? hc))
    ⟨t1, ⟨h1, ok1, fun c hm => (List.mem_or_eq_of_mem_set hm).elim (hcan c) (· ▸ hcan1)⟩, l1⟩

/-- **no writer fails, whatever the schedule**: in a system satisfying its invariants whose index has every
    flagged rule anchor in the RAM dictionary (`RulesOk`) and whose rule installations have complete LRUs as
    anchors, `RulesOk` is kept and the only "failure" of a writer is the `StopIteration` of a generator that
    is resumed after it has returned -/
theorem sched_no_failure (sched : Sched) (σ : Sys) (t : T) (h : SysOk σ t) (ok : RulesOk σ.1) (hcan : ∀ c ∈ σ.2, c.canon) :
    RulesOk (σ.run sched).1.1 ∧
    ∀ i c e, σ.2[i]? = some c → c.isWriter → (i, CoOut.failed e) ∈ (σ.run sched).2 → e = .other "StopIteration" := by
  obtain ⟨_, h', _⟩ := SysInv.sysRules.sched sched σ t ⟨h, ok, hcan⟩
  refine ⟨h'.2.1, fun i c e hi hw hm => ?_⟩
  exact (SysInv.sysRules.local (fun _ => True) (fun _ _ c => c.isWriter)
    (fun _ _ o => ∀ e, o = .failed e → e = .other "StopIteration") (fun _ _ _ _ _ j => j) (fun _ _ _ a => a)
    (fun {_ _ _ _ c} g hc _ hw _ => by
      obtain ⟨_, sec⟩ := resume_sec g.1.shape c
      obtain ⟨_, _, hnk⟩ := sec.rules g.2.1 (g.2.2 c (co_mem_of_getElem? hc))
      obtain ⟨_, _, _, _, _, _, _, hf, _⟩ := sec.spec g.1.inv (g.1.ok c (co_mem_of_getElem? hc))
      exact ⟨fun e he => ((hf e he hw).resolve_left (hnk e he hw)).2, fun ho => (resume_yielded_kind _ _ ho).1 hw⟩)
    sched σ t ⟨h, ok, hcan⟩ i c hi hw (.trivial _ _) _ hm).elim CoOut.failed.inj fun a => a _ h' e rfl

/-- **C16, "no request fails", writers**: started from fresh generators on an index whose flagged rule anchors
    are all in the RAM dictionary, under every schedule no crawl batch and no rule installation ever fails
    (a generator resumed after its end raises `StopIteration`, as Python generators do), and the index keeps
    `RulesOk` -/
theorem C16_no_writer_fails {s : State} {t : T} (hs : Shape s t) (hi : Inv s t) (hr : RulesOk s)
    (reqs : List CoReq) (hwf : ∀ r ∈ reqs, r.Wf) (hcanon : ∀ r ∈ reqs, r.Canon) (sched : Sched) :
    RulesOk (Sys.run (s, reqs.map CoReq.init) sched).1.1 ∧
    ∀ i r e, reqs[i]? = some r → r.op ≠ none →
      (i, CoOut.failed e) ∈ (Sys.run (s, reqs.map CoReq.init) sched).2 → e = .other "StopIteration" := by
  obtain ⟨okf, hfail⟩ := sched_no_failure sched (s, reqs.map CoReq.init) t (sysOk_init hs hi reqs hwf) hr
    (CoReq.init_canon hwf hcanon)
  exact ⟨okf, fun i r e hi' hop hm => hfail i r.init e (CoReq.init_get hi') (CoReq.init_writer hop) hm⟩

theorem noKeyErr_of_rulesOk : ∀ (reqs : List CoReq) (s : State) (t : T), Shape s t → RulesOk s →
    (∀ r ∈ reqs, r.Wf) → (∀ r ∈ reqs, r.Canon) → NoKeyErr s (reqs.filterMap CoReq.op)
  | [], _, _, _, _, _, _ => trivial
  | r :: reqs, s, t, h, ok, hwf, hcan => by
    have ih := fun s' t' (h' : Shape s' t') (ok' : RulesOk s') =>
      noKeyErr_of_rulesOk reqs s' t' h' ok' (fun x hx => hwf x (by simp [hx])) (fun x hx => hcan x (by simp [hx]))
    cases r with
    | batch data =>
      simp only [List.filterMap_cons, CoReq.op]
      obtain ⟨t1, h1, _⟩ := shape_step_any s t h (.batch data) (fun d rs e => by cases e)
      obtain ⟨rp, hrp⟩ := batch_ok h ok data
      refine ⟨?_, ih _ t1 h1 (rulesOk_step h (.batch data) trivial ok)⟩
      simp only [State.step, hrp, Ans.ofExcept]
      intro e; cases e
    | rule a r =>
      simp only [List.filterMap_cons, CoReq.op]
      have hw : lruIter a ≠ [] := hwf (.rule a r) (by simp)
      have hc : (lruIter a).flatten = a := hcan (.rule a r) (by simp)
      obtain ⟨t1, h1, _⟩ := shape_step_any s t h (.addRule a r) (fun d rs e => by cases e)
      obtain ⟨rp, hrp⟩ := addRule_ok h ok a r hw hc
      refine ⟨?_, ih _ t1 h1 (rulesOk_step h (.addRule a r) ⟨hw, hc⟩ ok)⟩
      simp only [State.step, hrp, Ans.ofExcept]
      intro e; cases e
    | queryPages ps =>
      simp only [List.filterMap_cons, CoReq.op]
      exact ih s t h ok
    | queryNet o a =>
      simp only [List.filterMap_cons, CoReq.op]
      exact ih s t h ok
    | queryOther q =>
      simp only [List.filterMap_cons, CoReq.op]
      exact ih s t h ok

/-- **C16, pages: schedule-independence, unconditionally on an index satisfying `RulesOk`**: no generator fails,
    and once all have returned the pages and crawled pages are those of the atomic requests run one after
    another in any order (which do not fail either) -/
theorem C16_final_pages_sequential_rulesOk {s : State} {t : T} (hs : Shape s t) (hi : Inv s t) (hr : RulesOk s)
    (reqs : List CoReq) (hwf : ∀ r ∈ reqs, r.Wf) (hcanon : ∀ r ∈ reqs, r.Canon) (sched : Sched)
    (hdone : ∀ i r, reqs[i]? = some r → r.op ≠ none →
      ∃ a, (i, CoOut.done a) ∈ (Sys.run (s, reqs.map CoReq.init) sched).2)
    (reqs' : List CoReq) (hperm : reqs'.Perm reqs) :
    ∃ t' t'', Shape (Sys.run (s, reqs.map CoReq.init) sched).1.1 t' ∧
      Shape (s.run (reqs'.filterMap CoReq.op)) t'' ∧
      (∀ p, IsPage (Sys.run (s, reqs.map CoReq.init) sched).1.1 t' p ↔
        IsPage (s.run (reqs'.filterMap CoReq.op)) t'' p) ∧
      (∀ p, IsCrawled (Sys.run (s, reqs.map CoReq.init) sched).1.1 t' p ↔
        IsCrawled (s.run (reqs'.filterMap CoReq.op)) t'' p) :=
  C16_final_pages_sequential hs hi reqs hwf sched hdone reqs' hperm
    (noKeyErr_of_rulesOk reqs' s t hs hr (fun r hr' => hwf r (hperm.mem_iff.mp hr'))
      (fun r hr' => hcanon r (hperm.mem_iff.mp hr')))

#print axioms sched_shape
#print axioms sched_spec
#print axioms C16_pages_any_schedule
#print axioms C16_final_pages
#print axioms C16_final_pages_sequential
#print axioms C16_pages_query_sound
#print axioms C16_links_any_schedule
#print axioms C16_pages_query_complete
#print axioms C16_pages_query_complete_entries
#print axioms C16_no_writer_fails
#print axioms C16_final_pages_sequential_rulesOk

end Traph
