import Proofs.PageSet
import Proofs.SizesGrowth
import Proofs.SizesLinks
import Proofs.Ids
/-! C02 / C19 at the level of histories: the vocabulary. `Known s t p`: the LRU (stem list) `p` is a key of the
    finite map denoted by the ghost tree; `Covered L p`: `p` is a non-empty stem-prefix of one of the LRUs of `L`.
    `KStep L s t s' t'`: `Good` kept, old entries kept at their blocks, every new entry at a fresh block, and the
    set of keys grew by exactly the prefix closure of `L`; transitive, with the lists of named LRUs appended.
    `add_lru stems` is a `KStep [stems]`, every non-structural write a `KStep []`. The accounting invariant is
    then written over the *keys* (`SizeOk` only looks at the last stem of each key), so that the size of the trie
    store is a function of the set of known LRUs. -/
namespace Traph
open State Layout

def Known (s : State) (t : T) (p : LRU) : Prop := ∃ b, (p, b) ∈ t.entries s []

def Covered (L : List LRU) (p : LRU) : Prop := p ≠ [] ∧ ∃ l ∈ L, p <+: l

theorem Known.ne_nil {s : State} {t : T} {p : LRU} (h : Known s t p) : p ≠ [] := by
  obtain ⟨b, hb⟩ := h
  exact entry_ne_nil hb

theorem Known.of_prefix {s : State} {t : T} {p q : LRU} (h : Known s t p) (hq : q ≠ []) (hp : q <+: p) :
    Known s t q := by
  obtain ⟨b, hb⟩ := h
  have e := List.prefix_iff_eq_take.mp hp
  have hl : 0 < q.length := List.length_pos_iff.mpr hq
  obtain ⟨b', hb'⟩ := entries_prefix_closed t [] p b hb q.length (by simpa using hl) hp.length_le
  exact ⟨b', by rw [e]; exact hb'⟩

theorem not_known_nil (s : State) (p : LRU) : ¬ Known s .nil p := by
  rintro ⟨b, hb⟩; exact absurd hb List.not_mem_nil

theorem covered_nil (p : LRU) : ¬ Covered [] p := by
  rintro ⟨_, l, hl, _⟩; exact absurd hl List.not_mem_nil

theorem covered_append (A B : List LRU) (p : LRU) : Covered (A ++ B) p ↔ Covered A p ∨ Covered B p := by
  unfold Covered
  constructor
  · rintro ⟨hp, l, hl, hpl⟩
    rcases List.mem_append.mp hl with hl | hl
    · exact Or.inl ⟨hp, l, hl, hpl⟩
    · exact Or.inr ⟨hp, l, hl, hpl⟩
  · rintro (⟨hp, l, hl, hpl⟩ | ⟨hp, l, hl, hpl⟩)
    · exact ⟨hp, l, List.mem_append_left _ hl, hpl⟩
    · exact ⟨hp, l, List.mem_append_right _ hl, hpl⟩

theorem covered_cons (a : LRU) (A : List LRU) (p : LRU) : Covered (a :: A) p ↔ Covered [a] p ∨ Covered A p :=
  covered_append [a] A p

theorem Covered.mono {A B : List LRU} {p : LRU} (h : Covered A p) (hs : ∀ l ∈ A, l ∈ B) : Covered B p := by
  obtain ⟨hp, l, hl, hpl⟩ := h
  exact ⟨hp, l, hs l hl, hpl⟩

theorem Covered.of_prefix {L : List LRU} {p q : LRU} (h : Covered L p) (hq : q ≠ []) (hp : q <+: p) :
    Covered L q := by
  obtain ⟨_, l, hl, hpl⟩ := h
  exact ⟨hq, l, hl, hp.trans hpl⟩

theorem covered_single (stems p : LRU) : Covered [stems] p ↔ p ≠ [] ∧ p <+: stems := by
  unfold Covered
  constructor
  · rintro ⟨hp, l, hl, hpl⟩
    rw [List.mem_singleton] at hl; subst hl
    exact ⟨hp, hpl⟩
  · rintro ⟨hp, hpl⟩
    exact ⟨hp, stems, List.mem_singleton.mpr rfl, hpl⟩

theorem covered_take {stems : LRU} {k : Nat} (h0 : 0 < k) (hk : k ≤ stems.length) :
    Covered [stems] (stems.take k) := by
  rw [covered_single]
  refine ⟨?_, List.take_prefix k stems⟩
  intro e
  have := congrArg List.length e
  rw [List.length_take, List.length_nil] at this
  omega

theorem covered_self {L : List LRU} {l : LRU} (hl : l ∈ L) (hne : l ≠ []) : Covered L l :=
  ⟨hne, l, hl, List.prefix_refl l⟩

theorem Covered.split {s : State} {t : T} {A B : List LRU} {p : LRU} (hc : Covered A p)
    (hA : ∀ l ∈ A, l ∈ B ∨ (l ≠ [] → Known s t l)) : Known s t p ∨ Covered B p := by
  obtain ⟨hp, l, hl, hpl⟩ := hc
  rcases hA l hl with hb | hk
  · exact Or.inr ⟨hp, l, hb, hpl⟩
  · exact Or.inl ((hk (fun e => hp (List.prefix_nil.mp (e ▸ hpl)))).of_prefix hp hpl)

/-- shape invariant, block accounting invariant, and well-formed stored stems (every stored stem was cut
    by `lru_iter`) together: what holds of every reachable state, whatever the requests -/
structure Good (s : State) (t : T) : Prop where
  shape : Shape s t
  sizeOk : SizeOk s t
  wf : WfStems s t

theorem good_of_trie_init (s : State) (h : s.trie = #[{}]) : Good s .nil :=
  ⟨shape_of_trie_init s h, sizeOk_of_trie_init s h, fun p b hm => absurd hm List.not_mem_nil⟩

theorem good_init : Good ({} : State) .nil := good_of_trie_init _ rfl

structure KStep (L : List LRU) (s : State) (t : T) (s' : State) (t' : T) : Prop where
  good : Good s' t'
  size : s.trie.size ≤ s'.trie.size
  keep : ∀ p b, (p, b) ∈ t.entries s [] → (p, b) ∈ t'.entries s' []
  fresh : ∀ p b, (p, b) ∈ t'.entries s' [] → (p, b) ∈ t.entries s [] ∨ s.trie.size ≤ b
  known : ∀ p, Known s' t' p ↔ Known s t p ∨ Covered L p

theorem KStep.refl {s : State} {t : T} (g : Good s t) : KStep [] s t s t :=
  ⟨g, Nat.le_refl _, fun _ _ h => h, fun _ _ h => Or.inl h,
    fun p => ⟨Or.inl, fun h => h.elim id (fun hc => absurd hc (covered_nil p))⟩⟩

theorem KStep.trans {A B : List LRU} {s0 s1 s2 : State} {t0 t1 t2 : T}
    (h1 : KStep A s0 t0 s1 t1) (h2 : KStep B s1 t1 s2 t2) : KStep (A ++ B) s0 t0 s2 t2 where
  good := h2.good
  size := Nat.le_trans h1.size h2.size
  keep := fun p b hm => h2.keep p b (h1.keep p b hm)
  fresh := fun p b hm => by
    rcases h2.fresh p b hm with h | h
    · exact h1.fresh p b h
    · exact Or.inr (Nat.le_trans h1.size h)
  known := fun p => by
    rw [h2.known, h1.known, covered_append]
    exact or_assoc

theorem KStep.ext {L : List LRU} {s s' : State} {t t' : T} (h : KStep L s t s' t') : Ext s t s' t' :=
  ⟨h.good.shape, h.size, h.keep⟩

/-- the list of named LRUs only matters through what it adds to the stored set -/
theorem KStep.congr {A B : List LRU} {s s' : State} {t t' : T} (h : KStep A s t s' t')
    (e : ∀ p, (Known s t p ∨ Covered A p) ↔ (Known s t p ∨ Covered B p)) : KStep B s t s' t' :=
  ⟨h.good, h.size, h.keep, h.fresh, fun p => (h.known p).trans (e p)⟩

theorem KStep.exchange {A B : List LRU} {s s' : State} {t t' : T} (h : KStep A s t s' t')
    (hA : ∀ l ∈ A, l ∈ B ∨ (l ≠ [] → Known s t l)) (hB : ∀ l ∈ B, l ∈ A ∨ (l ≠ [] → Known s t l)) :
    KStep B s t s' t' :=
  h.congr (fun _ => ⟨fun h => h.elim Or.inl (·.split hA), fun h => h.elim Or.inl (·.split hB)⟩)

theorem KStep.exchange_map {A B : List Bytes} {s s' : State} {t t' : T} (h : KStep (A.map lruIter) s t s' t')
    (hA : ∀ x ∈ A, x ∈ B ∨ (lruIter x ≠ [] → Known s t (lruIter x))) (hB : ∀ x ∈ B, x ∈ A) :
    KStep (B.map lruIter) s t s' t' := by
  refine h.exchange (fun l hl => ?_) (fun l hl => ?_)
  · obtain ⟨x, hx, rfl⟩ := List.mem_map.mp hl
    exact (hA x hx).imp (List.mem_map_of_mem (f := lruIter)) id
  · obtain ⟨x, hx, rfl⟩ := List.mem_map.mp hl
    exact Or.inl (List.mem_map_of_mem (hB x hx))

theorem KStep.of_mem {A B : List LRU} {s s' : State} {t t' : T} (h : KStep A s t s' t')
    (e : ∀ l, l ∈ A ↔ l ∈ B) : KStep B s t s' t' :=
  h.exchange (fun l hl => Or.inl ((e l).mp hl)) (fun l hl => Or.inl ((e l).mpr hl))

theorem KStep.trans_nil {A : List LRU} {s0 s1 s2 : State} {t0 t1 t2 : T}
    (h1 : KStep A s0 t0 s1 t1) (h2 : KStep [] s1 t1 s2 t2) : KStep A s0 t0 s2 t2 := by
  have := h1.trans h2
  rwa [List.append_nil] at this

theorem KStep.nil_trans {A : List LRU} {s0 s1 s2 : State} {t0 t1 t2 : T}
    (h1 : KStep [] s0 t0 s1 t1) (h2 : KStep A s1 t1 s2 t2) : KStep A s0 t0 s2 t2 := h1.trans h2

theorem KStep.absorb {A B : List LRU} {s s' : State} {t t' : T} (h : KStep (A ++ B) s t s' t')
    (hB : ∀ l ∈ B, l ≠ [] → Known s t l) : KStep A s t s' t' :=
  h.exchange (fun l hl => (List.mem_append.mp hl).imp id (hB l)) (fun _ hl => Or.inl (List.mem_append_left _ hl))

theorem KStep.of_noStruct {s s' : State} {t : T} (g : Good s t) (n : NoStruct s s') : KStep [] s t s' t := by
  have e := n.entries t []
  refine ⟨⟨n.shape g.shape, g.sizeOk.noStruct n, fun p b hm => by rw [e] at hm; exact g.wf p b hm⟩,
    Nat.le_of_eq n.1.symm, ?_, ?_, ?_⟩
  · intro p b hm; rw [e]; exact hm
  · intro p b hm; rw [e] at hm; exact Or.inl hm
  · intro p
    unfold Known
    rw [e]
    exact ⟨Or.inl, fun h => h.elim id (fun hc => absurd hc (covered_nil p))⟩

theorem KStep.of_trie_eq {s s' : State} {t : T} (g : Good s t) (e : s'.trie = s.trie) : KStep [] s t s' t :=
  KStep.of_noStruct g (noStruct_of_trie_eq e)

theorem kstep_foldl_modCell {α : Type} (idx : α → Nat) (f : α → Cell → Cell)
    (hf : ∀ a c, ((f a c).left = c.left ∧ (f a c).right = c.right ∧ (f a c).child = c.child ∧
      (f a c).chunk = c.chunk ∧ (f a c).flags.hasTail = c.flags.hasTail)) :
    ∀ (l : List α) (s : State) (t : T), Good s t →
      KStep [] s t (l.foldl (fun st a => st.modCell (idx a) (f a)) s) t :=
  fun l s _ g => KStep.of_noStruct g (noStruct_foldl_modCell idx f hf l s)

theorem kstep_addLru {s : State} {t : T} (g : Good s t) (stems : LRU) (flag : Bool)
    (hst : ∀ x ∈ stems, StemWf x) :
    ∃ t', KStep [stems] s t (s.addLru stems flag).1 t' ∧
      (stems ≠ [] → (stems, (s.addLru stems flag).2.1) ∈ t'.entries (s.addLru stems flag).1 []) := by
  by_cases hne : stems = []
  · subst hne
    rw [addLru_nil]
    exact ⟨t, (KStep.refl g).exchange (fun _ h => nomatch h)
      (fun l hl => Or.inr (fun hne => absurd (List.mem_singleton.mp hl) hne)), fun h => absurd rfl h⟩
  · obtain ⟨t', gr, hz', hent⟩ := addLru_sizeOk g.shape g.sizeOk stems hne flag
    refine ⟨t', ⟨⟨gr.shape, hz', ?_⟩, gr.size, gr.keep, ?_, ?_⟩, fun _ => hent⟩
    · intro p b hm x hx
      rcases gr.new p b hm with h1 | ⟨_, k, _, _, rfl⟩
      · exact g.wf p b h1 x hx
      · exact hst x (List.mem_of_mem_take hx)
    · intro p b hm
      rcases gr.new p b hm with h | ⟨hb, _⟩
      · exact Or.inl h
      · exact Or.inr hb
    · intro p
      constructor
      · rintro ⟨b, hb⟩
        rcases gr.new p b hb with h | ⟨_, k, k0, k1, rfl⟩
        · exact Or.inl ⟨b, h⟩
        · exact Or.inr (covered_take k0 k1)
      · rintro (⟨b, hb⟩ | hc)
        · exact ⟨b, gr.keep p b hb⟩
        · obtain ⟨hp, hpl⟩ := (covered_single stems p).mp hc
          exact Known.of_prefix ⟨_, hent⟩ hp hpl

/-- the trie blocks that storing `p` costs beyond its prefixes: those of the node of its last stem -/
def lruBlocks (p : LRU) : Nat := blocksFor (p.getLast?.getD [])

theorem entry_last {s : State} {t : T} (h : Shape s t) {p : LRU} {b : Nat} (hm : (p, b) ∈ t.entries s []) :
    p.getLast?.getD [] = s.stemAt b := by
  obtain ⟨q, e, _⟩ := entries_last_and_ptrs t [] p b h.rep hm
  rw [e]; simp

def T.keys (s : State) (t : T) : List LRU := (t.entries s []).map (·.1)

theorem mem_keys {s : State} {t : T} {p : LRU} : p ∈ t.keys s ↔ Known s t p := by
  unfold T.keys Known
  rw [List.mem_map]
  constructor
  · rintro ⟨⟨q, b⟩, hm, rfl⟩; exact ⟨b, hm⟩
  · rintro ⟨b, hm⟩; exact ⟨(p, b), hm, rfl⟩

theorem keys_nodup {s : State} {t : T} (h : Shape s t) : (t.keys s).Nodup := by
  have hp : ((t.entries s []).map (·.2)).Nodup := (entries_addrs_perm (s := s) t []).nodup_iff.mpr h.nodup
  unfold T.keys
  unfold List.Nodup at hp ⊢
  rw [List.pairwise_map] at hp ⊢
  refine List.Pairwise.imp_of_mem ?_ hp
  intro x y hx hy hne e
  apply hne
  have hx' : (x.1, x.2) ∈ t.entries s [] := hx
  have hy' : (x.1, y.2) ∈ t.entries s [] := by rw [e]; exact hy
  exact entries_path_injective h.ord h.nodup hx' hy'

theorem sizeOk_keys {s : State} {t : T} (g : Good s t) :
    s.trie.size = 1 + ((t.keys s).map lruBlocks).sum := by
  rw [show s.trie.size = _ from g.sizeOk, T.keys, List.map_map]
  exact congrArg (fun l => 1 + l.sum)
    (List.map_congr_left (fun pb hm => congrArg blocksFor (entry_last g.shape hm).symm))

/-- one header block plus the blocks of the last stem of each stored LRU, over any duplicate-free enumeration `K`
    of the stored set -/
theorem size_of_known {s : State} {t : T} (g : Good s t) (K : List LRU) (hnd : K.Nodup)
    (hK : ∀ p, p ∈ K ↔ Known s t p) : s.trie.size = 1 + (K.map lruBlocks).sum := by
  rw [sizeOk_keys g]
  congr 1
  apply List.Perm.sum_nat
  apply List.Perm.map
  exact (List.perm_ext_iff_of_nodup (keys_nodup g.shape) hnd).mpr (fun p => by rw [mem_keys, hK])

theorem size_eq_of_same_known {s s' : State} {t t' : T} (g : Good s t) (g' : Good s' t')
    (h : ∀ p, Known s' t' p ↔ Known s t p) : s'.trie.size = s.trie.size := by
  rw [size_of_known g' (t.keys s) (keys_nodup g.shape) (fun p => by rw [mem_keys, h])]
  exact (sizeOk_keys g).symm

theorem KStep.size_eq {L : List LRU} {s s' : State} {t t' : T} (g : Good s t) (k : KStep L s t s' t')
    (hL : ∀ l ∈ L, l ≠ [] → Known s t l) : s'.trie.size = s.trie.size := by
  apply size_eq_of_same_known g k.good
  intro p
  rw [k.known]
  refine ⟨fun h => h.elim id (fun hc => ?_), Or.inl⟩
  exact (hc.split (B := []) (fun l hl => Or.inr (hL l hl))).elim id (fun hn => absurd hn (covered_nil p))

def dedup {α : Type} [DecidableEq α] : List α → List α
  | [] => []
  | a :: l => if a ∈ dedup l then dedup l else a :: dedup l

theorem mem_dedup {α : Type} [DecidableEq α] (x : α) : ∀ l : List α, x ∈ dedup l ↔ x ∈ l
  | [] => by simp [dedup]
  | a :: l => by
    unfold dedup
    split
    · rename_i h
      rw [mem_dedup x l, List.mem_cons]
      constructor
      · exact Or.inr
      · rintro (rfl | h')
        · exact (mem_dedup _ l).mp h
        · exact h'
    · rw [List.mem_cons, List.mem_cons, mem_dedup x l]

theorem nodup_dedup {α : Type} [DecidableEq α] : ∀ l : List α, (dedup l).Nodup := by
  intro l
  induction l with
  | nil => simp [dedup]
  | cons a l ih =>
    unfold dedup
    split
    · exact ih
    · rename_i h
      exact List.nodup_cons.mpr ⟨h, ih⟩

/-- the LRUs a trie holds once the LRUs of `L` are inserted: their non-empty stem-prefixes, each once (`Covered`) -/
def prefixClosure (L : List LRU) : List LRU :=
  dedup (L.flatMap (fun l => (List.range' 1 l.length).map (fun k => l.take k)))

theorem prefixClosure_nodup (L : List LRU) : (prefixClosure L).Nodup := nodup_dedup _

theorem mem_prefixClosure (L : List LRU) (p : LRU) : p ∈ prefixClosure L ↔ Covered L p := by
  unfold prefixClosure
  rw [mem_dedup, List.mem_flatMap]
  constructor
  · rintro ⟨l, hl, hp⟩
    obtain ⟨k, hk, rfl⟩ := List.mem_map.mp hp
    rw [List.mem_range'_1] at hk
    exact (covered_take (stems := l) (by omega) (by omega)).mono
      (fun x hx => by rw [List.mem_singleton] at hx; subst hx; exact hl)
  · rintro ⟨hp, l, hl, hpl⟩
    refine ⟨l, hl, List.mem_map.mpr ⟨p.length, ?_, (List.prefix_iff_eq_take.mp hpl).symm⟩⟩
    rw [List.mem_range'_1]
    have := hpl.length_le
    have : 0 < p.length := List.length_pos_iff.mpr hp
    omega

end Traph
