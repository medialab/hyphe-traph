import Proofs.LogIndep
/-! Observational equivalence is a CONGRUENCE for the request language (C11).

    No write request iterates over the RAM rule dict: it is read by look-up only (`longestCandidate`, `removeRule`)
    and edited by `dictSet` / erasure, both of which respect content (`RulesEq.dictSet`, `RulesEq.erase`); `reopen`
    and `clear … (some rs)` replace it by a dict that does not depend on the old one, `clear … none` keeps it (RAM
    only — nothing is re-installed from it). So every request commutes with replacing the RAM dict by one of the
    same content (`step_ghost`, Proofs/LogIndep), with no side condition. -/
namespace Traph
open State

namespace State

theorem oe_sr_eq_ram (s : State) (rs) : s.oe_setRules rs = s.oe_ram rs s.log := rfl
theorem oe_sr_trie (s : State) (rs) : (s.oe_setRules rs).trie = s.trie := rfl
theorem oe_sr_links (s : State) (rs) : (s.oe_setRules rs).links = s.links := rfl
theorem oe_sr_hdrId (s : State) (rs) : (s.oe_setRules rs).hdrId = s.hdrId := rfl
theorem oe_sr_rules (s : State) (rs) : (s.oe_setRules rs).rules = rs := rfl
theorem oe_sr_dflt (s : State) (rs) : (s.oe_setRules rs).dflt = s.dflt := rfl
theorem oe_sr_cfg (s : State) (rs) : (s.oe_setRules rs).cfg = s.cfg := rfl
theorem oe_sr_log (s : State) (rs) : (s.oe_setRules rs).log = s.log := rfl
theorem oe_sr_cell (s : State) (rs) (i : Nat) : (s.oe_setRules rs).cell i = s.cell i := rfl
theorem oe_sr_self (s : State) : s.oe_setRules s.rules = s := rfl
theorem oe_sr_sr (s : State) (a b) : (s.oe_setRules a).oe_setRules b = s.oe_setRules b := rfl
theorem oe_sr_addLog (s : State) (rs) (l : List Write) : (s.oe_setRules rs).addLog l = (s.addLog l).oe_setRules rs := rfl

theorem oe_sr_mk (h : Nat) (t : Array Cell) (k : Array Stub) (r : List (Bytes × Rule)) (d : Rule) (c : Config)
    (lg : List Write) (rs) : (⟨h, t, k, r, d, c, lg⟩ : State).oe_setRules rs = ⟨h, t, k, rs, d, c, lg⟩ := rfl

theorem appendCell_oe (s : State) (rs) (c : Cell) :
    (s.oe_setRules rs).appendCell c = ((s.appendCell c).1.oe_setRules rs, (s.appendCell c).2) := rfl

theorem setCell_oe (s : State) (rs) (i : Nat) (c : Cell) :
    (s.oe_setRules rs).setCell i c = (s.setCell i c).oe_setRules rs := rfl

theorem appendStub_oe (s : State) (rs) (b : Stub) :
    (s.oe_setRules rs).appendStub b = ((s.appendStub b).1.oe_setRules rs, (s.appendStub b).2) := rfl

theorem setHdr_oe (s : State) (rs) (id : Nat) : (s.oe_setRules rs).setHdr id = (s.setHdr id).oe_setRules rs := rfl

theorem genId_oe (s : State) (rs) : (s.oe_setRules rs).genId = (s.genId.1.oe_setRules rs, s.genId.2) := rfl

theorem oe_rules_of_comm {α} {s : State} {f : State → State × α}
    (h : f (s.oe_setRules s.rules) = ((f s).1.oe_setRules s.rules, (f s).2)) : (f s).1.rules = s.rules :=
  rules_of_ghost (by rw [ghost_nil, ghost_nil]; exact h)

theorem createWebentity_oe (s : State) (rs) (prefixes : List Bytes) :
    (s.oe_setRules rs).createWebentity prefixes
      = ((s.createWebentity prefixes).1.oe_setRules rs, (s.createWebentity prefixes).2) := by
  simpa only [ghost_nil] using createWebentity_ghost s rs [] prefixes

theorem deleteWebentity_oe (s : State) (rs) (weid : Nat) (prefixes : List Bytes) :
    (s.oe_setRules rs).deleteWebentity weid prefixes
      = ((s.deleteWebentity weid prefixes).1.oe_setRules rs, (s.deleteWebentity weid prefixes).2) := by
  simpa only [ghost_nil] using deleteWebentity_ghost s rs [] weid prefixes

theorem addPrefix_oe (s : State) (rs) (pfx : Bytes) (weid : Nat) :
    (s.oe_setRules rs).addPrefix pfx weid = ((s.addPrefix pfx weid).1.oe_setRules rs, (s.addPrefix pfx weid).2) := by
  simpa only [ghost_nil] using addPrefix_ghost s rs [] pfx weid

theorem removePrefix_oe (s : State) (rs) (pfx : Bytes) (weid : Option Nat) :
    (s.oe_setRules rs).removePrefix pfx weid
      = ((s.removePrefix pfx weid).1.oe_setRules rs, (s.removePrefix pfx weid).2) := by
  simpa only [ghost_nil] using removePrefix_ghost s rs [] pfx weid

theorem movePrefix_oe (s : State) (rs) (pfx : Bytes) (target : Nat) (source : Option Nat) :
    (s.oe_setRules rs).movePrefix pfx target source
      = ((s.movePrefix pfx target source).1.oe_setRules rs, (s.movePrefix pfx target source).2) := by
  simpa only [ghost_nil] using movePrefix_ghost s rs [] pfx target source

theorem addPage_oe (s : State) (rs) (hr : RulesEq s.rules rs) (lru : Bytes) (crawled : Bool) :
    (s.oe_setRules rs).addPage lru crawled = ((s.addPage lru crawled).1.oe_setRules rs, (s.addPage lru crawled).2) := by
  simpa only [ghost_nil] using addPage_ghost s rs [] hr lru crawled

theorem addPages_oe (s : State) (rs) (hr : RulesEq s.rules rs) (lrus : List Bytes) (crawled : Bool) :
    (s.oe_setRules rs).addPages lrus crawled
      = ((s.addPages lrus crawled).1.oe_setRules rs, (s.addPages lrus crawled).2) := by
  simpa only [ghost_nil] using addPages_ghost s rs [] hr lrus crawled

theorem addLinks_oe (s : State) (rs) (hr : RulesEq s.rules rs) (links : List (Bytes × Bytes)) :
    (s.oe_setRules rs).addLinks links = ((s.addLinks links).1.oe_setRules rs, (s.addLinks links).2) := by
  simpa only [ghost_nil] using addLinks_ghost s rs [] hr links

theorem batch_oe (s : State) (rs) (hr : RulesEq s.rules rs) (data : List (Bytes × List Bytes)) :
    (s.oe_setRules rs).batch data = ((s.batch data).1.oe_setRules rs, (s.batch data).2) := by
  simpa only [ghost_nil] using batch_ghost s rs [] hr data

theorem addRule_oe (s : State) (rs) (hr : RulesEq s.rules rs) (anchor : Bytes) (r : Rule) (w : Bool) :
    (s.oe_setRules rs).addRule anchor r w
      = ((s.addRule anchor r w).1.oe_setRules (dictSet rs anchor r), (s.addRule anchor r w).2) ∧
    (s.addRule anchor r w).1.rules = dictSet s.rules anchor r := by
  simpa only [ghost_nil] using addRule_ghost s rs [] hr anchor r w

theorem removeRule_oe (s : State) (rs) (hr : RulesEq s.rules rs) (anchor : Bytes) :
    (s.oe_setRules rs).removeRule anchor
      = ((s.removeRule anchor).1.oe_setRules (rs.filter (fun p => p.1 ≠ anchor)), (s.removeRule anchor).2) ∧
    (s.removeRule anchor).1.rules = s.rules.filter (fun p => p.1 ≠ anchor) := by
  simpa only [ghost_nil] using removeRule_ghost s rs [] hr anchor

end State

/-- the storage writes a request issues from `s`: its new log entries, newest first -/
def State.oe_writes (s : State) (op : Op) : List Write := (({ s with log := [] } : State).step op).1.log

theorem oe_log_step (s : State) (op : Op) : (s.step op).1.log = s.oe_writes op ++ s.log := step_log s op

/-- **CONGRUENCE, one request** (all 13 write requests, no side condition): in observationally equivalent states a
    request gives the same answer, leads to observationally equivalent states, and issues the same storage writes -/
theorem oe_step {s s' : State} (h : s ≃ₒ s') (op : Op) :
    (s'.step op).2 = (s.step op).2 ∧ (s.step op).1 ≃ₒ (s'.step op).1 ∧ s'.oe_writes op = s.oe_writes op := by
  obtain ⟨rs, lg, hr, rfl⟩ := (obsEq_iff s s').mp h
  -- the common base: `s` without its log; `s` is it with `s.log` underneath, `s'` its ghost
  let b : State := { s with log := [] }
  have e1 : s.step op = ((b.step op).1.addLog s.log, (b.step op).2) := step_addLog b op s.log
  obtain ⟨r2, hr2, _, e2⟩ := step_ghost b rs lg hr op
  obtain ⟨r3, _, _, e3⟩ := step_ghost b rs [] hr op
  refine ⟨?_, ?_, ?_⟩
  · rw [show (s.oe_ram rs lg).step op = _ from e2, e1]
  · rw [show (s.oe_ram rs lg).step op = _ from e2, e1]
    exact ⟨rfl, rfl, rfl, rfl, rfl, hr2⟩
  · show ((b.ghost rs []).step op).1.log = (b.step op).1.log
    rw [e3]
    exact List.append_nil _

/-- **CONGRUENCE, histories**: equivalent states stay equivalent along any history, with the same answers
    (`oe_transcript`, `oe_run_ask`) and the same storage writes (`oe_runWrites`) -/
theorem oe_run {s s' : State} (h : s ≃ₒ s') (ops : List Op) : s.run ops ≃ₒ s'.run ops := by
  induction ops generalizing s s' with
  | nil => exact h
  | cons op ops ih => exact ih (oe_step h op).2.1

theorem oe_transcript {s s' : State} (h : s ≃ₒ s') (ops : List Op) : s'.transcript ops = s.transcript ops := by
  induction ops generalizing s s' with
  | nil => rfl
  | cons op ops ih =>
    simp only [State.transcript]
    rw [(oe_step h op).1, ih (oe_step h op).2.1]

theorem oe_run_ask {s s' : State} (h : s ≃ₒ s') (ops : List Op) (q : Query) : (s'.run ops).ask q = (s.run ops).ask q :=
  oe_ask (oe_run h ops) q

/-- the storage writes of a whole history, newest first -/
def State.oe_runWrites : State → List Op → List Write
  | _, [] => []
  | s, op :: ops => State.oe_runWrites (s.step op).1 ops ++ s.oe_writes op

theorem oe_log_run (s : State) (ops : List Op) : (s.run ops).log = s.oe_runWrites ops ++ s.log := by
  induction ops generalizing s with
  | nil => rfl
  | cons op ops ih =>
    show ((s.step op).1.run ops).log = _
    rw [ih, oe_log_step, State.oe_runWrites, List.append_assoc]

theorem oe_runWrites {s s' : State} (h : s ≃ₒ s') (ops : List Op) : s'.oe_runWrites ops = s.oe_runWrites ops := by
  induction ops generalizing s s' with
  | nil => rfl
  | cons op ops ih =>
    simp only [State.oe_runWrites]
    rw [(oe_step h op).2.2, ih (oe_step h op).2.1]

#print axioms oe_step
#print axioms oe_run
#print axioms oe_transcript

end Traph
