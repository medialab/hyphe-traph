import Proofs.LogIndep
/-! No request changes the configuration (the probed switches of the library version).
    Used by C11's clear clause to name the configuration of "a freshly created index". -/
namespace Traph
open State

namespace State

theorem oe_cfg_setCell (s : State) (i : Nat) (c : Cell) : (s.setCell i c).cfg = s.cfg := rfl
theorem oe_cfg_appendStub (s : State) (b : Stub) : (s.appendStub b).1.cfg = s.cfg := rfl
theorem oe_cfg_setHdr (s : State) (id : Nat) : (s.setHdr id).cfg = s.cfg := rfl

end State

theorem oe_cfg_across {k ru : Bool} {wf : Prop} :
    Across k ru wf (fun _ => True) (fun _ _ => True) (fun a b => b.cfg = a.cfg) :=
  kept_cfg.across (fun _ _ => rfl) (fun _ _ _ => rfl) (fun _ _ _ _ => rfl)

theorem oe_cfg_installRules (l : List (Bytes × Rule)) (w : Bool) (s : State) : (installRules s l w).1.cfg = s.cfg :=
  (built_installRules (k := true) (wf := False) l w (.refl s)).across oe_cfg_across trivial

theorem oe_cfg_step (s : State) (op : Op) : (s.step op).1.cfg = s.cfg := by
  have built : ∀ op : Op, (∀ d rs, op ≠ .clear d rs) → (s.step op).1.cfg = s.cfg := fun op hc =>
    oe_cfg_across.step_any s op hc trivial
  cases op with
  | clear d l => rw [step_clear, clear_eq_installRules]; exact oe_cfg_installRules _ true _
  | _ => exact built _ (by intro _ _ h; cases h)

theorem oe_cfg_run (s : State) (ops : List Op) : (s.run ops).cfg = s.cfg := by
  induction ops generalizing s with
  | nil => rfl
  | cons op ops ih =>
    show ((s.step op).1.run ops).cfg = s.cfg
    rw [ih, oe_cfg_step]

theorem oe_cfg_fresh (cfg : Config) (dflt : Rule) (rules : List (Bytes × Rule)) (log : List Write) :
    (State.fresh cfg dflt rules log).1.cfg = cfg :=
  oe_cfg_installRules rules true _

#print axioms oe_cfg_run

end Traph
