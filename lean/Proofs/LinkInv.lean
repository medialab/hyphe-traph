import Proofs.PageSet
import Proofs.Windup
import Proofs.SizesLinks
/-! The invariant of reachable states that the link queries need (C08). `LkInv s B`: there is a ghost tree with the
    shape invariant, the parent invariant `ParOk` (so that the bottom-up reconstructions `windup_lru` /
    `windup_lru_for_webentity` agree with the finite map), and such that the target of every stub of the link store
    (the header slot excepted) is the node of a stored path that is flagged as a page (`PageEntry`); `B` lists further
    blocks known to be such nodes (only `B = []` is needed below). Every change a request is built from keeps it
    (`lk_across`): stubs only run to blocks that `add_page` has flagged as pages or found flagged, and an answered
    block is the node of its path (`LkKnown`). Hence every well-formed write request preserves `LkInv s []` (`li_step`),
    and it holds in every state reached from a fresh index by well-formed requests (`li_run` from `li_fresh`). -/
namespace Traph
open State

theorem li_shape_unique {s : State} {t t' : T} (h : Shape s t) (h' : Shape s t') : t = t' :=
  h.unique h'

def PageEntry (s : State) (t : T) (n : Nat) : Prop :=
  ∃ p, (p, n) ∈ t.entries s [] ∧ (s.cell n).flags.page = true

structure LkOk (s : State) (t : T) (B : List Nat) : Prop where
  par : ParOk s t 0
  tgt : ∀ i st, 0 < i → s.links[i]? = some st → PageEntry s t st.target
  known : ∀ n ∈ B, PageEntry s t n

def LkInv (s : State) (B : List Nat) : Prop := ∃ t, Shape s t ∧ LkOk s t B

theorem li_init (s : State) (ht : s.trie = #[{}]) (hl : s.links = #[{}]) : LkInv s [] := by
  refine ⟨.nil, shape_of_trie_init s ht, parOk_nil s, fun i st hi hst => ?_, fun n hn => by simp at hn⟩
  rw [hl] at hst
  have := (Array.getElem?_eq_some_iff.mp hst).1
  simp at this
  omega

def LkKeeps (s s' : State) : Prop :=
  ∀ t, Shape s t → LkOk s t [] → ∃ t', Ext s t s' t' ∧ LkOk s' t' [] ∧
    ∀ b, b < s.trie.size → (s.cell b).flags.page = true → (s'.cell b).flags.page = true

theorem LkKeeps.refl (s : State) : LkKeeps s s := fun t hs hk => ⟨t, Ext.refl hs, hk, fun _ _ h => h⟩

theorem LkKeeps.trans {a b c : State} (h1 : LkKeeps a b) (h2 : LkKeeps b c) : LkKeeps a c := fun t hs hk =>
  have ⟨t1, x1, k1, p1⟩ := h1 t hs hk
  have ⟨t2, x2, k2, p2⟩ := h2 t1 x1.shape k1
  ⟨t2, x1.trans x2, k2, fun b hb h => p2 b (Nat.lt_of_lt_of_le hb x1.size) (p1 b hb h)⟩

theorem LkKeeps.inv {s s' : State} (r : LkKeeps s s') {B : List Nat} (h : LkInv s B) : LkInv s' B := by
  obtain ⟨t, hs, hk⟩ := h
  obtain ⟨t', x, k', pg⟩ := r t hs ⟨hk.par, hk.tgt, fun _ hn => nomatch hn⟩
  refine ⟨t', x.shape, k'.par, k'.tgt, fun n hn => ?_⟩
  obtain ⟨p, hm, hp⟩ := hk.known n hn
  exact ⟨p, x.keep p n hm, pg n (entry_lt hs hm) hp⟩

theorem LkKeeps.of {s s' : State} (links : s'.links = s.links)
    (h : ∀ t, Shape s t → ParOk s t 0 → ∃ t', Ext s t s' t' ∧ ParOk s' t' 0 ∧
      ∀ b, b < s.trie.size → (s.cell b).flags.page = true → (s'.cell b).flags.page = true) : LkKeeps s s' := by
  intro t hs hk
  obtain ⟨t', x, hp', pg⟩ := h t hs hk.par
  refine ⟨t', x, ⟨hp', fun i st hi hst => ?_, fun _ hn => nomatch hn⟩, pg⟩
  rw [links] at hst
  obtain ⟨p, hm, hpg⟩ := hk.tgt i st hi hst
  exact ⟨p, x.keep p _ hm, pg _ (entry_lt hs hm) hpg⟩

theorem LkKeeps.of_trie_eq {s s' : State} (e : s'.trie = s.trie) (el : s'.links = s.links) : LkKeeps s s' :=
  have hc := cell_of_trie_eq e
  .of el fun t hs hp => ⟨t, (noStruct_of_trie_eq e).ext hs, hp.of_parent_eq (fun a => by rw [hc]),
    fun b _ hb => by rw [hc]; exact hb⟩

theorem LkKeeps.modCell (s : State) (i : Nat) (f : Cell → Cell)
    (hf : ∀ c, (f c).left = c.left ∧ (f c).right = c.right ∧ (f c).child = c.child ∧
      (f c).chunk = c.chunk ∧ (f c).flags.hasTail = c.flags.hasTail)
    (hpar : ∀ c, (f c).parent = c.parent) (hpg : ∀ c, c.flags.page = true → (f c).flags.page = true) :
    LkKeeps s (s.modCell i f) :=
  .of (links_modCell s i f) fun t hs hp => ⟨t, (noStruct_modCell s i f hf).ext hs, hp.modCell i f hpar,
    fun b _ hb => by
      rw [cell_modCell]; split
      · exact hpg _ hb
      · exact hb⟩

theorem li_setFlag {s : State} {B : List Nat} (h : LkInv s B) (n : Nat) (g : Flags → Flags)
    (hg : ∀ fl, (g fl).hasTail = fl.hasTail ∧ (fl.page = true → (g fl).page = true)) :
    LkInv (s.modCell n (fun c => { c with flags := g c.flags })) B :=
  (LkKeeps.modCell s n (fun c => { c with flags := g c.flags }) (fun c => ⟨rfl, rfl, rfl, rfl, (hg c.flags).1⟩)
    (fun _ => rfl) (fun c => (hg c.flags).2)).inv h

theorem li_addLru {s : State} {t : T} (hs : Shape s t) (hp : ParOk s t 0) (stems : LRU) (hne : stems ≠ [])
    (flag : Bool) :
    ∃ t', Ext s t (s.addLru stems flag).1 t' ∧ ParOk (s.addLru stems flag).1 t' 0 ∧
      (stems, (s.addLru stems flag).2.1) ∈ t'.entries (s.addLru stems flag).1 [] :=
  have ⟨t', gr, hp', hent⟩ := addLru_parOk hs hp stems hne flag
  ⟨t', ⟨gr.shape, gr.size, gr.keep⟩, hp', hent⟩

theorem lkKeeps_addLru (s : State) (stems : LRU) (flag : Bool) : LkKeeps s (s.addLru stems flag).1 := by
  cases stems with
  | nil => rw [addLru_nil]; exact LkKeeps.refl s
  | cons x r =>
    refine .of (links_addLru s _ flag) fun t hs hp => ?_
    obtain ⟨t', ex, hp', _⟩ := li_addLru hs hp (x :: r) (List.cons_ne_nil x r) flag
    have hle := (addLru_le s (x :: r) flag hs.live (List.cons_ne_nil x r)).1
    exact ⟨t', ex, hp', fun b hb hpg => (hle.page_persists b hb hpg).1⟩

theorem LkOk.appendStub {s : State} {t : T} (hk : LkOk s t []) (b : Stub) (hb : PageEntry s t b.target) :
    LkOk (s.appendStub b).1 t [] := by
  have e : (s.appendStub b).1.trie = s.trie := rfl
  have hc := cell_of_trie_eq e
  have mono : ∀ n, PageEntry s t n → PageEntry (s.appendStub b).1 t n := by
    rintro n ⟨p, hm, hpg⟩
    exact ⟨p, by rw [(noStruct_of_trie_eq e).entries]; exact hm, by rw [hc]; exact hpg⟩
  refine ⟨hk.par.of_parent_eq (fun a => by rw [hc]), fun i st hi hst => ?_, fun _ hn => nomatch hn⟩
  rw [links_appendStub, Array.getElem?_push] at hst
  split at hst
  · cases hst
    exact mono _ hb
  · exact mono _ (hk.tgt i st hi hst)

theorem lkOk_addStubsGo {t : T} : ∀ (targets : List Nat) (s : State) (tail : Nat), LkOk s t [] →
    (∀ u ∈ targets, PageEntry s t u) → LkOk (s.addStubsGo tail targets).1 t []
  | [], _, _, hk, _ => hk
  | u :: ts, s, tail, hk, hB => by
    simp only [addStubsGo]
    refine lkOk_addStubsGo ts _ _ (hk.appendStub { target := u, prev := tail } (hB u (List.mem_cons_self ..)))
      fun v hv => ?_
    obtain ⟨p, hm, hpg⟩ := hB v (List.mem_cons_of_mem _ hv)
    exact ⟨p, by rw [(noStruct_of_trie_eq (s := s) (trie_appendStub s _)).entries]; exact hm, hpg⟩

theorem lkKeeps_addStubsGo (targets : List Nat) (s : State) (tail : Nat)
    (hB : ∀ t, Shape s t → ∀ u ∈ targets, PageEntry s t u) : LkKeeps s (s.addStubsGo tail targets).1 :=
  fun t hs hk =>
    have e := addStubsGo_trie_eq targets s tail
    ⟨t, (noStruct_of_trie_eq e).ext hs, lkOk_addStubsGo targets s tail hk (hB t hs),
      fun b _ hb => by rw [cell_of_trie_eq e]; exact hb⟩

theorem lkKeeps_addStubs (s : State) (page : Nat) (targets : List Nat) (out : Bool)
    (hB : ∀ t, Shape s t → ∀ u ∈ targets, PageEntry s t u) : LkKeeps s (s.addStubs page targets out) := by
  unfold addStubs
  split
  · exact LkKeeps.refl s
  · refine (lkKeeps_addStubsGo targets s _ hB).trans (LkKeeps.modCell _ page _ ?_ ?_ ?_)
    · intro c; split <;> exact ⟨rfl, rfl, rfl, rfl, rfl⟩
    · intro c; split <;> rfl
    · intro c hp; split <;> exact hp

def LkKnown (x : Answered) (s : State) : Prop :=
  x.stems ≠ [] → ∀ t, Shape s t →
    (x.stems, x.node) ∈ t.entries s [] ∧ (x.page = true → (s.cell x.node).flags.page = true)

theorem LkKnown.keeps {a b : State} {x : Answered} (hi : LkInv a []) (q : LkKnown x a) (r : LkKeeps a b) :
    LkKnown x b := fun hne t' hs' => by
  obtain ⟨t, hs, hk⟩ := hi
  obtain ⟨t1, ex, _, pg⟩ := r t hs hk
  obtain ⟨hm, hp⟩ := q hne t hs
  rw [hs'.unique ex.shape]
  exact ⟨ex.keep _ _ hm, fun h => pg _ (entry_lt hs hm) (hp h)⟩

/-- with `wf := True` both ends of every stub written are nodes of stored paths that are flagged as pages -/
theorem lk_across (k ru : Bool) : Across k ru True (LkInv · []) LkKnown LkKeeps where
  refl := LkKeeps.refl
  trans := LkKeeps.trans
  keep hi r := r.inv hi
  stable := LkKnown.keeps
  addLru s stems flag hi := ⟨lkKeeps_addLru s stems flag, fun hne t' hs' => by
    obtain ⟨t, hs, hk⟩ := hi
    obtain ⟨t1, ex, _, hent⟩ := li_addLru hs hk.par stems hne flag
    rw [hs'.unique ex.shape]
    exact ⟨hent, fun h => nomatch h⟩⟩
  lookup s stems n _ e hne t hs := ⟨(lruNode_iff_entries hs stems hne n).mp e, fun h => nomatch h⟩
  setPage s x cr hi q :=
    have r : LkKeeps s (s.modCell x.node fun c =>
        { c with flags := { c.flags with page := true, crawled := c.flags.crawled || cr } }) :=
      .modCell s x.node _ (fun _ => ⟨rfl, rfl, rfl, rfl, rfl⟩) (fun _ => rfl) (fun _ _ => rfl)
    ⟨r, fun hne t' hs' => by
      refine ⟨((q.keeps hi r) hne t' hs').1, fun _ => ?_⟩
      obtain ⟨t, hs, _⟩ := hi
      rw [cell_modCell, if_pos ⟨rfl, entry_lt hs (q hne t hs).1⟩]⟩
  isPage _ _ _ q hp hne t hs := ⟨(q hne t hs).1, fun _ => hp⟩
  setCrawled s x _ _ := .modCell s x.node _ (fun _ => ⟨rfl, rfl, rfl, rfl, rfl⟩) (fun _ => rfl) (fun _ h => h)
  setRule _ s x _ _ _ := .modCell s x.node _ (fun _ => ⟨rfl, rfl, rfl, rfl, rfl⟩) (fun _ => rfl) (fun _ h => h)
  setWe s x _ _ _ _ := .modCell s x.node _ (fun _ => ⟨rfl, rfl, rfl, rfl, rfl⟩) (fun _ => rfl) (fun _ h => h)
  genId _ _ := .of_trie_eq rfl rfl
  addStubs _ s page targets out _ ht := lkKeeps_addStubs s page targets out fun t hs u hu => by
    obtain ⟨x, q, e, hp, hne⟩ := ht u (List.mem_cons_of_mem _ hu)
    obtain ⟨hm, hpg⟩ := q (hne trivial) t hs
    exact e ▸ ⟨x.stems, hm, hpg hp⟩
  ram _ _ _ _ _ := .of_trie_eq rfl rfl

theorem li_installRules {B : List Nat} (rules : List (Bytes × Rule)) (s : State) (w : Bool) (h : LkInv s B) :
    LkInv (installRules s rules w).1 B :=
  have h0 : LkInv s [] := let ⟨t, hs, hk⟩ := h; ⟨t, hs, hk.par, hk.tgt, fun _ hn => nomatch hn⟩
  LkKeeps.inv ((built_installRules rules w (.refl (k := false) (wf := True) s)).across (lk_across _ _) h0) h

theorem li_fresh (cfg : Config) (dflt : Rule) (rules : List (Bytes × Rule)) (log : List Write) :
    LkInv (State.fresh cfg dflt rules log).1 [] := by
  unfold fresh
  exact li_installRules rules _ true (li_init _ rfl rfl)

theorem li_clear (s : State) (dflt : Option Rule) (rules : Option (List (Bytes × Rule))) :
    LkInv (s.clear dflt rules).1 [] := by
  unfold clear
  simp only
  split
  · exact li_init _ rfl rfl
  · exact li_installRules _ _ true (li_init _ rfl rfl)

theorem OpWf.wf {op : Op} (h : OpWf op) : op.WF := by
  cases op with
  | addLinks ls => exact h
  | batch d => exact h
  | _ => exact trivial

theorem li_step (s : State) (op : Op) (hwf : OpWf op) (h : LkInv s []) : LkInv (s.step op).1 [] := by
  by_cases hc : ∃ d rs, op = .clear d rs
  · obtain ⟨d, rs, rfl⟩ := hc
    simp only [step_clear]; exact li_clear s d rs
  · have ⟨_, b⟩ := built_step (k := true) (ru := true) (wf := True) s op (fun d rs e => hc ⟨d, rs, e⟩)
      (fun _ => hwf.wf) (fun _ => rfl) (fun _ => rfl)
    exact (b.across (lk_across _ _) h).1.inv h

theorem li_run : ∀ (ops : List Op) (s : State), (∀ op ∈ ops, OpWf op) → LkInv s [] → LkInv (s.run ops) []
  | [], _, _, h => h
  | op :: ops, s, hwf, h =>
    li_run ops (s.step op).1 (fun o ho => hwf o (by simp [ho])) (li_step s op (hwf op (by simp)) h)

end Traph

section
open Traph
#print axioms li_shape_unique
#print axioms li_step
end
