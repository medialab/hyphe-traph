import Traph.Helpers
/-! Pagination, API level: the state-free core shared by `paginate_webentity_pages` and
    `paginate_webentity_pagelinks`.

    Both requests walk a sequence of items (prefix after prefix, each prefix in order), count the items
    that *bear* output, remember the position of the last item that *marks* a resume point, and stop in
    front of the `(k+1)`-th bearing item.  `gRun` is that loop; `Segs` is the decomposition of a sequence
    into the segments answered call after call; `Episode` is the sequence of answers obtained by feeding
    every token back; `episode_of_segs` turns a decomposition into an episode, given that the request
    called with the token of an item runs the loop on the items after it; `episode_summary` is what both
    requests' theorems are read off. -/
namespace Traph
namespace Pag

/-- the loop's accumulator: items counted so far, their output, prefix index and path number of the last resume point -/
structure GAcc (β : Type) where
  n : Nat := 0
  out : List β := []
  lastI : Option Nat := none
  lastPath : Option Nat := none

/-- how a loop reads an item: its token coordinates, whether it records a resume point, whether it is
    counted (and then contributes `out`) -/
structure Cls (X β : Type) where
  idx : X → Nat
  path : X → Nat
  mark : X → Bool
  bear : X → Bool
  out : X → List β

variable {X β : Type} (C : Cls X β)

def Cls.cnt (xs : List X) : Nat := (xs.filter C.bear).length
def Cls.outs (xs : List X) : List β := (xs.filter C.bear).flatMap C.out

@[simp] theorem Cls.cnt_nil : C.cnt [] = 0 := rfl
@[simp] theorem Cls.outs_nil : C.outs [] = [] := rfl

theorem Cls.cnt_cons (x : X) (xs : List X) : C.cnt (x :: xs) = (if C.bear x then 1 else 0) + C.cnt xs := by
  unfold Cls.cnt
  by_cases h : C.bear x = true
  · simp [h]; omega
  · simp [h]

theorem Cls.outs_cons (x : X) (xs : List X) :
    C.outs (x :: xs) = (if C.bear x then C.out x else []) ++ C.outs xs := by
  unfold Cls.outs
  by_cases h : C.bear x = true
  · simp [h]
  · simp [h]

theorem Cls.cnt_append (xs ys : List X) : C.cnt (xs ++ ys) = C.cnt xs + C.cnt ys := by
  unfold Cls.cnt; rw [List.filter_append, List.length_append]

theorem Cls.outs_append (xs ys : List X) : C.outs (xs ++ ys) = C.outs xs ++ C.outs ys := by
  unfold Cls.outs; rw [List.filter_append, List.flatMap_append]

theorem Cls.outs_eq_flatMap (f : X → List β) (h : ∀ x, (if C.bear x then C.out x else []) = f x) :
    ∀ (xs : List X), C.outs xs = xs.flatMap f
  | [] => rfl
  | x :: xs => by rw [Cls.outs_cons, List.flatMap_cons, h, Cls.outs_eq_flatMap f h xs]

theorem Cls.cnt_le_length (xs : List X) : C.cnt xs ≤ xs.length := List.length_filter_le _ _

theorem outs_flatten : ∀ (segs : List (List X)), C.outs segs.flatten = segs.flatMap C.outs
  | [] => rfl
  | l :: ls => by rw [List.flatten_cons, Cls.outs_append, List.flatMap_cons, outs_flatten ls]

def gStep (acc : GAcc β) (x : X) : GAcc β :=
  if C.bear x then
    { n := acc.n + 1, out := acc.out ++ C.out x, lastI := some (C.idx x), lastPath := some (C.path x) }
  else if C.mark x then { acc with lastI := some (C.idx x), lastPath := some (C.path x) }
  else acc

def gFold (xs : List X) (acc : GAcc β) : GAcc β := xs.foldl (gStep C) acc

/-- the loop with limit `k`: `(true, acc)` = stopped in front of the `(k+1)`-th counted item with the
    accumulators `acc`; `(false, acc)` = ran to the end -/
def gRun (k : Nat) : List X → GAcc β → Bool × GAcc β
  | [], acc => (false, acc)
  | x :: rest, acc =>
    if C.bear x && decide (acc.n + 1 > k) then (true, acc) else gRun k rest (gStep C acc x)

theorem gRun_cons_stop (k : Nat) (x : X) (rest : List X) (acc : GAcc β) (hb : C.bear x = true)
    (hk : acc.n + 1 > k) : gRun C k (x :: rest) acc = (true, acc) := by
  have : (C.bear x && decide (acc.n + 1 > k)) = true := by simp [hb, hk]
  rw [gRun, this]; rfl

theorem gRun_cons_go (k : Nat) (x : X) (rest : List X) (acc : GAcc β)
    (h : C.bear x = false ∨ ¬ acc.n + 1 > k) : gRun C k (x :: rest) acc = gRun C k rest (gStep C acc x) := by
  have : (C.bear x && decide (acc.n + 1 > k)) = false := by
    rcases h with h | h
    · simp [h]
    · simp [h]
  rw [gRun, this]; rfl

theorem gStep_bear (acc : GAcc β) (x : X) (hb : C.bear x = true) :
    gStep C acc x
      = { n := acc.n + 1, out := acc.out ++ C.out x, lastI := some (C.idx x), lastPath := some (C.path x) } := by
  simp [gStep, hb]

theorem gStep_mark (acc : GAcc β) (x : X) (hb : C.bear x = false) (hm : C.mark x = true) :
    gStep C acc x = { acc with lastI := some (C.idx x), lastPath := some (C.path x) } := by
  simp [gStep, hb, hm]

theorem gStep_skip (acc : GAcc β) (x : X) (hb : C.bear x = false) (hm : C.mark x = false) :
    gStep C acc x = acc := by
  simp [gStep, hb, hm]

theorem gFold_nil (acc : GAcc β) : gFold C [] acc = acc := rfl
theorem gFold_cons (x : X) (xs : List X) (acc : GAcc β) : gFold C (x :: xs) acc = gFold C xs (gStep C acc x) := rfl
theorem gFold_append (xs ys : List X) (acc : GAcc β) : gFold C (xs ++ ys) acc = gFold C ys (gFold C xs acc) := by
  unfold gFold; rw [List.foldl_append]

theorem gStep_n (acc : GAcc β) (x : X) : (gStep C acc x).n = acc.n + (if C.bear x then 1 else 0) := by
  unfold gStep
  by_cases h : C.bear x = true
  · simp [h]
  · by_cases h2 : C.mark x = true <;> simp [h, h2]

theorem gStep_out (acc : GAcc β) (x : X) :
    (gStep C acc x).out = acc.out ++ (if C.bear x then C.out x else []) := by
  unfold gStep
  by_cases h : C.bear x = true
  · simp [h]
  · by_cases h2 : C.mark x = true <;> simp [h, h2]

theorem gFold_n : ∀ (xs : List X) (acc : GAcc β), (gFold C xs acc).n = acc.n + C.cnt xs
  | [], acc => by simp [gFold_nil]
  | x :: xs, acc => by
    rw [gFold_cons, gFold_n xs, gStep_n, Cls.cnt_cons]; omega

theorem gFold_out : ∀ (xs : List X) (acc : GAcc β), (gFold C xs acc).out = acc.out ++ C.outs xs
  | [], acc => by simp [gFold_nil]
  | x :: xs, acc => by
    rw [gFold_cons, gFold_out xs, gStep_out, Cls.outs_cons, List.append_assoc]

theorem gFold_skip : ∀ (zs : List X) (acc : GAcc β),
    (∀ x ∈ zs, C.mark x = false ∧ C.bear x = false) → gFold C zs acc = acc
  | [], _, _ => rfl
  | z :: zs, acc, h => by
    obtain ⟨h1, h2⟩ := h z (by simp)
    rw [gFold_cons]
    have : gStep C acc z = acc := by simp [gStep, h1, h2]
    rw [this]
    exact gFold_skip zs acc (fun x hx => h x (by simp [hx]))

theorem gFold_last (ys zs : List X) (z : X) (acc : GAcc β) (hz : C.mark z = true ∨ C.bear z = true)
    (hzs : ∀ x ∈ zs, C.mark x = false ∧ C.bear x = false) :
    (gFold C (ys ++ z :: zs) acc).lastI = some (C.idx z) ∧
    (gFold C (ys ++ z :: zs) acc).lastPath = some (C.path z) := by
  rw [gFold_append, gFold_cons, gFold_skip C zs _ hzs]
  unfold gStep
  by_cases h : C.bear z = true
  · simp [h]
  · have h2 : C.mark z = true := by
      rcases hz with hz | hz
      · exact hz
      · exact absurd hz h
    simp [h, h2]

theorem gRun_append (k : Nat) : ∀ (xs ys : List X) (acc : GAcc β), acc.n + C.cnt xs ≤ k →
    gRun C k (xs ++ ys) acc = gRun C k ys (gFold C xs acc)
  | [], _, _, _ => rfl
  | x :: xs, ys, acc, h => by
    rw [Cls.cnt_cons] at h
    rw [List.cons_append, gFold_cons, gRun_cons_go C k x _ acc (by
      cases hb : C.bear x with
      | false => exact Or.inl rfl
      | true =>
        rw [hb, if_pos rfl, ← Nat.add_assoc] at h
        exact Or.inr (Nat.not_lt.mpr (Nat.le_trans (Nat.le_add_right _ _) h)))]
    apply gRun_append k xs ys
    rw [gStep_n, Nat.add_assoc]; exact h

theorem gRun_all (k : Nat) (xs : List X) (acc : GAcc β) (h : acc.n + C.cnt xs ≤ k) :
    gRun C k xs acc = (false, gFold C xs acc) := by
  have := gRun_append C k xs [] acc h
  rw [List.append_nil] at this
  rw [this]; rfl

theorem gRun_stop (k : Nat) (xs ys : List X) (b : X) (acc : GAcc β) (h : acc.n + C.cnt xs = k)
    (hb : C.bear b = true) : gRun C k (xs ++ b :: ys) acc = (true, gFold C xs acc) := by
  rw [gRun_append C k xs _ acc (by omega), gRun]
  have : (C.bear b && decide ((gFold C xs acc).n + 1 > k)) = true := by
    rw [gFold_n]; simp [hb]; omega
  rw [this]; rfl

theorem split_count : ∀ (k : Nat) (xs : List X), k < C.cnt xs →
    ∃ x1 b x2, xs = x1 ++ b :: x2 ∧ C.bear b = true ∧ C.cnt x1 = k
  | _, [], h => absurd h (Nat.not_lt_zero _)
  | k, x :: xs, h => by
    rw [Cls.cnt_cons] at h
    by_cases hb : C.bear x = true
    · rw [if_pos hb] at h
      cases k with
      | zero => exact ⟨[], x, xs, rfl, hb, rfl⟩
      | succ k =>
        obtain ⟨x1, b, x2, e, h1, h2⟩ := split_count k xs (Nat.lt_of_add_lt_add_left (Nat.add_comm k 1 ▸ h))
        exact ⟨x :: x1, b, x2, by rw [e]; rfl, h1, by rw [Cls.cnt_cons, if_pos hb, h2, Nat.add_comm]⟩
    · rw [if_neg hb, Nat.zero_add] at h
      obtain ⟨x1, b, x2, e, h1, h2⟩ := split_count k xs h
      exact ⟨x :: x1, b, x2, by rw [e]; rfl, h1, by rw [Cls.cnt_cons, if_neg hb, h2, Nat.zero_add]⟩

theorem Cls.cnt_eq_zero {xs : List X} (h : ∀ x ∈ xs, C.bear x = false) : C.cnt xs = 0 := by
  unfold Cls.cnt
  rw [List.length_eq_zero_iff, List.filter_eq_nil_iff]
  intro y hy; rw [h y hy]; exact Bool.false_ne_true

theorem last_mark_or : ∀ (xs : List X), (∀ x ∈ xs, C.mark x = false ∧ C.bear x = false) ∨
    ∃ ys z zs, xs = ys ++ z :: zs ∧ (C.mark z = true ∨ C.bear z = true) ∧
      ∀ x ∈ zs, C.mark x = false ∧ C.bear x = false
  | [] => Or.inl fun _ h => nomatch h
  | x :: xs => by
    rcases last_mark_or xs with hall | ⟨ys, z, zs, e, hz, hzs⟩
    · cases hm : C.mark x with
      | true => exact Or.inr ⟨[], x, xs, rfl, Or.inl hm, hall⟩
      | false =>
        cases hb : C.bear x with
        | true => exact Or.inr ⟨[], x, xs, rfl, Or.inr hb, hall⟩
        | false =>
          refine Or.inl fun y hy => ?_
          rcases List.mem_cons.mp hy with rfl | hy
          · exact ⟨hm, hb⟩
          · exact hall y hy
    · exact Or.inr ⟨x :: ys, z, zs, by rw [e]; rfl, hz, hzs⟩

/-- `Segs k xs segs`: `segs` cuts `xs` into consecutive segments, each but the last holding exactly `k`
    counted items and followed by a counted item; the last holds at most `k` -/
inductive Segs (k : Nat) : List X → List (List X) → Prop
  | last (xs : List X) : C.cnt xs ≤ k → Segs k xs [xs]
  | more (x1 : List X) (b : X) (x2 : List X) (segs : List (List X)) :
      C.cnt x1 = k → C.bear b = true → Segs k (b :: x2) segs → Segs k (x1 ++ b :: x2) (x1 :: segs)

theorem segs_exists (k : Nat) (hk : 1 ≤ k) : ∀ (n : Nat) (xs : List X), xs.length ≤ n → ∃ segs, Segs C k xs segs := by
  intro n
  induction n with
  | zero =>
    intro xs h
    rw [List.eq_nil_of_length_eq_zero (Nat.le_zero.mp h)]
    exact ⟨[[]], Segs.last [] (Nat.zero_le _)⟩
  | succ n ih =>
    intro xs h
    by_cases hc : C.cnt xs ≤ k
    · exact ⟨[xs], Segs.last xs hc⟩
    · obtain ⟨x1, b, x2, e, hb, h1⟩ := split_count C k xs (Nat.lt_of_not_le hc)
      -- the first segment is not empty, so what is left is shorter
      have hlen : 1 ≤ x1.length := Nat.le_trans (h1 ▸ hk) (C.cnt_le_length x1)
      have : (b :: x2).length ≤ n := by
        refine Nat.le_of_succ_le_succ (Nat.le_trans (Nat.add_le_add_left hlen _) ?_)
        rw [Nat.add_comm, ← List.length_append, ← e]; exact h
      obtain ⟨segs, hs⟩ := ih (b :: x2) this
      exact ⟨x1 :: segs, e ▸ Segs.more x1 b x2 segs h1 hb hs⟩

theorem Segs.flatten {k : Nat} {xs : List X} {segs : List (List X)} (h : Segs C k xs segs) : segs.flatten = xs := by
  induction h with
  | last xs _ => simp
  | more x1 b x2 segs _ _ _ ih => rw [List.flatten_cons, ih]

theorem Segs.ne_nil {k : Nat} {xs : List X} {segs : List (List X)} (h : Segs C k xs segs) : segs ≠ [] := by
  cases h <;> simp

theorem Segs.counts {k : Nat} {xs : List X} {segs : List (List X)} (h : Segs C k xs segs) :
    (∀ seg ∈ segs.dropLast, C.cnt seg = k) ∧
    (∃ l, segs.getLast? = some l ∧ C.cnt l ≤ k ∧ (1 < segs.length → 1 ≤ C.cnt l)) ∧
    C.cnt xs = (segs.length - 1) * k + (match segs.getLast? with | some l => C.cnt l | none => 0) := by
  induction h with
  | last xs hc => exact ⟨by simp, ⟨xs, rfl, hc, by simp⟩, by simp⟩
  | more x1 b x2 segs h1 hb hs ih =>
    obtain ⟨i1, ⟨l, hl, hl1, hl2⟩, i3⟩ := ih
    have hne := hs.ne_nil
    obtain ⟨s0, rest, e⟩ := List.exists_cons_of_ne_nil hne
    refine ⟨?_, ⟨l, ?_, hl1, ?_⟩, ?_⟩
    · intro seg hseg
      rw [e, List.dropLast_cons_cons] at hseg
      rcases List.mem_cons.mp hseg with rfl | hseg
      · exact h1
      · exact i1 seg (by rw [e]; exact hseg)
    · rw [e, List.getLast?_cons_cons, ← e]; exact hl
    · intro _
      by_cases hlen : 1 < segs.length
      · exact hl2 hlen
      · -- the only remaining segment starts with a counted item
        have hrest : rest = [] := by
          rw [e] at hlen; simp only [List.length_cons] at hlen
          exact List.length_eq_zero_iff.mp (by omega)
        subst hrest
        rw [e] at hl hs
        simp only [List.getLast?_singleton, Option.some.injEq] at hl
        subst hl
        have hfl := hs.flatten
        simp only [List.flatten_cons, List.flatten_nil, List.append_nil] at hfl
        rw [hfl, Cls.cnt_cons]; simp [hb]
    · rw [Cls.cnt_append, h1, i3]
      have e2 : (x1 :: segs).getLast? = segs.getLast? := by
        rw [e, List.getLast?_cons_cons]
      rw [e2]
      have : (x1 :: segs).length - 1 = (segs.length - 1) + 1 := by
        rw [e]; simp
      rw [this, Nat.add_mul]; omega

theorem Segs.length_le {k : Nat} (hk : 1 ≤ k) {xs : List X} {segs : List (List X)} (h : Segs C k xs segs) :
    segs.length ≤ C.cnt xs / k + 1 := by
  obtain ⟨_, _, h3⟩ := h.counts
  have : (segs.length - 1) * k ≤ C.cnt xs := by omega
  have := (Nat.le_div_iff_mul_le (by omega : 0 < k)).mpr this
  omega

/-- unless there is a single segment, the full segments do not exhaust the counted items: no empty
    final answer after a full one -/
theorem Segs.length_tight {k : Nat} {xs : List X} {segs : List (List X)} (h : Segs C k xs segs) :
    segs.length = 1 ∨ (segs.length - 1) * k < C.cnt xs := by
  obtain ⟨_, ⟨l, hl, _, hl2⟩, h3⟩ := h.counts
  by_cases h1 : 1 < segs.length
  · right
    rw [hl] at h3
    have := hl2 h1
    simp only at h3
    omega
  · left
    have := h.ne_nil
    have : 0 < segs.length := List.length_pos_iff.mpr this
    omega

inductive Forall2 {α γ : Type} (R : α → γ → Prop) : List α → List γ → Prop
  | nil : Forall2 R [] []
  | cons {a : α} {c : γ} {as : List α} {cs : List γ} : R a c → Forall2 R as cs → Forall2 R (a :: as) (c :: cs)

theorem Forall2.length_eq {α γ : Type} {R : α → γ → Prop} {as : List α} {cs : List γ} (h : Forall2 R as cs) :
    as.length = cs.length := by
  induction h with
  | nil => rfl
  | cons _ _ ih => simp [ih]

theorem Forall2.imp {α γ : Type} {R R' : α → γ → Prop} {as : List α} {cs : List γ} (h : Forall2 R as cs)
    (hi : ∀ a c, R a c → R' a c) : Forall2 R' as cs := by
  induction h with
  | nil => exact Forall2.nil
  | cons h1 _ ih => exact Forall2.cons (hi _ _ h1) ih

theorem Forall2.flatMap_eq {α γ δ : Type} {R : α → γ → Prop} {as : List α} {cs : List γ} (h : Forall2 R as cs)
    (f : α → List δ) (g : γ → List δ) (hfg : ∀ a c, R a c → f a = g c) : as.flatMap f = cs.flatMap g := by
  induction h with
  | nil => rfl
  | cons h1 _ ih => rw [List.flatMap_cons, List.flatMap_cons, hfg _ _ h1, ih]

theorem Forall2.map_eq {α γ δ : Type} {R : α → γ → Prop} {as : List α} {cs : List γ} (h : Forall2 R as cs)
    (f : α → δ) (g : γ → δ) (hfg : ∀ a c, R a c → f a = g c) : as.map f = cs.map g := by
  induction h with
  | nil => rfl
  | cons h1 _ ih => rw [List.map_cons, List.map_cons, hfg _ _ h1, ih]

theorem Forall2.mem_left {α γ : Type} {R : α → γ → Prop} {as : List α} {cs : List γ} (h : Forall2 R as cs) :
    ∀ a ∈ as, ∃ c ∈ cs, R a c := by
  induction h with
  | nil => intro a ha; simp at ha
  | cons h1 _ ih =>
    intro a ha
    rcases List.mem_cons.mp ha with rfl | ha
    · exact ⟨_, by simp, h1⟩
    · obtain ⟨c, hc, hr⟩ := ih a ha
      exact ⟨c, by simp [hc], hr⟩

theorem Forall2.dropLast {α γ : Type} {R : α → γ → Prop} {as : List α} {cs : List γ} (h : Forall2 R as cs) :
    Forall2 R as.dropLast cs.dropLast := by
  induction h with
  | nil => exact Forall2.nil
  | cons h1 h2 ih =>
    cases h2 with
    | nil => exact Forall2.nil
    | cons g1 g2 =>
      rw [List.dropLast_cons_cons, List.dropLast_cons_cons]
      exact Forall2.cons h1 ih

theorem Forall2.getLast? {α γ : Type} {R : α → γ → Prop} {as : List α} {cs : List γ} (h : Forall2 R as cs)
    {a : α} (ha : as.getLast? = some a) : ∃ c, cs.getLast? = some c ∧ R a c := by
  induction h with
  | nil => simp at ha
  | cons h1 h2 ih =>
    cases h2 with
    | nil =>
      simp only [List.getLast?_singleton, Option.some.injEq] at ha
      subst ha
      exact ⟨_, by simp, h1⟩
    | cons g1 g2 =>
      rw [List.getLast?_cons_cons] at ha ⊢
      exact ih ha

theorem Forall2.map_right {α γ δ : Type} {R : α → δ → Prop} (f : γ → δ) {as : List α} {cs : List γ}
    (h : Forall2 (fun a c => R a (f c)) as cs) : Forall2 R as (cs.map f) := by
  induction h with
  | nil => exact Forall2.nil
  | cons h1 _ ih => exact Forall2.cons h1 ih

theorem gFold_last_mem (xs : List X) (acc : GAcc β) :
    ((gFold C xs acc).lastI = acc.lastI ∧ (gFold C xs acc).lastPath = acc.lastPath) ∨
    ∃ z ∈ xs, (gFold C xs acc).lastI = some (C.idx z) ∧ (gFold C xs acc).lastPath = some (C.path z) ∧
      (C.mark z = true ∨ C.bear z = true) := by
  rcases last_mark_or C xs with hall | ⟨ys, z, zs, rfl, hz, hzs⟩
  · rw [gFold_skip C xs acc hall]; exact Or.inl ⟨rfl, rfl⟩
  · obtain ⟨l1, l2⟩ := gFold_last C ys zs z acc hz hzs
    exact Or.inr ⟨z, List.mem_append_right _ List.mem_cons_self, l1, l2, hz⟩

section episode
variable {Ch : Type} (call : Option Bytes → Except Err Ch) (done : Ch → Bool) (token : Ch → Option Bytes)

/-- `Episode call done token tok chunks`: calling with `tok`, then with the token of every answer in turn,
    never fails and yields the answers `chunks`, the last of which (and only it) says done -/
inductive Episode : Option Bytes → List Ch → Prop
  | last {tok : Option Bytes} {ch : Ch} : call tok = .ok ch → done ch = true → token ch = none →
      Episode tok [ch]
  | more {tok : Option Bytes} {ch : Ch} {t : Bytes} {rest : List Ch} : call tok = .ok ch → done ch = false →
      token ch = some t → Episode (some t) rest → Episode tok (ch :: rest)

/-- the executable reading: iterate at most `fuel` calls; `none` = an error or out of fuel -/
def runEpisode : Nat → Option Bytes → Option (List Ch)
  | 0, _ => none
  | fuel + 1, tok =>
    match call tok with
    | .error _ => none
    | .ok ch =>
      if done ch then some [ch] else
      match token ch with
      | none => none
      | some t => (runEpisode fuel (some t)).map (ch :: ·)

variable {call done token}

theorem Episode.det {tok : Option Bytes} {a b : List Ch} (ha : Episode call done token tok a)
    (hb : Episode call done token tok b) : a = b := by
  induction ha generalizing b with
  | last h1 h2 h3 =>
    cases hb with
    | last g1 _ _ => rw [h1] at g1; cases g1; rfl
    | more g1 g2 _ _ => rw [h1] at g1; cases g1; rw [h2] at g2; cases g2
  | more h1 h2 h3 _ ih =>
    cases hb with
    | last g1 g2 _ => rw [h1] at g1; cases g1; rw [h2] at g2; cases g2
    | more g1 _ g3 g4 =>
      rw [h1] at g1; cases g1
      rw [h3] at g3; cases g3
      rw [ih g4]

theorem Episode.ne_nil {tok : Option Bytes} {a : List Ch} (ha : Episode call done token tok a) : a ≠ [] := by
  cases ha <;> simp

theorem Episode.flags {tok : Option Bytes} {a : List Ch} (ha : Episode call done token tok a) :
    (∀ ch ∈ a.dropLast, done ch = false ∧ (token ch).isSome = true) ∧
    ∃ l, a.getLast? = some l ∧ done l = true ∧ token l = none := by
  induction ha with
  | last h1 h2 h3 => exact ⟨by simp, _, rfl, h2, h3⟩
  | more h1 h2 h3 h4 ih =>
    obtain ⟨i1, l, hl, i2⟩ := ih
    obtain ⟨s0, rest, e⟩ := List.exists_cons_of_ne_nil h4.ne_nil
    refine ⟨?_, l, ?_, i2⟩
    · intro ch hch
      rw [e, List.dropLast_cons_cons] at hch
      rcases List.mem_cons.mp hch with rfl | hch
      · exact ⟨h2, by rw [h3]; rfl⟩
      · exact i1 ch (by rw [e]; exact hch)
    · rw [e, List.getLast?_cons_cons, ← e]; exact hl

theorem Episode.run {tok : Option Bytes} {a : List Ch} (ha : Episode call done token tok a) :
    ∀ fuel, a.length ≤ fuel → runEpisode call done token fuel tok = some a := by
  induction ha with
  | last h1 h2 h3 =>
    intro fuel hf
    cases fuel with
    | zero => simp at hf
    | succ f => simp [runEpisode, h1, h2]
  | more h1 h2 h3 h4 ih =>
    intro fuel hf
    cases fuel with
    | zero => simp at hf
    | succ f =>
      simp only [List.length_cons] at hf
      simp [runEpisode, h1, h2, h3, ih f (by omega)]

/-- how an answer is assembled from the outcome of the loop -/
structure MkOk (mk : Bool × GAcc β → Except Err Ch) (done : Ch → Bool) (token : Ch → Option Bytes) : Prop where
  stop : ∀ (acc : GAcc β) (i p : Nat), acc.lastI = some i → acc.lastPath = some p →
    ∃ ch, mk (true, acc) = .ok ch ∧ done ch = false ∧ token ch = some (buildToken i p)
  fin : ∀ (acc : GAcc β), ∃ ch, mk (false, acc) = .ok ch ∧ done ch = true ∧ token ch = none
  tok : ∀ (st : Bool) (acc : GAcc β) (ch : Ch) (t : Bytes), mk (st, acc) = .ok ch → token ch = some t →
    ∃ i p, acc.lastI = some i ∧ acc.lastPath = some p ∧ t = buildToken i p

/-- from a decomposition to an episode: if calling with the token of any item of the whole walk `G` runs
    the loop on the items after it, then every decomposition of a tail of `G` is answered segment by
    segment (`zs0` = items, neither counted nor marking, lying between the resume point and the tail) -/
theorem episode_of_segs {mk : Bool × GAcc β → Except Err Ch} (hmk : MkOk mk done token)
    (G : List X) (k : Nat) (hk : 1 ≤ k)
    (hres : ∀ pre x post, G = pre ++ x :: post →
      call (some (buildToken (C.idx x) (C.path x))) = mk (gRun C k post {})) :
    ∀ (xs : List X) (segs : List (List X)), Segs C k xs segs →
      ∀ (tok : Option Bytes) (zs0 : List X), (∀ x ∈ zs0, C.mark x = false ∧ C.bear x = false) →
        call tok = mk (gRun C k (zs0 ++ xs) {}) → (∃ pre, G = pre ++ (zs0 ++ xs)) →
        ∃ chunks, Episode call done token tok chunks ∧
          Forall2 (fun ch seg => ∃ st, mk (st, gFold C seg {}) = .ok ch) chunks segs := by
  intro xs segs hs
  induction hs with
  | last xs hc =>
    intro tok zs0 hz hcall _
    have hrun : gRun C k (zs0 ++ xs) {} = (false, gFold C xs {}) := by
      rw [gRun_all C k _ _ (by
        rw [Cls.cnt_append, C.cnt_eq_zero fun y hy => (hz y hy).2, GAcc.n, Nat.zero_add, Nat.zero_add]
        exact hc)]
      rw [gFold_append, gFold_skip C zs0 _ hz]
    rw [hrun] at hcall
    obtain ⟨ch, h1, h2, h3⟩ := hmk.fin (gFold C xs {})
    exact ⟨[ch], Episode.last (hcall.trans h1) h2 h3, Forall2.cons ⟨false, h1⟩ Forall2.nil⟩
  | more x1 b x2 segs h1 hb hs ih =>
    intro tok zs0 hz hcall hpre
    have hz0 : C.cnt zs0 = 0 := C.cnt_eq_zero fun y hy => (hz y hy).2
    have hrun : gRun C k (zs0 ++ (x1 ++ b :: x2)) {} = (true, gFold C x1 {}) := by
      rw [← List.append_assoc, gRun_stop C k (zs0 ++ x1) x2 b {} (by rw [Cls.cnt_append]; simp [hz0, h1]) hb]
      rw [gFold_append, gFold_skip C zs0 _ hz]
    rw [hrun] at hcall
    obtain ⟨ys, z, zs, e, hzm, hzs⟩ := (last_mark_or C x1).resolve_left fun hall => by
      rw [C.cnt_eq_zero fun y hy => (hall y hy).2] at h1; omega
    obtain ⟨l1, l2⟩ := gFold_last C ys zs z {} hzm hzs
    rw [← e] at l1 l2
    obtain ⟨ch, c1, c2, c3⟩ := hmk.stop (gFold C x1 {}) _ _ l1 l2
    obtain ⟨pre, hG⟩ := hpre
    have hG' : G = (pre ++ zs0 ++ ys) ++ z :: (zs ++ b :: x2) := by
      rw [hG, e]; simp [List.append_assoc]
    have hnext := hres _ z _ hG'
    obtain ⟨chunks, he, hf⟩ := ih (some (buildToken (C.idx z) (C.path z))) zs hzs hnext
      ⟨pre ++ zs0 ++ ys ++ [z], by rw [hG']; simp [List.append_assoc]⟩
    exact ⟨ch :: chunks, Episode.more (hcall.trans c1) c2 c3 he, Forall2.cons ⟨true, c1⟩ hf⟩

/-- every token issued for a segment of a decomposition of `xs` is the token of an item of `xs` that counts or
    marks: it denotes a resume point -/
theorem issued_token {mk : Bool × GAcc β → Except Err Ch} (hmk : MkOk mk done token) {k : Nat} {xs : List X}
    {segs : List (List X)} (hs : Segs C k xs segs) {chunks : List Ch}
    (hf : Forall2 (fun ch seg => ∃ st, mk (st, gFold C seg {}) = .ok ch) chunks segs)
    {ch : Ch} (hch : ch ∈ chunks) {t : Bytes} (ht : token ch = some t) :
    ∃ pre x post, xs = pre ++ x :: post ∧ (C.mark x = true ∨ C.bear x = true) ∧
      t = buildToken (C.idx x) (C.path x) := by
  obtain ⟨seg, hseg, st, ha⟩ := hf.mem_left ch hch
  obtain ⟨i, p, h1, h2, rfl⟩ := hmk.tok st _ ch t ha ht
  rcases gFold_last_mem C seg {} with ⟨e1, _⟩ | ⟨z, hz, e1, e2, hm⟩
  · rw [e1] at h1; cases h1
  · rw [e1] at h1; rw [e2] at h2
    cases h1; cases h2
    obtain ⟨pre, post, e3⟩ := List.append_of_mem (hs.flatten C ▸ List.mem_flatten.mpr ⟨seg, hseg, hz⟩)
    exact ⟨pre, z, post, e3, hm, rfl⟩

end episode

theorem Segs.answers {k : Nat} (hk : 1 ≤ k) {xs : List X} {segs : List (List X)} (hs : Segs C k xs segs)
    {Ch : Type} {chunks : List Ch} (out : Ch → List β) (n : Ch → Nat)
    (hf : Forall2 (fun ch seg => out ch = C.outs seg ∧ n ch = C.cnt seg) chunks segs) :
    chunks.flatMap out = C.outs xs ∧ (∀ ch ∈ chunks.dropLast, n ch = k) ∧
    (∀ l, chunks.getLast? = some l → n l ≤ k) ∧ chunks.length ≤ C.cnt xs / k + 1 := by
  obtain ⟨hc1, ⟨lseg, hlseg, hlc, _⟩, _⟩ := hs.counts
  refine ⟨?_, fun ch hch => ?_, fun l hl => ?_, ?_⟩
  · rw [hf.flatMap_eq out C.outs (fun _ _ hr => hr.1), ← outs_flatten, hs.flatten]
  · obtain ⟨seg, hseg, hr⟩ := hf.dropLast.mem_left ch hch
    rw [hr.2]; exact hc1 seg hseg
  · obtain ⟨seg, hseg, hr⟩ := hf.getLast? hl
    rw [hlseg] at hseg
    cases hseg
    rw [hr.2]; exact hlc
  · rw [hf.length_eq]; exact hs.length_le C hk

/-- the episode over a tail `xs` of the walk `G`, for a request whose answers are assembled by `mk` and let the
    output and the count of their segment be read off (`out`, `n`): if the call with `tok` is the loop over `xs`,
    feeding every token back never fails; the answers are, one by one, the answers for the segments of `xs`;
    together they return the outputs of `xs`; every answer but the last counts `k`, says not done and carries a
    token; the last says done, carries none and counts at most `k`; the number of calls is bounded -/
theorem episode_summary {Ch : Type} {call : Option Bytes → Except Err Ch} {done : Ch → Bool}
    {token : Ch → Option Bytes} {mk : Bool × GAcc β → Except Err Ch} (hmk : MkOk mk done token)
    (out : Ch → List β) (n : Ch → Nat)
    (hfld : ∀ ch seg, (∃ st, mk (st, gFold C seg {}) = .ok ch) → out ch = C.outs seg ∧ n ch = C.cnt seg)
    (G : List X) (k : Nat) (hk : 1 ≤ k)
    (hres : ∀ pre x post, G = pre ++ x :: post →
      call (some (buildToken (C.idx x) (C.path x))) = mk (gRun C k post {}))
    (tok : Option Bytes) (xs : List X) (hcall : call tok = mk (gRun C k xs {})) (hpre : ∃ pre, G = pre ++ xs) :
    ∃ chunks segs, Episode call done token tok chunks ∧ Segs C k xs segs ∧
      Forall2 (fun ch seg => ∃ st, mk (st, gFold C seg {}) = .ok ch) chunks segs ∧
      chunks.flatMap out = C.outs xs ∧
      (∀ ch ∈ chunks.dropLast, done ch = false ∧ n ch = k ∧ (token ch).isSome = true) ∧
      (∃ l, chunks.getLast? = some l ∧ done l = true ∧ token l = none ∧ n l ≤ k) ∧
      chunks.length ≤ C.cnt xs / k + 1 := by
  obtain ⟨segs, hsegs⟩ := segs_exists C k hk xs.length xs (Nat.le_refl _)
  obtain ⟨chunks, hep, hf⟩ := episode_of_segs C hmk G k hk hres xs segs hsegs tok []
    (fun _ h => nomatch h) hcall hpre
  obtain ⟨a1, a2, a3, a4⟩ := hsegs.answers C hk out n (hf.imp hfld)
  obtain ⟨f1, l, hl, f2, f3⟩ := hep.flags
  exact ⟨chunks, segs, hep, hsegs, hf, a1, fun ch hch => ⟨(f1 ch hch).1, a2 ch hch, (f1 ch hch).2⟩,
    ⟨l, hl, f2, f3, a3 l hl⟩, a4⟩

end Pag
end Traph
