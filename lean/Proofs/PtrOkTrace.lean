import Proofs.PtrOkOps
import Proofs.PtrOkWalks
/-! C18, pointer safety of every cut: for every `clear`-free history of write requests (`Op.WF`) on a fresh index and every
    cut of its program-ordered write sequence, reopening either refuses (torn append) or yields a state
    that satisfies `PtrOk` — every stored pointer is inside the files, and every tail announcement is
    honoured except possibly by the one node at the very end of the trie file that was being written
    (`C18_safe`). `WalksSafe` collects what that gives the walks of the queries (their strict twins of PtrOkWalks
    read no block outside the files); `C18_safe_walks` states it of the same cuts. -/
namespace Traph
open State

theorem openCut_ptrOk (ram m : State) (hp : PtrOk m) :
    ∃ st, openCut ram m.files 0 = .ok st ∧ PtrOk st ∧ st.trie = m.trie ∧ st.links = m.links := by
  obtain ⟨d, hd⟩ := hp
  obtain ⟨st, hst, e1, e2, _⟩ := openCut_files ram m hd.live
  exact ⟨st, hst, ⟨d, hd.of_eq e1 e2⟩, e1, e2⟩

/-- from any `Whole` state with a faithful log, every cut of the writes
    of a history reopens to a `PtrOk` state below the completed history -/
theorem C18_cut_ptrOk (s0 : State) (hg : GoodLog s0) (hw : Whole s0) (ops : List Op)
    (hop : ∀ op ∈ ops, ∀ d rs, op ≠ .clear d rs) (hwf : ∀ op ∈ ops, op.WF) (ram : State) :
    let sf := s0.run ops
    ∀ k, k ≤ sf.log.length - s0.log.length →
      ∃ st, cutOpen ram sf.log.reverse (s0.log.length + k) 0 = .ok st ∧ PtrOk st ∧ st ⊑ sf := by
  intro sf k hk
  obtain ⟨ht, _⟩ := run_wt ops s0 hop hwf hw
  obtain ⟨m, hm, hle, hrep⟩ := ht.cut_state hg hw.ptrOk k hk
  obtain ⟨st, hst, hpst, e1, e2⟩ := openCut_ptrOk ram m hm
  refine ⟨st, ?_, hpst, (Le.of_eq e1.symm e2.symm).trans hle⟩
  rw [cutOpen_whole, hrep]; exact hst

/-- an increasing write after which the files, opened, satisfy the invariant. Unlike `Write.Safe` this holds of the
    two header writes on an empty folder as well: the constructor completes the headers. -/
def Write.Opens (f : Files) (w : Write) : Prop := w.Inc f ∧ PtrOk (f.apply w).opened.toState

theorem Write.Safe.opens {f : Files} {w : Write} (h : w.Safe f) : w.Opens f := by
  obtain ⟨d, hd⟩ := h.2
  exact ⟨h.1, by rw [Files.opened_live hd.live.1 hd.live.2]; exact ⟨d, hd⟩⟩

/-- C18, "TRAVERSED AND QUERIED WITHOUT FAILURE", invariant part: take any history of write requests on
    a fresh index (no `clear`; any constructor rules; link requests with LRUs of at least one stem) and cut its
    program-ordered sequence of block writes anywhere (`k` whole writes plus `j` bytes of the next).
    Reopening either refuses the folder with the library's own error (a torn append, `cutOpenE_refuses_iff`)
    or yields an index in which every stored pointer stays inside the two files (`PtrOk`), and which is
    below the completed history. -/
theorem C18_safe (cfg : Config) (dflt : Rule) (rules : List (Bytes × Rule)) (ops : List Op)
    (hop : ∀ op ∈ ops, ∀ d rs, op ≠ .clear d rs) (hwf : ∀ op ∈ ops, op.WF) (ram : State) :
    let sf := (State.fresh cfg dflt rules []).1.run ops
    ∀ k j, k ≤ sf.log.length →
      cutOpen ram sf.log.reverse k j = .error .traph ∨
      ∃ st, cutOpen ram sf.log.reverse k j = .ok st ∧ PtrOk st ∧ st ⊑ sf := by
  intro sf k j hk
  rcases cutOpen_cases ram sf.log.reverse k j with h | h
  · exact Or.inl h
  · right
    rw [h, cutOpen_whole]
    have hb : Whole (baseState cfg dflt) := whole_base cfg dflt _
    obtain ⟨⟨ws, hw⟩, _⟩ := ((wt_fresh cfg dflt rules []).trans (run_wt ops _ hop hwf)) hb
    -- the whole log, from the empty folder on: the two header writes open to the blank index
    have hlog : Logged Write.Opens sf :=
      (Logged.base (b := baseState cfg dflt) rfl rfl rfl rfl ⟨trivial, hb.ptrOk.of_eq rfl rfl⟩
        ⟨trivial, hb.ptrOk.of_eq rfl rfl⟩).writes
        (hw.imp fun _ _ => Write.Safe.opens)
    obtain ⟨st, hst, hf, _⟩ := openCut_opened ram (replay (sf.log.reverse.take k))
    refine ⟨st, hst, PtrOk.of_eq (s := (replay (sf.log.reverse.take k)).opened.toState) ?_ (congrArg Files.trie hf)
      (congrArg Files.links hf), Files.Le.of_files ?_⟩
    · cases k with
      | zero => exact hb.ptrOk.of_eq rfl rfl
      | succ k =>
        exact WsAll.cut (P := fun f => PtrOk f.opened.toState) _ _ (hlog.2.imp fun _ _ h => h.2) _
          (Nat.succ_pos k) (by rw [List.length_reverse]; exact hk)
    · rw [hf]
      exact (Logged.cut_le ⟨hlog.1, hlog.2.imp fun _ _ h => h.1⟩ k).opened (hw.imp fun _ _ h => h.1).le.files

/-- at the end of every request of the history the whole trie file is complete -/
theorem C18_whole_run (cfg : Config) (dflt : Rule) (rules : List (Bytes × Rule)) (ops : List Op)
    (hop : ∀ op ∈ ops, ∀ d rs, op ≠ .clear d rs) (hwf : ∀ op ∈ ops, op.WF) :
    Whole ((State.fresh cfg dflt rules []).1.run ops) :=
  (((wt_fresh cfg dflt rules []).trans (run_wt ops _ hop hwf)) (whole_base cfg dflt _)).2

/-- what pointer safety gives the observers (strict twins: Proofs/PtrOkWalks.lean): every walk used by the
    queries, started where the queries start it, reads only blocks and stubs that are in the files, and
    hands on only blocks below the complete prefix `d` -/
structure WalksSafe (s : State) (d : Nat) : Prop where
  /-- the root is absent, complete, or the one incomplete node (then nothing points anywhere) -/
  root      : s.trie.size ≤ 1 ∨ 1 < d ∨ (d = 1 ∧ 1 < s.trie.size)
  lruNode   : (s.trie.size ≤ 1 ∨ 1 < d) → ∀ stems,
                s.lruNodeS stems = some (s.lruNode stems) ∧ ∀ n, s.lruNode stems = some n → n < d
  followLru : (s.trie.size ≤ 1 ∨ 1 < d) → ∀ stems,
                s.followLruS stems = some (s.followLru stems) ∧ ∀ n, (s.followLru stems).1 = some n → n < d
  dfsRoot   : (s.trie.size ≤ 1 ∨ 1 < d) → ∀ skip,
                s.dfsIterS none skip = some (s.dfsIter none skip) ∧ AllLt d (s.dfsIter none skip)
  dfsWe     : (s.trie.size ≤ 1 ∨ 1 < d) → s.dfsWeS = some s.dfsWe ∧ AllLt d s.dfsWe
  linksIter : (s.trie.size ≤ 1 ∨ 1 < d) → ∀ out, s.linksIterS out = some (s.linksIter out)
  rootOnly  : d = 1 → 1 < s.trie.size → ∀ skip, s.dfsIter none skip = [(1, s.stemAt 1)]
  stem      : ∀ b, b < d → s.stemAtS b = some (s.stemAt b)
  parents   : ∀ b, b < d → s.parentsS b = some (s.parents b) ∧ ∀ p ∈ s.parents b, p < d
  windup    : ∀ b, b < d → s.windupS b = some (s.windup b)
  dfsFrom   : ∀ b, b < d → ∀ lru skip, s.dfsIterS (some (b, lru)) skip = some (s.dfsIter (some (b, lru)) skip) ∧
                AllLt d (s.dfsIter (some (b, lru)) skip)
  weDfs     : ∀ b, b < d → ∀ lru depth, s.weDfsS b lru depth = some (s.weDfs b lru depth) ∧
                AllLt d (s.weDfs b lru depth)
  weInorder : ∀ b, b < d → ∀ lru pag, s.weInorderS b lru pag = some (s.weInorder b lru pag) ∧
                ∀ items, s.weInorder b lru pag = some items → AllLt d items
  heads     : ∀ b, (s.cell b).out < s.links.size ∧ (s.cell b).inn < s.links.size
  walk      : ∀ head, head < s.links.size → s.walkS head = some (s.walk head) ∧ ∀ t ∈ s.walk head, t < d
  weighted  : ∀ head, head < s.links.size → ∀ tw ∈ s.weighted head, tw.1 < d
  deduped   : ∀ head, head < s.links.size → ∀ t ∈ s.deduped head, t < d
  scans     : ∀ b ∈ s.allBlocks, 1 ≤ b ∧ b < s.trie.size
  inFile    : d ≤ s.trie.size

theorem PtrOkAt.walksSafe {s : State} {d : Nat} (h : PtrOkAt s d) : WalksSafe s d where
  root := h.root_cases
  lruNode := fun hr stems => h.lruNodeS_eq hr stems
  followLru := fun hr stems => h.followLruS_eq hr stems
  dfsRoot := fun hr skip => h.dfsIterS_root hr skip
  dfsWe := fun hr => h.dfsWeS_eq hr
  linksIter := fun hr out => h.linksIterS_eq hr out
  rootOnly := fun hd h1 skip => by subst hd; exact h.dfsIter_dangling_root h1 skip
  stem := fun _ hb => h.stemAtS_eq hb
  parents := fun _ hb => h.parentsS_eq hb
  windup := fun _ hb => h.windupS_eq hb
  dfsFrom := fun _ hb lru skip => h.dfsIterS_from hb lru skip
  weDfs := fun _ hb lru depth => h.weDfsS_eq hb lru depth
  weInorder := fun _ hb lru pag => h.weInorderS_eq hb lru pag
  heads := h.heads
  walk := fun _ hh => h.walkS_eq hh
  weighted := fun _ hh => h.weighted_lt hh
  deduped := fun _ hh => h.deduped_lt hh
  scans := fun _ hb => mem_allBlocks_ptr hb
  inFile := h.dle

/-- C18, "TRAVERSED AND QUERIED WITHOUT FAILURE": every cut of every such history either is refused at open
    or opens to an index whose walks never read outside the two files (`WalksSafe st d`: the walks that start at the
    root are covered once the root node is complete, `1 < d`; on a cut inside the root's own multi-block head, `d = 1`,
    only `rootOnly` speaks of them) -/
theorem C18_safe_walks (cfg : Config) (dflt : Rule) (rules : List (Bytes × Rule)) (ops : List Op)
    (hop : ∀ op ∈ ops, ∀ d rs, op ≠ .clear d rs) (hwf : ∀ op ∈ ops, op.WF) (ram : State) :
    let sf := (State.fresh cfg dflt rules []).1.run ops
    ∀ k j, k ≤ sf.log.length →
      cutOpen ram sf.log.reverse k j = .error .traph ∨
      ∃ st d, cutOpen ram sf.log.reverse k j = .ok st ∧ PtrOkAt st d ∧ WalksSafe st d ∧ st ⊑ sf := by
  intro sf k j hk
  rcases C18_safe cfg dflt rules ops hop hwf ram k j hk with h | ⟨st, hst, ⟨d, hd⟩, hle⟩
  · exact Or.inl h
  · exact Or.inr ⟨st, d, hst, hd, hd.walksSafe, hle⟩

/-- at a request boundary (no crash) the complete prefix is the whole file -/
theorem C18_walks_run (cfg : Config) (dflt : Rule) (rules : List (Bytes × Rule)) (ops : List Op)
    (hop : ∀ op ∈ ops, ∀ d rs, op ≠ .clear d rs) (hwf : ∀ op ∈ ops, op.WF) :
    let sf := (State.fresh cfg dflt rules []).1.run ops
    WalksSafe sf sf.trie.size :=
  PtrOkAt.walksSafe (C18_whole_run cfg dflt rules ops hop hwf)

/-- the hypothesis `Op.WF` is needed FOR THE MODEL: a stem-less LRU in a link request on an empty trie
    leaves stubs that target block 1 although the trie file has only its header block (the Python code
    creates an empty-stem root block in that situation, the model does not — the stubs are unreachable
    either way) -/
example : ¬ PtrOk ((State.fresh {} .never [] []).1.run [.addLinks [([], [])]]) := by
  rintro ⟨d, h⟩
  have h1 : (1 : Nat) < d := (h.stubs 1 { target := 1, prev := 0 } (by decide)).2
  have h2 : d ≤ 1 := h.dle
  omega

/-- the exception in `WalksSafe.root` is real: a first stem longer than one block (81 bytes here), cut
    after the head block of the root and before its tail block: two blocks in the file, block 1 announces a
    tail that is not there (`d = 1 < size`) -/
example :
    let sf := (State.fresh {} .never [] []).1.run [.addPage (List.replicate 80 97 ++ [124, 98, 124]) false]
    let f := replay (sf.log.reverse.take 3)
    f.trie.size = 2 ∧ (f.trie[1]?).map (·.flags.hasTail) = some true ∧ sf.trie.size = 4 := by
  decide

#print axioms C18_safe
#print axioms C18_safe_walks
#print axioms C18_cut_ptrOk
#print axioms C18_whole_run

end Traph
