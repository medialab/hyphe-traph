import Proofs.PagOrder
/-! Routes (`Digits`: the L=1 / C=2 / R=3 steps from the start node). Every item of the in-order traversal
    lies at the end of a route, and its path number is the base-4 number of that route (`weInorder_routeLru`);
    path numbers are pairwise distinct; `follow_path` walks a route to the node at its end. -/
namespace Traph
open State Layout

def Digits (ds : List Nat) : Prop := ∀ d ∈ ds, d = 1 ∨ d = 2 ∨ d = 3

theorem Digits.nil : Digits [] := by intro d hd; simp at hd

theorem Digits.cons {d : Nat} {ds : List Nat} (hd : d = 1 ∨ d = 2 ∨ d = 3) (h : Digits ds) : Digits (d :: ds) := by
  intro e he; simp only [List.mem_cons] at he
  rcases he with rfl | he
  · exact hd
  · exact h e he

theorem Digits.tail {d : Nat} {ds : List Nat} (h : Digits (d :: ds)) : Digits ds :=
  fun e he => h e (by simp [he])

theorem Digits.append {d₁ d₂ : List Nat} (h₁ : Digits d₁) (h₂ : Digits d₂) : Digits (d₁ ++ d₂) := by
  intro e he
  rcases List.mem_append.mp he with he | he
  · exact h₁ e he
  · exact h₂ e he

/-- the comparison path computed by `webentity_inorder_iter` from the token's path number -/
def cmpOf (p : Nat) : Bytes := if p = 0 then [] else intToBase4 p

theorem path_ne_zero (d : Nat) (rest : List Nat) (h : Digits (d :: rest)) : (d :: rest).foldl base4Append 0 ≠ 0 := by
  rw [path_eq_fromDigits]
  have := h d (by simp)
  exact fromDigits_pos 4 (by omega) d rest (by omega)

theorem cmpOf_path (ds : List Nat) (h : Digits ds) : cmpOf (ds.foldl base4Append 0) = ds.map digitChar := by
  cases ds with
  | nil => simp [cmpOf]
  | cons d rest =>
    rw [cmpOf, if_neg (path_ne_zero d rest h)]
    exact intToBase4_path _ h (by simp)

/-- the LRU of the node reached by the steps `ds` (1 = left, 2 = child, 3 = right) from the root of the
    sibling tree `t` whose level has prefix `lru`; `none` when the route leaves the tree -/
def T.routeLru (s : State) : T → List Nat → Bytes → Option Bytes
  | .nil, _, _ => none
  | .node a _ _ _, [], lru => some (lru ++ s.stemAt a)
  | .node a l c r, d :: ds, lru =>
    if d = 1 then l.routeLru s ds lru
    else if d = 2 then c.routeLru s ds (lru ++ s.stemAt a)
    else r.routeLru s ds lru

theorem routeLru_ne_nil {s : State} {t : T} {D : List Nat} {lru cur : Bytes}
    (h : t.routeLru s D lru = some cur) : t ≠ .nil := by
  intro e; subst e; simp [T.routeLru] at h

theorem route_under {s : State} : ∀ (t : T) (D : List Nat) (lru cur : Bytes),
    t.routeLru s D lru = some cur → Under s lru t.sibs cur := by
  intro t
  induction t with
  | nil => intro _ _ _ h; cases h
  | node a l c r ihl ihc ihr =>
    intro D lru cur h
    cases D with
    | nil =>
      simp only [T.routeLru, Option.some.injEq] at h
      exact ⟨a, T.mem_sibs_self, [], by rw [← h, List.append_nil]⟩
    | cons d ds =>
      simp only [T.routeLru] at h
      by_cases hd : d = 1
      · rw [if_pos hd] at h
        exact (ihl ds lru cur h).mono (fun x => T.mem_sibs_left)
      · rw [if_neg hd] at h
        by_cases hd2 : d = 2
        · rw [if_pos hd2] at h
          exact (ihc ds _ cur h).up.mono (fun x hx => List.mem_singleton.mp hx ▸ T.mem_sibs_self)
        · rw [if_neg hd2] at h
          exact (ihr ds lru cur h).mono (fun x => T.mem_sibs_right)

theorem weInorder_routeLru {s : State} (start : Nat) : ∀ (t : T) (lru : Bytes) (path : Nat),
    ∀ it ∈ t.weInorder s start lru path, ∃ ds, Digits ds ∧ it.2.2 = ds.foldl base4Append path ∧
      t.routeLru s ds lru = some it.2.1 := by
  intro t
  induction t with
  | nil => intro _ _ it h; simp [T.weInorder] at h
  | node a l c r ihl ihc ihr =>
    intro lru path it h
    simp only [T.weInorder, List.mem_append] at h
    rcases h with (h | h) | h
    · split at h
      · simp at h
      · obtain ⟨ds, hd, he, hf⟩ := ihl _ _ it h
        exact ⟨1 :: ds, hd.cons (by simp), he, by simp [T.routeLru, hf]⟩
    · split at h
      · simp only [List.mem_cons] at h
        rcases h with rfl | h
        · exact ⟨[], Digits.nil, rfl, by simp [T.routeLru]⟩
        · obtain ⟨ds, hd, he, hf⟩ := ihc _ _ it h
          exact ⟨2 :: ds, hd.cons (by simp), he, by simp [T.routeLru, hf]⟩
      · simp at h
    · split at h
      · simp at h
      · obtain ⟨ds, hd, he, hf⟩ := ihr _ _ it h
        exact ⟨3 :: ds, hd.cons (by simp), he, by simp [T.routeLru, hf]⟩

theorem weInorder_paths_nodup {s : State} (start : Nat) : ∀ (t : T) (lru : Bytes) (path : Nat),
    ((t.weInorder s start lru path).map (·.2.2)).Nodup := by
  intro t
  induction t with
  | nil => intro _ _; simp [T.weInorder]
  | node a l c r ihl ihc ihr =>
    intro lru path
    have R : ∀ (d : Nat) (u : T) (x : Bytes), (d = 1 ∨ d = 2 ∨ d = 3) →
        ∀ p ∈ (u.weInorder s start x (base4Append path d)).map (·.2.2),
          ∃ ds, Digits (d :: ds) ∧ p = (d :: ds).foldl base4Append path := by
      intro d u x hd p hp
      obtain ⟨it, hit, rfl⟩ := List.mem_map.mp hp
      obtain ⟨ds, hds, he, _⟩ := weInorder_routeLru start u x _ it hit
      exact ⟨ds, hds.cons hd, he⟩
    have ne : ∀ (d₁ d₂ : Nat) (ds₁ ds₂ : List Nat), Digits (d₁ :: ds₁) → Digits (d₂ :: ds₂) → d₁ ≠ d₂ →
        (d₁ :: ds₁).foldl base4Append path ≠ (d₂ :: ds₂).foldl base4Append path := by
      intro d₁ d₂ ds₁ ds₂ h₁ h₂ hne he
      have := foldl_base4_inj path _ _ h₁ h₂ he
      simp only [List.cons.injEq] at this
      exact hne this.1
    have ne0 : ∀ (d : Nat) (ds : List Nat), Digits (d :: ds) → path ≠ (d :: ds).foldl base4Append path := by
      intro d ds h he
      have := foldl_base4_inj path [] _ Digits.nil h he
      simp at this
    -- the paths of two different slots differ in the digit that follows `path`
    have slots : ∀ (d₁ d₂ : Nat) (u₁ u₂ : T) (x₁ x₂ : Bytes), (d₁ = 1 ∨ d₁ = 2 ∨ d₁ = 3) →
        (d₂ = 1 ∨ d₂ = 2 ∨ d₂ = 3) → d₁ ≠ d₂ →
        ∀ p ∈ (u₁.weInorder s start x₁ (base4Append path d₁)).map (·.2.2),
        ∀ q ∈ (u₂.weInorder s start x₂ (base4Append path d₂)).map (·.2.2), p ≠ q := by
      intro d₁ d₂ u₁ u₂ x₁ x₂ h₁ h₂ hne p hp q hq
      obtain ⟨ds₁, hd₁, rfl⟩ := R d₁ u₁ x₁ h₁ p hp
      obtain ⟨ds₂, hd₂, rfl⟩ := R d₂ u₂ x₂ h₂ q hq
      exact ne d₁ d₂ ds₁ ds₂ hd₁ hd₂ hne
    have self : ∀ (d : Nat) (u : T) (x : Bytes), (d = 1 ∨ d = 2 ∨ d = 3) →
        ∀ q ∈ (u.weInorder s start x (base4Append path d)).map (·.2.2), path ≠ q := by
      intro d u x hd q hq
      obtain ⟨ds, hds, rfl⟩ := R d u x hd q hq
      exact ne0 d ds hds
    have d1 : (1 : Nat) = 1 ∨ (1 : Nat) = 2 ∨ (1 : Nat) = 3 := Or.inl rfl
    have d2 : (2 : Nat) = 1 ∨ (2 : Nat) = 2 ∨ (2 : Nat) = 3 := Or.inr (Or.inl rfl)
    have d3 : (3 : Nat) = 1 ∨ (3 : Nat) = 2 ∨ (3 : Nat) = 3 := Or.inr (Or.inr rfl)
    have hl := ihl lru (base4Append path 1)
    have hc := ihc (lru ++ s.stemAt a) (base4Append path 2)
    have hr := ihr lru (base4Append path 3)
    simp only [T.weInorder, List.map_append]
    by_cases e : a = start
    · -- the start node: itself and its child tree
      simp only [if_pos e, if_pos (Or.inl e), List.map_nil, List.nil_append, List.append_nil, List.map_cons,
        List.nodup_cons]
      exact ⟨fun hm => self 2 c _ d2 _ hm rfl, hc⟩
    · simp only [if_neg e]
      by_cases hw : (s.cell a).we = 0
      · simp only [if_pos (Or.inr hw : a = start ∨ _), List.map_cons]
        rw [List.nodup_append, List.nodup_append, List.nodup_cons]
        refine ⟨⟨hl, ⟨fun hm => self 2 c _ d2 _ hm rfl, hc⟩, ?_⟩, hr, ?_⟩
        · intro p hp q hq
          rcases List.mem_cons.mp hq with rfl | hq
          · exact (self 1 l _ d1 p hp).symm
          · exact slots 1 2 l c _ _ d1 d2 (by decide) p hp q hq
        · intro p hp q hq
          rcases List.mem_append.mp hp with hp | hp
          · exact slots 1 3 l r _ _ d1 d3 (by decide) p hp q hq
          · rcases List.mem_cons.mp hp with rfl | hp
            · exact self 3 r _ d3 q hq
            · exact slots 2 3 c r _ _ d2 d3 (by decide) p hp q hq
      · simp only [if_neg (fun h : a = start ∨ _ => h.elim e hw), List.map_nil, List.append_nil]
        rw [List.nodup_append]
        exact ⟨hl, hr, slots 1 3 l r _ _ d1 d3 (by decide)⟩

theorem digitChar_123 : digitChar 1 = 49 ∧ digitChar 2 = 50 ∧ digitChar 3 = 51 := by decide

theorem followPath_of_routeLru {s : State} : ∀ (t : T) (D : List Nat) (lru cur : Bytes), Rep s t → Digits D →
    t.routeLru s D lru = some cur → s.followPath (D.map digitChar) t.root lru = some cur := by
  intro t
  induction t with
  | nil => intro _ _ _ _ _ h; cases h
  | node a l c r ihl ihc ihr =>
    intro D lru cur hr hD h
    cases D with
    | nil =>
      simp only [T.routeLru, Option.some.injEq] at h
      simp [followPath, h]
    | cons d ds =>
      obtain ⟨h1, h2, h3⟩ := hr.cell_eq
      obtain ⟨ha, _, rl, rc, rr⟩ := hr
      obtain ⟨d1, d2, d3⟩ := digitChar_123
      simp only [T.routeLru] at h
      rcases hD d List.mem_cons_self with rfl | rfl | rfl
      · rw [if_pos rfl] at h
        have hne : l.root ≠ 0 := rl.root_ne_zero (routeLru_ne_nil h)
        simp [followPath, base4L, d1, h1, hne, ihl ds lru cur rl hD.tail h]
      · rw [if_neg (by decide), if_pos rfl] at h
        have hne : c.root ≠ 0 := rc.root_ne_zero (routeLru_ne_nil h)
        simp [followPath, base4L, base4C, d2, h2, hne, ihc ds _ cur rc hD.tail h]
      · rw [if_neg (by decide), if_neg (by decide)] at h
        have hne : r.root ≠ 0 := rr.root_ne_zero (routeLru_ne_nil h)
        simp [followPath, base4L, base4C, d3, h3, hne, ihr ds lru cur rr hD.tail h]

/-- `follow_path` inverts the path numbers of the traversal from the start node -/
theorem followPath_weInorder {s : State} {a : Nat} {l c r : T} (hr : Rep s (.node a l c r)) (lru : Bytes)
    {b : Nat} {cur : Bytes} {p : Nat} (h : (b, cur, p) ∈ (T.node a l c r).weInorder s a lru 0) :
    s.followPath (if p = 0 then [] else intToBase4 p) a lru = some cur := by
  obtain ⟨ds, hd, he, hroute⟩ := weInorder_routeLru a _ lru 0 _ h
  have := cmpOf_path ds hd
  rw [← he, cmpOf] at this
  rw [this]; exact followPath_of_routeLru _ ds lru cur hr hd hroute

end Traph

section
open Traph
#print axioms weInorder_paths_nodup
#print axioms followPath_weInorder
end
