import Proofs.KnownOps
/-! C02 at the level of histories. A fresh index (or one just cleared) with constructor rules stores exactly
    the stem-prefixes of the rule anchors (`fresh_known`, `clear_known`: on an index without pages the
    re-insertion walk of a new rule does nothing). Along any history in which no request is aborted by the
    `KeyError` of `__add_page`, the stored LRUs are the non-empty stem-prefixes of the anchors and of everything
    named since the last `clear`, which resets (`C02_known_since`, `State.namedSince`); without `clear` that is
    everything named on the way (`C02_known`, `State.namedRun`). `Good` is kept along every history whatsoever
    (`good_run_any`). -/
namespace Traph
open State Layout

theorem addRule_noPages {s : State} (h : NoPages s) (a : Bytes) (r : Rule) :
    (s.addRule a r true).2 = .ok {} ∧ NoPages (s.addRule a r true).1 ∧ (s.addRule a r true).1.links = s.links := by
  obtain ⟨n2, e⟩ := addRule_of_noPages h a r
  rw [e]
  dsimp only
  exact ⟨rfl, n2, by unfold State.rulePrologue; rw [links_modCell, links_addLru]⟩

theorem installRules_noPages (rules : List (Bytes × Rule)) (s : State) (t : T) (g : Good s t) (h : NoPages s) :
    ∃ t', KStep (rules.map (fun ar => lruIter ar.1)) s t (installRules s rules true).1 t' ∧
      NoPages (installRules s rules true).1 ∧ (installRules s rules true).2 = .ok () ∧
      (installRules s rules true).1.links = s.links := by
  induction rules generalizing s t with
  | nil => exact ⟨t, KStep.refl g, h, rfl, rfl⟩
  | cons ar rest ih =>
    obtain ⟨t1, _, _, ok⟩ := (done_addRule g ar.1 ar.2).final
    obtain ⟨hres, hnp, hl⟩ := addRule_noPages h ar.1 ar.2
    have k1 := ok {} hres
    rw [installRules]
    split
    · rename_i s1 e heq
      rw [heq] at hres
      cases hres
    · rename_i s1 _ heq
      rw [heq] at k1 hnp hl
      obtain ⟨t2, k2, hnp2, hok2, hl2⟩ := ih s1 t1 k1.good hnp
      exact ⟨t2, k1.trans k2, hnp2, hok2, hl2.trans hl⟩

/-- the LRUs stored in the trie on behalf of the creation rules: the prefix each rule is attached to -/
def anchors (rules : List (Bytes × Rule)) : List LRU := rules.map (fun ar => lruIter ar.1)

theorem installRules_blank (rules : List (Bytes × Rule)) (s : State) (h : s.trie = #[{}]) :
    ∃ t, Good (installRules s rules true).1 t ∧ NoPages (installRules s rules true).1 ∧
      (installRules s rules true).1.links = s.links ∧ (installRules s rules true).2 = .ok () ∧
      ∀ p, Known (installRules s rules true).1 t p ↔ Covered (anchors rules) p := by
  obtain ⟨t, k, hnp, hok, hl⟩ := installRules_noPages rules s .nil (good_of_trie_init s h) (noPages_of_trie_init s h)
  refine ⟨t, k.good, hnp, hl, hok, fun p => ?_⟩
  rw [k.known]
  exact ⟨fun h => h.elim (fun hk => absurd hk (not_known_nil _ p)) id, Or.inr⟩

theorem fresh_known (cfg : Config) (dflt : Rule) (rules : List (Bytes × Rule)) (log : List Write) :
    ∃ t, Good (State.fresh cfg dflt rules log).1 t ∧ NoPages (State.fresh cfg dflt rules log).1 ∧
      (State.fresh cfg dflt rules log).1.links.size = 1 ∧
      ∀ p, Known (State.fresh cfg dflt rules log).1 t p ↔ Covered (anchors rules) p := by
  obtain ⟨t, g, hnp, hl, _, hk⟩ :=
    installRules_blank rules { cfg := cfg, dflt := dflt, log := .linkHdr :: .hdr 0 :: log } rfl
  exact ⟨t, g, hnp, by unfold State.fresh; rw [hl]; rfl, hk⟩

/-- the anchors a `clear` request re-installs in the trie (`None` keeps the RAM rules only) -/
def clearAnchors : Option (List (Bytes × Rule)) → List LRU
  | none => []
  | some rs => anchors rs

theorem clear_known (s : State) (d : Option Rule) (rs : Option (List (Bytes × Rule))) :
    ∃ t, Good (s.clear d rs).1 t ∧ NoPages (s.clear d rs).1 ∧ (s.clear d rs).1.links.size = 1 ∧
      (s.clear d rs).2 = .ok () ∧
      ∀ p, Known (s.clear d rs).1 t p ↔ Covered (clearAnchors rs) p := by
  cases rs with
  | none =>
    refine ⟨.nil, good_of_trie_init _ rfl, noPages_of_trie_init _ rfl, rfl, rfl, fun p => ?_⟩
    exact ⟨fun h => absurd h (not_known_nil _ p), fun h => absurd h (covered_nil p)⟩
  | some rl =>
    obtain ⟨t, g, hnp, hl, hok, hk⟩ := installRules_blank rl
      { cfg := s.cfg, dflt := d.getD s.dflt, rules := [], log := .linkHdr :: .hdr 0 :: s.log } rfl
    exact ⟨t, g, hnp, by unfold State.clear; simp only; rw [hl]; rfl, hok, hk⟩

theorem good_step_any {s : State} {t : T} (g : Good s t) (op : Op) : ∃ t', Good (s.step op).1 t' := by
  by_cases hc : ∃ d rs, op = .clear d rs
  · obtain ⟨d, rs, rfl⟩ := hc
    obtain ⟨t1, g1, _⟩ := clear_known s d rs
    simp only [step_clear]
    exact ⟨t1, g1⟩
  · obtain ⟨t1, g1, _⟩ := good_step g op (fun d rs e => hc ⟨d, rs, e⟩)
    exact ⟨t1, g1⟩

def State.namedRun : State → List Op → List LRU
  | _, [] => []
  | s, op :: ops => s.named op ++ (s.step op).1.namedRun ops

/-- what is named since the last `clear` (the accumulator starts with the constructor anchors) -/
def State.namedSince : State → List LRU → List Op → List LRU
  | _, acc, [] => acc
  | s, _, .clear d rs :: ops => (s.step (.clear d rs)).1.namedSince (clearAnchors rs) ops
  | s, acc, op :: ops => (s.step op).1.namedSince (acc ++ s.named op) ops

theorem run_known_since (ops : List Op) (s : State) (t : T) (acc : List LRU) (g : Good s t)
    (h : ∀ p, Known s t p ↔ Covered acc p) (hok : NoKeyErr s ops) :
    ∃ t', Good (s.run ops) t' ∧ ∀ p, Known (s.run ops) t' p ↔ Covered (s.namedSince acc ops) p := by
  fun_induction State.namedSince s acc ops generalizing t with
  | case1 s acc => exact ⟨t, g, h⟩
  | case2 s acc d rs ops ih =>
    obtain ⟨t1, g1, _, _, _, h1⟩ := clear_known s d rs
    have hok2 := hok.2
    simp only [step_clear] at hok2 ih
    rw [run_cons, step_clear]
    exact ih t1 g1 h1 hok2
  | case3 s acc op ops hop ih =>
    obtain ⟨t1, _, f1⟩ := named_step g op (fun d rs e => hop d rs e)
    have k1 := f1 hok.1
    exact ih t1 k1.good (fun p => by rw [k1.known, h, covered_append]) hok.2

/-- C02, known LRUs, for every history with no `KeyError` (`clear` being a reset): stored = prefix closure of what was
    named since the last `clear` (its rule anchors included) -/
theorem C02_known_since (cfg : Config) (dflt : Rule) (rules : List (Bytes × Rule)) (ops : List Op)
    (hok : NoKeyErr (State.fresh cfg dflt rules []).1 ops) :
    ∃ t, Good ((State.fresh cfg dflt rules []).1.run ops) t ∧
      ∀ p, Known ((State.fresh cfg dflt rules []).1.run ops) t p ↔
        Covered ((State.fresh cfg dflt rules []).1.namedSince (anchors rules) ops) p := by
  obtain ⟨t0, g0, _, _, h0⟩ := fresh_known cfg dflt rules []
  exact run_known_since ops _ t0 (anchors rules) g0 h0 hok

theorem namedSince_of_noClear : ∀ (ops : List Op) (s : State) (acc : List LRU),
    (∀ op ∈ ops, ∀ d rs, op ≠ .clear d rs) → s.namedSince acc ops = acc ++ s.namedRun ops := by
  intro ops
  induction ops with
  | nil => exact fun _ acc _ => (List.append_nil acc).symm
  | cons op ops ih =>
    intro s acc hop
    rw [State.namedSince, State.namedRun, ← List.append_assoc]
    · exact ih _ _ (fun o ho => hop o (List.mem_cons_of_mem _ ho))
    · exact hop op List.mem_cons_self

/-- C02, known LRUs: after any history (without `clear`, no request aborted by `KeyError`) on a fresh
    index, an LRU is stored iff it is a non-empty stem-prefix of a constructor-rule anchor or of an LRU
    named by one of the requests -/
theorem C02_known (cfg : Config) (dflt : Rule) (rules : List (Bytes × Rule)) (ops : List Op)
    (hop : ∀ op ∈ ops, ∀ d rs, op ≠ .clear d rs)
    (hok : NoKeyErr (State.fresh cfg dflt rules []).1 ops) :
    ∃ t, Good ((State.fresh cfg dflt rules []).1.run ops) t ∧
      ∀ p, Known ((State.fresh cfg dflt rules []).1.run ops) t p ↔
        Covered (anchors rules ++ (State.fresh cfg dflt rules []).1.namedRun ops) p := by
  obtain ⟨t, g, h⟩ := C02_known_since cfg dflt rules ops hok
  exact ⟨t, g, fun p => by rw [h, namedSince_of_noClear ops _ _ hop]⟩

/-- `C02_known` through the model's own look-up `lru_node`, without any ghost tree -/
theorem C02_known_lruNode (cfg : Config) (dflt : Rule) (rules : List (Bytes × Rule)) (ops : List Op)
    (hop : ∀ op ∈ ops, ∀ d rs, op ≠ .clear d rs)
    (hok : NoKeyErr (State.fresh cfg dflt rules []).1 ops) (p : LRU) (hp : p ≠ []) :
    (∃ b, ((State.fresh cfg dflt rules []).1.run ops).lruNode p = some b) ↔
      ∃ l ∈ anchors rules ++ (State.fresh cfg dflt rules []).1.namedRun ops, p <+: l := by
  obtain ⟨t, g, h⟩ := C02_known cfg dflt rules ops hop hok
  rw [← known_iff_lruNode g.shape p hp, h]
  exact ⟨fun hc => hc.2, fun hc => ⟨hp, hc⟩⟩

theorem good_run_from : ∀ (ops : List Op) {s : State} {t : T}, Good s t → ∃ t', Good (s.run ops) t'
  | [], _, t, g => ⟨t, g⟩
  | op :: ops, _, _, g =>
    have ⟨_, g1⟩ := good_step_any g op
    good_run_from ops g1

theorem good_run_any (cfg : Config) (dflt : Rule) (rules : List (Bytes × Rule)) (ops : List Op) :
    ∃ t, Good ((State.fresh cfg dflt rules []).1.run ops) t :=
  have ⟨_, g0, _⟩ := fresh_known cfg dflt rules []
  good_run_from ops g0

theorem good_run (cfg : Config) (dflt : Rule) (rules : List (Bytes × Rule)) (ops : List Op)
    (hop : ∀ op ∈ ops, ∀ d rs, op ≠ .clear d rs) :
    ∃ t, Good ((State.fresh cfg dflt rules []).1.run ops) t := good_run_any cfg dflt rules ops

#print axioms C02_known
#print axioms C02_known_lruNode
#print axioms C02_known_since
#print axioms good_run_any

end Traph
