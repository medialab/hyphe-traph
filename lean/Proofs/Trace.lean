import Proofs.TraceCore
/-! C18, main statement: every cut of the program-ordered write sequence of any history (without
    `clear`) replays to files that are below the completed history in the heap order. Hence a reopened
    torn index reports only pages and link stubs that the completed history also has. Which cuts are refused at
    open is said of lists of events (`Torn`, `cutOpenE_refuses_iff`); a list of writes is one without truncations. -/
namespace Traph
open State

def Files.toState (f : Files) : State := { hdrId := f.hdrId, trie := f.trie, links := f.links }

theorem Writes.cut_le {s0 sf : State} {ws : List Write} (hg : GoodLog s0) (h : Writes Write.Inc s0 ws sf) (k : Nat) :
    Files.Le s0.files (replay ((sf.log.reverse).take (s0.log.length + k))) ∧
    Files.Le (replay ((sf.log.reverse).take (s0.log.length + k))) sf.files := by
  rw [h.cut hg k, ← h.files]
  exact h.all.cut_le k

theorem Trace.cut_le {s0 sf : State} (hg : GoodLog s0) (hl : Live s0) (ht : Trace s0 sf) (k : Nat) :
    Files.Le (replay ((sf.log.reverse).take (s0.log.length + k))) sf.files := by
  obtain ⟨ws, hw⟩ := ht.writes hl
  exact (hw.cut_le hg k).2

/-- C18: every cut (after `s0`'s own writes) of the write sequence of a history is below the completed
    history in the heap order -/
theorem C18_cut_le (s0 : State) (hg : GoodLog s0) (hl : Live s0) (ops : List Op)
    (hop : ∀ op ∈ ops, ∀ d rs, op ≠ .clear d rs) :
    let sf := s0.run ops
    ∀ k, k ≤ sf.log.length - s0.log.length →
      Files.Le (replay ((sf.log.reverse).take (s0.log.length + k))) sf.files :=
  fun k _ => (run_trace ops s0 hl hop).cut_le hg hl k

theorem C18_cut_state (s0 : State) (hg : GoodLog s0) (hl : Live s0) (ops : List Op)
    (hop : ∀ op ∈ ops, ∀ d rs, op ≠ .clear d rs) :
    let sf := s0.run ops
    ∀ k, k ≤ sf.log.length - s0.log.length →
      ∃ m : State, s0 ⊑ m ∧ m ⊑ sf ∧ replay ((sf.log.reverse).take (s0.log.length + k)) = m.files := by
  intro sf k _
  obtain ⟨ws, hw⟩ := (run_trace ops s0 hl hop).writes hl
  obtain ⟨h1, h2⟩ := hw.cut_le hg k
  exact ⟨(replay ((sf.log.reverse).take (s0.log.length + k))).toState, Files.Le.of_files h1, Files.Le.of_files h2, rfl⟩

theorem goodLog_run (s0 : State) (hg : GoodLog s0) (hl : Live s0) (ops : List Op)
    (hop : ∀ op ∈ ops, ∀ d rs, op ≠ .clear d rs) : GoodLog (s0.run ops) :=
  (run_trace ops s0 hl hop).goodLog hg hl.1 hl.2

/-- the state with just the two header blocks written -/
def baseState (cfg : Config) (dflt : Rule) : State := { cfg := cfg, dflt := dflt, log := [.linkHdr, .hdr 0] }

theorem goodLog_fresh (cfg : Config) (dflt : Rule) (rules : List (Bytes × Rule)) :
    GoodLog (State.fresh cfg dflt rules []).1 :=
  (trace_fresh cfg dflt rules []).goodLog (goodLog_base cfg dflt) Nat.zero_lt_one Nat.zero_lt_one

theorem trace_fresh_run (cfg : Config) (dflt : Rule) (rules : List (Bytes × Rule)) (ops : List Op)
    (hop : ∀ op ∈ ops, ∀ d rs, op ≠ .clear d rs) :
    Trace (baseState cfg dflt) ((State.fresh cfg dflt rules []).1.run ops) :=
  (trace_fresh cfg dflt rules []).trans (run_trace ops _ (live_fresh cfg dflt rules []) hop)

/-- the whole log of `s` is a run from two EMPTY files to the files of `s`, every write of it `Q` where it is
    applied: what holds of an index since its folder was created, or since a `clear` emptied it -/
def Logged (Q : Files → Write → Prop) (s : State) : Prop := replay s.log.reverse = s.files ∧ WsAll Q {} s.log.reverse

theorem Logged.base {Q : Files → Write → Prop} {b : State} (ht : b.trie = #[{}]) (hk : b.links = #[{}])
    (hh : b.hdrId = 0) (hlog : b.log = [.linkHdr, .hdr 0]) (h1 : Q {} (.hdr 0))
    (h2 : Q (Files.apply {} (.hdr 0)) .linkHdr) : Logged Q b := by
  unfold Logged
  rw [hlog]
  exact ⟨by simp [replay, Files.apply, State.files, ht, hk, hh], h1, h2, trivial⟩

theorem Logged.writes {Q : Files → Write → Prop} {s s' : State} {ws : List Write} (hs : Logged Q s)
    (h : Writes Q s ws s') : Logged Q s' := by
  refine ⟨h.goodLog hs.1, ?_⟩
  rw [h.log, List.reverse_append, List.reverse_reverse, WsAll.append]
  exact ⟨hs.2, by rw [show s.log.reverse.foldl Files.apply {} = s.files from hs.1]; exact h.all⟩

theorem Logged.cut_le {s : State} (h : Logged Write.Inc s) (k : Nat) :
    Files.Le (replay ((s.log.reverse).take k)) s.files := by
  have := (h.2.cut_le k).2
  rwa [show s.log.reverse.foldl Files.apply {} = s.files from h.1] at this

theorem logged_base (cfg : Config) (dflt : Rule) : Logged Write.Inc (baseState cfg dflt) :=
  .base rfl rfl rfl rfl trivial trivial

theorem Logged.trace {s s' : State} (hs : Logged Write.Inc s) (hl : Live s) (h : Trace s s') : Logged Write.Inc s' := by
  obtain ⟨ws, hw⟩ := h.writes hl
  exact hs.writes hw

theorem logged_fresh (cfg : Config) (dflt : Rule) (rules : List (Bytes × Rule)) (ops : List Op)
    (hop : ∀ op ∈ ops, ∀ d rs, op ≠ .clear d rs) : Logged Write.Inc ((State.fresh cfg dflt rules []).1.run ops) :=
  (logged_base cfg dflt).trace ⟨Nat.zero_lt_one, Nat.zero_lt_one⟩ (trace_fresh_run cfg dflt rules ops hop)

/-- C18 for a fresh index (constructor rules included): EVERY cut of the whole write sequence — also
    inside the constructor — is below the completed history -/
theorem C18_fresh_cut_le (cfg : Config) (dflt : Rule) (rules : List (Bytes × Rule)) (ops : List Op)
    (hop : ∀ op ∈ ops, ∀ d rs, op ≠ .clear d rs) :
    let sf := (State.fresh cfg dflt rules []).1.run ops
    ∀ k, k ≤ sf.log.length → Files.Le (replay ((sf.log.reverse).take k)) sf.files :=
  fun k _ => (logged_fresh cfg dflt rules ops hop).cut_le k

/-- what the constructor makes of the files it finds: an empty store gets its header block -/
def Files.opened (g : Files) : Files where
  hdrId := if g.trie.size = 0 then 0 else g.hdrId
  trie := if g.trie.size = 0 then #[{}] else g.trie
  links := if g.links.size = 0 then #[{}] else g.links

theorem openCut_opened (ram : State) (g : Files) :
    ∃ st, openCut ram g 0 = .ok st ∧ st.files = g.opened ∧ st.rules = ram.rules ∧ st.dflt = ram.dflt ∧
      st.cfg = ram.cfg := ⟨_, rfl, rfl, rfl, rfl, rfl⟩

theorem Files.opened_live {g : Files} (h1 : 0 < g.trie.size) (h2 : 0 < g.links.size) : g.opened = g := by
  simp only [Files.opened, if_neg (Nat.ne_of_gt h1), if_neg (Nat.ne_of_gt h2)]

theorem Files.Le.opened {g h : Files} (hle : Files.Le g h) (hr : Files.Le ({} : State).files h) :
    Files.Le g.opened h := by
  refine ⟨fun i c hc => ?_, fun i x hx => ?_⟩
  · simp only [Files.opened] at hc
    split at hc
    · exact hr.1 i c hc
    · exact hle.1 i c hc
  · simp only [Files.opened] at hx
    split at hx
    · exact hr.2 i x hx
    · exact hle.2 i x hx

theorem openCut_files (ram m : State) (hl : Live m) :
    ∃ st, openCut ram m.files 0 = .ok st ∧ st.trie = m.trie ∧ st.links = m.links ∧ st.hdrId = m.hdrId := by
  obtain ⟨st, hst, hf, _⟩ := openCut_opened ram m.files
  rw [Files.opened_live hl.1 hl.2] at hf
  exact ⟨st, hst, congrArg Files.trie hf, congrArg Files.links hf, congrArg Files.hdrId hf⟩

theorem foldl_applyE_map_write (ws : List Write) (f : Files) :
    (ws.map Event.write).foldl Files.applyE f = ws.foldl Files.apply f := by
  induction ws generalizing f with
  | nil => rfl
  | cons w ws ih => simp only [List.map_cons, List.foldl_cons]; exact ih _

theorem replayE_map_write (ws : List Write) : replayE (ws.map Event.write) = replay ws :=
  foldl_applyE_map_write ws {}

theorem cutOpenE_map_write (ram : State) (ws : List Write) (k j : Nat) :
    cutOpenE ram (ws.map Event.write) k j = cutOpen ram ws k j := by
  unfold cutOpenE cutOpen
  simp only [← List.map_take, replayE_map_write, List.getElem?_map]
  cases ws[k]? <;> rfl

/-- the cut `(k, j)` tears an append: `j ≠ 0` bytes of event `k`, which makes its file longer -/
def Torn (full : List Event) (k j : Nat) : Prop :=
  j ≠ 0 ∧ ∃ e, full[k]? = some e ∧ e.isAppend (replayE (full.take k)) = true

/-- `C18_refuse`, for events: a torn append is refused with the library's own error -/
theorem cutOpenE_torn (ram : State) (full : List Event) (k j : Nat) (h : Torn full k j) :
    cutOpenE ram full k j = .error .traph := by
  obtain ⟨hj, e, he, ha⟩ := h
  simp [cutOpenE, openCut, he, ha, hj]

/-- `C18_rewrite_atomic`, for events: an event that is not an append (an in-place rewrite, a header rewrite,
    a truncation) cannot be torn -/
theorem cutOpenE_atomic (ram : State) (full : List Event) (k j : Nat) (e : Event) (he : full[k]? = some e)
    (hn : e.isAppend (replayE (full.take k)) = false) : cutOpenE ram full k j = cutOpenE ram full k 0 := by
  simp [cutOpenE, he, hn]

theorem cutOpenE_truncTrie (ram : State) (full : List Event) (k j : Nat) (he : full[k]? = some .truncTrie) :
    cutOpenE ram full k j = cutOpenE ram full k 0 := cutOpenE_atomic ram full k j _ he rfl

theorem cutOpenE_truncLinks (ram : State) (full : List Event) (k j : Nat) (he : full[k]? = some .truncLinks) :
    cutOpenE ram full k j = cutOpenE ram full k 0 := cutOpenE_atomic ram full k j _ he rfl

theorem cutOpenE_whole (ram : State) (full : List Event) (k : Nat) :
    cutOpenE ram full k 0 = openCut ram (replayE (full.take k)) 0 := by
  unfold cutOpenE
  simp only
  congr 1
  split
  · split <;> rfl
  · rfl

/-- `C18_boundary_opens`, for events -/
theorem cutOpenE_boundary_opens (ram : State) (full : List Event) (k : Nat) : ∃ s, cutOpenE ram full k 0 = .ok s := by
  rw [cutOpenE_whole]; exact ⟨_, rfl⟩

theorem cutOpenE_not_torn (ram : State) (full : List Event) (k j : Nat) (h : ¬ Torn full k j) :
    cutOpenE ram full k j = openCut ram (replayE (full.take k)) 0 := by
  rw [← cutOpenE_whole]
  by_cases hj : j = 0
  · rw [hj]
  · cases he : full[k]? with
    | none => simp [cutOpenE, he]
    | some e =>
      cases ha : e.isAppend (replayE (full.take k)) with
      | false => exact cutOpenE_atomic ram full k j e he ha
      | true => exact absurd ⟨hj, e, he, ha⟩ h

theorem cutOpenE_refuses_iff (ram : State) (full : List Event) (k j : Nat) :
    cutOpenE ram full k j = .error .traph ↔ Torn full k j := by
  constructor
  · intro h
    apply Classical.byContradiction
    intro hn
    rw [cutOpenE_not_torn ram full k j hn] at h
    simp [openCut] at h
  · exact cutOpenE_torn ram full k j

theorem cutOpen_whole (ram : State) (full : List Write) (k : Nat) :
    cutOpen ram full k 0 = openCut ram (replay (full.take k)) 0 := by
  rw [← cutOpenE_map_write, cutOpenE_whole, ← List.map_take, replayE_map_write]

theorem cutOpen_cases (ram : State) (full : List Write) (k j : Nat) :
    cutOpen ram full k j = .error .traph ∨ cutOpen ram full k j = cutOpen ram full k 0 := by
  rw [← cutOpenE_map_write, ← cutOpenE_map_write]
  by_cases h : Torn (full.map .write) k j
  · exact .inl (cutOpenE_torn _ _ _ _ h)
  · exact .inr ((cutOpenE_not_torn _ _ _ _ h).trans (cutOpenE_whole _ _ _).symm)

/-- C18 with the model's own reopening: a cut at a write boundary of any history reopens (with whatever
    RAM part the caller supplies) to a state below the completed history -/
theorem C18_cutOpen_le (s0 : State) (hg : GoodLog s0) (hl : Live s0) (ops : List Op)
    (hop : ∀ op ∈ ops, ∀ d rs, op ≠ .clear d rs) (ram : State) :
    let sf := s0.run ops
    ∀ k, k ≤ sf.log.length - s0.log.length →
      ∃ st, cutOpen ram sf.log.reverse (s0.log.length + k) 0 = .ok st ∧ st ⊑ sf := by
  intro sf k hk
  obtain ⟨m, h1, h2, h3⟩ := C18_cut_state s0 hg hl ops hop k hk
  obtain ⟨st, hst, e1, e2, _⟩ := openCut_files ram m (hl.mono h1)
  refine ⟨st, ?_, (Le.of_eq e1.symm e2.symm).trans h2⟩
  rw [cutOpen_whole, h3]; exact hst

theorem Files.Le.page_persists {f g : Files} (h : Files.Le f g) (i : Nat) (c : Cell)
    (hc : f.trie[i]? = some c) (hp : c.flags.page = true) :
    ∃ c', g.trie[i]? = some c' ∧ c'.flags.page = true ∧ c'.chunk = c.chunk ∧ c'.parent = c.parent := by
  obtain ⟨c', hc', hle⟩ := h.1 i c hc
  exact ⟨c', hc', hle.page hp, hle.chunk, hle.parent⟩

theorem Files.Le.crawled_persists {f g : Files} (h : Files.Le f g) (i : Nat) (c : Cell)
    (hc : f.trie[i]? = some c) (hp : c.flags.crawled = true) :
    ∃ c', g.trie[i]? = some c' ∧ c'.flags.crawled = true := by
  obtain ⟨c', hc', hle⟩ := h.1 i c hc
  exact ⟨c', hc', hle.crawled hp⟩

theorem Files.Le.pointer_persists {f g : Files} (h : Files.Le f g) (i : Nat) (c : Cell)
    (hc : f.trie[i]? = some c) :
    ∃ c', g.trie[i]? = some c' ∧ (c.left ≠ 0 → c'.left = c.left) ∧ (c.right ≠ 0 → c'.right = c.right) ∧
      (c.child ≠ 0 → c'.child = c.child) := by
  obtain ⟨c', hc', hle⟩ := h.1 i c hc
  exact ⟨c', hc', hle.left, hle.right, hle.child⟩

theorem Files.Le.stub_persists {f g : Files} (h : Files.Le f g) (i : Nat) (b : Stub)
    (hb : f.links[i]? = some b) : g.links[i]? = some b := h.2 i b hb

/-- C18, user-facing form: every page block and every link stub present after a crash cut of a history
    from a fresh index is present, unchanged, in the completed history -/
theorem C18_fresh_reports (cfg : Config) (dflt : Rule) (rules : List (Bytes × Rule)) (ops : List Op)
    (hop : ∀ op ∈ ops, ∀ d rs, op ≠ .clear d rs) (k : Nat) :
    let sf := (State.fresh cfg dflt rules []).1.run ops
    let cut := replay ((sf.log.reverse).take k)
    k ≤ sf.log.length →
    (∀ (i : Nat) (c : Cell), cut.trie[i]? = some c → c.flags.page = true →
        i < sf.trie.size ∧ (sf.cell i).flags.page = true ∧ (sf.cell i).chunk = c.chunk ∧
        (sf.cell i).parent = c.parent) ∧
    (∀ (i : Nat) (b : Stub), cut.links[i]? = some b → sf.links[i]? = some b) := by
  intro sf cut hk
  have hle : Files.Le cut sf.files := C18_fresh_cut_le cfg dflt rules ops hop k hk
  refine ⟨fun i c hc hp => ?_, fun i b hb => hle.stub_persists i b hb⟩
  obtain ⟨c', hc', h1, h2, h3⟩ := hle.page_persists i c hc hp
  have hc'' : sf.trie[i]? = some c' := hc'
  rw [cell_of_getElem? hc'']
  exact ⟨(Array.getElem?_eq_some_iff.mp hc'').1, h1, h2, h3⟩

#print axioms step_trace
#print axioms run_trace
#print axioms Trace.goodLog
#print axioms C18_cut_le
#print axioms C18_fresh_cut_le
#print axioms C18_cutOpen_le
#print axioms C18_fresh_reports

end Traph
