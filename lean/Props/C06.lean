import Proofs.AutoCreate
import Proofs.RuleInstallCor
import Proofs.DerivedOps
import Proofs.DerivedReach
/-! C06 — automatic creation follows the rules. The decision ladder of `__add_page` for an arbitrary rule table
    (`C06_ladder`): nothing is created when the longest candidate is not longer than the existing prefix
    (`C06_covered_creates_nothing`, `C06_post_no_creation`); otherwise one webentity is created and reported,
    owning K plus the variations not already owned, and the page resolves to it (`C06_post_creation`); the
    potential-prefix query runs the same ladder read-only (`C06_potential*`). Installing a rule on a populated
    index IS re-inserting, in the traversal's order, every page beneath its anchor (`C06_rule_install`: an
    equation between the request and the fold of re-insertions over exactly those pages, each once), with the
    corollaries `C06_rule_install_pages` (no page or mark changes), `C06_rule_install_others` and, in Proofs/RuleInstallCor,
    `C06_rule_install_resolves`
    (Proofs/GraftChain, ChainOps, RuleInstall, RuleFuel*, RuleInstallCor); registering a rule in RAM only
    (`write_in_trie=False`): `C06_rule_ram_only`, `C06_rule_ram_reachable` (Proofs/DerivedOps, DerivedReach). -/
namespace Traph.Props
open Traph State

/-- K ≤ E ⇒ no webentity is created and none is reported -/
theorem C06_covered_creates_nothing (s : State) (lru : Bytes) (crawled : Bool) (cand : Bytes) (p : Nat)
    (hc : (s.addPageTrie (lruIter lru) crawled).1.longestCandidate lru (s.addPageTrie (lruIter lru) crawled).2.2 = some cand)
    (hp : (s.addPageTrie (lruIter lru) crawled).2.2.wePos = some p) (hle : cand.length ≤ p) :
    (s.addPageCore lru crawled).1 = (s.addPageTrie (lruIter lru) crawled).1 ∧
    ∃ r, (s.addPageCore lru crawled).2.2 = .ok r ∧ r.we = [] := by
  unfold addPageCore
  rcases ht : s.addPageTrie (lruIter lru) crawled with ⟨s1, n, h⟩
  rw [ht] at hc hp
  simp only at hc hp ⊢
  simp [hc, hp, hle]

/-- the potential-prefix query never changes the index (it is a function of the state) and answers the
    existing prefix in the case K ≤ E, where insertion creates nothing -/
theorem C06_potential_covered (s : State) (lru : Bytes) (cand : Bytes) (p : Nat)
    (hc : s.longestCandidate lru (s.followLru (lruIter lru)).2 = some cand)
    (hp : (s.followLru (lruIter lru)).2.wePos = some p) (hle : cand.length ≤ p) :
    s.potentialPrefix lru = .ok (some (lru.take p)) := by
  unfold potentialPrefix
  rcases hf : s.followLru (lruIter lru) with ⟨n, h⟩
  rw [hf] at hc hp
  simp only at hc hp ⊢
  simp [hc, hp, hle]

/-- …and the rule result when it is strictly longer -/
theorem C06_potential_rule_wins (s : State) (lru : Bytes) (cand : Bytes) (p : Nat)
    (hc : s.longestCandidate lru (s.followLru (lruIter lru)).2 = some cand)
    (hp : (s.followLru (lruIter lru)).2.wePos = some p) (hlt : p < cand.length) :
    s.potentialPrefix lru = .ok (some cand) := by
  unfold potentialPrefix
  rcases hf : s.followLru (lruIter lru) with ⟨n, h⟩
  rw [hf] at hc hp
  simp only at hc hp ⊢
  have : ¬ cand.length ≤ p := by omega
  simp [hc, hp, this]

/-- the decision ladder in terms of E (= retrieve_prefix before the insertion) and the longest rule proposal: K ≤ E creates nothing, K > E creates for K, E absent: the rule proposal if any, else the default rule -/
theorem C06_ladder {s : State} {t : T} (h : Shape s t) (lru : Bytes) (hne : lruIter lru ≠ []) (cand : Bytes)
    (hc : s.longestCandidate lru (s.followLru (lruIter lru)).2 = some cand) :
    (∀ E, s.retrievePrefix lru = .ok E →
      (cand.length ≤ E.length → s.autoPlan lru = some none) ∧
      (E.length < cand.length → s.autoPlan lru = some (some cand))) ∧
    (∀ e, s.retrievePrefix lru = .error e →
      (cand ≠ [] → s.autoPlan lru = some (some cand)) ∧
      (cand = [] → s.autoPlan lru =
        match s.dflt.search lru with
        | none => some none
        | some k => if k.isEmpty then some none else some (some k))) :=
  Traph.autoPlan_cases lru cand hc

/-- nothing to create: nothing reported, the attachment map and the page's resolution are unchanged (the page resolves to E) -/
theorem C06_post_no_creation {s : State} {t : T} (h : Shape s t) (lru : Bytes) (c : Bool)
    (hne : lruIter lru ≠ []) (hp : s.autoPlan lru = some none) :
    (∃ r, (s.addPageCore lru c).2.2 = .ok r ∧ r.we = []) ∧
    (s.addPageCore lru c).1.weMap = s.weMap ∧
    (s.addPageCore lru c).1.retrievePrefix lru = s.retrievePrefix lru ∧
    (s.addPageCore lru c).1.retrieveWebentity lru = s.retrieveWebentity lru :=
  Traph.C06_post_no_creation h lru c hne hp

/-- creation: exactly one webentity is reported, with a fresh id, owning K and every scheme/www variation of K not already owned; afterwards the page resolves to that webentity; its defining prefix is K provided no variation of K is itself a longer stem-prefix of the page (as it is for page `…|h:a|h:www|p:x|` under K = `…|h:a|`: `retrieve_prefix = K` is not claimed there) -/
theorem C06_post_creation {s : State} {t : T} (h : Shape s t) (lru : Bytes) (c : Bool)
    (hne : lruIter lru ≠ []) {K : Bytes} (hp : s.autoPlan lru = some (some K))
    {k : Nat} (hk0 : 0 < k) (hkl : k ≤ (lruIter lru).length) (hK : K = ((lruIter lru).take k).flatten) :
    (∃ r, (s.addPageCore lru c).2.2 = .ok r ∧
      r.we = [(some (s.hdrId + 1), freeOf s.weMap (lruVariations K))]) ∧
    K ∈ freeOf s.weMap (lruVariations K) ∧
    (∀ p, p ∈ freeOf s.weMap (lruVariations K) ↔ p ∈ lruVariations K ∧ s.weMap (lruIter p) = 0) ∧
    (s.addPageCore lru c).1.weMap = mapAttach s.weMap ((lruVariations K).map lruIter) (s.hdrId + 1) ∧
    (s.addPageCore lru c).1.retrieveWebentity lru = .ok (s.hdrId + 1) ∧
    ((∀ v ∈ lruVariations K, ∀ j, k < j → j ≤ (lruIter lru).length → lruIter v ≠ (lruIter lru).take j) →
      (s.addPageCore lru c).1.retrievePrefix lru = .ok K) :=
  Traph.C06_post_creation h lru c hne hp hk0 hkl hK

/-- `get_potential_prefix` returns the same max(E,K) as the ladder, read-only -/
theorem C06_potential {s : State} {t : T} (h : Shape s t) (lru : Bytes) (hne : lruIter lru ≠ []) :
    (∀ K, s.autoPlan lru = some (some K) → s.potentialPrefix lru = .ok (some K)) ∧
    (s.autoPlan lru = some none →
      (∀ E, s.retrievePrefix lru = .ok E → s.potentialPrefix lru = .ok (some E)) ∧
      (∀ e, s.retrievePrefix lru = .error e → s.potentialPrefix lru = .ok none)) ∧
    (s.autoPlan lru = none → s.potentialPrefix lru = .error (.other "KeyError")) :=
  Traph.C06_potential h lru hne

/-- THE LAST CLAUSE: in the state after any `clear`-free history of well-formed writes (`OpWf`) with no `KeyError` (`NoKeyErr`) from a fresh index (rule anchors of at least one stem), `add_webentity_creation_rule(anchor, r)` for an anchor of at least one stem equals — final index AND report — registering the rule, inserting and flagging the anchor (`rulePrologue`), then re-inserting one after another the pages of the list `L`, which holds exactly the pages whose LRU has the anchor as a stem-prefix (the anchor itself included if it is a page), each once, in the traversal's order. The order is the model's DFS order; ids depend on it (`order_matters_ids` in Proofs/RuleInstallCor) -/
theorem C06_rule_install (cfg : Config) (dflt : Rule) (rules : List (Bytes × Rule)) (ops : List Op)
    (hrules : ∀ ar ∈ rules, lruIter ar.1 ≠ [])
    (hop : ∀ op ∈ ops, ∀ d rs, op ≠ .clear d rs) (hwf : ∀ op ∈ ops, OpWf op)
    (hok : NoKeyErr (State.fresh cfg dflt rules []).1 ops)
    (anchor : Bytes) (r : Rule) (hne : lruIter anchor ≠ []) :
    let s := (State.fresh cfg dflt rules []).1.run ops
    let L := (s.rulePrologue anchor r).1.pagesBelow (s.rulePrologue anchor r).2 anchor
    (s.step (.addRule anchor r)).1 = ((s.rulePrologue anchor r).1.reinsert L {}).1 ∧
    (s.step (.addRule anchor r)).2 = Ans.ofExcept .report ((s.rulePrologue anchor r).1.reinsert L {}).2 ∧
    L.Nodup ∧
    ∃ t, Shape s t ∧ ∀ lru, lru ∈ L ↔ ∃ p, IsPage s t p ∧ lruIter anchor <+: p ∧ lru = p.flatten := by
  intro s L
  obtain ⟨t, v, _, _, hz, _⟩ := based_run (blank_freshBase cfg dflt []) rules hrules ops hop hwf hok
  obtain ⟨e1, e2, hnd, hL⟩ := C06_rule_install_of_inv v.shape v.inv hz anchor r hne
  exact ⟨e1, e2, hnd, t, v.shape, hL⟩

/-- the installation adds no page, removes none, changes no crawled mark, and reports 0 new pages -/
theorem C06_rule_install_pages {s : State} {t : T} (h : Shape s t) (hi : Inv s t) (anchor : Bytes) (r : Rule)
    (hne : lruIter anchor ≠ []) :
    ∃ t', Shape (s.addRule anchor r true).1 t' ∧
      (∀ p, IsPage (s.addRule anchor r true).1 t' p ↔ IsPage s t p) ∧
      (∀ p, IsCrawled (s.addRule anchor r true).1 t' p ↔ IsCrawled s t p) ∧
      (∀ rp, (s.addRule anchor r true).2 = .ok rp → rp.pages = 0) :=
  Traph.C06_rule_install_pages h hi anchor r hne

/-- an LRU none of whose stem-prefixes is a prefix reported as created keeps its webentity and defining prefix -/
theorem C06_rule_install_others {s : State} {t : T} (h : Shape s t) (anchor : Bytes) (r : Rule) (rp : Report)
    (hok : (s.addRule anchor r true).2 = .ok rp) (q : Bytes)
    (hq : ∀ e ∈ rp.we, ∀ v ∈ e.2, ∀ j, lruIter v ≠ (lruIter q).take j) :
    (s.addRule anchor r true).1.retrieveWebentity q = s.retrieveWebentity q ∧
    (s.addRule anchor r true).1.retrievePrefix q = s.retrievePrefix q :=
  Traph.C06_rule_install_others h anchor r rp hok q hq

/-- `add_webentity_creation_rule(anchor, pattern, write_in_trie=False)` (what the constructor does on reopening): the
    rule goes to RAM and nothing else changes — no flag, no page re-evaluated, nothing reported -/
theorem C06_rule_ram_only (s : State) (a : Bytes) (r : Rule) :
    s.addRule a r false = ({ s with rules := dictSet s.rules a r }, .ok {}) := Traph.addRule_ram s a r

/-- …and applied to a reachable index it leaves a reachable one (it is a `reopen` that re-supplies the rules with one more), for any anchor -/
theorem C06_rule_ram_reachable {s : State} (h : Reachable s) (a : Bytes) (r : Rule) :
    Reachable (s.addRule a r false).1 := Traph.addRule_ram_reachable h a r

end Traph.Props
