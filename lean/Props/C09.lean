import Proofs.Tokens
import Proofs.Pagination
import Proofs.PagApi
import Proofs.PagLater
import Proofs.HeadlinesAll
/-! C09 — page pagination: token text round-trips for every (prefix index, path); paths built from
    L/C/R steps are injective and read back digit by digit. The traversal is strictly ascending; resuming from any item returns exactly the later items
    (Proofs/PagOrder, PagPaths, Pagination). The request itself over whole episodes: `C09_episode`
    (by `Traph.C09_of_inv`, Proofs/PagApi), with a token issued before later writes `C09_resume_after_run`, in every `Reachable` state `C09_all`. -/
namespace Traph.Props
open Traph

/-- tokens round-trip through their text encoding for every (prefix index, path) -/
theorem C09_token_roundtrip (i path : Nat) : parseToken (buildToken i path) = some (i, path) :=
  parseToken_buildToken i path

/-- a path is the base-4 number of its L/C/R steps (digits 1–3), and `int_to_base4` reads the steps back -/
theorem C09_path_digits (ops : List Nat) (h : ∀ d ∈ ops, d = 1 ∨ d = 2 ∨ d = 3) (hne : ops ≠ []) :
    intToBase4 (ops.foldl base4Append 0) = ops.map digitChar := intToBase4_path ops h hne

/-- two different step sequences never share a path number: a token denotes one tree position -/
theorem C09_path_injective (o₁ o₂ : List Nat) (h₁ : ∀ d ∈ o₁, d = 1 ∨ d = 2 ∨ d = 3)
    (h₂ : ∀ d ∈ o₂, d = 1 ∨ d = 2 ∨ d = 3) : o₁.foldl base4Append 0 = o₂.foldl base4Append 0 → o₁ = o₂ :=
  path_injective o₁ o₂ h₁ h₂

/-- ascending LRU order within a prefix: the in-order walk of a webentity is strictly ascending in the
    byte order of the full LRUs — hence also duplicate-free (stated, like `C09_paths_distinct`, on the ghost walk
    `T.weInorder`; the model's walk is tied to it by `C09_resume`) -/
theorem C09_ascending {s : State} (start : Nat) (t : T) (lo hi : Option Stem) (lru : Bytes) (path : Nat)
    (ho : OrdT s t lo hi) (hw : AllWf s t) :
    ((t.weInorder s start lru path).map (·.2.1)).Pairwise (fun a b => lexLt a b = true) :=
  weInorder_sorted start t lo hi lru path ho hw

/-- every item of the walk can serve as a resume point: `follow_path` leads back to exactly its LRU
    (no traversal exception for a token the index issued) -/
theorem C09_token_denotes {s : State} {a : Nat} {l c r : T} (hr : Rep s (.node a l c r)) (lru : Bytes)
    {b : Nat} {cur : Bytes} {p : Nat} (h : (b, cur, p) ∈ (T.node a l c r).weInorder s a lru 0) :
    s.followPath (if p = 0 then [] else intToBase4 p) a lru = some cur := followPath_weInorder hr lru h

/-- …and its path number is unique in the walk -/
theorem C09_paths_distinct {s : State} (start : Nat) (t : T) (lru : Bytes) (path : Nat) :
    ((t.weInorder s start lru path).map (·.2.2)).Nodup := weInorder_paths_nodup start t lru path

/-- RESUME: feeding back the token of item `(b0, cur0, p0)` yields exactly the items of the un-paginated
    walk that sort after it — the pruning by `can_follow_path` never drops a later item, the strict
    comparison never repeats an earlier one -/
theorem C09_resume {s : State} {a : Nat} {l c r : T} {lo hi : Option Stem}
    (hr : Rep s (.node a l c r)) (ho : OrdT s (.node a l c r) lo hi) (hw : AllWf s (.node a l c r))
    (hsz : (T.node a l c r).size ≤ s.trie.size) (startLru : Bytes) {b0 : Nat} {cur0 : Bytes} {p0 : Nat}
    (hmem : (b0, cur0, p0) ∈ (T.node a l c r).weInorder s a (lruDirname startLru) 0) :
    s.weInorder a startLru (some p0)
      = some (((T.node a l c r).weInorder s a (lruDirname startLru) 0).filter (fun it => lexLt cur0 it.2.1)) :=
  weInorder_resume hr ho hw hsz startLru hmem

/-- nothing repeated, nothing skipped: the un-paginated walk is (items before the token's) ++ token's item
    ++ (the resumed walk) -/
theorem C09_no_repeat_no_skip {s : State} {a : Nat} {l c r : T} {lo hi : Option Stem}
    (hr : Rep s (.node a l c r)) (ho : OrdT s (.node a l c r) lo hi) (hw : AllWf s (.node a l c r))
    (lru : Bytes) {b0 : Nat} {cur0 : Bytes} {p0 : Nat}
    (hmem : (b0, cur0, p0) ∈ (T.node a l c r).weInorder s a lru 0) (fuel : Nat) (hf : (T.node a l c r).height ≤ fuel) :
    ∃ pre, (T.node a l c r).weInorder s a lru 0
        = pre ++ (b0, cur0, p0) :: s.inorderGo a (some (if p0 = 0 then [] else intToBase4 p0, cur0)) fuel a lru 0 ∧
      ∀ it ∈ pre, lexLt it.2.1 cur0 = true :=
  resume_no_repeat_no_skip hr ho hw lru hmem fuel hf

example : parseToken (buildToken 3 (([2, 1, 3] : List Nat).foldl base4Append 0)) = some (3, 39) := by decide +kernel

section Episodes
open Traph State Pag

/-- THE PROPERTY at the API level (by `Traph.C09_of_inv`): after every `clear`-free history of well-formed writes (`OpWf`) with no `KeyError` (`NoKeyErr`) on a fresh index with rule anchors of at least one stem (every `Reachable` state: `C09_all`), for every prefix list for which the unpaginated request answers, crawled-only switch and count ≥ 1, the chunks of an episode concatenate to the in-order page sequence, a rearrangement of the unpaginated answer; ascending within each prefix; every non-final chunk has exactly `count` pages and a token, the last says done; resumable at any item -/
theorem C09_episode (cfg : Config) (dflt : Rule) (rules : List (Bytes × Rule)) (ops : List Op)
    (hrules : ∀ ar ∈ rules, lruIter ar.1 ≠ [])
    (hop : ∀ op ∈ ops, ∀ d rs, op ≠ .clear d rs) (hwf : ∀ op ∈ ops, OpWf op)
    (hok : NoKeyErr (State.fresh cfg dflt rules []).1 ops)
    (s : State) (hs : s = (State.fresh cfg dflt rules []).1.run ops)
    (ps : List Bytes) (all : List (Bytes × Bool)) (hall : s.webentityPages ps = .ok all)
    (crawledOnly : Bool) (count : Nat) (hc : 1 ≤ count) :
    (∃ chunks : List PageChunk,
      PageEpisode s ps crawledOnly count none chunks ∧
      episodePages s ps crawledOnly count ((pageSeq s ps crawledOnly).length / count + 1) none = some chunks ∧
      chunks.flatMap (·.pages) = ps.flatMap (pagesOfPrefix s crawledOnly) ∧
      (ps.flatMap (pagesOfPrefix s crawledOnly)).Perm (if crawledOnly then all.filter (·.2) else all) ∧
      (∀ ch ∈ chunks, ch.count = ch.pages.length ∧ ch.crawled = crawledCount ch.pages) ∧
      (∀ ch ∈ chunks.dropLast, ch.done = false ∧ ch.pages.length = count ∧ ch.token.isSome = true) ∧
      (∃ l, chunks.getLast? = some l ∧ l.done = true ∧ l.token = none ∧ l.pages.length ≤ count)) ∧
    (∀ p ∈ ps, ((pagesOfPrefix s crawledOnly p).map (·.1)).Pairwise (fun a b => lexLt a b = true)) ∧
    (∀ pre x post, gItems s (enumFrom 0 ps) = pre ++ x :: post → ∀ count', 1 ≤ count' →
      ∃ chunks, PageEpisode s ps crawledOnly count' (some (buildToken x.1 x.2.2.2)) chunks ∧
        chunks.flatMap (·.pages) = post.flatMap (fun y => pgOut s crawledOnly (y.2.1, y.2.2.1))) := by
  subst hs
  obtain ⟨t, v, _⟩ := linkView_run cfg dflt rules ops hrules hop hwf hok
  exact C09_of_inv v.shape v.inv hall crawledOnly count hc

/-- issued tokens are tokens of items of the walk -/
theorem C09_issued_tokens {s : State} {t : T} (h : Shape s t) (hi : Inv s t) {ps : List Bytes}
    {all : List (Bytes × Bool)} (hall : s.webentityPages ps = .ok all) (crawledOnly : Bool)
    (count : Nat) (hc : 1 ≤ count)
    {chunks : List PageChunk} (hep : PageEpisode s ps crawledOnly count none chunks)
    {ch : PageChunk} (hch : ch ∈ chunks) {tk : Bytes} (htk : ch.token = some tk) :
    ∃ pre x post, gItems s (enumFrom 0 ps) = pre ++ x :: post ∧ (s.cell x.2.1).flags.page = true ∧
      tk = buildToken x.1 x.2.2.2 :=
  Traph.C09_issued_tokens h hi hall crawledOnly count hc hep hch htk

/-- a token issued before, fed back after any `clear`-free history of well-formed writes (`OpWf`) with no `KeyError` (`NoKeyErr`) (pages inserted between two calls), still resumes with exactly the current pages of its prefix sorting after it, then those of the later prefixes -/
theorem C09_resume_after_run {s : State} {t : T} (h : Shape s t) (hi : Inv s t) (hlive : Live s)
    (ops : List Op) (hop : ∀ op ∈ ops, ∀ d rs, op ≠ .clear d rs) (hwf : ∀ op ∈ ops, OpWf op)
    (hok : NoKeyErr s ops) {ps : List Bytes} {all : List (Bytes × Bool)}
    (hall : s.webentityPages ps = .ok all) (crawledOnly : Bool) (count : Nat) (hc : 1 ≤ count)
    (pre : List GX) (x : GX) (post : List GX) (hG : gItems s (enumFrom 0 ps) = pre ++ x :: post) :
    ∃ p tl chunks, ps.drop x.1 = p :: tl ∧
      PageEpisode (s.run ops) ps crawledOnly count (some (buildToken x.1 x.2.2.2)) chunks ∧
      chunks.flatMap (·.pages)
        = ((walkOf (s.run ops) p).filter (fun y => lexLt x.2.2.1 y.2.1)).flatMap
            (fun it => pgOut (s.run ops) crawledOnly (it.1, it.2.1))
          ++ tl.flatMap (pagesOfPrefix (s.run ops) crawledOnly) ∧
      (∀ ch ∈ chunks.dropLast, ch.pages.length = count) :=
  Traph.C09_resume_after_run h hi hlive ops hop hwf hok hall crawledOnly count hc pre x post hG

end Episodes

section EveryHistory
open Traph State Pag Layout

/-- `C09_episode` with its hypotheses on the history replaced by `Reachable s`, which unfolds to: EVERY HISTORY, `clear` and `reopen` included, no request assumed away: the only hypotheses on the history are that byte strings cut into at least one stem (`OpWf`), rule anchors are whole LRUs (`rulesCanonical`, `Canon`) and the caller re-supplies on `reopen` the rules the index carries, as the API requires, and removes only rules that are in RAM (`Disciplined`); `clear` acts as a reset (`sinceClear`).  -/
theorem C09_all {s : State} (hs : Reachable s)
    (ps : List Bytes) (all : List (Bytes × Bool)) (hall : s.webentityPages ps = .ok all)
    (crawledOnly : Bool) (count : Nat) (hc : 1 ≤ count) :
    (∃ chunks : List PageChunk,
      PageEpisode s ps crawledOnly count none chunks ∧
      episodePages s ps crawledOnly count ((pageSeq s ps crawledOnly).length / count + 1) none = some chunks ∧
      chunks.flatMap (·.pages) = ps.flatMap (pagesOfPrefix s crawledOnly) ∧
      (ps.flatMap (pagesOfPrefix s crawledOnly)).Perm (if crawledOnly then all.filter (·.2) else all) ∧
      (∀ ch ∈ chunks, ch.count = ch.pages.length ∧ ch.crawled = crawledCount ch.pages) ∧
      (∀ ch ∈ chunks.dropLast, ch.done = false ∧ ch.pages.length = count ∧ ch.token.isSome = true) ∧
      (∃ l, chunks.getLast? = some l ∧ l.done = true ∧ l.token = none ∧ l.pages.length ≤ count)) ∧
    (∀ p ∈ ps, ((pagesOfPrefix s crawledOnly p).map (·.1)).Pairwise (fun a b => lexLt a b = true)) ∧
    (∀ pre x post, gItems s (enumFrom 0 ps) = pre ++ x :: post → ∀ count', 1 ≤ count' →
      ∃ chunks, PageEpisode s ps crawledOnly count' (some (buildToken x.1 x.2.2.2)) chunks ∧
        chunks.flatMap (·.pages) = post.flatMap (fun y => pgOut s crawledOnly (y.2.1, y.2.2.1))) :=
  Traph.C09_all hs ps all hall crawledOnly count hc

end EveryHistory

end Traph.Props
