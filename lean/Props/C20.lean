import Proofs.TopK
import Proofs.MostLinked
import Proofs.HeadlinesAll
/-! C20 — most-linked pages: the bounded heap keeps the `k` largest keys `(indegree, arrival)`; the
    answer is in non-increasing order of indegree and no omitted page has a larger indegree than a
    listed one. The reported indegree of a page *with* inbound links is the number of distinct sources
    (`C20_indegree_linked`); for a page nobody links to the code reports 1 (finding D4),
    which the model reproduces under `cfg.lonelyIndegreeOne`. Heap: Proofs/TopK; indegree and the API-level
    statement `C20_answer` (from `C20_of_inv`): Proofs/MostLinked; `C20_all` (= `C20_all_reachable`,
    Proofs/HeadlinesAll): the same in every `Reachable` state. -/
namespace Traph.Props
open Traph State

theorem C20_topk_length (k : Nat) (xs : List (Nat × Nat × Bytes)) (h : (xs.map (·.2.1)).Nodup) :
    (topK k xs).length = min k xs.length := topK_length k xs h

theorem C20_topk_sublist (k : Nat) (xs : List (Nat × Nat × Bytes)) (h : (xs.map (·.2.1)).Nodup) :
    ∃ dropped, (topK k xs ++ dropped).Perm xs := topK_sublist_perm k xs h

/-- no omitted page has a larger indegree than a listed one -/
theorem C20_topk_max (k : Nat) (xs : List (Nat × Nat × Bytes)) (h : (xs.map (·.2.1)).Nodup) :
    ∀ kept ∈ topK k xs, ∀ d, d ∈ xs → d ∉ topK k xs → d.1 ≤ kept.1 := topK_max_indegree k xs h

/-- the answer, best first, is in non-increasing order of indegree -/
theorem C20_order (k : Nat) (xs : List (Nat × Nat × Bytes)) (h : (xs.map (·.2.1)).Nodup) :
    ((topK k xs).reverse.map (·.1)).Pairwise (· ≥ ·) := topK_reverse_nonincreasing k xs h

/-- the hypothesis is met by the list `mostLinked` builds (arrival numbers 1,2,3,…) -/
theorem C20_arrivals (pages : List (Bytes × Nat)) :
    ((((enumFrom 1 pages).map (fun ip => (ip.2.2, ip.1, ip.2.1))).map (·.2.1))).Nodup := mostLinked_keys_nodup pages

/-- reported indegree of a page with an in-list = number of distinct sources -/
theorem C20_indegree_linked (s : State) (head : Nat) (h : head ≠ 0) :
    s.indegreeEntries head = (s.walk head).eraseDups.length := indegreeEntries_linked s head h

/-- D4 as a theorem about the model configured like the unchanged code, and its repaired counterpart -/
theorem C20_lonely_witness (s : State) (h : s.cfg.lonelyIndegreeOne = true) : s.indegreeEntries 0 = 1 :=
  indegreeEntries_lonely_true s h
theorem C20_lonely_repaired (s : State) (h : s.cfg.lonelyIndegreeOne = false) : s.indegreeEntries 0 = 0 :=
  indegreeEntries_lonely_false s h

/-- THE PROPERTY: for every state reached from a fresh index (rule anchors of at least one stem) by a `clear`-free history of well-formed requests (`OpWf`) with no `KeyError` (`NoKeyErr`), webentity `w` asked with a full prefix list, every `k` (0 included) and depth limit: the answer is `rank k` of the candidate pages = the pages of `w` within the depth limit with their reported indegree; at most `k`, exactly min(k, #candidates); non-increasing; no omitted candidate has a larger reported indegree than a listed one; no page twice if no prefix is given twice; reported indegree = number of distinct source blocks of the in-list, and for a page nobody links to 1 under the unchanged code (known finding D4: the header block decoded as one stub; it also changes which pages are listed) and 0 with the repair -/
theorem C20_answer (cfg : Config) (dflt : Rule) (rules : List (Bytes × Rule)) (ops : List Op)
    (hrules : ∀ ar ∈ rules, lruIter ar.1 ≠ [])
    (hop : ∀ op ∈ ops, ∀ d rs, op ≠ .clear d rs) (hwf : ∀ op ∈ ops, OpWf op)
    (hok : NoKeyErr (State.fresh cfg dflt rules []).1 ops)
    (s : State) (hs : s = (State.fresh cfg dflt rules []).1.run ops) :
    ∃ t, Shape s t ∧ Traph.Inv s t ∧
      (∀ w ps k depth, FullPrefixList s w ps →
        ∃ pages l, s.mostLinked ps k depth = .ok l ∧ l = rank k pages ∧
          (∀ lru m, (lru, m) ∈ pages ↔ IsCandidate s t w depth lru m) ∧
          ((ps.map lruIter).Nodup → (pages.map (·.1)).Nodup) ∧
          l.length = min k pages.length ∧
          (∃ dropped, (l ++ dropped).Perm pages ∧ ∀ x ∈ l, ∀ d ∈ dropped, d.2 ≤ x.2) ∧
          (∀ lru m, (lru, m) ∈ l → IsCandidate s t w depth lru m) ∧
          (l.map (·.2)).Pairwise (· ≥ ·) ∧
          (∀ lru m, IsCandidate s t w depth lru m → (lru, m) ∉ l → ∀ x ∈ l, m ≤ x.2) ∧
          ((ps.map lruIter).Nodup → (l.map (·.1)).Nodup)) ∧
      (∀ head, head ≠ 0 → s.indegreeEntries head = (s.walk head).eraseDups.length) ∧
      (s.cfg.lonelyIndegreeOne = true → s.indegreeEntries 0 = 1 ∧
        ∀ head, s.indegreeEntries head = (s.walk head).eraseDups.length) ∧
      (s.cfg.lonelyIndegreeOne = false → s.indegreeEntries 0 = 0) ∧
      (∀ w, w ≠ 0 → FullPrefixList s w (prefixesOf s w) ∧ ((prefixesOf s w).map lruIter).Nodup) := by
  subst hs
  obtain ⟨t, v, _, _, _, _, _, _, hh⟩ := based_run (blank_freshBase cfg dflt []) rules hrules ops hop hwf hok
  exact ⟨t, v.shape, v.inv, C20_of_inv v.shape v.inv hh⟩

section EveryHistory
open Traph State Pag Layout

/-- the conclusions of `C20_answer` in every `Reachable` state (= `C20_all_reachable`, Proofs/HeadlinesAll; `Reachable`, Proofs/ReachableAll: `rulesCanonical` rules, `OpWf` requests, a `Disciplined` history, `clear` and `reopen` included) -/
theorem C20_all {s : State} (hs : Reachable s) :
    ∃ t, Shape s t ∧ Traph.Inv s t ∧
      (∀ w ps k depth, FullPrefixList s w ps →
        ∃ pages l, s.mostLinked ps k depth = .ok l ∧ l = rank k pages ∧
          (∀ lru m, (lru, m) ∈ pages ↔ IsCandidate s t w depth lru m) ∧
          ((ps.map lruIter).Nodup → (pages.map (·.1)).Nodup) ∧
          l.length = min k pages.length ∧
          (∃ dropped, (l ++ dropped).Perm pages ∧ ∀ x ∈ l, ∀ d ∈ dropped, d.2 ≤ x.2) ∧
          (∀ lru m, (lru, m) ∈ l → IsCandidate s t w depth lru m) ∧
          (l.map (·.2)).Pairwise (· ≥ ·) ∧
          (∀ lru m, IsCandidate s t w depth lru m → (lru, m) ∉ l → ∀ x ∈ l, m ≤ x.2) ∧
          ((ps.map lruIter).Nodup → (l.map (·.1)).Nodup)) ∧
      (∀ head, head ≠ 0 → s.indegreeEntries head = (s.walk head).eraseDups.length) ∧
      (s.cfg.lonelyIndegreeOne = true → s.indegreeEntries 0 = 1 ∧
        ∀ head, s.indegreeEntries head = (s.walk head).eraseDups.length) ∧
      (s.cfg.lonelyIndegreeOne = false → s.indegreeEntries 0 = 0) ∧
      (∀ w, w ≠ 0 → FullPrefixList s w (prefixesOf s w) ∧ ((prefixesOf s w).map lruIter).Nodup) :=
  Traph.C20_all_reachable hs

end EveryHistory

end Traph.Props
