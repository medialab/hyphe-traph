import Proofs.Variations
/-! C17 — prefix variations form closed classes. Proved on the byte-level function the executable model
    runs (`lruVariations`, the mirror of `helpers.lru_variations`), for every LRU of the property's
    grammar `Lru17` (scheme, optional port, contiguous host stems not ending in two `www`, then stems
    that are not host stems — which may *contain* `s:http` or `h:`). -/
namespace Traph.Props
open Traph

/-- never fails: the model function is total (the code raised IndexError on zero host stems — D6) and
    lists the prefix itself first, for *every* byte string -/
theorem C17_head (b : Bytes) : (lruVariations b).head? = some b := Traph.C17_head b

/-- no entry twice -/
theorem C17_nodup (x : Lru17) (h : x.Wf) : (lruVariations x.bytes).Nodup := Traph.C17_nodup x h

/-- changes nothing but the scheme stem and a trailing `www` host stem -/
theorem C17_local (x : Lru17) (h : x.Wf) : ∀ y ∈ lruVariations x.bytes, ∃ x' : Lru17, x'.Wf ∧ x'.bytes = y ∧
    x'.port = x.port ∧ x'.rest = x.rest ∧
    (x'.scheme = x.scheme ∨ (x.scheme = http ∧ x'.scheme = https) ∨ (x.scheme = https ∧ x'.scheme = http)) ∧
    (x'.hosts = x.hosts ∨ x'.hosts = x.hosts ++ [www] ∨ x'.hosts ++ [www] = x.hosts) := Traph.C17_local x h

/-- closed: expanding any member yields the same set -/
theorem C17_closed (x : Lru17) (h : x.Wf) : ∀ y ∈ lruVariations x.bytes, (lruVariations y).Perm (lruVariations x.bytes) :=
  Traph.C17_closed x h

/-- the byte-level function is the stem-level specification on the grammar -/
theorem C17_bridge (x : Lru17) (h : x.Wf) : lruVariations x.bytes = x.variations.map Lru17.bytes :=
  lruVariations_bytes x h

/-- consequently the webentity created automatically owns the same class whichever member was seen first:
    the list handed to `__add_prefixes` for `y` has the same members as the one for `x` (a permutation:
    `C17_closed`) -/
theorem C17_order_independent (x : Lru17) (h : x.Wf) (y : Bytes) (hy : y ∈ lruVariations x.bytes) (z : Bytes) :
    z ∈ lruVariations y ↔ z ∈ lruVariations x.bytes := (Traph.C17_closed x h y hy).mem_iff

end Traph.Props
