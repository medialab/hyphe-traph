import Proofs.Small
import Proofs.ForPrefixes
import Proofs.MarksOps
import Proofs.HeadlinesAll
/-! C13 — hierarchy queries. The answers are duplicate-free sorted sets, never contain
    the queried webentity or "no webentity", and every member is the id of a cell met on the parent chain
    (resp. in the pruned DFS) of one of the given prefixes; the only refusal is the library's own error,
    for an unknown prefix. The pruned DFS meets *every* attached descendant: the pruning mark invariant I5
    holds in every reachable state, so the children answer is exact (Proofs/Marks*). Section `EveryHistory`:
    `C13_all` (Proofs/HeadlinesAll), the same for every `Reachable` state. -/
namespace Traph.Props
open Traph State

/-- the two answers as membership facts (the queries unfolded through `sortDedup`/`filter`; what `parents` and the
    pruned DFS themselves return is the subject of `C13_children` and `C13_all`, for the children answer only) -/
theorem C13_parents_sound (s : State) (w : Nat) (ps : List Bytes) (l : List Nat)
    (h : s.parentWebentities w ps = .ok l) (x : Nat) :
    x ∈ l ↔ x ≠ 0 ∧ x ≠ w ∧ ∃ p ∈ ps, ∃ n, s.lruNode (lruIter p) = some n ∧ ∃ a ∈ s.parents n, (s.cell a).we = x := by
  rw [(forPrefixes_sortDedup_ok s ps _ l h).2]
  simp only [List.mem_filter, List.mem_map, Bool.and_eq_true, ne_eq, decide_eq_true_eq]
  constructor
  · rintro ⟨p, hp, n, hn, ⟨a, ha, rfl⟩, h0, hw⟩
    exact ⟨h0, hw, p, hp, n, hn, a, ha, rfl⟩
  · rintro ⟨h0, hw, p, hp, n, hn, a, ha, rfl⟩
    exact ⟨p, hp, n, hn, ⟨a, ha, rfl⟩, h0, hw⟩

theorem C13_children_sound (s : State) (w : Nat) (ps : List Bytes) (l : List Nat)
    (h : s.childWebentities w ps = .ok l) (x : Nat) :
    x ∈ l ↔ x ≠ 0 ∧ x ≠ w ∧ ∃ p ∈ ps, ∃ n, s.lruNode (lruIter p) = some n ∧
      ∃ bl ∈ s.dfsIter (some (n, p)) true, (s.cell bl.1).we = x := by
  rw [(forPrefixes_sortDedup_ok s ps _ l h).2]
  simp only [List.mem_filter, List.mem_map, Bool.and_eq_true, ne_eq, decide_eq_true_eq]
  constructor
  · rintro ⟨p, hp, n, hn, ⟨a, ha, rfl⟩, h0, hw⟩
    exact ⟨h0, hw, p, hp, n, hn, a, ha, rfl⟩
  · rintro ⟨h0, hw, p, hp, n, hn, a, ha, rfl⟩
    exact ⟨p, hp, n, hn, ⟨a, ha, rfl⟩, h0, hw⟩

/-- THE MARK INVARIANT is an invariant of every write request (including `clear`): in every state reached from
    a fresh index by any history, a node still marked "no child webentities" has no webentity anywhere below
    it — however the prefixes came to exist (explicit, automatic and rule-driven creation, additions, moves) -/
theorem C13_mark_invariant (cfg : Config) (dflt : Rule) (rules : List (Bytes × Rule)) (ops : List Op) :
    MInv ((State.fresh cfg dflt rules).1.run ops) := minv_hist.reachable cfg dflt rules ops

/-- CHILDREN, EXACT: in every reachable state the answer of `get_webentity_child_webentities`, for prefixes that
    cut into ≥ 1 stem (`lruIter p ≠ []`), is exactly the set of ids other than `w` attached to a stored LRU
    extending one of the given prefixes, at any depth -/
theorem C13_children (cfg : Config) (dflt : Rule) (rules : List (Bytes × Rule)) (ops : List Op)
    (w : Nat) (ps : List Bytes) (hps : ∀ p ∈ ps, lruIter p ≠ []) (l : List Nat) :
    let s := (State.fresh cfg dflt rules).1.run ops
    s.childWebentities w ps = .ok l →
    ∃ t, Shape s t ∧ ∀ x, x ∈ l ↔ x ≠ 0 ∧ x ≠ w ∧ ∃ p ∈ ps, ∃ q b, (q, b) ∈ t.entries s [] ∧
      lruIter p <+: q ∧ (s.cell b).we = x := C13_reachable_api cfg dflt rules ops w ps hps l

/-- the mechanism: `add_lru(…, flag_can_have_child_webentities=True)` unmarks every proper ancestor of the
    path, existing or new — stated without any ghost state, through the look-up itself -/
theorem C13_unmarks {s : State} {t : T} (h : Shape s t) (hm : MarkOk s t) (stems : LRU) (hne : stems ≠ []) :
    ∀ k, 0 < k → k < stems.length → ∀ b, (s.addLru stems true).1.lruNode (stems.take k) = some b →
      ((s.addLru stems true).1.cell b).flags.noChild = false :=
  have _ := hm
  addLru_true_unmarks_lruNode h stems hne

/-- answers are sets: strictly ascending, hence duplicate-free -/
theorem C13_answers_are_sets (s : State) (w : Nat) (ps : List Bytes) (l : List Nat) :
    (s.parentWebentities w ps = .ok l ∨ s.childWebentities w ps = .ok l) → StrictAsc l := by
  rintro (h | h) <;> exact (forPrefixes_sortDedup_ok s ps _ l h).1

/-- the only refusal is the library's own error, and then one of the given prefixes is unknown -/
theorem C13_unknown_prefix (s : State) (w : Nat) (ps : List Bytes) (e : Err)
    (h : s.parentWebentities w ps = .error e ∨ s.childWebentities w ps = .error e) :
    e = .traph ∧ ∃ p ∈ ps, s.lruNode (lruIter p) = none := by
  rcases h with h | h <;> exact forPrefixes_map_err s ps _ _ e h

section EveryHistory
open Traph State Pag Layout

/-- C13 in every `Reachable` state (Proofs/ReachableAll: `rulesCanonical` rules, `OpWf` requests, a `Disciplined` history, `clear` and `reopen` included): the mark invariant holds, the pruned DFS from any stored node finds exactly the ids attached at or below it, and the children answer is exact for prefixes that cut into ≥ 1 stem (`lruIter p ≠ []`) -/
theorem C13_all {s : State} (hs : Reachable s) :
    ∃ t, Shape s t ∧ MarkOk s t ∧
      (∀ a ∈ t.addrs, ∀ (lru : Bytes) (w : Nat),
        ∃ l c r, Rep s (.node a l c r) ∧ (∀ x ∈ c.addrs, x ∈ t.addrs) ∧
          ∀ x, (x ≠ 0 ∧ x ≠ w ∧ ∃ b ∈ a :: c.addrs, (s.cell b).we = x) ↔
               (x ≠ 0 ∧ x ≠ w ∧ ∃ bl ∈ s.dfsIter (some (a, lru)) true, (s.cell bl.1).we = x)) ∧
      (∀ (w : Nat) (ps : List Bytes), (∀ p ∈ ps, lruIter p ≠ []) → ∀ l : List Nat,
        s.childWebentities w ps = .ok l →
        ∀ x, x ∈ l ↔ x ≠ 0 ∧ x ≠ w ∧ ∃ p ∈ ps, ∃ q b, (q, b) ∈ t.entries s [] ∧
          lruIter p <+: q ∧ (s.cell b).we = x) :=
  Traph.C13_all hs

end EveryHistory

end Traph.Props
