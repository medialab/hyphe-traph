import Proofs.PageSet
import Proofs.HeadlinesAll
/-! C01 — page set fidelity, in full: for every history of write requests (without `clear`, which starts a
    new index) on a fresh index with constructor rules, over well-formed LRUs (each submitted byte
    string and each constructor-rule anchor cuts into at least one stem), with the rules re-supplied as the
    API requires (no request aborts with KeyError):

    * the pages of the final state are exactly the LRUs submitted as pages — directly, as link ends, as
      crawl-batch sources and targets (`Op.pages`) — none lost, none invented (`C01_pages`);
    * `pages_iter` lists exactly their flattened byte strings, each once (`C01_enumeration`);
    * a page is crawled only if some submission may mark it and is crawled if some submission must mark it
      (`C01_crawled`; reading A-1 of DESIGN §8 for `add_pages(crawled=False)`);
    * every write report counts exactly the distinct LRUs of the request that were not pages before
      (`C01_report`).

    Behind it: `Shape` (ghost tree represented, strict BST order on full stems, no duplicate block) is an
    invariant of every request other than `clear` (`C01_shape_invariant`), insertion returns *the* block of
    the LRU (Proofs/Insert), look-up finds it (Proofs/DescendSpec), the traversal meets every block once
    (Proofs/Traverse). Webentity, prefix and rule edits leave the page set alone (they are `Keeps` steps).

    With `clear` and `reopen` (about the requests since the last `clear`; `rulesCanonical`, `OpWf`, `Disciplined`):
    `C01_pages_all`, `C01_crawled_all`, `C01_enumeration_all` (Proofs/HeadlinesAll); the invariants of every
    `Reachable` state: `C01_invariants_all` (Proofs/ReachableAll). -/
namespace Traph.Props
open Traph State

/-- the shape invariant holds after every `clear`-free history from a fresh index -/
theorem C01_shape_invariant (cfg : Config) (dflt : Rule) (rules : List (Bytes × Rule)) (ops : List Op)
    (hop : ∀ op ∈ ops, ∀ d rs, op ≠ .clear d rs) :
    ∃ t, Shape ((State.fresh cfg dflt rules []).1.run ops) t := shape_run cfg dflt rules ops hop

/-- no page lost, none invented -/
theorem C01_pages (cfg : Config) (dflt : Rule) (rules : List (Bytes × Rule)) (ops : List Op)
    (hrules : ∀ ar ∈ rules, lruIter ar.1 ≠ [])
    (hop : ∀ op ∈ ops, ∀ d rs, op ≠ .clear d rs) (hwf : ∀ op ∈ ops, OpWf op)
    (hok : NoKeyErr (State.fresh cfg dflt rules []).1 ops) :
    ∃ t, Shape ((State.fresh cfg dflt rules []).1.run ops) t ∧
      ∀ p, IsPage ((State.fresh cfg dflt rules []).1.run ops) t p ↔ ∃ op ∈ ops, ∃ x ∈ op.pages, x.1 = p :=
  Traph.C01_pages cfg dflt rules ops hrules hop hwf hok

/-- the full page enumeration reports exactly the submitted LRUs, each once — as the flattened stems `lruIter` cuts (byte-identical for a submission that ends in the separator; bytes after the last separator are dropped) -/
theorem C01_enumeration (cfg : Config) (dflt : Rule) (rules : List (Bytes × Rule)) (ops : List Op)
    (hrules : ∀ ar ∈ rules, lruIter ar.1 ≠ [])
    (hop : ∀ op ∈ ops, ∀ d rs, op ≠ .clear d rs) (hwf : ∀ op ∈ ops, OpWf op)
    (hok : NoKeyErr (State.fresh cfg dflt rules []).1 ops) :
    (∀ lru, (∃ c, (lru, c) ∈ ((State.fresh cfg dflt rules []).1.run ops).pagesIter) ↔
        ∃ op ∈ ops, ∃ x ∈ op.pages, lru = x.1.flatten) ∧
    ((((State.fresh cfg dflt rules []).1.run ops).pagesIter).map (·.1)).Nodup :=
  C01_pagesIter cfg dflt rules ops hrules hop hwf hok

/-- crawled marks: only if some submission may mark, and whenever some submission must mark -/
theorem C01_crawled (cfg : Config) (dflt : Rule) (rules : List (Bytes × Rule)) (ops : List Op)
    (hrules : ∀ ar ∈ rules, lruIter ar.1 ≠ [])
    (hop : ∀ op ∈ ops, ∀ d rs, op ≠ .clear d rs) (hwf : ∀ op ∈ ops, OpWf op)
    (hok : NoKeyErr (State.fresh cfg dflt rules []).1 ops) :
    ∃ t, Shape ((State.fresh cfg dflt rules []).1.run ops) t ∧
      ∀ p, (IsCrawled ((State.fresh cfg dflt rules []).1.run ops) t p →
              ∃ op ∈ ops, ∃ x ∈ op.pages, x.1 = p ∧ x.2.2 = true) ∧
           ((∃ op ∈ ops, ∃ x ∈ op.pages, x.1 = p ∧ x.2.1 = true) →
              IsCrawled ((State.fresh cfg dflt rules []).1.run ops) t p) :=
  Traph.C01_crawled cfg dflt rules ops hrules hop hwf hok

open Classical in
/-- after a history as in `C01_pages`, every write report counts exactly the pages that were new -/
theorem C01_report (cfg : Config) (dflt : Rule) (rules : List (Bytes × Rule)) (ops : List Op)
    (hrules : ∀ ar ∈ rules, lruIter ar.1 ≠ [])
    (hop : ∀ op ∈ ops, ∀ d rs, op ≠ .clear d rs) (hwf : ∀ op ∈ ops, OpWf op)
    (hok : NoKeyErr (State.fresh cfg dflt rules []).1 ops)
    (op : Op) (hop' : ∀ d rs, op ≠ .clear d rs) (hwf' : OpWf op) (r : Report)
    (hr : (((State.fresh cfg dflt rules []).1.run ops).step op).2 = .report r) :
    ∃ t, Shape ((State.fresh cfg dflt rules []).1.run ops) t ∧
      r.pages = ((op.pages.map (·.1)).eraseDups.filter
        (fun p => decide (¬ IsPage ((State.fresh cfg dflt rules []).1.run ops) t p))).length :=
  C01_report_run cfg dflt rules ops hrules hop hwf hok op hop' hwf' r hr

/-- submitting a page (known or not) un-marks no existing page: every block flagged page stays a page with
    the same stem bytes and parent, and a set crawled mark stays set (stated on the trie insertion
    `addPageTrie`) -/
theorem C01_resubmit (s : State) (stems : LRU) (crawled : Bool) (h0 : 0 < s.trie.size) (hne : stems ≠ [])
    (i : Nat) (c : Cell) (hc : s.trie[i]? = some c) (hp : c.flags.page = true) :
    ∃ c', (s.addPageTrie stems crawled).1.trie[i]? = some c' ∧ c'.flags.page = true ∧ c'.chunk = c.chunk ∧
      c'.parent = c.parent ∧ (c.flags.crawled = true → c'.flags.crawled = true) := by
  obtain ⟨c', hc', hle⟩ := (addPageTrie_le s stems crawled h0 hne).1.cells i c hc
  exact ⟨c', hc', hle.page hp, hle.chunk, hle.parent, hle.crawled⟩

/-- non-vacuity of `OpWf`: two requests meeting it -/
example : OpWf (.addPage [97, 124, 98, 124] true) ∧ OpWf (.addLinks [([97, 124], [99, 124])]) := by
  constructor <;> simp [OpWf, lruIter, lruIterGo, Layout.sep]

section EveryHistory
open Traph State Pag Layout

/-- EVERY HISTORY, `clear` and `reopen` included, no request assumed away: the only hypotheses are that byte strings cut into at least one stem (`OpWf`), rule anchors are whole LRUs (`rulesCanonical`, `Canon`) and the caller re-supplies on `reopen` the rules the index carries, as the API requires, and removes only rules that are in RAM (`Disciplined`); `clear` acts as a reset (`sinceClear`).  -/
theorem C01_pages_all (cfg : Config) (dflt : Rule) (rules : List (Bytes × Rule)) (ops : List Op)
    (hr : rulesCanonical rules) (hwf : ∀ op ∈ sinceClear ops, OpWf op)
    (hd : Disciplined (State.fresh cfg dflt rules []).1 ops) :
    ∃ t, Shape ((State.fresh cfg dflt rules []).1.run ops) t ∧
      ∀ p, IsPage ((State.fresh cfg dflt rules []).1.run ops) t p ↔
        ∃ op ∈ sinceClear ops, ∃ x ∈ op.pages, x.1 = p :=
  Traph.C01_pages_all cfg dflt rules ops hr hwf hd

/-- `C01_crawled` for every history, under the hypotheses of `C01_pages_all` -/
theorem C01_crawled_all (cfg : Config) (dflt : Rule) (rules : List (Bytes × Rule)) (ops : List Op)
    (hr : rulesCanonical rules) (hwf : ∀ op ∈ sinceClear ops, OpWf op)
    (hd : Disciplined (State.fresh cfg dflt rules []).1 ops) :
    ∃ t, Shape ((State.fresh cfg dflt rules []).1.run ops) t ∧
      ∀ p, (IsCrawled ((State.fresh cfg dflt rules []).1.run ops) t p →
              ∃ op ∈ sinceClear ops, ∃ x ∈ op.pages, x.1 = p ∧ x.2.2 = true) ∧
           ((∃ op ∈ sinceClear ops, ∃ x ∈ op.pages, x.1 = p ∧ x.2.1 = true) →
              IsCrawled ((State.fresh cfg dflt rules []).1.run ops) t p) :=
  Traph.C01_crawled_all cfg dflt rules ops hr hwf hd

/-- `C01_enumeration` for every history, under the hypotheses of `C01_pages_all` -/
theorem C01_enumeration_all (cfg : Config) (dflt : Rule) (rules : List (Bytes × Rule)) (ops : List Op)
    (hr : rulesCanonical rules) (hwf : ∀ op ∈ sinceClear ops, OpWf op)
    (hd : Disciplined (State.fresh cfg dflt rules []).1 ops) :
    (∀ lru, (∃ c, (lru, c) ∈ ((State.fresh cfg dflt rules []).1.run ops).pagesIter) ↔
        ∃ op ∈ sinceClear ops, ∃ x ∈ op.pages, lru = x.1.flatten) ∧
    ((((State.fresh cfg dflt rules []).1.run ops).pagesIter).map (·.1)).Nodup :=
  Traph.C01_enumeration_all cfg dflt rules ops hr hwf hd

/-- the invariants of every `Reachable` state (= `reachable_invariants`, Proofs/ReachableAll: `rulesCanonical` rules,
    `OpWf` requests, a `Disciplined` history, `clear` and `reopen` included) -/
theorem C01_invariants_all {s : State} (h : Reachable s) :
    ∃ t, Shape s t ∧ Inv s t ∧ SizeOk s t ∧ ParOk s t 0 ∧ MarkOk s t ∧ LkOk s t [] ∧ LinksOk s ∧ RulesOk s ∧
      Whole s ∧ HeaderStub s ∧ ∃ L, Graph s t L :=
  Traph.reachable_invariants h

end EveryHistory

end Traph.Props
