import Proofs.Ids
/-! C12 — webentity ids are fresh, increasing and survive restarts. Invariant: every id a request
    reports lies above the header counter as it was before the request and at most at the counter after it; every
    function that does not allocate leaves the counter alone; one allocation bumps it by one (a request that fails
    after allocating has spent the id without reporting it, so the counter is a bound, not the last id reported). -/
namespace Traph.Props
open Traph State

/-- every id reported by a request other than `clear` is strictly greater than the counter before the request — which
    bounds every id issued earlier, deleted or not — and at most the counter after it; ids reported by
    one request are pairwise distinct and increasing -/
theorem C12_fresh (s : State) (op : Op) (hop : ∀ d rs, op ≠ .clear d rs) :
    s.hdrId ≤ (s.step op).1.hdrId ∧
    ∀ r, (s.step op).2 = .report r → IdsBetween s.hdrId (s.step op).1.hdrId r.ids := step_ids s op hop

/-- along any history (creations, deletions, automatic creations, rule installations, close/reopen
    cycles) since creation or the last clear, the ids issued form a strictly increasing list -/
theorem C12_history (s : State) (ops : List Op) (hops : ∀ op ∈ ops, ∀ d rs, op ≠ .clear d rs) :
    (issued s ops).Pairwise (· < ·) ∧ ∀ i ∈ issued s ops, s.hdrId < i ∧ i ≤ (s.run ops).hdrId := run_ids s ops hops

/-- close/reopen does not touch the counter (it lives in the encoded header: C11) -/
theorem C12_reopen (s : State) (d : Rule) (rs : List (Bytes × Rule)) : (s.reopen d rs).hdrId = s.hdrId :=
  reopen_keeps_counter s d rs

/-- deleting a webentity does not give its id back -/
theorem C12_delete (s : State) (w : Nat) (ps : List Bytes) : (s.deleteWebentity w ps).1.hdrId = s.hdrId :=
  hdrId_deleteWebentity s w ps

/-- `clear` without rules starts the numbering again (counter 0), as a fresh index without rules does -/
theorem C12_clear (s : State) (d : Option Rule) : (s.clear d none).1.hdrId = 0 := (clear_resets s d).1

/-- one successful creation request reports one entry: at most one id, shared by all the prefixes it attaches -/
theorem C12_one_id (s s' : State) (ps : List Bytes) (r : Report) (h : s.createWebentity ps = (s', .ok r)) :
    r.we.length = 1 := one_id_per_request s s' ps r h

end Traph.Props
