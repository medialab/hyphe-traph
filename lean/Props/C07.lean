import Proofs.Small
import Proofs.Resolve
import Proofs.NetworkRun
import Proofs.HeadlinesAll
/-! C07 — webentity network, in full (Proofs/Network*.lean): `C07_network` below, after every `clear`-free history
    of well-formed writes (`OpWf`) with no `KeyError` (`NoKeyErr`) from a fresh index, both directions, self-links on
    and off, both variants; `C07_all` (Proofs/HeadlinesAll) for every disciplined history, `clear` and `reopen` included. -/
namespace Traph.Props
open Traph State

theorem C07_counter_total (d : List (Nat × Nat)) (k w : Nat) :
    ((counterAdd d k w).map (·.2)).sum = (d.map (·.2)).sum + w := counterAdd_total d k w

theorem C07_one_entry_per_target (d : List (Nat × Nat)) (k w : Nat) (h : (d.map (·.1)).Nodup) :
    ((counterAdd d k w).map (·.1)).Nodup := counterAdd_keys_nodup d k w h

/-- the id carried down by `dfs_with_webentity_iter` to a block IS the resolution of that block's LRU
    (what `retrieve_webentity` answers), for every block of the index -/
theorem C07_carried_is_resolution {s : State} {t : T} (h : Shape s t) (stems : LRU) (hne : stems ≠ []) (b : Nat)
    (hb : (stems, b) ∈ t.entries s []) : ∃ w, (b, w) ∈ s.dfsWe ∧ w = (s.followLru stems).2.we :=
  Traph.C07_carried_is_resolution h stems hne b hb

/-- each block is met with one id only -/
theorem C07_carried_unique {s : State} {t : T} (h : Shape s t) {b w₁ w₂ : Nat}
    (h₁ : (b, w₁) ∈ s.dfsWe) (h₂ : (b, w₂) ∈ s.dfsWe) : w₁ = w₂ := Traph.C07_carried_unique h h₁ h₂

/-- and nothing else is met: every (block, id) pair of the traversal is a block of the map with its resolution -/
theorem C07_carried_sound {s : State} {t : T} (h : Shape s t) {b w : Nat} (hm : (b, w) ∈ s.dfsWe) :
    ∃ stems, stems ≠ [] ∧ (stems, b) ∈ t.entries s [] ∧ (s.followLru stems).1 = some b ∧ w = (s.followLru stems).2.we :=
  Traph.C07_carried_sound h hm

/-- THE PROPERTY, for the state after any history of well-formed writes (`OpWf`) without `clear` and with no
    `KeyError` (`NoKeyErr`) from a fresh index, any rules with anchors of at least one stem, any configuration,
    `out` / `auto` arbitrary. `netGet g A B` is `graph[A][B]`
    (0 for a missing row or entry); `specDir L out auto A B` is, for `out = true`, the number of submitted
    links `(p, q) ∈ L` with `retrieve_webentity p = A` and `retrieve_webentity q = B` when `A ≠ 0`,
    `B ≠ 0` and (`auto` or `A ≠ B`), else 0 (`specDir_out`), and for `out = false` the same with the roles
    of `A` and `B` exchanged (`specDir_in`); `weOf` is `retrieve_webentity` with its error read as 0
    (`weOf_spec`); `pageCount c A` counts the pages of `pages_iter` with crawled mark `c` resolving to `A`. -/
theorem C07_network (cfg : Config) (dflt : Rule) (rules : List (Bytes × Rule)) (ops : List Op)
    (hrules : ∀ ar ∈ rules, lruIter ar.1 ≠ [])
    (hop : ∀ op ∈ ops, ∀ d rs, op ≠ .clear d rs) (hwf : ∀ op ∈ ops, OpWf op)
    (hok : NoKeyErr (State.fresh cfg dflt rules []).1 ops)
    (s : State) (hs : s = (State.fresh cfg dflt rules []).1.run ops) (out auto : Bool) :
    NetOk (s.network out auto) ∧ NetOk (s.networkSlow out auto) ∧
    (∀ A B, netGet (s.network out auto) A B = s.specDir (ops.flatMap Op.links) out auto A B) ∧
    (∀ A B, netGet (s.networkSlow out auto) A B = netGet (s.network out auto) A B) ∧
    (∀ A B, netGet (s.network false auto) B A = netGet (s.network true auto) A B) ∧
    (∀ A B, netGet (s.networkSlow false auto) B A = netGet (s.networkSlow true auto) A B) ∧
    (∀ A B w, (∃ r ∈ s.network out auto, r.src = A ∧ (B, w) ∈ r.targets) ↔
      0 < w ∧ w = s.specDir (ops.flatMap Op.links) out auto A B) ∧
    (∀ A B w, (∃ r ∈ s.networkSlow out auto, r.src = A ∧ (B, w) ∈ r.targets) ↔
      0 < w ∧ w = s.specDir (ops.flatMap Op.links) out auto A B) ∧
    (∀ A, A ∈ (s.network out auto).map (·.src) ↔ A ≠ 0 ∧ ∃ lc ∈ s.pagesIter, s.weOf lc.1 = A) ∧
    (∀ A, A ∈ (s.networkSlow out auto).map (·.src) ↔
      ∃ B, 0 < s.specDir (ops.flatMap Op.links) out auto A B) ∧
    (∀ r ∈ s.network out auto,
      r.crawled = s.pageCount true r.src ∧ r.uncrawled = s.pageCount false r.src) ∧
    (∀ r ∈ s.networkSlow out auto, r.crawled = 0 ∧ r.uncrawled = 0 ∧ r.targets ≠ []) :=
  Traph.C07_reachable cfg dflt rules ops hrules hop hwf hok s hs out auto

section EveryHistory
open Traph State Pag Layout

/-- EVERY HISTORY, `clear` and `reopen` included, no request assumed away: the only hypotheses are that byte strings cut into at least one stem (`OpWf`), rule anchors are whole LRUs (`rulesCanonical`, `Canon`) and the caller re-supplies on `reopen` the rules the index carries, as the API requires, and removes only rules that are in RAM (`Disciplined`); `clear` acts as a reset (`sinceClear`).  -/
theorem C07_all (cfg : Config) (dflt : Rule) (rules : List (Bytes × Rule)) (ops : List Op)
    (hr : rulesCanonical rules) (hwf : ∀ op ∈ sinceClear ops, OpWf op)
    (hd : Disciplined (State.fresh cfg dflt rules []).1 ops)
    (s : State) (hs : s = (State.fresh cfg dflt rules []).1.run ops) (out auto : Bool) :
    NetOk (s.network out auto) ∧ NetOk (s.networkSlow out auto) ∧
    (∀ A B, netGet (s.network out auto) A B = s.specDir ((sinceClear ops).flatMap Op.links) out auto A B) ∧
    (∀ A B, netGet (s.networkSlow out auto) A B = netGet (s.network out auto) A B) ∧
    (∀ A B, netGet (s.network false auto) B A = netGet (s.network true auto) A B) ∧
    (∀ A B, netGet (s.networkSlow false auto) B A = netGet (s.networkSlow true auto) A B) ∧
    (∀ A B w, (∃ r ∈ s.network out auto, r.src = A ∧ (B, w) ∈ r.targets) ↔
      0 < w ∧ w = s.specDir ((sinceClear ops).flatMap Op.links) out auto A B) ∧
    (∀ A B w, (∃ r ∈ s.networkSlow out auto, r.src = A ∧ (B, w) ∈ r.targets) ↔
      0 < w ∧ w = s.specDir ((sinceClear ops).flatMap Op.links) out auto A B) ∧
    (∀ A, A ∈ (s.network out auto).map (·.src) ↔ A ≠ 0 ∧ ∃ lc ∈ s.pagesIter, s.weOf lc.1 = A) ∧
    (∀ A, A ∈ (s.networkSlow out auto).map (·.src) ↔
      ∃ B, 0 < s.specDir ((sinceClear ops).flatMap Op.links) out auto A B) ∧
    (∀ r ∈ s.network out auto,
      r.crawled = s.pageCount true r.src ∧ r.uncrawled = s.pageCount false r.src) ∧
    (∀ r ∈ s.networkSlow out auto, r.crawled = 0 ∧ r.uncrawled = 0 ∧ r.targets ≠ []) :=
  Traph.C07_all cfg dflt rules ops hr hwf hd s hs out auto

end EveryHistory

end Traph.Props
