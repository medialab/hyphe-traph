import Proofs.Codec
import Proofs.Chunks
import Proofs.FrameOps
import Proofs.DescendSpec
import Proofs.Traverse
import Proofs.Windup
import Proofs.KnownRun
import Proofs.HeadlinesAll
/-! C02 — stored LRUs read back byte-identical, any stem length; locate / wind up / traverse agree in every
    state with `Shape` (and `ParOk` for wind-up); and (history level, Proofs/Known*) on a fresh index, after a
    `clear`-free history with no `KeyError` (`NoKeyErr`), an LRU can be located iff it is a non-empty
    stem-prefix of an LRU named by an earlier write request or of a constructor-rule anchor
    (`C02_known`, `C02_known_locate`; with `clear` as a reset: `C02_known_all`, from `C02_known_since` of
    Proofs/KnownRun, for `rulesCanonical` rules and a `Disciplined` history). "Named" is computed
    from the request and its own write report (`State.named`): its argument LRUs plus the prefixes the
    report announces for automatically created webentities. `C02_good_always`: `Good` after any history from a fresh index. -/
namespace Traph.Props
open Traph State

/-- a well-formed block survives `struct.pack`/`unpack` -/
theorem C02_bytes_cell (c : Cell) (h : c.Wf) : decodeCell (encodeCell c) = c := decodeCell_encodeCell c h

/-- a stem of any length (1 … several blocks, including exact multiples of the payload) is read back
    byte-identical from the blocks `write()` produced -/
theorem C02_bytes_stem (s : State) (stem : Bytes) (parent : Nat) (canHave : Bool) :
    (s.writeNew stem parent canHave).1.stemAt s.trie.size = stem := stemAt_writeNew' s stem parent canHave

/-- …and occupies exactly `⌈len/74⌉` blocks (1 for short stems) -/
theorem C02_blocks (s : State) (stem : Bytes) (parent : Nat) (canHave : Bool) :
    (s.writeNew stem parent canHave).1.trie.size = s.trie.size + blocksFor stem := writeNew_size s stem parent canHave

/-- inserting a new node leaves the stem of every existing node as it was (no tail chain is open at
    the end of the store) -/
theorem C02_old_stems (s : State) (stem : Bytes) (p : Nat) (c : Bool) (i : Nat) (hi : i < s.trie.size)
    (hlast : (s.cell (s.trie.size - 1)).flags.hasTail = false) :
    (s.writeNew stem p c).1.stemAt i = s.stemAt i := stemAt_writeNew_other s stem p c i hi hlast

/-- `add_lru` never moves or rewrites the stem bytes, the parent pointer or a set tree pointer of an
    existing block (heap order) and returns an existing block -/
theorem C02_addLru_monotone (s : State) (stems : LRU) (flag : Bool) (h0 : 0 < s.trie.size) (hne : stems ≠ []) :
    s ⊑ (s.addLru stems flag).1 ∧ (s.addLru stems flag).2.1 < (s.addLru stems flag).1.trie.size :=
  addLru_le s stems flag h0 hne

/-! The three access paths agree, for every state satisfying the shape invariant `Shape` (for wind-up also `ParOk`),
    which `add_lru` preserves (Proofs/Insert). -/

/-- top-down look-up finds exactly the LRUs of the finite map denoted by the tree, at their block -/
theorem C02_locate {s : State} {t : T} (h : Shape s t) (stems : LRU) (hne : stems ≠ []) (b : Nat) :
    s.lruNode stems = some b ↔ (stems, b) ∈ t.entries s [] := lruNode_iff_entries h stems hne b

/-- no LRU is stored twice: a path determines its block -/
theorem C02_no_duplicates {s : State} {t : T} (h : Shape s t) (p : LRU) (b₁ b₂ : Nat)
    (h₁ : (p, b₁) ∈ t.entries s []) (h₂ : (p, b₂) ∈ t.entries s []) : b₁ = b₂ :=
  entries_path_injective h.ord h.nodup h₁ h₂

/-- the full traversal is the structural pre-order of the tree: it meets every node exactly once… -/
theorem C02_traversal {s : State} {t : T} (h : Shape s t) :
    s.dfsIter none false = t.pre s [] ∧ ((s.dfsIter none false).map (·.1)).Nodup ∧
    ∀ a, a ∈ (s.dfsIter none false).map (·.1) ↔ a ∈ t.addrs :=
  ⟨dfsIter_root h, dfsIter_nodup h, dfsIter_mem h⟩

/-- …and the blocks it meets are exactly the blocks of the finite map -/
theorem C02_traversal_covers_map {s : State} {t : T} (_h : Shape s t) :
    ((t.entries s []).map (·.2)).Perm t.addrs := entries_addrs_perm t []

/-- bottom-up reconstruction from the located entry agrees byte for byte with the path -/
theorem C02_windup {s : State} {t : T} (h : Shape s t) (hp : ParOk s t 0) {p : LRU} {b : Nat}
    (hb : (p, b) ∈ t.entries s []) : s.windup b = p.flatten := windup_eq h hp hb

/-- and right after an insertion: the block `add_lru` returns winds up to the inserted LRU -/
theorem C02_insert_then_windup {s : State} {t : T} (h : Shape s t) (hp : ParOk s t 0) (stems : LRU) (hne : stems ≠ [])
    (flag : Bool) : (s.addLru stems flag).1.windup (s.addLru stems flag).2.1 = stems.flatten :=
  (addLru_windup h hp stems hne flag).1

/-- `add_lru` preserves the invariant, returns the block of the LRU, adds only stem-prefixes of it
    (at fresh blocks) and keeps every old entry and stem -/
theorem C02_inv {s : State} {t : T} (h : Shape s t) (stems : LRU) (flag : Bool) (hne : stems ≠ []) :
    let s' := (s.addLru stems flag).1
    let n  := (s.addLru stems flag).2.1
    ∃ t', Shape s' t' ∧ (stems, n) ∈ t'.entries s' [] ∧
      (∀ p b, (p, b) ∈ t.entries s [] → (p, b) ∈ t'.entries s' []) ∧
      (∀ p b, (p, b) ∈ t'.entries s' [] → (p, b) ∈ t.entries s [] ∨
          (s.trie.size ≤ b ∧ ∃ k, 0 < k ∧ k ≤ stems.length ∧ p = stems.take k)) ∧
      (∀ a, a < s.trie.size → s'.stemAt a = s.stemAt a) := addLru_shape h stems flag hne

theorem C02_inv_init : Shape ({} : State) .nil := shape_init

/-- non-vacuity: lengths 74, 75, 148, 149 are instances, not cases -/
example : ∀ n ∈ [1, 73, 74, 75, 147, 148, 149, 222, 223], blocksFor (List.replicate n 65) = (n + 73) / 74 := by decide +kernel

/-- HISTORY LEVEL: on a fresh index, after any history of writes (no `clear`; `NoKeyErr`: no request aborted
    by the library's KeyError mid-way), the stored LRUs are exactly the non-empty stem-prefixes of the
    constructor-rule anchors and of the LRUs named by the requests; the accounting and shape invariants hold -/
theorem C02_known (cfg : Config) (dflt : Rule) (rules : List (Bytes × Rule)) (ops : List Op)
    (hop : ∀ op ∈ ops, ∀ d rs, op ≠ .clear d rs)
    (hok : NoKeyErr (State.fresh cfg dflt rules []).1 ops) :
    ∃ t, Good ((State.fresh cfg dflt rules []).1.run ops) t ∧
      ∀ p, Known ((State.fresh cfg dflt rules []).1.run ops) t p ↔
        Covered (anchors rules ++ (State.fresh cfg dflt rules []).1.namedRun ops) p :=
  Traph.C02_known cfg dflt rules ops hop hok

/-- the same through the library's own look-up (`lru_node`), no ghost tree in the statement -/
theorem C02_known_locate (cfg : Config) (dflt : Rule) (rules : List (Bytes × Rule)) (ops : List Op)
    (hop : ∀ op ∈ ops, ∀ d rs, op ≠ .clear d rs)
    (hok : NoKeyErr (State.fresh cfg dflt rules []).1 ops) (p : LRU) (hp : p ≠ []) :
    (∃ b, ((State.fresh cfg dflt rules []).1.run ops).lruNode p = some b) ↔
      ∃ l ∈ anchors rules ++ (State.fresh cfg dflt rules []).1.namedRun ops, p <+: l :=
  C02_known_lruNode cfg dflt rules ops hop hok p hp

/-- shape, accounting and stem well-formedness hold after EVERY history from a fresh index, aborted requests
    and `clear` included (no hypothesis on the history) -/
theorem C02_good_always (cfg : Config) (dflt : Rule) (rules : List (Bytes × Rule)) (ops : List Op) :
    ∃ t, Good ((State.fresh cfg dflt rules []).1.run ops) t := good_run_any cfg dflt rules ops

section EveryHistory
open Traph State Pag Layout

/-- EVERY HISTORY, `clear` and `reopen` included, no request assumed away: the only hypotheses are that rule anchors are whole LRUs (`rulesCanonical`, `Canon`) and the caller re-supplies on `reopen` the rules the index carries, as the API requires, and removes only rules that are in RAM (`Disciplined`); `clear` acts as a reset (`namedSince`).  -/
theorem C02_known_all (cfg : Config) (dflt : Rule) (rules : List (Bytes × Rule)) (ops : List Op)
    (hr : rulesCanonical rules) (hd : Disciplined (State.fresh cfg dflt rules []).1 ops) :
    ∃ t, Good ((State.fresh cfg dflt rules []).1.run ops) t ∧
      ∀ p, Known ((State.fresh cfg dflt rules []).1.run ops) t p ↔
        Covered ((State.fresh cfg dflt rules []).1.namedSince (anchors rules) ops) p :=
  Traph.C02_known_all cfg dflt rules ops hr hd

end EveryHistory

end Traph.Props
