import Proofs.Trace
import Proofs.PtrOkTrace
import Proofs.ClearCrashMid
import Proofs.HeadlinesAll
/-! C18 — a torn or truncated write history is refused or opens consistent. The model keeps the
    program-ordered write log; `cutOpen` rebuilds both stores from any prefix of it (plus some bytes of a
    torn append) and applies the open-time checks. Exactly the torn appends are refused,
    with the library's own error; in-place rewrites cannot be torn; a cut on a write boundary always
    opens. For a `clear`-free history on a fresh index, what opens is below the completed history in the heap order
    `⊑` (per single write: Proofs/Trace*) and, the link requests being well formed (`Op.WF`), satisfies the pointer
    invariant `PtrOk`, under which the strict twins of all walks (every read bounds-checked, a miss = failure)
    return exactly what the model's walks return — those that start at the root once the root node is complete
    (`C18_safe`, `C18_safe_walks`: Proofs/PtrOk*). Crash points
    inside `clear` (its two truncations) are events of their own: Traph/Crash.lean `Event`, tied by
    the crash-cut harness (Proofs/LogIndep, ClearCrash*); `C18_events_cut` (Proofs/ClearCrash) is the cut theorem
    for every history, `clear` included, `C18_mid_clear` (Proofs/ClearCrashMid) describes the state between the two
    truncations. `C18_walks_all` (Proofs/HeadlinesAll): pointer safety at the request boundaries of every
    `Reachable` state, `clear` and `reopen` included. -/
namespace Traph.Props
open Traph

/-- a partial block is refused with the library's own error -/
theorem C18_refuse (ram : State) (f : Files) (j : Nat) (hj : j ≠ 0) : openCut ram f j = .error .traph := by
  simp [openCut, hj]

/-- a cut on a write boundary opens -/
theorem C18_boundary_opens (ram : State) (full : List Write) (k : Nat) : ∃ s, cutOpen ram full k 0 = .ok s := by
  rw [cutOpen_whole]; exact ⟨_, rfl⟩

/-- in-place block rewrites are atomic: a byte offset into one changes nothing -/
theorem C18_rewrite_atomic (ram : State) (full : List Write) (k j : Nat) (w : Write) (hw : full[k]? = some w)
    (hn : w.isAppend (replay (full.take k)) = false) : cutOpen ram full k j = cutOpen ram full k 0 := by
  simp [cutOpen, hw, hn]

/-- the reopened stores are exactly the replayed prefix of the log (nothing else is read or invented) when both
    replayed stores are non-empty (`ht`, `hl`; an empty store gets a fresh header: `openCut`) -/
theorem C18_opens_prefix (ram : State) (full : List Write) (k : Nat) (s : State) (h : cutOpen ram full k 0 = .ok s)
    (ht : 0 < (replay (full.take k)).trie.size) (hl : 0 < (replay (full.take k)).links.size) :
    s.trie = (replay (full.take k)).trie ∧ s.links = (replay (full.take k)).links ∧ s.hdrId = (replay (full.take k)).hdrId := by
  obtain ⟨st, hst, hf, _⟩ := openCut_opened ram (replay (full.take k))
  rw [cutOpen_whole, hst] at h
  cases h
  rw [Files.opened_live ht hl] at hf
  exact ⟨congrArg Files.trie hf, congrArg Files.links hf, congrArg Files.hdrId hf⟩

/-- SUBSET, FOR EVERY CUT OF EVERY `clear`-FREE HISTORY: take any such history of write requests on a fresh index (any
    constructor rules) and cut its program-ordered write sequence after any number `k` of writes —
    including inside the constructor, between the two header writes, between a node's head block and
    its tail blocks, between a pointee and the pointer to it, between out-list and in-list. The rebuilt
    files are below the completed history in the heap order: every stored block is there with the same stem
    bytes, parent pointer and tail flags, its page and crawled flags still set and its non-null tree pointers
    unchanged (`CellLe`; webentity id, rule flag and list heads may differ), every stub is the same stub. -/
theorem C18_subset (cfg : Config) (dflt : Rule) (rules : List (Bytes × Rule)) (ops : List Op)
    (hop : ∀ op ∈ ops, ∀ d rs, op ≠ .clear d rs) :
    let sf := (State.fresh cfg dflt rules []).1.run ops
    ∀ k, k ≤ sf.log.length → Files.Le (replay ((sf.log.reverse).take k)) sf.files :=
  C18_fresh_cut_le cfg dflt rules ops hop

/-- hence the cut reports only pages the completed history also reports: a block flagged as a
    page in the cut is a page block of the final state with the same stem bytes and parent pointer
    (so the same LRU); and every link stub of the cut is a stub of the final state (which stubs a query then
    reports depends on the list heads, which `⊑` leaves free: for the reported LINKS nothing more is stated) -/
theorem C18_reports_subset (cfg : Config) (dflt : Rule) (rules : List (Bytes × Rule)) (ops : List Op)
    (hop : ∀ op ∈ ops, ∀ d rs, op ≠ .clear d rs) (k : Nat) :
    let sf := (State.fresh cfg dflt rules []).1.run ops
    let cut := replay ((sf.log.reverse).take k)
    k ≤ sf.log.length →
    (∀ (i : Nat) (c : Cell), cut.trie[i]? = some c → c.flags.page = true →
        i < sf.trie.size ∧ (sf.cell i).flags.page = true ∧ (sf.cell i).chunk = c.chunk ∧
        (sf.cell i).parent = c.parent) ∧
    (∀ (i : Nat) (b : Stub), cut.links[i]? = some b → sf.links[i]? = some b) :=
  C18_fresh_reports cfg dflt rules ops hop k

/-- the model's own reopen of a boundary cut succeeds and yields a state below the completed history -/
theorem C18_cut_opens_below (s0 : State) (hg : GoodLog s0) (hl : Live s0) (ops : List Op)
    (hop : ∀ op ∈ ops, ∀ d rs, op ≠ .clear d rs) (ram : State) :
    let sf := s0.run ops
    ∀ k, k ≤ sf.log.length - s0.log.length →
      ∃ st, cutOpen ram sf.log.reverse (s0.log.length + k) 0 = .ok st ∧ st ⊑ sf :=
  C18_cutOpen_le s0 hg hl ops hop ram

/-- the ghost log of a fresh index is faithful: replaying it gives exactly the two stores (`hg` of `C18_cut_opens_below`) -/
theorem C18_log_faithful (cfg : Config) (dflt : Rule) (rules : List (Bytes × Rule)) : GoodLog (State.fresh cfg dflt rules []).1 :=
  goodLog_fresh cfg dflt rules

example : (cutOpen {} [.hdr 0, .linkHdr, .trieAppend {}] 2 5) = .error .traph := by simp [cutOpen, openCut, Write.isAppend]

/-- SAFETY, FOR EVERY CUT OF EVERY `clear`-FREE HISTORY (block and byte granularity; for a history with `clear` there are `C18_events_cut` — refusal or `⊑`, no pointer invariant — and `C18_walks_all` — request boundaries only): the cut is refused with the library's own error or opens to a state that satisfies the pointer invariant and is below the completed history. Hypothesis `hwf` (`Op.WF`): the link requests (`add_links`, `index_batch_crawl`) name only LRUs with at least one stem -/
theorem C18_safe (cfg : Config) (dflt : Rule) (rules : List (Bytes × Rule)) (ops : List Op)
    (hop : ∀ op ∈ ops, ∀ d rs, op ≠ .clear d rs) (hwf : ∀ op ∈ ops, op.WF) (ram : State) :
    let sf := (State.fresh cfg dflt rules []).1.run ops
    ∀ k j, k ≤ sf.log.length →
      cutOpen ram sf.log.reverse k j = .error .traph ∨
      ∃ st, cutOpen ram sf.log.reverse k j = .ok st ∧ PtrOk st ∧ st ⊑ sf :=
  Traph.C18_safe cfg dflt rules ops hop hwf ram

/-- …and in that state every walk used by the queries (descent, wind-up, the three traversals, in-order pagination, link-list walks, the linear scans) reads only existing blocks: its bounds-checked twin succeeds with the same result (`WalksSafe st d`; for the walks that start at the root only if the file is empty or `1 < d` — on a cut inside the root's own multi-block head `d = 1` and their twins answer `none`; the linear scans read no pointer, so for them this holds of any state) -/
theorem C18_safe_walks (cfg : Config) (dflt : Rule) (rules : List (Bytes × Rule)) (ops : List Op)
    (hop : ∀ op ∈ ops, ∀ d rs, op ≠ .clear d rs) (hwf : ∀ op ∈ ops, op.WF) (ram : State) :
    let sf := (State.fresh cfg dflt rules []).1.run ops
    ∀ k j, k ≤ sf.log.length →
      cutOpen ram sf.log.reverse k j = .error .traph ∨
      ∃ st d, cutOpen ram sf.log.reverse k j = .ok st ∧ PtrOkAt st d ∧ WalksSafe st d ∧ st ⊑ sf :=
  Traph.C18_safe_walks cfg dflt rules ops hop hwf ram

/-- at every request boundary of such a history (`clear`-free, `Op.WF`) the whole file is complete (no dangling node) -/
theorem C18_whole_run (cfg : Config) (dflt : Rule) (rules : List (Bytes × Rule)) (ops : List Op)
    (hop : ∀ op ∈ ops, ∀ d rs, op ≠ .clear d rs) (hwf : ∀ op ∈ ops, op.WF) :
    Whole ((State.fresh cfg dflt rules []).1.run ops) :=
  Traph.C18_whole_run cfg dflt rules ops hop hwf

section ClearCuts
open Traph State

/-- EVERY CUT OF EVERY HISTORY, `clear` allowed anywhere and any number of times: the event list is what the driver (and, by the tie, the real code) issues; a cut is refused iff it tears an append; otherwise it opens to a state below the completed state of its own segment (and of every later point up to the next `clear`), or to the one special state in the middle of a `clear` (trie emptied, link file still old) -/
theorem C18_events_cut (cfg : Config) (dflt : Rule) (rules : List (Bytes × Rule)) (ops : List Op)
    (ram : State) (k j : Nat) (hk : k ≤ (historyEvents cfg dflt rules ops).length) :
    let full := historyEvents cfg dflt rules ops
    let fr := (State.fresh cfg dflt rules []).1
    let off := fun n => (historyEvents cfg dflt rules (ops.take n)).length
    (cutOpenE ram full k j = .error .traph ↔ Torn full k j) ∧
    (¬ Torn full k j → ∃ st, cutOpenE ram full k j = .ok st ∧
      ((∃ n, n ≤ ops.length ∧ k ≤ off n ∧ (n = 0 ∨ off (n - 1) < k) ∧ st ⊑ fr.run (ops.take n) ∧
          ∀ n', n ≤ n' → (∀ i op, n ≤ i → i < n' → ops[i]? = some op → op.isClear = false) →
            st ⊑ fr.run (ops.take n')) ∨
       (∃ n d rs, ops[n]? = some (.clear d rs) ∧ k = off n + 1 ∧
          st = ram.midClearOpen (fr.run (ops.take n))))) :=
  Traph.C18_events_cut cfg dflt rules ops ram k j hk

/-- the mid-clear state answers the queries listed (the observers of the crash-cut harness; every query but `count_links`: `midClear_ask`, Proofs/ClearCrashMid) like an empty index — no page, no link, no prefix, nothing resolves, no stub is ever read — except that `count_links`, computed from the size of the link file, still shows the old count -/
theorem C18_mid_clear (ram a : State) :
    let st := ram.midClearOpen a
    st.pagesIter = [] ∧ (∀ o, st.linksIter o = []) ∧ st.prefixIter = [] ∧ (∀ b, st.dfsIter none b = []) ∧
    (∀ o au, st.network o au = [] ∧ st.networkSlow o au = []) ∧
    st.countPages = 0 ∧ st.countCrawledPages = 0 ∧ st.countLinks2 = a.links.size - 1 ∧
    st.linksMetrics = (0, none, 0, none) ∧
    (∀ l, st.retrieveWebentity l = .error .traph) ∧ (∀ l, st.retrievePrefix l = .error .traph) ∧
    (∀ p, st.webentityByPrefix p = .error .traph) ∧
    (∀ ps, st.webentityPages ps = if ps = [] then .ok [] else .error .traph) ∧
    (∀ l i n o, st.pageLinks l i n o = []) ∧ (∀ l, st.lruNode l = none) :=
  Traph.midClear_observers ram a

/-- the order of the two truncations matters: with the link file emptied first, the intermediate state keeps page
    blocks whose list heads point outside the (now empty) link file — where the real code raises on every link query -/
theorem C18_clear_order_matters : ∃ st, swapDemoCut = .ok st ∧ (st.cell 1).flags.page = true ∧ (st.cell 1).out = 1 ∧
    st.links.size = 1 ∧ (st.cell 2).flags.page = true ∧ (st.cell 2).inn = 2 ∧ ¬ LinksOk st := swapped_order_breaks

end ClearCuts

section EveryHistory
open Traph State Pag Layout

/-- C18 at request boundaries, in every `Reachable` state (Proofs/ReachableAll: `rulesCanonical` rules, `OpWf` requests, a `Disciplined` history, `clear` and `reopen` included): no dangling node, and every walk reads only existing blocks -/
theorem C18_walks_all {s : State} (hs : Reachable s) : Whole s ∧ WalksSafe s s.trie.size :=
  Traph.C18_walks_all hs

end EveryHistory

end Traph.Props
