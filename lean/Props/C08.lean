import Proofs.Small
import Proofs.ForPrefixes
import Proofs.LinkLists
import Proofs.Windup
import Proofs.WeLinks
import Proofs.HeadlinesAll
/-! C08 — per-webentity link queries, in full (Proofs/LinkInv, WeLinks): after every `clear`-free history of
    well-formed writes (`OpWf`) with no `KeyError` (`NoKeyErr`) from a fresh index the answer of
    `get_webentity_pagelinks`, asked with W's full prefix list (`FullPrefixList`), for any switch combination is
    exactly the page links whose source page belongs to W and whose target passes the internal/outbound test,
    plus (inbound) those whose target belongs to W and whose source does not, each with its multiplicity and, if
    no prefix is given twice, each once (`C08_links`, `C08_switches`); the cited / citing sets are exactly the
    resolutions of the other ends (`C08_links`, 4th clause); the same in every `Reachable` state (`C08_all`,
    Proofs/HeadlinesAll). The other end is resolved by winding its block up (`windupWe` = longest-prefix
    resolution, Proofs/Windup + LinkInv: parent pointers are right and every stub target is a page in every
    reachable state). -/
namespace Traph.Props
open Traph State

theorem C08_refuses_no_switch (s : State) (w : Nat) (ps : List Bytes) :
    s.webentityPagelinks w ps false false false = .error .traph := rfl

/-- outgoing part, per source page: exactly the targets of the page's out-list that pass the switch
    test, each with its multiplicity -/
theorem C08_out_of_page (s : State) (w b : Nat) (lru : Bytes) (incInt incOut : Bool) (l : PageLink) :
    l ∈ s.outLinksOfPage w b lru incInt incOut ↔
      (s.cell b).out ≠ 0 ∧ ∃ t n, (t, n) ∈ s.weighted (s.cell b).out ∧
        ((incOut = true ∧ s.windupWe t ≠ w) ∨ (incInt = true ∧ s.windupWe t = w)) ∧ l = (lru, s.windup t, n) := by
  unfold outLinksOfPage
  by_cases h0 : (s.cell b).out ≠ 0 <;> by_cases hsw : (incOut || incInt) = true
  · simp only [h0, hsw, ne_eq, not_false_eq_true, decide_true, Bool.and_self, if_true, List.mem_filterMap, true_and]
    constructor
    · rintro ⟨⟨t, n⟩, hm, hx⟩
      split at hx
      · rename_i hc; cases hx
        refine ⟨t, n, hm, ?_, rfl⟩
        simpa using hc
      · cases hx
    · rintro ⟨t, n, hm, hc, rfl⟩
      refine ⟨(t, n), hm, ?_⟩
      rcases hc with ⟨ho, hne⟩ | ⟨hi, he⟩
      · simp [ho, hne]
      · simp [hi, he]
  · have : incOut = false ∧ incInt = false := by cases incOut <;> cases incInt <;> simp_all
    simp [this.1, this.2]
  · simp at h0; simp [h0]
  · simp at h0; simp [h0]

/-- weights are multiplicities and each target has one weight per source page -/
theorem C08_weight_is_multiplicity (s : State) (head t n : Nat) :
    (t, n) ∈ s.weighted head ↔ (t ∈ s.walk head ∧ n = count t (s.walk head)) := weighted_spec s head t n

/-- the cited / citing answers are sets -/
theorem C08_cited_is_set (s : State) (ps : List Bytes) (out : Bool) (l : List Nat) (h : s.citedWebentities ps out = .ok l) :
    StrictAsc l :=
  (forPrefixes_sortDedup_ok s ps _ l h).1

/-- the webentity found by walking UP from a link end is the top-down resolution of that end's LRU, and the
    LRU reported for it is its own path: the switch test of `C08_out_of_page` is the property's test -/
theorem C08_end_resolution {s : State} {t : T} (h : Shape s t) (hp : ParOk s t 0) {p : LRU} {b : Nat}
    (hb : (p, b) ∈ t.entries s []) : s.windupWe b = (s.followLru p).2.we ∧ s.windup b = p.flatten :=
  ⟨windupWe_eq_followLru h hp hb, windup_eq h hp hb⟩

/-- THE PROPERTY: after every `clear`-free history of well-formed writes (`OpWf`) with no `KeyError` (`NoKeyErr`) from a fresh index (rule anchors of at least one stem), webentity `w` asked with a full prefix list (`FullPrefixList`) and every switch combination: all switches off is refused with the library's own error; otherwise the answer is exactly the page links `(src, tgt, weight)` with `src` a page of `w` and `tgt` passing the internal/outbound test, or (inbound) `tgt` a page of `w` and `src` not resolving to `w`, weight = multiplicity in the page's list, each pair once if no prefix is given twice; other ends are indexed pages; cited / citing sets are sorted duplicate-free and contain exactly the resolutions of the other ends (0 standing for none, `w` itself when it has internal links, as the library does); the degree triple is their sizes -/
theorem C08_links (cfg : Config) (dflt : Rule) (rules : List (Bytes × Rule)) (ops : List Op)
    (hrules : ∀ ar ∈ rules, lruIter ar.1 ≠ [])
    (hop : ∀ op ∈ ops, ∀ d rs, op ≠ .clear d rs) (hwf : ∀ op ∈ ops, OpWf op)
    (hok : NoKeyErr (State.fresh cfg dflt rules []).1 ops)
    (s : State) (hs : s = (State.fresh cfg dflt rules []).1.run ops)
    (w : Nat) (ps : List Bytes) (hf : FullPrefixList s w ps) :
    (∀ incIn incInt incOut : Bool,
      (incIn = false ∧ incInt = false ∧ incOut = false →
        s.webentityPagelinks w ps incIn incInt incOut = .error .traph) ∧
      ((incIn || incInt || incOut) = true →
        ∃ l, s.webentityPagelinks w ps incIn incInt incOut = .ok l ∧
          (∀ src tgt k, (src, tgt, k) ∈ l ↔
            (OutLink s src tgt k ∧ s.retrieveWebentity src = .ok w ∧ SwitchOut s w incInt incOut tgt) ∨
            (incIn = true ∧ InLink s src tgt k ∧ s.retrieveWebentity tgt = .ok w ∧
              s.retrieveWebentity src ≠ .ok w)) ∧
          ((ps.map lruIter).Nodup → (l.map wlEnds).Nodup))) ∧
    (∀ src tgt k, OutLink s src tgt k → ∃ c, NodeOf s tgt c ∧ (s.cell c).flags.page = true) ∧
    (∀ src tgt k, InLink s src tgt k → ∃ c, NodeOf s src c ∧ (s.cell c).flags.page = true) ∧
    (∀ out : Bool, ∃ l, s.citedWebentities ps out = .ok l ∧ StrictAsc l ∧
      ∀ x, x ∈ l ↔ ∃ own other k, s.retrieveWebentity own = .ok w ∧
        ((out = true ∧ OutLink s own other k) ∨ (out = false ∧ InLink s other own k)) ∧ x = weOf s other) ∧
    (∃ cited citing, s.citedWebentities ps true = .ok cited ∧ s.citedWebentities ps false = .ok citing ∧
      s.webentityDegrees ps = .ok [citing.length, cited.length, citing.length + cited.length]) := by
  subst hs
  obtain ⟨t, v, _, _, _, _, hk, _⟩ := based_run (blank_freshBase cfg dflt []) rules hrules ops hop hwf hok
  exact C08_of_inv v.shape v.inv hk hf

/-- the three classes internal / outbound / inbound are pairwise disjoint and every switch combination returns the union of the classes asked for -/
theorem C08_switches (cfg : Config) (dflt : Rule) (rules : List (Bytes × Rule)) (ops : List Op)
    (hrules : ∀ ar ∈ rules, lruIter ar.1 ≠ [])
    (hop : ∀ op ∈ ops, ∀ d rs, op ≠ .clear d rs) (hwf : ∀ op ∈ ops, OpWf op)
    (hok : NoKeyErr (State.fresh cfg dflt rules []).1 ops)
    (s : State) (hs : s = (State.fresh cfg dflt rules []).1.run ops)
    (w : Nat) (ps : List Bytes) (hf : FullPrefixList s w ps) :
    ∃ lInt lOut lIn, s.webentityPagelinks w ps false true false = .ok lInt ∧
      s.webentityPagelinks w ps false false true = .ok lOut ∧
      s.webentityPagelinks w ps true false false = .ok lIn ∧
      (∀ x, x ∈ lInt → x ∉ lOut) ∧ (∀ x, x ∈ lInt → x ∉ lIn) ∧ (∀ x, x ∈ lOut → x ∉ lIn) ∧
      ∀ (incIn incInt incOut : Bool) (l : List PageLink), s.webentityPagelinks w ps incIn incInt incOut = .ok l →
        ∀ x, x ∈ l ↔ (incInt = true ∧ x ∈ lInt) ∨ (incOut = true ∧ x ∈ lOut) ∨ (incIn = true ∧ x ∈ lIn) := by
  subst hs
  obtain ⟨t, v, _, _, _, _, hk, _⟩ := based_run (blank_freshBase cfg dflt []) rules hrules ops hop hwf hok
  exact C08_switches_of_inv v.shape v.inv hk hf

section EveryHistory
open Traph State Pag Layout

/-- `C08_links` with its hypotheses on the history replaced by `Reachable s`, which unfolds to: EVERY HISTORY, `clear` and `reopen` included, no request assumed away: the only hypotheses on the history are that byte strings cut into at least one stem (`OpWf`), rule anchors are whole LRUs (`rulesCanonical`, `Canon`) and the caller re-supplies on `reopen` the rules the index carries, as the API requires, and removes only rules that are in RAM (`Disciplined`); `clear` acts as a reset (`sinceClear`).  -/
theorem C08_all {s : State} (hs : Reachable s)
    (w : Nat) (ps : List Bytes) (hf : FullPrefixList s w ps) :
    (∀ incIn incInt incOut : Bool,
      (incIn = false ∧ incInt = false ∧ incOut = false →
        s.webentityPagelinks w ps incIn incInt incOut = .error .traph) ∧
      ((incIn || incInt || incOut) = true →
        ∃ l, s.webentityPagelinks w ps incIn incInt incOut = .ok l ∧
          (∀ src tgt k, (src, tgt, k) ∈ l ↔
            (OutLink s src tgt k ∧ s.retrieveWebentity src = .ok w ∧ SwitchOut s w incInt incOut tgt) ∨
            (incIn = true ∧ InLink s src tgt k ∧ s.retrieveWebentity tgt = .ok w ∧
              s.retrieveWebentity src ≠ .ok w)) ∧
          ((ps.map lruIter).Nodup → (l.map wlEnds).Nodup))) ∧
    (∀ src tgt k, OutLink s src tgt k → ∃ c, NodeOf s tgt c ∧ (s.cell c).flags.page = true) ∧
    (∀ src tgt k, InLink s src tgt k → ∃ c, NodeOf s src c ∧ (s.cell c).flags.page = true) ∧
    (∀ out : Bool, ∃ l, s.citedWebentities ps out = .ok l ∧ StrictAsc l ∧
      ∀ x, x ∈ l ↔ ∃ own other k, s.retrieveWebentity own = .ok w ∧
        ((out = true ∧ OutLink s own other k) ∨ (out = false ∧ InLink s other own k)) ∧ x = weOf s other) ∧
    (∃ cited citing, s.citedWebentities ps true = .ok cited ∧ s.citedWebentities ps false = .ok citing ∧
      s.webentityDegrees ps = .ok [citing.length, cited.length, citing.length + cited.length]) :=
  Traph.C08_all hs w ps hf

end EveryHistory

end Traph.Props
