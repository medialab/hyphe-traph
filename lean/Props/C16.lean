import Proofs.CoSchedules
import Proofs.CoPhantom
import Proofs.CoReadOnly
import Proofs.CoDrainExamples
import Proofs.CoDrainChildren
import Proofs.CoDrainLinks
import Proofs.CoDrainCited
import Proofs.CoDrainSlow
import Proofs.CoFinal
import Proofs.CoFinalQueries
import Proofs.CoDrainWriters
import Proofs.CoNetBounds
import Proofs.CoMissedLink
import Proofs.CoFuelDrain
/-! C16 — cooperative interleaving of generators. All eleven `*_iter` generators of traph.py are explicit coroutine
    state machines (`Traph/Co.lean`: the two writers, the page and network queries, and the seven other queries under
    `CoSt.query`) holding the same stale node copies as the Python generators; `Sys.run` / `runSched` interleave them
    under any schedule. The six machines of `QSt` (seven generators) drained on a fixed index compute the atomic answers
    (`C16_drained_queries_atomic`, Proofs/CoDrain*); all nine query generators never write (`C16_all_queries_readonly`).
    Proved (Proofs/Co*): for EVERY schedule the index stays well-formed and only grows (`C16_any_schedule_shape`), no
    writer fails (`C16_no_writer_fails`), the final pages are those of the requests applied one after another in any
    order (`C16_final_pages`, `_sequential_rulesOk`), link lists are never overwritten (`C16_links_any_schedule`),
    page queries list only pages (`C16_pages_query_sound`) and list every page that qualified throughout
    (`C16_pages_query_complete_entries`). The clause "no item that qualified at no moment" is FALSE of the code:
    finding F16 is a theorem about the model (Proofs/CoPhantom, `C16_phantom_witness`), and so is F16c, a link missed
    by the page-link query though listed at every moment (Proofs/CoMissedLink, `C16_missed_link_witness`). The final
    STATE as a whole — pages, crawled marks, link multigraph at LRU level, in/out symmetry — equals the requests
    applied one after another in any order, for every schedule and every reachable start state (`C16_final_state`;
    mid-schedule the in-lists lag behind the out-lists by exactly the pending part of each batch machine
    (`C16_symmetry_mid_schedule`, Proofs/CoLinkSym), hence never run ahead and agree when nothing is pending:
    `C16_inlinks_lag`, `C16_symmetry_at_quiescence`, with a kernel-checked window in which a query sees the asymmetry,
    `C16_asymmetric_window`); the page and network query machines never run out of the model's fuel
    (`C16_queries_no_fuel`); writers and queries drained on their own equal the atomic requests (`C16_drained_rule`,
    `C16_drained_batch`, `C16_drained_pages_net`, `C16_drained_queries_atomic`). The network query's answer under
    interleaving with writers has its two bounds in `C16_net_query_sound`, `C16_net_query_complete` (Proofs/CoNetBounds). -/
namespace Traph.Props
open Traph State

/-- a page query section never changes the index -/
theorem C16_pages_query_readonly (s : State) (p : PagesSt) : ((CoSt.pages p).resume s).1 = s := rfl

/-- a network query section never changes the index -/
theorem C16_net_query_readonly (s : State) (n : NetSt) : ((CoSt.net n).resume s).1 = s := rfl

/-- **every query generator is read-only**: a section of any of the nine query generators — pages, network, and the seven
    of `QSt`: crawled pages, most linked pages, child webentities, page links, cited / citing webentities, slow network —
    started in ANY private state (so: at every yield point of every schedule) returns the index it was given -/
theorem C16_all_queries_readonly (s : State) :
    (∀ p : PagesSt, ((CoSt.pages p).resume s).1 = s) ∧
    (∀ n : NetSt, ((CoSt.net n).resume s).1 = s) ∧
    (∀ q : CrawledSt, ((CoSt.query (.crawled q)).resume s).1 = s) ∧
    (∀ q : MostSt, ((CoSt.query (.mostLinked q)).resume s).1 = s) ∧
    (∀ q : ChildSt, ((CoSt.query (.children q)).resume s).1 = s) ∧
    (∀ q : PlSt, ((CoSt.query (.pagelinks q)).resume s).1 = s) ∧
    (∀ q : CitedSt, ((CoSt.query (.cited q)).resume s).1 = s) ∧
    (∀ q : SlowSt, ((CoSt.query (.netSlow q)).resume s).1 = s) ∧
    (∀ c : CoSt, c.isReader → (c.resume s).1 = s ∧ (c.resume s).2.1.isReader) :=
  ⟨fun _ => rfl, fun _ => rfl, fun _ => rfl, fun _ => rfl, fun _ => rfl, fun _ => rfl, fun _ => rfl, fun _ => rfl,
   fun c h => ⟨Traph.resume_reader_state s c h, Traph.resume_reader_reader s c h⟩⟩

/-- a schedule of a system that holds query generators only (or exhausted ones) — any number of them, in any states,
    advanced in any order — leaves the index exactly as it was -/
theorem C16_queries_only_schedule (sched : Sched) (σ : Sys) (h : ∀ c ∈ σ.2, c.isReader) :
    (σ.run sched).1.1 = σ.1 :=
  (Traph.readers_schedule sched σ h).1

/-- the seven generators of `QSt` drained on a fixed index give the atomic answers (kernel-evaluated instances on an index with
    nested webentities and weighted / internal / inbound / outbound links; `Proofs/CoDrainExamples`, which also evaluates
    a prefix that is not in the index) -/
theorem C16_drain_examples :
    QSt.drain DrainEx.idx 100 (.crawled { cur := { prefixes := [DrainEx.pa, DrainEx.pb] } })
      = DrainEx.idx.ask (.crawledPages [DrainEx.pa, DrainEx.pb]) ∧
    QSt.drain DrainEx.idx 100 (.mostLinked { cur := { prefixes := [DrainEx.pa, DrainEx.pb] }, k := 3 })
      = DrainEx.idx.ask (.mostLinked [DrainEx.pa, DrainEx.pb] 3 none) ∧
    QSt.drain DrainEx.idx 100 (.children { cur := { prefixes := [DrainEx.pa], skip := true }, weid := 1 })
      = DrainEx.idx.ask (.children 1 [DrainEx.pa]) ∧
    QSt.drain DrainEx.idx 100 (.pagelinks { cur := { prefixes := [DrainEx.pa] }, weid := 1, incIn := true, incInt := true, incOut := true })
      = DrainEx.idx.ask (.pagelinks 1 [DrainEx.pa] true true true) ∧
    QSt.drain DrainEx.idx 100 (.cited { cur := { prefixes := [DrainEx.pa] }, out := true }) = DrainEx.idx.ask (.cited [DrainEx.pa] true) ∧
    QSt.drain DrainEx.idx 100 (.cited { cur := { prefixes := [DrainEx.pa] }, out := false }) = DrainEx.idx.ask (.cited [DrainEx.pa] false) ∧
    QSt.drain DrainEx.idx 100 (.netSlow { out := true, auto := true }) = DrainEx.idx.ask (.network true true true) :=
  ⟨DrainEx.crawled_drain.1, DrainEx.mostLinked_drain.1, DrainEx.children_drain.1, DrainEx.pagelinks_drain.1,
   DrainEx.cited_drain.1, DrainEx.cited_drain.2.1, DrainEx.netSlow_drain.1⟩

/-- **the seven generators of `QSt` run to completion without interleaving give exactly the atomic answers**: on every index that
    represents a search tree (`Shape`) with backward-pointing stubs and heads in range (`HeadsOk`) — both proved of every
    reachable index and kept by every schedule (`C16_any_schedule_shape`, `C16_links_any_schedule`) — draining a fresh
    machine (`QSt.drain` = `run_iterator`) for at least `N0` sections yields the answer of the atomic request of `Traph/Api.lean`,
    for well-formed prefixes and all parameters -/
theorem C16_drained_queries_atomic {s : State} {t : T} (h : Shape s t) (hk : HeadsOk s) (weid : Nat) (ps : List Bytes)
    (hps : ∀ pf ∈ ps, lruIter pf ≠ []) (k : Nat) (d : Option Nat) (incIn incInt incOut out auto : Bool) :
    ∃ N0, ∀ N, N0 ≤ N →
      QSt.drain s N (.crawled { cur := { prefixes := ps } }) = s.ask (.crawledPages ps) ∧
      QSt.drain s N (.mostLinked { cur := { prefixes := ps, depth := d }, k := k }) = s.ask (.mostLinked ps k d) ∧
      QSt.drain s N (.children { cur := { prefixes := ps, skip := true }, weid := weid }) = s.ask (.children weid ps) ∧
      QSt.drain s N (.pagelinks { cur := { prefixes := ps }, weid := weid, incIn := incIn, incInt := incInt, incOut := incOut })
        = s.ask (.pagelinks weid ps incIn incInt incOut) ∧
      QSt.drain s N (.cited { cur := { prefixes := ps }, out := out }) = s.ask (.cited ps out) ∧
      QSt.drain s N (.netSlow { out := out, auto := auto }) = s.ask (.network out auto true) := by
  obtain ⟨n1, h1⟩ := Traph.pagelinks_drain_shape h weid ps incIn incInt incOut hps
  obtain ⟨n2, h2⟩ := Traph.cited_drain_shape h hk.1 ps out hps
  refine ⟨(s.trie.size + 2) * ps.length + 2 + n1 + n2 + ((s.trie.size + 1) * (s.links.size + 1) + 2), fun N hN => ?_⟩
  have hle : (s.trie.size + 1) * ps.length ≤ (s.trie.size + 2) * ps.length := Nat.mul_le_mul_right _ (by omega)
  exact ⟨Traph.crawled_drain_shape h ps hps N (by omega), Traph.mostLinked_drain_shape h ps k d hps N (by omega),
    Traph.children_drain_shape h weid ps hps N (by omega), h1 N (by omega), h2 N (by omega),
    Traph.netSlow_drain_shape h out auto N (by omega)⟩

/-- a finished generator cannot be advanced (StopIteration), and does not touch the index -/
theorem C16_finished (s : State) : (CoSt.finished.resume s).1 = s ∧ (CoSt.finished.resume s).2.2 = .failed (.other "StopIteration") :=
  ⟨rfl, rfl⟩

/-- an empty schedule does nothing -/
theorem C16_sched_nil (s : State) (cos : List CoSt) : runSched s cos [] = (s, cos, []) := rfl

section Schedules
open Traph State Layout
/-- for EVERY schedule of EVERY list of machines in any states: the index keeps representing a search tree, every old entry keeps its block, the index only moves up in the heap order and, when the list heads are in range (`HeadsOk`), the link lists only grow (no assumption on the machines' private states) -/
theorem C16_any_schedule_shape (sched : Sched) (σ : Sys) (t : T) (h : Shape σ.1 t) :
    ∃ t', Ext σ.1 t (σ.run sched).1.1 t' ∧ σ.1 ⊑ (σ.run sched).1.1 ∧ CoLinkStep σ.1 (σ.run sched).1.1 :=
  Traph.sched_shape sched σ t h 

/-- no write request fails: when every rule flag in the trie has its rule in RAM (`RulesOk`, true of every `Reachable` state, where rules are re-supplied as the API requires: `reachable_invariants`, Proofs/ReachableAll), for well-formed requests (`CoReq.Wf`, rule anchors complete LRUs: `CoReq.Canon`), no writer section of any schedule raises; the only failure ever reported for a writer is advancing it when finished -/
theorem C16_no_writer_fails {s : State} {t : T} (hs : Shape s t) (hi : Inv s t) (hr : RulesOk s)
    (reqs : List CoReq) (hwf : ∀ r ∈ reqs, r.Wf) (hcanon : ∀ r ∈ reqs, r.Canon) (sched : Sched) :
    RulesOk (Sys.run (s, reqs.map CoReq.init) sched).1.1 ∧
    ∀ i r e, reqs[i]? = some r → r.op ≠ none →
      (i, CoOut.failed e) ∈ (Sys.run (s, reqs.map CoReq.init) sched).2 → e = .other "StopIteration" :=
  Traph.C16_no_writer_fails hs hi hr reqs hwf hcanon sched

/-- final pages: once every writer has returned, under ANY schedule, the pages (and crawled marks) are those before plus exactly those of the requests -/
theorem C16_final_pages {s : State} {t : T} (hs : Shape s t) (hi : Inv s t) (reqs : List CoReq)
    (hwf : ∀ r ∈ reqs, r.Wf) (sched : Sched)
    (hdone : ∀ i r, reqs[i]? = some r → r.op ≠ none →
      ∃ a, (i, CoOut.done a) ∈ (Sys.run (s, reqs.map CoReq.init) sched).2) :
    ∃ t', Shape (Sys.run (s, reqs.map CoReq.init) sched).1.1 t' ∧
      Inv (Sys.run (s, reqs.map CoReq.init) sched).1.1 t' ∧
      s ⊑ (Sys.run (s, reqs.map CoReq.init) sched).1.1 ∧
      (∀ p, IsPage (Sys.run (s, reqs.map CoReq.init) sched).1.1 t' p ↔
        IsPage s t p ∨ ∃ r ∈ reqs, ∃ x ∈ r.pages, x.1 = p) ∧
      (∀ p, IsCrawled (Sys.run (s, reqs.map CoReq.init) sched).1.1 t' p ↔
        IsCrawled s t p ∨ ∃ r ∈ reqs, ∃ x ∈ r.pages, x.1 = p ∧ x.2.1 = true) :=
  Traph.C16_final_pages hs hi reqs hwf sched hdone

/-- …hence the same as applying the requests one after another in any order -/
theorem C16_final_pages_sequential_rulesOk {s : State} {t : T} (hs : Shape s t) (hi : Inv s t) (hr : RulesOk s)
    (reqs : List CoReq) (hwf : ∀ r ∈ reqs, r.Wf) (hcanon : ∀ r ∈ reqs, r.Canon) (sched : Sched)
    (hdone : ∀ i r, reqs[i]? = some r → r.op ≠ none →
      ∃ a, (i, CoOut.done a) ∈ (Sys.run (s, reqs.map CoReq.init) sched).2)
    (reqs' : List CoReq) (hperm : reqs'.Perm reqs) :
    ∃ t' t'', Shape (Sys.run (s, reqs.map CoReq.init) sched).1.1 t' ∧
      Shape (s.run (reqs'.filterMap CoReq.op)) t'' ∧
      (∀ p, IsPage (Sys.run (s, reqs.map CoReq.init) sched).1.1 t' p ↔
        IsPage (s.run (reqs'.filterMap CoReq.op)) t'' p) ∧
      (∀ p, IsCrawled (Sys.run (s, reqs.map CoReq.init) sched).1.1 t' p ↔
        IsCrawled (s.run (reqs'.filterMap CoReq.op)) t'' p) :=
  Traph.C16_final_pages_sequential_rulesOk hs hi hr reqs hwf hcanon sched hdone reqs' hperm

/-- refresh-before-write: under any schedule every link list of before is a suffix of the list after (a section never overwrites a head another machine wrote meanwhile) and heads stay in range -/
theorem C16_links_any_schedule {s : State} {t : T} (hs : Shape s t) (hk : HeadsOk s) (cos : List CoSt)
    (sched : Sched) :
    HeadsOk (Sys.run (s, cos) sched).1.1 ∧ LinkGrow s (Sys.run (s, cos) sched).1.1 :=
  Traph.C16_links_any_schedule hs hk cos sched

/-- page query, one bound: whatever the schedule, every listed item is a page of the final index, and one listed as crawled is crawled there -/
theorem C16_pages_query_sound {s : State} {t : T} (hs : Shape s t) (hi : Inv s t) (reqs : List CoReq)
    (hwf : ∀ r ∈ reqs, r.Wf) (sched : Sched) (i : Nat) (ps : List Bytes) (a : Ans)
    (hreq : reqs[i]? = some (.queryPages ps))
    (hdone : (i, CoOut.done a) ∈ (Sys.run (s, reqs.map CoReq.init) sched).2) :
    ∃ t', Shape (Sys.run (s, reqs.map CoReq.init) sched).1.1 t' ∧
      ∃ l, a = .pages l ∧ ∀ x ∈ l,
        IsPage (Sys.run (s, reqs.map CoReq.init) sched).1.1 t' (lruIter x.1) ∧
        (x.2 = true → IsCrawled (Sys.run (s, reqs.map CoReq.init) sched).1.1 t' (lruIter x.1)) :=
  Traph.C16_pages_query_sound hs hi reqs hwf sched i ps a hreq hdone

/-- page query, other bound: a page that lies below the queried prefix and is not separated from it by a webentity THROUGHOUT the execution (before, between and after all sections) is listed -/
theorem C16_pages_query_complete_entries {s : State} {t : T} (hs : Shape s t) (hi : Inv s t) (reqs : List CoReq)
    (hwf : ∀ r ∈ reqs, r.Wf) (sched : Sched) (i : Nat) (ps : List Bytes)
    (hreq : reqs[i]? = some (.queryPages ps)) (pf : Bytes) (hpf : pf ∈ ps) (root b : Nat) (r : LRU) (hr : r ≠ [])
    (hq : (lruIter pf, root) ∈ t.entries s []) (hb : (lruIter pf ++ r, b) ∈ t.entries s [])
    (hclear : Throughout (fun s' => (s'.cell b).flags.page = true ∧ (s'.cell b).we = 0 ∧
        ∀ k m, 0 < k → k < r.length → (lruIter pf ++ r.take k, m) ∈ t.entries s [] → (s'.cell m).we = 0)
      (s, reqs.map CoReq.init) sched)
    (l : List (Bytes × Bool))
    (hdone : (i, CoOut.done (.pages l)) ∈ (Sys.run (s, reqs.map CoReq.init) sched).2) :
    ∃ cr, ((lruIter pf ++ r).flatten, cr) ∈ l :=
  Traph.C16_pages_query_complete_entries hs hi reqs hwf sched i ps hreq pf hpf root b r hr hq hb hclear l hdone

end Schedules

/-- FINDING F16 AS A THEOREM: on this index and schedule the page query of webentity 1 lists `…p:x|p:z|`, which is
    not in the index before the batch's section and belongs to webentity 3 from then on — it qualified at no moment.
    (The same mechanism under the same schedule, on another history — host `tw`, the rule given to the constructor,
    webentity 2 queried — is the stored witness findings/F16.json, replayed on the real code by every run.) -/
theorem C16_phantom_witness :
    (0, CoOut.done (.pages [(Phantom.px, false), (Phantom.py, false), (Phantom.pz, true)])) ∈
      (Sys.run (Phantom.before, Phantom.reqs.map CoReq.init) [0, 1, 0, 0, 0]).2 ∧
    Phantom.before.ask (.lruNode Phantom.pz) = .optNat none ∧
    Phantom.before.ask (.pages [Phantom.pa]) = .pages [(Phantom.px, false), (Phantom.py, false)] ∧
    Phantom.after.ask (.retrieveWebentity Phantom.pz) = .nat 3 ∧
    Phantom.after.ask (.pages [Phantom.pa]) = .pages [] ∧
    (Sys.run (Phantom.before, Phantom.reqs.map CoReq.init) [0]).1.1 = Phantom.before ∧
    (Sys.run (Phantom.before, Phantom.reqs.map CoReq.init) [0, 1, 0, 0, 0]).1.1 = Phantom.after :=
  ⟨Phantom.answer_lists_pz, Phantom.before_not_a_page.1, Phantom.before_not_a_page.2,
   Phantom.after_foreign.1, Phantom.after_foreign.2.2, Phantom.index_states.1, Phantom.index_states.2.2.2⟩

/-- FINDING F16c AS A THEOREM: the page-link query of webentity 1 (all three switches on), advanced one step, then a rule
    installation to completion, then the query to its end, answers `[]` — although at EVERY moment of the schedule the atomic
    query lists the link `…p:zzz|p:0| → …p:k|` (as internal before the installation, as inbound after it). The completeness
    clause of the property is false of the code for items that change class while the query runs. (Same history as
    findings/F16c.json, replayed on the real code by every run.) -/
theorem C16_missed_link_witness :
    (0, CoOut.done (.links [])) ∈
      (Sys.run (MissedLink.before, MissedLink.reqs.map CoReq.init) [0, 1, 1, 1, 1, 1, 0]).2 ∧
    MissedLink.before.ask (.pagelinks 1 [MissedLink.P] false true false) = .links [(MissedLink.a, MissedLink.b, 1)] ∧
    MissedLink.after.ask (.pagelinks 1 [MissedLink.P] true false false) = .links [(MissedLink.a, MissedLink.b, 1)] ∧
    (∀ k, k ≤ 7 → (Sys.run (MissedLink.before, MissedLink.reqs.map CoReq.init) (MissedLink.sched.take k)).1.1.ask
        (.pagelinks 1 [MissedLink.P] true true true) = .links [(MissedLink.a, MissedLink.b, 1)]) := by
  refine ⟨MissedLink.answer_misses_link, MissedLink.before_lists_link.2.1, MissedLink.after_lists_link.2.1, ?_⟩
  intro k hk
  have h := MissedLink.every_moment
  have hk' : k = 0 ∨ k = 1 ∨ k = 2 ∨ k = 3 ∨ k = 4 ∨ k = 5 ∨ k = 6 ∨ k = 7 := by omega
  rcases hk' with rfl | rfl | rfl | rfl | rfl | rfl | rfl | rfl
  · exact h.1
  · exact h.2.1
  · exact h.2.2.1
  · exact h.2.2.2.1
  · exact h.2.2.2.2.1
  · exact h.2.2.2.2.2.1
  · exact h.2.2.2.2.2.2.1
  · exact h.2.2.2.2.2.2.2

section Final
open Traph State Layout
/-- THE PROPERTY'S FIRST HALF IN ONE STATEMENT: from every reachable start state (`Reachable`), for every list of well-formed generator requests (`CoReq.Wf`, rule anchors complete LRUs: `CoReq.Canon`) and EVERY schedule under which the writers return: no writer fails; the final pages, crawled marks and link multigraph (weights per ordered pair of LRUs, and every `get_page_links` answer up to order) are those of the requests applied one after another in ANY order; inbound/outbound symmetry holds in the final state -/
theorem C16_final_state {s : State} (hreach : Reachable s) (reqs : List CoReq) (hwf : ∀ r ∈ reqs, r.Wf)
    (hcanon : ∀ r ∈ reqs, r.Canon) (sched : Sched)
    (hdone : ∀ i r, reqs[i]? = some r → r.op ≠ none →
      ∃ a, (i, CoOut.done a) ∈ (Sys.run (s, reqs.map CoReq.init) sched).2)
    (reqs' : List CoReq) (hperm : reqs'.Perm reqs) :
    (∀ i r e, reqs[i]? = some r → r.op ≠ none →
      (i, CoOut.failed e) ∈ (Sys.run (s, reqs.map CoReq.init) sched).2 → e = .other "StopIteration") ∧
    ∃ L0 t' t'', LinkView (Sys.run (s, reqs.map CoReq.init) sched).1.1 t' (L0 ++ reqs.flatMap CoReq.links) ∧
      LinkView (s.run (reqs'.filterMap CoReq.op)) t'' (L0 ++ reqs'.flatMap CoReq.links) ∧
      RulesOk (Sys.run (s, reqs.map CoReq.init) sched).1.1 ∧
      (∀ p, IsPage (Sys.run (s, reqs.map CoReq.init) sched).1.1 t' p ↔ IsPage (s.run (reqs'.filterMap CoReq.op)) t'' p) ∧
      (∀ p, IsCrawled (Sys.run (s, reqs.map CoReq.init) sched).1.1 t' p ↔
        IsCrawled (s.run (reqs'.filterMap CoReq.op)) t'' p) ∧
      (∀ p q, nsub (L0 ++ reqs.flatMap CoReq.links) p q = nsub (L0 ++ reqs'.flatMap CoReq.links) p q) ∧
      (∀ p, IsPage (Sys.run (s, reqs.map CoReq.init) sched).1.1 t' p → ∀ incIn incInt incOut,
        ((Sys.run (s, reqs.map CoReq.init) sched).1.1.pageLinks p.flatten incIn incInt incOut).Perm
          ((s.run (reqs'.filterMap CoReq.op)).pageLinks p.flatten incIn incInt incOut)) ∧
      (∀ a b, count b ((Sys.run (s, reqs.map CoReq.init) sched).1.1.outBag a) =
        count a ((Sys.run (s, reqs.map CoReq.init) sched).1.1.inBag b)) :=
  Traph.C16_final_state hreach reqs hwf hcanon sched hdone reqs' hperm

/-- mid-schedule, at every yield point: an in-list never runs ahead of its out-list (the in-lists of a batch are flushed after its out-lists) -/
theorem C16_inlinks_lag {s : State} {t : T} {L0 : List (Bytes × Bytes)} (hs : Shape s t) (hi : Inv s t)
    (hr : RulesOk s) (hp : ParOk s t 0) (g : Graph s t L0) (reqs : List CoReq) (hwf : ∀ r ∈ reqs, r.Wf)
    (hcanon : ∀ r ∈ reqs, r.Canon) (sched : Sched) (a x : Nat) :
    count a ((Sys.run (s, reqs.map CoReq.init) sched).1.1.inBag x) ≤
      count x ((Sys.run (s, reqs.map CoReq.init) sched).1.1.outBag a) :=
  Traph.C16_inlinks_lag hs hi hr hp g reqs hwf hcanon sched a x

/-- …and whenever no batch machine has anything pending, symmetry is exact -/
theorem C16_symmetry_at_quiescence {s : State} {t : T} {L0 : List (Bytes × Bytes)} (hs : Shape s t) (hi : Inv s t)
    (hr : RulesOk s) (hp : ParOk s t 0) (g : Graph s t L0) (reqs : List CoReq) (hwf : ∀ r ∈ reqs, r.Wf)
    (hcanon : ∀ r ∈ reqs, r.Canon) (sched : Sched)
    (hquiet : ∀ (i : Nat) (b : BatchSt), (Sys.run (s, reqs.map CoReq.init) sched).1.2[i]? = some (CoSt.batch b) →
      (∀ a x, cl_pendOut b a x = 0) ∧ (∀ a x, cl_pendIn b a x = 0)) (a x : Nat) :
    count x ((Sys.run (s, reqs.map CoReq.init) sched).1.1.outBag a) =
      count a ((Sys.run (s, reqs.map CoReq.init) sched).1.1.inBag x) :=
  Traph.C16_symmetry_at_quiescence hs hi hr hp g reqs hwf hcanon sched hquiet a x

/-- the window is real: two sections into the batch `[(A,[B]),(C,[D])]` the out-list of A holds B while the in-list
    of B is still empty, and a query sees it (the property speaks of the final state only) -/
theorem C16_asymmetric_window :
    SymEx.mid.outBag 4 = [5] ∧ SymEx.mid.inBag 5 = [] ∧
    SymEx.mid.ask (.pageLinks SymEx.pA false false true) = .links [(SymEx.pA, SymEx.pB, 1)] ∧
    SymEx.mid.ask (.pageLinks SymEx.pB true false false) = .links [] :=
  ⟨SymEx.asymmetric_window.2.2.1, SymEx.asymmetric_window.2.2.2.1, SymEx.asymmetric_window.2.2.2.2.1,
   SymEx.asymmetric_window.2.2.2.2.2⟩

/-- the page query (for well-formed prefixes) and network query machines never stop for lack of the model's fuel, under any schedule from any reachable state (the fuel is a device of the model; the Python generators have none); for the page query an additive constant does not do when prefixes are nested or repeated: `cf_old_pages_fuel_insufficient_dup`, `cf_old_pages_fuel_insufficient_nested` -/
theorem C16_queries_no_fuel {s : State} (hreach : Reachable s) (reqs : List CoReq) (sched : Sched) :
    (∀ i out auto e, reqs[i]? = some (.queryNet out auto) →
      (i, CoOut.failed e) ∈ (Sys.run (s, reqs.map CoReq.init) sched).2 → e = .other "StopIteration") ∧
    (∀ i ps e, reqs[i]? = some (.queryPages ps) → (∀ pf ∈ ps, lruIter pf ≠ []) →
      (i, CoOut.failed e) ∈ (Sys.run (s, reqs.map CoReq.init) sched).2 → e = .traph ∨ e = .other "StopIteration") :=
  Traph.C16_queries_no_fuel hreach reqs sched

/-- the rule-installation generator drained on its own IS the atomic request: same index, same write log, same report -/
theorem C16_drained_rule {s : State} {t : T} (h : Shape s t) (hi : Inv s t) (hz : SizeOk s t) (anchor : Bytes) (r : Rule)
    (hne : lruIter anchor ≠ []) (N : Nat)
    (hN : 8 * ((s.rulePrologue anchor r).1.trie.size + 2) * ((s.rulePrologue anchor r).1.trie.size + 2) < N) :
    CoSt.drainW N s (.rule (RuleSt.init anchor r)) =
      ((s.addRule anchor r true).1, some (cw_outcome (s.addRule anchor r true).2)) :=
  Traph.cw_rule_drain h hi hz anchor r hne N hN

/-- the crawl-batch generator drained on its own IS the atomic request (index, write log, report), when each LRU is spelled one way in the batch (with two spellings `a|` and `a|x` of one LRU the generator rewrites one block once more: witness `cw_witness`) -/
theorem C16_drained_batch {s : State} {t : T} (hs : Shape s t) (hi : Inv s t) (data : List (Bytes × List Bytes))
    (hwf : (CoReq.batch data).Wf)
    (hinj : ∀ l l', cw_lrus data l → cw_lrus data l' → lruIter l = lruIter l' → l = l') (N : Nat)
    (hN : 2 * (data.map (fun d => d.2.length)).sum < N) :
    CoSt.drainW N s (.batch (BatchSt.init data)) = ((s.batch data).1, some (cw_outcome (s.batch data).2)) :=
  Traph.cw_batch_drain_exact hs hi data hwf hinj N hN

/-- the page and network query generators drained on their own give the atomic answers (`cf_SumOk`, Proofs/CoFuelNet: link heads in range, the lists use distinct stubs; in every `Reachable` state by `cfq_sumOk_of_reachable`) -/
theorem C16_drained_pages_net {s : State} {t : T} (h : Shape s t) (hg : cf_SumOk s) (ps : List Bytes)
    (hwf : ∀ pf ∈ ps, lruIter pf ≠ []) (out auto : Bool) :
    ∃ N0, ∀ N, N0 ≤ N →
      cf_drain N s (.pages { prefixes := ps }) = s.ask (.pages ps) ∧
      cf_drain N s (.net { out := out, auto := auto }) = s.ask (.network out auto false) :=
  Traph.cf_drain_atomic h hg ps hwf out auto

end Final

section NetQuery
open Traph State Layout
/-- NETWORK QUERY, ONE BOUND, EVERY SCHEDULE, EVERY REACHABLE START STATE: whatever writers run in between, the answer is
    backed by the FINAL index: `cnb_AnsFull` = there is a list of distinct page blocks, each recorded with an id carried by
    the block itself or a stem-prefix above it (`cnb_Rec`), such that every row and target key is a recorded id (self-links
    only with `include_auto`), rows are keyed once with one entry per target and positive weights, the tallies of a row count
    its recorded pages, and every weight `g[A][B]` is at most the number of links (with multiplicity) from recorded pages
    of id A to recorded pages of id B in the final link lists (`cnb_linkW`). (The id a page is recorded with can be one it
    carried at an earlier moment: finding F16 in the form where the query fixes a page's webentity when it visits it and a rule installation then moves the page.) -/
theorem C16_net_query_sound {s : State} (hreach : Reachable s) (reqs : List CoReq) (sched : Sched)
    (i : Nat) (out auto : Bool) (hreq : reqs[i]? = some (.queryNet out auto)) (a : Ans)
    (hdone : (i, CoOut.done a) ∈ (Sys.run (s, reqs.map CoReq.init) sched).2) :
    ∃ t t', Shape s t ∧ Shape (Sys.run (s, reqs.map CoReq.init) sched).1.1 t' ∧
      (∀ p b, (p, b) ∈ t.entries s [] → (p, b) ∈ t'.entries (Sys.run (s, reqs.map CoReq.init) sched).1.1 []) ∧
      ∃ g, a = .net g ∧ cnb_AnsFull (Sys.run (s, reqs.map CoReq.init) sched).1.1 t' out auto g :=
  Traph.C16_net_query_sound_reachable hreach reqs sched i out auto hreq a hdone

/-- NETWORK QUERY, OTHER BOUND: a link whose two end pages exist from the start and resolve to the same webentities A and B
    THROUGHOUT the execution (`cnb_res` = the nearest non-zero id along the blocks of the page's stem-prefixes; A ≠ B unless
    `include_auto`) is counted: the answer has a row A with an entry B of at least the link's starting weight -/
theorem C16_net_query_complete {s : State} (hreach : Reachable s) (reqs : List CoReq) (sched : Sched)
    (i : Nat) (out auto : Bool) (hreq : reqs[i]? = some (.queryNet out auto))
    (pa pb : LRU) (a b A B : Nat) (nodesA nodesB : List Nat) (hpa0 : pa ≠ []) (hpb0 : pb ≠ [])
    (ha : s.lruNode pa = some a) (hb : s.lruNode pb = some b)
    (hpa : (s.cell a).flags.page = true) (hpb : (s.cell b).flags.page = true)
    (hnA : nodesA.length = pa.length ∧ ∀ k (hk : k < nodesA.length), s.lruNode (pa.take (k + 1)) = some nodesA[k])
    (hnB : nodesB.length = pb.length ∧ ∀ k (hk : k < nodesB.length), s.lruNode (pb.take (k + 1)) = some nodesB[k])
    (hA : A ≠ 0) (hB : B ≠ 0) (hauto : auto = true ∨ A ≠ B)
    (hlink : 0 < count b (cf_listOf s out a))
    (hthr : Throughout (fun s' => cnb_res s' 0 nodesA = A ∧ cnb_res s' 0 nodesB = B) (s, reqs.map CoReq.init) sched)
    (g : List NetRow) (hdone : (i, CoOut.done (.net g)) ∈ (Sys.run (s, reqs.map CoReq.init) sched).2) :
    ∃ r ∈ g, r.src = A ∧ ∃ w', (B, w') ∈ r.targets ∧ count b (cf_listOf s out a) ≤ w' :=
  Traph.C16_net_query_complete_reachable hreach reqs sched i out auto hreq pa pb a b A B nodesA nodesB hpa0 hpb0 ha hb hpa hpb hnA hnB hA hB hauto hlink hthr g hdone

end NetQuery

end Traph.Props
