import Traph.Bytes
import Traph.Step
/-! C14 — queries never modify the index. In the model every read-only request is a *function of the
    state* (`State.ask : State → Query → Ans`), so the frame property holds by construction; the content
    of the check is the tie: the harness compares both store images (and the storage write log) before
    and after every read on the real code. -/
namespace Traph.Props
open Traph State

/-- a read-only request leaves the state — both stores, header, RAM rules — exactly as it was,
    whatever it answers (a value or an error) -/
theorem C14_frame (s : State) (q : Query) : (s.handle (.read q)).1 = s := rfl

/-- in particular both byte images are unchanged -/
theorem C14_images (s : State) (q : Query) :
    encodeTrie (s.handle (.read q)).1 = encodeTrie s ∧ encodeLinks (s.handle (.read q)).1 = encodeLinks s :=
  ⟨rfl, rfl⟩

/-- a query that answers with an error leaves the state unchanged as well -/
theorem C14_errors_too (s : State) (q : Query) (e : Err) (_ : s.ask q = .err e) : (s.handle (.read q)).1 = s := rfl

/-- non-vacuity: a query that fails with the library's own error -/
example : (({} : State).ask (.retrieveWebentity [115, 58, 124])) = .err .traph := by decide

end Traph.Props
