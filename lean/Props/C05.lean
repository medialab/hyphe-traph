import Proofs.ForPrefixes
import Proofs.Resolve
import Proofs.PagesApi
import Proofs.HeadlinesAll
/-! C05 — webentity page sets, in full (Proofs/PagesApi): after every `clear`-free history of well-formed writes (`OpWf`)
    with no `KeyError` (`NoKeyErr`) from a fresh index (`C05_partition`), and in every `Reachable` state, `clear` and
    `reopen` included (`C05_all`, Proofs/HeadlinesAll), asking webentity `w`
    with its full current prefix list (`FullPrefixList`: any order, the list `webentity_prefix_iter` yields
    qualifies: last clause of `C05_partition`) answers exactly the indexed pages whose resolution is `w`, with
    their current crawled marks (`C05_partition`); each page once when no prefix is given twice, and in
    general as many times as its defining prefix was given (third clause of `C05_partition`); a page listed under `w` is
    listed under no other webentity, a page without webentity under none; pages below a nested webentity's
    prefix are excluded (`C05_nested`); the crawled-only answer is the filter by the mark (`C05_crawled_is_filter`). -/
namespace Traph.Props
open Traph State

theorem C05_pages_sound (s : State) (ps : List Bytes) (l : List (Bytes × Bool)) (h : s.webentityPages ps = .ok l)
    (x : Bytes × Bool) :
    x ∈ l ↔ ∃ p ∈ ps, ∃ n, s.lruNode (lruIter p) = some n ∧
      ∃ bl ∈ s.weDfs n p none, (s.cell bl.1).flags.page = true ∧ x = (bl.2, (s.cell bl.1).flags.crawled) := by
  unfold webentityPages at h
  rw [forPrefixes_mem s ps _ l h]
  constructor
  · rintro ⟨p, hp, n, hn, hx⟩
    simp only [List.mem_map, List.mem_filter] at hx
    obtain ⟨bl, ⟨hbl, hpg⟩, rfl⟩ := hx
    exact ⟨p, hp, n, hn, bl, hbl, hpg, rfl⟩
  · rintro ⟨p, hp, n, hn, bl, hbl, hpg, rfl⟩
    exact ⟨p, hp, n, hn, by simp only [List.mem_map, List.mem_filter]; exact ⟨bl, ⟨hbl, hpg⟩, rfl⟩⟩

/-- the crawled-only variant is the same answer filtered by the page's crawled mark -/
theorem C05_crawled_is_filter (s : State) (ps : List Bytes) :
    s.webentityCrawledPages ps = (s.webentityPages ps).map (fun l => l.filter (·.2)) := rfl

theorem C05_unknown_prefix (s : State) (ps : List Bytes) (e : Err) (h : s.webentityPages ps = .error e) :
    e = .traph ∧ ∃ p ∈ ps, s.lruNode (lruIter p) = none := forPrefixes_err s ps _ e h

/-- PARTITION CORE: the walk started at a prefix node meets a block below it iff no cell on the way from
    just below the prefix down to that block (inclusive) carries a webentity — i.e. iff the prefix is
    the longest attached prefix of that block's LRU; the LRU it reports is the block's own -/
theorem C05_walk_exact {s : State} {a : Nat} {l c r : T} (hr : Rep s (.node a l c r))
    (hsz : (T.node a l c r).size ≤ s.trie.size) {lo hi : Option Stem} (hord : OrdT s (.node a l c r) lo hi)
    (hnd : (T.node a l c r).addrs.Nodup) (startLru : Bytes) (b : Nat) (lru : Bytes) :
    (b, lru) ∈ s.weDfs a startLru none ↔
      (b = a ∧ lru = lruDirname startLru ++ s.stemAt a) ∨
      ∃ q, q ≠ [] ∧ (q, b) ∈ c.entries s [] ∧ lru = lruDirname startLru ++ s.stemAt a ++ q.flatten ∧
        (∀ k, 0 < k → k ≤ q.length → ∀ b', (q.take k, b') ∈ c.entries s [] → (s.cell b').we = 0) :=
  weDfs_mem_iff hr hsz hord hnd startLru b lru

/-- pages below a nested webentity's prefix are excluded from the enclosing one: a block is met iff the
    resolution of its path below the start node is "none" (stated on the ghost tree, `T.wePre` against
    `T.resolveAlong`; the model's walk is tied to it by `C05_walk_exact`) -/
theorem C05_nested_excluded {s : State} {a : Nat} {l c r : T} {lo hi : Option Stem}
    (hord : OrdT s (.node a l c r) lo hi) (hnd : (T.node a l c r).addrs.Nodup) (lru0 : Bytes)
    {q : LRU} {b : Nat} (hq : (q, b) ∈ c.entries s []) :
    (∃ lru, (b, lru) ∈ (T.node a l c r).wePre s a lru0) ↔ c.resolveAlong s q 0 = 0 :=
  C05_walk_is_resolution' hord hnd lru0 hq

/-- THE PROPERTY, for the state after any `clear`-free history of well-formed writes (`OpWf`) from a fresh index, any
    rules with anchors of at least one stem, any configuration, no request answering `KeyError` (`NoKeyErr`: the requests
    the library itself aborts with KeyError mid-way are excluded), and every webentity `w` asked with a full prefix list
    `ps` in any order -/
theorem C05_partition (cfg : Config) (dflt : Rule) (rules : List (Bytes × Rule)) (ops : List Op)
    (hrules : ∀ ar ∈ rules, lruIter ar.1 ≠ [])
    (hop : ∀ op ∈ ops, ∀ d rs, op ≠ .clear d rs) (hwf : ∀ op ∈ ops, OpWf op)
    (hok : NoKeyErr (State.fresh cfg dflt rules []).1 ops)
    (s : State) (hs : s = (State.fresh cfg dflt rules []).1.run ops) :
    ∃ t, Shape s t ∧ Inv s t ∧
      (∀ w ps, FullPrefixList s w ps →
        ∃ l, s.webentityPages ps = .ok l ∧
          (∀ lru c, (lru, c) ∈ l ↔
            lru = (lruIter lru).flatten ∧ IsPage s t (lruIter lru) ∧ s.retrieveWebentity lru = .ok w ∧
              (c = true ↔ IsCrawled s t (lruIter lru))) ∧
          ((ps.map lruIter).Nodup → (l.map (·.1)).Nodup) ∧
          (∀ lru c, (lru, c) ∈ l → ∃ P, P <+: lruIter lru ∧ IsPrefixOf s w P ∧
            (l.map (·.1)).count lru = (ps.map lruIter).count P) ∧
          (∀ X, IsPage s t X → s.retrieveWebentity X.flatten = .ok w → ∃ c, (X.flatten, c) ∈ l) ∧
          (∀ lru c, (lru, c) ∈ l → ∀ w' ps' l', FullPrefixList s w' ps' → s.webentityPages ps' = .ok l' →
            (∃ c', (lru, c') ∈ l') → w' = w) ∧
          (∀ lru e, s.retrieveWebentity lru = .error e → ∀ c, (lru, c) ∉ l) ∧
          s.webentityCrawledPages ps = .ok (l.filter (·.2)) ∧
          (∀ lru c, (lru, c) ∈ l.filter (·.2) ↔
            c = true ∧ lru = (lruIter lru).flatten ∧ IsCrawled s t (lruIter lru) ∧
              s.retrieveWebentity lru = .ok w)) ∧
      (∀ w, w ≠ 0 → FullPrefixList s w (prefixesOf s w) ∧ ((prefixesOf s w).map lruIter).Nodup) := by
  subst hs
  obtain ⟨t, v, _⟩ := linkView_run cfg dflt rules ops hrules hop hwf hok
  exact ⟨t, v.shape, v.inv, C05_of_inv v.shape v.inv⟩

/-- the same with no ghost tree in the statement: membership is phrased with the model's own
    `lru_node`, block flags and `retrieve_webentity` -/
theorem C05_partition_model (cfg : Config) (dflt : Rule) (rules : List (Bytes × Rule)) (ops : List Op)
    (hrules : ∀ ar ∈ rules, lruIter ar.1 ≠ [])
    (hop : ∀ op ∈ ops, ∀ d rs, op ≠ .clear d rs) (hwf : ∀ op ∈ ops, OpWf op)
    (hok : NoKeyErr (State.fresh cfg dflt rules []).1 ops)
    (s : State) (hs : s = (State.fresh cfg dflt rules []).1.run ops)
    (w : Nat) (ps : List Bytes) (hf : FullPrefixList s w ps) :
    ∃ l, s.webentityPages ps = .ok l ∧
      (∀ lru c, (lru, c) ∈ l ↔
        lru = (lruIter lru).flatten ∧ s.retrieveWebentity lru = .ok w ∧
          ∃ b, s.lruNode (lruIter lru) = some b ∧ (s.cell b).flags.page = true ∧
            c = (s.cell b).flags.crawled) ∧
      ((ps.map lruIter).Nodup → (l.map (·.1)).Nodup) ∧
      s.webentityCrawledPages ps = .ok (l.filter (·.2)) := by
  subst hs
  obtain ⟨t, v, _⟩ := linkView_run cfg dflt rules ops hrules hop hwf hok
  exact C05_model_of_inv v.shape v.inv hf

/-- pages below a nested webentity's prefix are excluded from the enclosing one: if a listed page lies
    below a prefix `Q` of another webentity `v`, then some prefix of `w` lies between `Q` and the page -/
theorem C05_nested {s : State} {t : T} (h : Shape s t) (hi : Inv s t) {w : Nat} {ps : List Bytes}
    (hf : FullPrefixList s w ps) {l : List (Bytes × Bool)} (hl : s.webentityPages ps = .ok l)
    {lru : Bytes} {c : Bool} (hm : (lru, c) ∈ l) {v : Nat} (hv : v ≠ 0) {Q : LRU}
    (hQ : IsPrefixOf s v Q) (hQX : Q <+: lruIter lru) :
    ∃ P, IsPrefixOf s w P ∧ Q <+: P ∧ P <+: lruIter lru :=
  Traph.C05_nested h hi hf hl hm hv hQ hQX

section EveryHistory
open Traph State Pag Layout

/-- the conclusions of `C05_partition` for every `Reachable s`, which unfolds to: EVERY HISTORY, `clear` and `reopen` included, no request assumed away: the only hypotheses are that byte strings cut into at least one stem (`OpWf`), rule anchors are whole LRUs (`rulesCanonical`, `Canon`) and the caller re-supplies on `reopen` the rules the index carries, as the API requires, and removes only rules that are in RAM (`Disciplined`); `clear` acts as a reset (`sinceClear`).  -/
theorem C05_all {s : State} (hs : Reachable s) :
    ∃ t, Shape s t ∧ Inv s t ∧
      (∀ w ps, FullPrefixList s w ps →
        ∃ l, s.webentityPages ps = .ok l ∧
          (∀ lru c, (lru, c) ∈ l ↔
            lru = (lruIter lru).flatten ∧ IsPage s t (lruIter lru) ∧ s.retrieveWebentity lru = .ok w ∧
              (c = true ↔ IsCrawled s t (lruIter lru))) ∧
          ((ps.map lruIter).Nodup → (l.map (·.1)).Nodup) ∧
          (∀ lru c, (lru, c) ∈ l → ∃ P, P <+: lruIter lru ∧ IsPrefixOf s w P ∧
            (l.map (·.1)).count lru = (ps.map lruIter).count P) ∧
          (∀ X, IsPage s t X → s.retrieveWebentity X.flatten = .ok w → ∃ c, (X.flatten, c) ∈ l) ∧
          (∀ lru c, (lru, c) ∈ l → ∀ w' ps' l', FullPrefixList s w' ps' → s.webentityPages ps' = .ok l' →
            (∃ c', (lru, c') ∈ l') → w' = w) ∧
          (∀ lru e, s.retrieveWebentity lru = .error e → ∀ c, (lru, c) ∉ l) ∧
          s.webentityCrawledPages ps = .ok (l.filter (·.2)) ∧
          (∀ lru c, (lru, c) ∈ l.filter (·.2) ↔
            c = true ∧ lru = (lruIter lru).flatten ∧ IsCrawled s t (lruIter lru) ∧
              s.retrieveWebentity lru = .ok w)) ∧
      (∀ w, w ≠ 0 → FullPrefixList s w (prefixesOf s w) ∧ ((prefixesOf s w).map lruIter).Nodup) :=
  Traph.C05_all hs

end EveryHistory

end Traph.Props
