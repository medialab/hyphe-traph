import Proofs.Small
import Proofs.Resolve
import Proofs.WeMapRun
import Proofs.HeadlinesAll
import Proofs.DerivedOps
import Proofs.DerivedReach
/-! C04 — webentity resolution is longest-prefix match over the net prefix edits, in full: in every state with
    a ghost tree (`Shape`) resolution returns the id at the longest stem-prefix of the query that carries one (`C04_resolve`
    = `followLru_we`, Proofs/Resolve), and over `clear`-free histories with no `KeyError` the attachment map is exactly the
    fold of the abstract edits (`C04_history_fresh`, `C04_history_edits`, Proofs/WeMapRun; with `clear` and `reopen`:
    `C04_history_all`, Proofs/HeadlinesAll); attaching an attached prefix is refused (`C04_refuse_attached`); a
    refused deletion changes nothing (`C04_delete`; without the check: `C04_delete_unchecked*`). -/
namespace Traph.Props
open Traph State

/-- `retrieve_webentity` and `retrieve_prefix` succeed together, except where the webentity was met at position 0
    (the empty prefix), which `retrieve_prefix` refuses -/
theorem C04_consistent (s : State) (lru : Bytes) (hne : lruIter lru ≠ [] → True) :
    (∃ w, s.retrieveWebentity lru = .ok w) ↔ (∃ p, s.retrievePrefix lru = .ok p ∨ (s.followLru (lruIter lru)).2.wePos = some 0) := by
  have hi := followLru_inv s (lruIter lru)
  unfold retrieveWebentity retrievePrefix
  rcases hf : s.followLru (lruIter lru) with ⟨n, h⟩
  rw [hf] at hi
  simp only at hi ⊢
  constructor
  · rintro ⟨w, hw⟩
    split at hw
    · cases hw
    · rename_i hne0
      have := hi.mp hne0
      cases hp : h.wePos with
      | none => exact absurd hp this
      | some p =>
        by_cases p0 : p = 0
        · exact ⟨[], Or.inr (by rw [p0])⟩
        · exact ⟨lru.take p, Or.inl (by simp [p0])⟩
  · rintro ⟨p, hp | hp⟩
    · cases hq : h.wePos with
      | none => rw [hq] at hp; cases hp
      | some q =>
        have : h.we ≠ 0 := hi.mpr (by rw [hq]; simp)
        exact ⟨h.we, by simp [this]⟩
    · have : h.we ≠ 0 := hi.mpr (by rw [hp]; simp)
      exact ⟨h.we, by simp [this]⟩

/-- LONGEST-PREFIX MATCH: for any LRU of at least one stem (indexed, partially indexed or absent) the resolved webentity is
    the id of the DEEPEST cell, among the cells of the stem-prefixes of the LRU that exist in the index,
    that carries one (`pathCells` lists those cells top-down; that each is one — `pathCells_entries`); 0 ("no
    webentity", answered as the library's own error) iff none does -/
theorem C04_resolve {s : State} {t : T} (h : Shape s t) (stems : LRU) (hne : stems ≠ []) :
    (s.followLru stems).2.we = lastWe ((t.pathCells s stems).map (fun c => (s.cell c.1).we)) :=
  followLru_we h stems hne

/-- the cells consulted are the nodes of the existing stem-prefixes of the query, in order -/
theorem C04_path_cells_are_prefixes {s : State} {t : T} (h : Shape s t) (stems : LRU) :
    ∀ k, k < (t.pathCells s stems).length →
      (stems.take (k + 1), ((t.pathCells s stems)[k]!).1) ∈ t.entries s [] := by
  intro k hk
  have := pathCells_entries (pre := []) h.ord h.nodup stems k hk
  simpa using this

/-- an indexed LRU is located by the same walk (the three resolution entry points share it) -/
theorem C04_indexed {s : State} {t : T} (h : Shape s t) (stems : LRU) (hne : stems ≠ []) (b : Nat)
    (hb : (stems, b) ∈ t.entries s []) : (s.followLru stems).1 = some b := C07_followLru_node h stems hne b hb

/-- failures of both resolutions are the library's own error -/
theorem C04_errors (s : State) (lru : Bytes) (e : Err) :
    (s.retrieveWebentity lru = .error e ∨ s.retrievePrefix lru = .error e) → e = .traph := by
  unfold retrieveWebentity retrievePrefix
  rcases s.followLru (lruIter lru) with ⟨n, h⟩
  simp only
  rintro (h1 | h1)
  · split at h1 <;> cases h1; rfl
  · split at h1
    · split at h1 <;> cases h1; rfl
    · cases h1; rfl

/-- the defining prefix is an initial segment of the queried LRU -/
theorem C04_prefix_of_query (s : State) (lru p : Bytes) (h : s.retrievePrefix lru = .ok p) : ∃ k, p = lru.take k := by
  unfold retrievePrefix at h
  rcases s.followLru (lruIter lru) with ⟨n, hh⟩
  simp only at h
  split at h
  · rename_i q _
    split at h
    · cases h
    · cases h; exact ⟨q, rfl⟩
  · cases h

/-- the point query answers the id stored at the located block, or refuses -/
theorem C04_point_query (s : State) (p : Bytes) (w : Nat) (h : s.webentityByPrefix p = .ok w) :
    ∃ n, s.lruNode (lruIter p) = some n ∧ (s.cell n).we = w ∧ w ≠ 0 := by
  unfold webentityByPrefix at h
  cases hn : s.lruNode (lruIter p) with
  | none => rw [hn] at h; cases h
  | some n =>
    rw [hn] at h
    simp only at h
    split at h
    · cases h
    · rename_i hne; cases h; exact ⟨n, rfl, rfl, by simpa using hne⟩

/-- THE PROPERTY over histories: after any `clear`-free history with no `KeyError` (`NoKeyErr`) from a fresh index, the prefixes given to webentity requests cutting into at least one stem (`OpWfWe`), resolution of any query LRU (indexed or not) is longest-stem-prefix match in the map obtained by folding the abstract edits (`specOp`: add/remove/move/delete/create and the creations reported by page requests) over the transcript; it fails with the library's own error iff no stem-prefix is attached -/
theorem C04_history_fresh (cfg : Config) (dflt : Rule) (rules : List (Bytes × Rule)) (ops : List Op)
    (hop : ∀ op ∈ ops, ∀ d rs, op ≠ .clear d rs) (hwf : ∀ op ∈ ops, OpWfWe op)
    (hok : NoKeyErr (State.fresh cfg dflt rules []).1 ops) (q : Bytes) :
    let s0 := (State.fresh cfg dflt rules []).1
    let M := specFold (fun _ => 0) (s0.transcript ops)
    (∀ w, (s0.run ops).retrieveWebentity q = .ok w ↔
      ∃ k, LongestAt M (lruIter q) k ∧ w = M ((lruIter q).take k)) ∧
    (∀ e, (s0.run ops).retrieveWebentity q = .error e ↔ e = .traph ∧ NoneAt M (lruIter q)) ∧
    (∀ p, (s0.run ops).retrievePrefix q = .ok p ↔
      ∃ k, LongestAt M (lruIter q) k ∧ p = ((lruIter q).take k).flatten) ∧
    (∀ e, (s0.run ops).retrievePrefix q = .error e ↔ e = .traph ∧ NoneAt M (lruIter q)) :=
  Traph.C04_history_fresh cfg dflt rules ops hop hwf hok q

/-- the same from any state with a ghost tree (`Shape`), for histories made only of the five explicit edit requests (`IsEdit`; prefixes `OpWfWe`), against a pure, computable specification of them (`pureRun`: map, id counter and answers) -/
theorem C04_history_edits {s : State} {t : T} (h : Shape s t) (ops : List Op)
    (he : ∀ op ∈ ops, IsEdit op) (hwf : ∀ op ∈ ops, OpWfWe op) (q : Bytes) :
    let M := (pureRun (s.weMap, s.hdrId) ops).1.1
    (∀ w, (s.run ops).retrieveWebentity q = .ok w ↔
      ∃ k, LongestAt M (lruIter q) k ∧ w = M ((lruIter q).take k)) ∧
    (∀ e, (s.run ops).retrieveWebentity q = .error e ↔ e = .traph ∧ NoneAt M (lruIter q)) ∧
    (∀ p, (s.run ops).retrievePrefix q = .ok p ↔
      ∃ k, LongestAt M (lruIter q) k ∧ p = ((lruIter q).take k).flatten) ∧
    (∀ e, (s.run ops).retrievePrefix q = .error e ↔ e = .traph ∧ NoneAt M (lruIter q)) :=
  Traph.C04_history_edits h ops he hwf q

/-- attaching a prefix that is already attached is refused with the library's own error and leaves the attachment map unchanged; otherwise the map gains exactly that attachment -/
theorem C04_refuse_attached {s : State} {t : T} (h : Shape s t) (pfx : Bytes) (w : Nat) (hne : lruIter pfx ≠ []) :
    (s.weMap (lruIter pfx) ≠ 0 →
      (s.addPrefix pfx w).2 = .error .traph ∧ (s.addPrefix pfx w).1.weMap = s.weMap) ∧
    (s.weMap (lruIter pfx) = 0 →
      (s.addPrefix pfx w).2 = .ok () ∧ (s.addPrefix pfx w).1.weMap = mapSet s.weMap (lruIter pfx) w) :=
  Traph.addPrefix_spec h pfx w hne

/-- deletion: all listed prefixes detached at once, or refused with the state literally unchanged (validated before anything is written) -/
theorem C04_delete {s : State} {t : T} (h : Shape s t) (w : Nat) (ps : List Bytes)
    (hne : ∀ p ∈ ps, lruIter p ≠ []) :
    (deleteOk s.weMap w ps →
      (s.deleteWebentity w ps).2 = .ok () ∧
      (s.deleteWebentity w ps).1.weMap = mapSetAll s.weMap (ps.map lruIter) 0) ∧
    (¬ deleteOk s.weMap w ps →
      (s.deleteWebentity w ps).2 = .error .traph ∧ (s.deleteWebentity w ps).1 = s) :=
  Traph.deleteWebentity_spec h w ps hne

/-- `delete_webentity(…, check_for_corruption=False)` (not a constructor of `Op`; modelled as `deleteUnchecked` and run by
    the driver): when every listed prefix is in the index it IS the run of `remove_prefix_from_webentity(p)` over the
    distinct prefixes in order of first occurrence — same index, same write log — so every history theorem covers it when each prefix cuts into at least one stem (`OpWfWe`, which `hloc` does not give: the root answers for a stem-less prefix) -/
theorem C04_delete_unchecked {s : State} {t : T} (hs : Shape s t) (ps : List Bytes)
    (hloc : ∀ p ∈ ps, s.lruNode (lruIter p) ≠ none) :
    s.deleteUnchecked ps = (s.run ((dedupKeys ps).map (fun p => Op.removePrefix p none)), .ok ()) :=
  Traph.deleteUnchecked_eq_run hs ps hloc

/-- …and when some prefix is not in the index it fails with Python's AttributeError having detached exactly the distinct
    prefixes before the first such one (the unchecked deletion is not atomic) -/
theorem C04_delete_unchecked_fails {s : State} {t : T} (hs : Shape s t) (ps : List Bytes)
    (hmiss : ∃ p ∈ ps, s.lruNode (lruIter p) = none) :
    ∃ before p rest, dedupKeys ps = before ++ p :: rest ∧ s.lruNode (lruIter p) = none ∧
      (∀ q ∈ before, s.lruNode (lruIter q) ≠ none) ∧
      s.deleteUnchecked ps = (s.run (before.map (fun q => Op.removePrefix q none)), .error (.other "AttributeError")) :=
  Traph.deleteUnchecked_fail hs ps hmiss

/-- …and in either case the index it leaves is again a reachable one: every theorem about reachable states applies after an
    unchecked deletion, whatever prefixes it was given -/
theorem C04_delete_unchecked_reachable {s : State} (h : Reachable s) (ps : List Bytes) :
    Reachable (s.deleteUnchecked ps).1 := Traph.deleteUnchecked_reachable_any h ps

section EveryHistory
open Traph State Pag Layout

/-- EVERY HISTORY, `clear` and `reopen` included, no request assumed away: the only hypotheses are that the prefixes given to webentity requests since the last `clear` cut into at least one stem (`OpWfWe`), rule anchors are whole LRUs (`rulesCanonical`, `Canon`) and the caller re-supplies on `reopen` the rules the index carries, as the API requires, and removes only rules that are in RAM (`Disciplined`); `clear` acts as a reset (`sinceClear`, `sinceClearT`).  -/
theorem C04_history_all (cfg : Config) (dflt : Rule) (rules : List (Bytes × Rule)) (ops : List Op)
    (hr : rulesCanonical rules) (hwe : ∀ op ∈ sinceClear ops, OpWfWe op)
    (hd : Disciplined (State.fresh cfg dflt rules []).1 ops) (q : Bytes) :
    let s0 := (State.fresh cfg dflt rules []).1
    let M := specFold (fun _ => 0) (sinceClearT (s0.transcript ops))
    (∀ w, (s0.run ops).retrieveWebentity q = .ok w ↔
      ∃ k, LongestAt M (lruIter q) k ∧ w = M ((lruIter q).take k)) ∧
    (∀ e, (s0.run ops).retrieveWebentity q = .error e ↔ e = .traph ∧ NoneAt M (lruIter q)) ∧
    (∀ p, (s0.run ops).retrievePrefix q = .ok p ↔
      ∃ k, LongestAt M (lruIter q) k ∧ p = ((lruIter q).take k).flatten) ∧
    (∀ e, (s0.run ops).retrievePrefix q = .error e ↔ e = .traph ∧ NoneAt M (lruIter q)) :=
  Traph.C04_history_all cfg dflt rules ops hr hwe hd q

end EveryHistory

end Traph.Props
