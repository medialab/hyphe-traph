import Proofs.LinkLists
import Proofs.LinkBagC03
import Proofs.HeadlinesAll
/-! C03 — link multigraph fidelity, in full (Proofs/LinkBag*): for every `clear`-free history of well-formed writes
    (`OpWf`; constructor-rule anchors cut into at least one stem) with no `KeyError` (`NoKeyErr`) from a fresh index the
    out-list of `p` and the in-list of `q` hold the link `p → q` as many times as it was submitted
    (`C03_history`, `C03_symmetry`), self-links are stored on both sides and reported once as internal,
    `count_links`, both enumerations and the degree figures are the corresponding totals (`C03_totals`,
    `C03_degrees_unweighted`). Among the histories `NoKeyErr` excludes are those in which `index_batch_crawl` is
    aborted by the library's KeyError (a rule flag in the trie with no rule in RAM, i.e. rules not re-supplied on
    reopen): there the out-lists of the rows already processed are written and no in-list is.

    With `clear` and `reopen` (about the requests since the last `clear`; `rulesCanonical`, `OpWf`, `Disciplined`):
    `C03_history_all`, `C03_totals_all`, `C03_symmetry_all` (Proofs/HeadlinesAll). -/
namespace Traph.Props
open Traph State

theorem C03_lists_partial (s : State) (hwf : LinksWf s) (tail : Nat) (ht : tail < s.links.size) (targets : List Nat)
    (hne : targets ≠ []) :
    (s.addStubsGo tail targets).1.walk (s.addStubsGo tail targets).2 =
      targets.reverse ++ (if tail ≠ 0 then s.walk tail else []) ∧
    ∀ h, h < s.links.size → (s.addStubsGo tail targets).1.walk h = s.walk h :=
  have ⟨_, _, _, hf, hw⟩ := addStubsGo_spec s hwf tail ht targets
  ⟨(hw hne).1, hf⟩

/-- weight reported for a target = its multiplicity in the list (each target reported once: `C03_each_once`) -/
theorem C03_weights (s : State) (head t n : Nat) :
    (t, n) ∈ s.weighted head ↔ (t ∈ s.walk head ∧ n = count t (s.walk head)) := weighted_spec s head t n

theorem C03_each_once (s : State) (head : Nat) : ((s.weighted head).map (·.1)).Nodup := by
  unfold weighted; exact countInto_fold_keys_nodup _

/-- the weights of a list sum to its length: nothing is lost by the aggregation -/
theorem C03_total (s : State) (head : Nat) : ((s.weighted head).map (·.2)).sum = (s.walk head).length :=
  countInto_fold_total (s.walk head)

/-- the global link count is half the number of stubs (two stubs per submitted link) -/
theorem C03_count (s : State) : s.countLinks2 = s.links.size - 1 := rfl

/-- THE PROPERTY, weights: for every history (no `clear`; `OpWf`, rule anchors and `NoKeyErr` as in C01) and every ordered pair of distinct submitted pages `(p, q)`, the weight reported on the outbound side of `p` towards `q` and on the inbound side of `q` from `p` are both the number of times `p → q` was submitted (reported iff positive); a self-link is reported once, as internal, with its submission count, and never when internal links are switched off; no answer repeats a triple -/
theorem C03_history (cfg : Config) (dflt : Rule) (rules : List (Bytes × Rule)) (ops : List Op)
    (hrules : ∀ ar ∈ rules, lruIter ar.1 ≠ [])
    (hop : ∀ op ∈ ops, ∀ d rs, op ≠ .clear d rs) (hwf : ∀ op ∈ ops, OpWf op)
    (hok : NoKeyErr (State.fresh cfg dflt rules []).1 ops) :
    (∀ p q, Submitted ops p → Submitted ops q → q ≠ p → ∀ n,
      ((p.flatten, q.flatten, n) ∈ ((State.fresh cfg dflt rules []).1.run ops).pageLinks p.flatten false false true ↔
        (0 < n ∧ n = nsub (ops.flatMap Op.links) p q)) ∧
      ((p.flatten, q.flatten, n) ∈ ((State.fresh cfg dflt rules []).1.run ops).pageLinks q.flatten true false false ↔
        (0 < n ∧ n = nsub (ops.flatMap Op.links) p q))) ∧
    (∀ p, Submitted ops p → ∀ incIn incOut n,
      ((p.flatten, p.flatten, n) ∈ ((State.fresh cfg dflt rules []).1.run ops).pageLinks p.flatten incIn true incOut ↔
        (0 < n ∧ n = nsub (ops.flatMap Op.links) p p)) ∧
      (p.flatten, p.flatten, n) ∉ ((State.fresh cfg dflt rules []).1.run ops).pageLinks p.flatten incIn false incOut) ∧
    (∀ p, Submitted ops p → ∀ incIn incInt incOut,
      (((State.fresh cfg dflt rules []).1.run ops).pageLinks p.flatten incIn incInt incOut).Nodup) :=
  Traph.C03_history cfg dflt rules ops hrules hop hwf hok

/-- `count_links` counts stubs, two per submission; the two enumerations are transposes of each other and list exactly the submitted pairs; the weighted degree figures are the corresponding sums -/
theorem C03_totals (cfg : Config) (dflt : Rule) (rules : List (Bytes × Rule)) (ops : List Op)
    (hrules : ∀ ar ∈ rules, lruIter ar.1 ≠ [])
    (hop : ∀ op ∈ ops, ∀ d rs, op ≠ .clear d rs) (hwf : ∀ op ∈ ops, OpWf op)
    (hok : NoKeyErr (State.fresh cfg dflt rules []).1 ops) :
    ((State.fresh cfg dflt rules []).1.run ops).countLinks2 = 2 * (ops.flatMap Op.links).length ∧
    (∀ x y, (x, y) ∈ ((State.fresh cfg dflt rules []).1.run ops).linksIter true ↔
      (y, x) ∈ ((State.fresh cfg dflt rules []).1.run ops).linksIter false) ∧
    (∀ x y, (x, y) ∈ ((State.fresh cfg dflt rules []).1.run ops).linksIter true ↔
      ∃ st ∈ ops.flatMap Op.links, x = (lruIter st.1).flatten ∧ y = (lruIter st.2).flatten) ∧
    (∀ p, Submitted ops p →
      ((State.fresh cfg dflt rules []).1.run ops).pageDegree p.flatten .outdeg true =
        ((ops.flatMap Op.links).filter (fun st => decide (lruIter st.1 = p ∧ lruIter st.2 ≠ p))).length ∧
      ((State.fresh cfg dflt rules []).1.run ops).pageDegree p.flatten .indeg true =
        ((ops.flatMap Op.links).filter (fun st => decide (lruIter st.2 = p ∧ lruIter st.1 ≠ p))).length ∧
      ((State.fresh cfg dflt rules []).1.run ops).pageDegree p.flatten .deg true =
        ((ops.flatMap Op.links).filter (fun st => decide (lruIter st.1 = p))).length +
        ((ops.flatMap Op.links).filter (fun st => decide (lruIter st.2 = p ∧ lruIter st.1 ≠ p))).length) :=
  Traph.C03_totals cfg dflt rules ops hrules hop hwf hok

/-- block level: the stub store is well-formed (acyclic, every pointer inside the file) and the out and in lists are symmetric as multisets, after every history as in `C03_history` -/
theorem C03_symmetry (cfg : Config) (dflt : Rule) (rules : List (Bytes × Rule)) (ops : List Op)
    (hrules : ∀ ar ∈ rules, lruIter ar.1 ≠ [])
    (hop : ∀ op ∈ ops, ∀ d rs, op ≠ .clear d rs) (hwf : ∀ op ∈ ops, OpWf op)
    (hok : NoKeyErr (State.fresh cfg dflt rules []).1 ops) (a b : Nat) :
    LinksOk ((State.fresh cfg dflt rules []).1.run ops) ∧
    count b (((State.fresh cfg dflt rules []).1.run ops).outBag a) =
      count a (((State.fresh cfg dflt rules []).1.run ops).inBag b) :=
  Traph.C03_symmetry cfg dflt rules ops hrules hop hwf hok a b

/-- the complete answer of `get_page_links` for a page of the history, any switches -/
theorem C03_pageLinks (cfg : Config) (dflt : Rule) (rules : List (Bytes × Rule)) (ops : List Op)
    (hrules : ∀ ar ∈ rules, lruIter ar.1 ≠ [])
    (hop : ∀ op ∈ ops, ∀ d rs, op ≠ .clear d rs) (hwf : ∀ op ∈ ops, OpWf op)
    (hok : NoKeyErr (State.fresh cfg dflt rules []).1 ops)
    (p : LRU) (hp : Submitted ops p) (incIn incInt incOut : Bool) (x : PageLink) :
    x ∈ ((State.fresh cfg dflt rules []).1.run ops).pageLinks p.flatten incIn incInt incOut ↔
      (∃ q, 0 < nsub (ops.flatMap Op.links) p q ∧ ((incOut = true ∧ q ≠ p) ∨ (incInt = true ∧ q = p)) ∧
        x = (p.flatten, q.flatten, nsub (ops.flatMap Op.links) p q)) ∨
      (incIn = true ∧ ∃ q, 0 < nsub (ops.flatMap Op.links) q p ∧ q ≠ p ∧
        x = (q.flatten, p.flatten, nsub (ops.flatMap Op.links) q p)) :=
  Traph.C03_pageLinks cfg dflt rules ops hrules hop hwf hok p hp incIn incInt incOut x

/-- unweighted degree figures = numbers of distinct pages linked to / from -/
theorem C03_degrees_unweighted (cfg : Config) (dflt : Rule) (rules : List (Bytes × Rule)) (ops : List Op)
    (hrules : ∀ ar ∈ rules, lruIter ar.1 ≠ [])
    (hop : ∀ op ∈ ops, ∀ d rs, op ≠ .clear d rs) (hwf : ∀ op ∈ ops, OpWf op)
    (hok : NoKeyErr (State.fresh cfg dflt rules []).1 ops) (p : LRU) (hp : Submitted ops p) :
    ∃ outAll outOther inOther : List LRU, outAll.Nodup ∧ outOther.Nodup ∧ inOther.Nodup ∧
      (∀ q, q ∈ outAll ↔ 0 < nsub (ops.flatMap Op.links) p q) ∧
      (∀ q, q ∈ outOther ↔ (0 < nsub (ops.flatMap Op.links) p q ∧ q ≠ p)) ∧
      (∀ q, q ∈ inOther ↔ (0 < nsub (ops.flatMap Op.links) q p ∧ q ≠ p)) ∧
      ((State.fresh cfg dflt rules []).1.run ops).pageDegree p.flatten .outdeg false = outOther.length ∧
      ((State.fresh cfg dflt rules []).1.run ops).pageDegree p.flatten .indeg false = inOther.length ∧
      ((State.fresh cfg dflt rules []).1.run ops).pageDegree p.flatten .deg false =
        outAll.length + inOther.length :=
  Traph.C03_degrees_unweighted cfg dflt rules ops hrules hop hwf hok p hp

section EveryHistory
open Traph State Pag Layout

/-- EVERY HISTORY, `clear` and `reopen` included, no request assumed away: the only hypotheses are that byte strings cut into at least one stem (`OpWf`), rule anchors are whole LRUs (`rulesCanonical`, `Canon`) and the caller re-supplies on `reopen` the rules the index carries, as the API requires, and removes only rules that are in RAM (`Disciplined`); `clear` acts as a reset (`sinceClear`).  -/
theorem C03_history_all (cfg : Config) (dflt : Rule) (rules : List (Bytes × Rule)) (ops : List Op)
    (hr : rulesCanonical rules) (hwf : ∀ op ∈ sinceClear ops, OpWf op)
    (hd : Disciplined (State.fresh cfg dflt rules []).1 ops) :
    (∀ p q, Submitted (sinceClear ops) p → Submitted (sinceClear ops) q → q ≠ p → ∀ n,
      ((p.flatten, q.flatten, n) ∈ ((State.fresh cfg dflt rules []).1.run ops).pageLinks p.flatten false false true ↔
        (0 < n ∧ n = nsub ((sinceClear ops).flatMap Op.links) p q)) ∧
      ((p.flatten, q.flatten, n) ∈ ((State.fresh cfg dflt rules []).1.run ops).pageLinks q.flatten true false false ↔
        (0 < n ∧ n = nsub ((sinceClear ops).flatMap Op.links) p q))) ∧
    (∀ p, Submitted (sinceClear ops) p → ∀ incIn incOut n,
      ((p.flatten, p.flatten, n) ∈ ((State.fresh cfg dflt rules []).1.run ops).pageLinks p.flatten incIn true incOut ↔
        (0 < n ∧ n = nsub ((sinceClear ops).flatMap Op.links) p p)) ∧
      (p.flatten, p.flatten, n) ∉ ((State.fresh cfg dflt rules []).1.run ops).pageLinks p.flatten incIn false incOut) ∧
    (∀ p, Submitted (sinceClear ops) p → ∀ incIn incInt incOut,
      (((State.fresh cfg dflt rules []).1.run ops).pageLinks p.flatten incIn incInt incOut).Nodup) :=
  Traph.C03_history_all cfg dflt rules ops hr hwf hd

/-- `C03_totals` for every history, under the hypotheses of `C03_history_all` -/
theorem C03_totals_all (cfg : Config) (dflt : Rule) (rules : List (Bytes × Rule)) (ops : List Op)
    (hr : rulesCanonical rules) (hwf : ∀ op ∈ sinceClear ops, OpWf op)
    (hd : Disciplined (State.fresh cfg dflt rules []).1 ops) :
    ((State.fresh cfg dflt rules []).1.run ops).countLinks2 = 2 * ((sinceClear ops).flatMap Op.links).length ∧
    (∀ x y, (x, y) ∈ ((State.fresh cfg dflt rules []).1.run ops).linksIter true ↔
      (y, x) ∈ ((State.fresh cfg dflt rules []).1.run ops).linksIter false) ∧
    (∀ x y, (x, y) ∈ ((State.fresh cfg dflt rules []).1.run ops).linksIter true ↔
      ∃ st ∈ (sinceClear ops).flatMap Op.links, x = (lruIter st.1).flatten ∧ y = (lruIter st.2).flatten) ∧
    (∀ p, Submitted (sinceClear ops) p →
      ((State.fresh cfg dflt rules []).1.run ops).pageDegree p.flatten .outdeg true =
        (((sinceClear ops).flatMap Op.links).filter (fun st => decide (lruIter st.1 = p ∧ lruIter st.2 ≠ p))).length ∧
      ((State.fresh cfg dflt rules []).1.run ops).pageDegree p.flatten .indeg true =
        (((sinceClear ops).flatMap Op.links).filter (fun st => decide (lruIter st.2 = p ∧ lruIter st.1 ≠ p))).length ∧
      ((State.fresh cfg dflt rules []).1.run ops).pageDegree p.flatten .deg true =
        (((sinceClear ops).flatMap Op.links).filter (fun st => decide (lruIter st.1 = p))).length +
        (((sinceClear ops).flatMap Op.links).filter (fun st => decide (lruIter st.2 = p ∧ lruIter st.1 ≠ p))).length) :=
  Traph.C03_totals_all cfg dflt rules ops hr hwf hd

/-- `C03_symmetry` for every history, under the hypotheses of `C03_history_all` -/
theorem C03_symmetry_all (cfg : Config) (dflt : Rule) (rules : List (Bytes × Rule)) (ops : List Op)
    (hr : rulesCanonical rules) (hwf : ∀ op ∈ sinceClear ops, OpWf op)
    (hd : Disciplined (State.fresh cfg dflt rules []).1 ops) (a b : Nat) :
    LinksOk ((State.fresh cfg dflt rules []).1.run ops) ∧
    count b (((State.fresh cfg dflt rules []).1.run ops).outBag a) =
      count a (((State.fresh cfg dflt rules []).1.run ops).inBag b) :=
  Traph.C03_symmetry_all cfg dflt rules ops hr hwf hd a b

end EveryHistory

end Traph.Props
