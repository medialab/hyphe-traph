import Proofs.Chunks
import Proofs.LinkLists
import Proofs.SizesGrowth
import Proofs.SizesLinks
import Proofs.SizesRun
import Proofs.HeadlinesAll
/-! C19 — storage growth is exactly accounted for. A new node takes exactly `blocksFor stem` blocks, for
    every stem length; `n` link ends take exactly `n` stubs; the accounting invariant `SizeOk` is preserved
    by every insertion. At the level of `clear`-free histories with no `KeyError` (`NoKeyErr`) on a fresh index
    (Proofs/Known*, SizesRun) the trie holds one header block
    plus `blocksFor(last stem)` blocks per known LRU, the known LRUs being the stem-prefix closure of
    everything the requests named or, by their own report, attached (`State.named`); the link store holds one header stub plus two stubs per submitted link,
    self-links and repeats included, empty target lists costing nothing. `C19_all` (Proofs/HeadlinesAll): the same
    for every `Disciplined` history from a fresh index with `rulesCanonical` rules, `clear` and `reopen` included,
    counted since the last `clear`. -/
namespace Traph.Props
open Traph State

/-- chunking a non-empty string into pieces of `n` gives `⌈len/n⌉` pieces — for every length -/
theorem C19_chunks (n : Nat) (hn : 0 < n) (s : Bytes) (hs : s ≠ []) : (chunks n s).length = (s.length + n - 1) / n :=
  chunks_length n hn s hs

theorem C19_chunks_lossless (n : Nat) (hn : 0 < n) (s : Bytes) : (chunks n s).flatten = s := chunks_flatten n hn s

/-- one node = one block per 74 bytes of its stem, nothing more (the orphan block of D1 is gone) -/
theorem C19_node_blocks (s : State) (stem : Bytes) (p : Nat) (c : Bool) :
    (s.writeNew stem p c).1.trie.size = s.trie.size + blocksFor stem ∧ (s.writeNew stem p c).1.links = s.links :=
  ⟨writeNew_size s stem p c, kept_links.writeNew s stem p c⟩

/-- `n` link ends = `n` stubs, and the trie does not grow -/
theorem C19_stubs (s : State) (hwf : LinksWf s) (tail : Nat) (ht : tail < s.links.size) (targets : List Nat) :
    (s.addStubsGo tail targets).1.links.size = s.links.size + targets.length ∧
    (s.addStubsGo tail targets).1.trie = s.trie :=
  ⟨addStubsGo_links_size targets s tail, addStubsGo_trie_eq targets s tail⟩

/-- THE ACCOUNTING INVARIANT `SizeOk`: the trie store holds one header block plus, for every stored
    stem-prefix, the blocks of its last stem — and nothing else (no unreferenced block). It holds initially
    (`C19_trie_init`) and every `add_lru` of an LRU with at least one stem preserves it, together with the shape invariant -/
theorem C19_trie (s : State) (t : T) (h : Shape s t) (hz : SizeOk s t) (stems : LRU) (hne : stems ≠ []) (flag : Bool) :
    ∃ t', Grow stems s t (s.addLru stems flag).1 t' ∧ SizeOk (s.addLru stems flag).1 t' ∧
      (stems, (s.addLru stems flag).2.1) ∈ t'.entries (s.addLru stems flag).1 [] := addLru_sizeOk h hz stems hne flag

theorem C19_trie_init : SizeOk ({} : State) .nil := sizeOk_init

/-- exact growth: an insertion allocates blocks for exactly the stem-prefixes that were not stored before
    (the stored ones are the first `k`), `⌈len/74⌉` each -/
theorem C19_growth {s : State} {t : T} (h : Shape s t) (stems : LRU) (hne : stems ≠ []) (flag : Bool) :
    ∃ k, k ≤ stems.length ∧
      (∀ j, 0 < j → j ≤ stems.length → ((∃ b, (stems.take j, b) ∈ t.entries s []) ↔ j ≤ k)) ∧
      (s.addLru stems flag).1.trie.size = s.trie.size + ((stems.drop k).map blocksFor).sum :=
  addLru_growth h stems hne flag

/-- re-submitting a known prefix, page or anchor never grows the trie store and returns the same block -/
theorem C19_idempotent {s : State} {t : T} (h : Shape s t) (stems : LRU) (hne : stems ≠ []) (flag : Bool) (b : Nat)
    (hb : (stems, b) ∈ t.entries s []) :
    (s.addLru stems flag).1.trie.size = s.trie.size ∧ (s.addLru stems flag).2.1 = b :=
  addLru_known_no_growth h stems hne flag b hb

theorem C19_idempotent_page {s : State} {t : T} (h : Shape s t) (stems : LRU) (hne : stems ≠ []) (crawled : Bool) (b : Nat)
    (hb : (stems, b) ∈ t.entries s []) :
    (s.addPageTrie stems crawled).1.trie.size = s.trie.size ∧ (s.addPageTrie stems crawled).2.1 = b :=
  addPageTrie_known_no_growth h stems hne crawled b hb

/-- an `add_links` request that is not aborted (`hok`) grows the link store by exactly two stubs per submitted link, whatever else it does -/
theorem C19_links (s : State) (pairs : List (Bytes × Bytes)) (r : Report) (hok : (s.addLinks pairs).2 = .ok r) :
    (s.addLinks pairs).1.links.size = s.links.size + 2 * pairs.length := addLinks_links_size s pairs r hok

example : blocksFor (List.replicate 75 65) = 2 ∧ blocksFor (List.replicate 148 65) = 2 ∧ blocksFor (List.replicate 149 65) = 3 := by decide +kernel

/-- HISTORY LEVEL (`clear`-free history with no `KeyError`, `NoKeyErr`, on a fresh index), trie: header + Σ blocksFor(last stem) over the known LRUs = the non-empty stem-prefixes of
    the constructor-rule anchors and of everything named by the requests (`State.named`: the byte strings of the request and the prefixes its report says it attached; `K` any duplicate-free listing) -/
theorem C19_trie_history (cfg : Config) (dflt : Rule) (rules : List (Bytes × Rule)) (ops : List Op)
    (hop : ∀ op ∈ ops, ∀ d rs, op ≠ .clear d rs)
    (hok : NoKeyErr (State.fresh cfg dflt rules []).1 ops)
    (K : List LRU) (hnd : K.Nodup)
    (hK : ∀ p, p ∈ K ↔ Covered (anchors rules ++ (State.fresh cfg dflt rules []).1.namedRun ops) p) :
    ((State.fresh cfg dflt rules []).1.run ops).trie.size = 1 + (K.map lruBlocks).sum :=
  Traph.C19_trie_history cfg dflt rules ops hop hok K hnd hK

/-- HISTORY LEVEL (same hypotheses), link store: header stub + two stubs per submitted link -/
theorem C19_links_history (cfg : Config) (dflt : Rule) (rules : List (Bytes × Rule)) (ops : List Op)
    (hop : ∀ op ∈ ops, ∀ d rs, op ≠ .clear d rs)
    (hok : NoKeyErr (State.fresh cfg dflt rules []).1 ops) :
    ((State.fresh cfg dflt rules []).1.run ops).links.size = 1 + 2 * linksSubmitted ops :=
  Traph.C19_links_history cfg dflt rules ops hop hok

/-- from a `Live` state (both files hold at least their header) sizes never decrease along a history without `clear` (aborted requests included) -/
theorem C19_monotone (s : State) (ops : List Op) (hl : Live s) (hop : ∀ op ∈ ops, ∀ d rs, op ≠ .clear d rs) :
    s.trie.size ≤ (s.run ops).trie.size ∧ s.links.size ≤ (s.run ops).links.size :=
  Traph.C19_monotone s ops hl hop

/-- in a `Good` state, any request (of any kind but `clear`, not aborted by `KeyError`) naming only known LRUs and submitting no link leaves both files as long as they were -/
theorem C19_idempotent_request {s : State} {t : T} (g : Good s t) (op : Op) (hop : ∀ d rs, op ≠ .clear d rs)
    (hne : (s.step op).2 ≠ .err (.other "KeyError"))
    (hknown : ∀ l ∈ s.named op, l ≠ [] → Known s t l) (hlinks : op.nlinks = 0) :
    (s.step op).1.trie.size = s.trie.size ∧ (s.step op).1.links.size = s.links.size :=
  C19_idempotent_step g op hop hne hknown hlinks

/-- exact growth per request: the blocks of the named LRUs (and their stem-prefixes) that were not known -/
theorem C19_request_growth {s : State} {t : T} (g : Good s t) (op : Op) (hop : ∀ d rs, op ≠ .clear d rs)
    (hne : (s.step op).2 ≠ .err (.other "KeyError"))
    (N : List LRU) (hnd : N.Nodup) (hN : ∀ p, p ∈ N ↔ Covered (s.named op) p ∧ ¬ Known s t p) :
    (s.step op).1.trie.size = s.trie.size + (N.map lruBlocks).sum ∧
    (s.step op).1.links.size = s.links.size + 2 * op.nlinks :=
  ⟨C19_step_growth g op hop hne N hnd hN, links_step s op hop hne⟩

section EveryHistory
open Traph State Pag Layout

/-- C19 for every history the API allows (`rulesCanonical`, `Disciplined`), `clear` and `reopen` included: both sizes are those of the LRUs named and the links submitted since the last `clear` -/
theorem C19_all (cfg : Config) (dflt : Rule) (rules : List (Bytes × Rule)) (ops : List Op)
    (hr : rulesCanonical rules) (hd : Disciplined (State.fresh cfg dflt rules []).1 ops) :
    ((State.fresh cfg dflt rules []).1.run ops).trie.size =
      1 + ((prefixClosure ((State.fresh cfg dflt rules []).1.namedSince (anchors rules) ops)).map lruBlocks).sum ∧
    ((State.fresh cfg dflt rules []).1.run ops).links.size = 1 + 2 * linksSince 0 ops :=
  Traph.C19_all cfg dflt rules ops hr hd

end EveryHistory

end Traph.Props
